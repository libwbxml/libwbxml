/-
  C18 lemmas: one sibling chain.  `MatchTo` is `Match` for a chain whose last node is followed by a sibling
  `z` (a list segment); ONE law, `matchTo_snoc`, says how it splits over the append `BT.snoc`.  The two
  pointer surgeries of `wbxml_tree.c` — hang a node at the end in the place of a suffix (`wbxml_tree_add_node`:
  the suffix is empty in the normal case, the last text node in the merge case), unlink one node
  (`wbxml_tree_extract_node`) — are splices of a decomposed chain and follow from that law, `MatchTo.frame`
  and `MatchTo.relast`.
-/
import Wbxml.Lemmas.TreeHeapShape
namespace Wbxml.Model.TreeHeap
open Wbxml Wbxml.Model

theorem match_nil (v : View) (par prv : Option Nat) : Match v par prv .nil := trivial

theorem match_node (v : View) (par prv : Option Nat) (i : Nat) (ch nx : BT) :
    Match v par prv (.node i ch nx) ↔
      LinkOK v par prv i ch.rid nx.rid ∧ Match v (some i) none ch ∧ Match v par (some i) nx := Iff.rfl

def MatchTo (v : View) (par : Option Nat) : Option Nat → BT → Option Nat → Prop
  | _, .nil, _ => True
  | prv, .node i ch nx, z =>
    LinkOK v par prv i ch.rid (nx.rid.or z) ∧ Match v (some i) none ch ∧ MatchTo v par (some i) nx z

theorem matchTo_none {v : View} {par : Option Nat} : ∀ (t : BT) (prv : Option Nat),
    MatchTo v par prv t none ↔ Match v par prv t
  | .nil, _ => Iff.rfl
  | .node i ch nx, prv => by
    show (LinkOK v par prv i ch.rid (nx.rid.or none) ∧ Match v (some i) none ch ∧ MatchTo v par (some i) nx none) ↔
      (LinkOK v par prv i ch.rid nx.rid ∧ Match v (some i) none ch ∧ Match v par (some i) nx)
    rw [matchTo_none nx (some i), Option.or_none]

/-- The splice law: a chain `A ⧺ B` followed by `z` is `A` followed by the head of `B` (else `z`), and `B`
    preceded by the last node of `A` (else what precedes `A`). -/
theorem matchTo_snoc {v : View} {par : Option Nat} : ∀ (A : BT) (prv : Option Nat) (B : BT) (z : Option Nat),
    MatchTo v par prv (A.snoc B) z ↔ MatchTo v par prv A (B.rid.or z) ∧ MatchTo v par (A.last.or prv) B z
  | .nil, prv, B, z => by simp [BT.snoc, MatchTo, BT.last]
  | .node i ch nx, prv, B, z => by
    simp only [BT.snoc, MatchTo, matchTo_snoc nx (some i) B z, BT.rid_snoc, BT.last, Option.or_assoc,
      Option.some_or, and_assoc]

theorem MatchTo.frame {v v' : View} {par : Option Nat} : ∀ (t : BT) (prv z : Option Nat),
    (∀ i, i ∈ t.ids → v' i = v i) → MatchTo v par prv t z → MatchTo v' par prv t z
  | .nil, _, _, _, _ => trivial
  | .node i ch nx, prv, z, h, ⟨⟨c, hc, r⟩, mc, mn⟩ =>
    ⟨⟨c, by rw [h i (by simp)]; exact hc, r⟩,
     Match.frame ch _ _ (fun j hj => h j (by simp [hj])) mc,
     MatchTo.frame nx _ _ (fun j hj => h j (by simp [hj])) mn⟩

/-- What follows a chain is written in the `next` field of its last node only. -/
theorem MatchTo.relast {v v' : View} {par : Option Nat} (z z' : Option Nat) : ∀ (K : BT) (prv : Option Nat),
    K.ids.Nodup →
    (∀ j, j ∈ K.ids → some j ≠ K.last → v' j = v j) →
    (∀ l c, K.last = some l → v l = some c → v' l = some { c with next := z' }) →
    MatchTo v par prv K z → MatchTo v' par prv K z'
  | .nil, _, _, _, _, _ => trivial
  | .node i ch nx, prv, hnd, hout, hl, ⟨⟨c, hc, hp, hpv, hf, hn, hb⟩, mc, mn⟩ => by
    obtain ⟨hi1, hi2, hcn, hnn, hd⟩ := BT.nodup_node.mp hnd
    cases nx with
    | nil =>
      refine ⟨⟨_, hl i c rfl hc, hp, hpv, hf, rfl, hb⟩, ?_, trivial⟩
      exact Match.frame ch _ _ (fun j hj => hout j (by simp [hj]) (by
        simp only [BT.last, Option.none_or, ne_eq, Option.some.injEq]; intro e; exact hi1 (e ▸ hj))) mc
    | node a ca ma =>
      obtain ⟨l, hle⟩ := BT.last_node a ca ma
      have hlm := BT.tops_sub _ _ (BT.last_mem _ l hle)
      have hL : (BT.node i ch (.node a ca ma)).last = some l := by simp [BT.last] at hle ⊢; simp [hle]
      refine ⟨⟨c, ?_, hp, hpv, hf, hn, hb⟩, ?_, ?_⟩
      · rw [hout i (by simp) (by rw [hL]; intro e; injection e with e; exact hi2 (e ▸ hlm))]; exact hc
      · exact Match.frame ch _ _ (fun j hj => hout j (by simp [hj]) (by
          rw [hL]; intro e; injection e with e; exact hd j hj (e ▸ hlm))) mc
      · apply MatchTo.relast z z' (.node a ca ma) (some i) hnn _ _ mn
        · intro j hj hjl
          exact hout j (BT.mem_node.mpr (Or.inr (Or.inr hj))) (by rw [hL, ← hle]; exact hjl)
        · intro l' c' hl' hc'
          exact hl l' c' (by rw [hL, ← hle]; exact hl') hc'

theorem MatchTo.last_cell {v : View} {par : Option Nat} {z : Option Nat} : ∀ (K : BT) (prv : Option Nat) (l : Nat),
    MatchTo v par prv K z → K.last = some l → ∃ c, v l = some c ∧ c.next = z ∧ c.parent = par
  | .nil, _, _, _, h => by simp [BT.last] at h
  | .node i ch .nil, _, l, ⟨⟨c, hc, hp, _, _, hn, _⟩, _, _⟩, h => by
    simp only [BT.last, Option.none_or, Option.some.injEq] at h; subst h
    exact ⟨c, hc, by simpa using hn, hp⟩
  | .node i ch (.node a ca ma), _, l, ⟨_, _, mn⟩, h => by
    obtain ⟨l', hl'⟩ := BT.last_node a ca ma
    have : (BT.node i ch (.node a ca ma)).last = some l' := by simp [BT.last] at hl' ⊢; simp [hl']
    cases this.symm.trans h
    exact MatchTo.last_cell (.node a ca ma) (some i) l mn hl'

/-- `while (tmp->next) tmp = tmp->next` arrives at the last node of the chain. -/
theorem lastSib_spec {s : St} (par : Option Nat) : ∀ (t : BT) (prv : Option Nat) (i l : Nat) (fuel : Nat),
    Match s.cellAt par prv t → t.rid = some i → t.last = some l → t.tops.length ≤ fuel →
    s.lastSib fuel i = .ok l
  | .nil, _, _, _, _, _, h, _, _ => by simp at h
  | .node a ch .nil, prv, i, l, fuel, ⟨⟨c, hc, _, _, _, hn, _⟩, _, _⟩, hr, hl, hf => by
    simp only [BT.rid_node, Option.some.injEq] at hr; subst hr
    simp only [BT.last, Option.none_or, Option.some.injEq] at hl; subst hl
    cases fuel with
    | zero => simp [BT.tops] at hf
    | succ f =>
      simp only [St.lastSib, deref_of_cellAt hc]
      simp [hn]
  | .node a ch (.node j c2 m), prv, i, l, fuel, ⟨⟨c, hc, _, _, _, hn, _⟩, _, mn⟩, hr, hl, hf => by
    simp only [BT.rid_node, Option.some.injEq] at hr; subst hr
    obtain ⟨l', hl'⟩ := BT.last_node j c2 m
    have : (BT.node a ch (.node j c2 m)).last = some l' := by simp [BT.last] at hl' ⊢; simp [hl']
    cases this.symm.trans hl
    cases fuel with
    | zero => simp [BT.tops] at hf
    | succ f =>
      simp only [St.lastSib, deref_of_cellAt hc]
      simp only [hn]
      exact lastSib_spec par (.node j c2 m) (some a) j l f mn rfl hl' (by simp [BT.tops] at hf ⊢; omega)

/-- The two ways `wbxml_tree_add_node` edits a chain are one: the suffix `S` — nothing in the normal case
    (`node->prev = tmp; tmp->next = node`), the last text node in the merge case — gives way to the single
    node `n` with its sub-tree `chn`, hung behind the last node of `A`. -/
theorem Match.resuffix {v v' : View} (par : Option Nat) (n : Nat) (chn A S : BT) (prv : Option Nat)
    (hnd : A.ids.Nodup)
    (hout : ∀ j, j ∈ A.ids → some j ≠ A.last → v' j = v j)
    (hq : ∀ q c, A.last = some q → v q = some c → v' q = some { c with next := some n })
    (hn : LinkOK v' par (A.last.or prv) n chn.rid none) (hchn : Match v' (some n) none chn)
    (m : Match v par prv (A.snoc S)) : Match v' par prv (A.snoc (.node n chn .nil)) := by
  rw [← matchTo_none, matchTo_snoc] at m ⊢
  exact ⟨MatchTo.relast _ _ A prv hnd hout hq m.1, hn, hchn, trivial⟩

theorem Match.at_top {v : View} {par prv : Option Nat} {A c B : BT} {n : Nat}
    (m : Match v par prv (A.snoc (.node n c B))) :
    ∃ cn, v n = some cn ∧ cn.prev = A.last.or prv ∧ cn.first = c.rid ∧ cn.next = B.rid ∧
      (cn.pay.isBranch = true ∨ c = .nil) ∧ Match v (some n) none c ∧
      (∀ x, B.rid = some x → ∃ cx, v x = some cx ∧ cx.prev = some n ∧ cx.parent = par) ∧
      (∀ q, A.last = some q → ∃ cq, v q = some cq ∧ cq.next = some n ∧ cq.parent = par) := by
  rw [← matchTo_none, matchTo_snoc] at m
  obtain ⟨mA, ⟨cn, h1, h2, h3, h4, h5, h6⟩, mc, mB⟩ := m
  refine ⟨cn, h1, h3, h4, by simpa using h5, h6.imp_right BT.rid_none, mc, ?_, ?_⟩
  · intro x hx
    cases B with
    | nil => simp at hx
    | node y cy my =>
      simp only [BT.rid_node, Option.some.injEq] at hx; subst hx
      obtain ⟨⟨cx, g1, g2, g3, _⟩, _, _⟩ := mB
      exact ⟨cx, g1, g3, g2⟩
  · intro q hq
    obtain ⟨cq, g1, g2, g3⟩ := MatchTo.last_cell A prv q mA hq
    exact ⟨cq, g1, by simpa using g2, g3⟩

/-- `wbxml_tree_extract_node`: `A ⧺ [n; c] ⧺ B` becomes `A ⧺ B`. -/
theorem Match.remove {v v' : View} (par : Option Nat) (n : Nat) (A c B : BT) (prv : Option Nat)
    (hnd : (A.snoc (.node n c B)).ids.Nodup)
    (hA : ∀ j, j ∈ A.ids → some j ≠ A.last → v' j = v j)
    (hB : ∀ j, j ∈ B.ids → some j ≠ B.rid → v' j = v j)
    (hq : ∀ q cq, A.last = some q → v q = some cq → v' q = some { cq with next := B.rid })
    (hx : ∀ x cx, B.rid = some x → v x = some cx → v' x = some { cx with prev := A.last.or prv })
    (m : Match v par prv (A.snoc (.node n c B))) : Match v' par prv (A.snoc B) := by
  obtain ⟨dA, _, dB, _⟩ := BT.nodup_split hnd
  rw [← matchTo_none, matchTo_snoc] at m ⊢
  simp only [Option.or_none] at m ⊢
  obtain ⟨mA, _, _, mB⟩ := m
  refine ⟨MatchTo.relast _ _ A prv dA hA hq mA, ?_⟩
  cases B with
  | nil => trivial
  | node x cx mx =>
    obtain ⟨⟨c0, h0, h1, _, h3, h4, h5⟩, mcx, mmx⟩ := mB
    obtain ⟨hx1, hx2, _⟩ := BT.nodup_node.mp dB
    refine ⟨⟨_, hx x c0 rfl h0, h1, rfl, h3, h4, h5⟩, ?_, ?_⟩
    · exact Match.frame cx _ _ (fun j hj => hB j (by simp [hj]) (by
        simp only [BT.rid_node, ne_eq, Option.some.injEq]; intro e; exact hx1 (e ▸ hj))) mcx
    · exact MatchTo.frame mx _ _ (fun j hj => hB j (by simp [hj]) (by
        simp only [BT.rid_node, ne_eq, Option.some.injEq]; intro e; exact hx2 (e ▸ hj))) mmx

end Wbxml.Model.TreeHeap
