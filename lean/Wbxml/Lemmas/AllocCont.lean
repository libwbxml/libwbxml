/-
  C16 — specifications of the containers in the ledger monad, as triples (`Lemmas/AllocTri.lean`):
  buffers, lists, tags / attribute names, attributes, and the members of a tree node that own them.
  Destructors are `Frees` statements.
-/
import Wbxml.Model.AllocCont
import Wbxml.Lemmas.AllocTri
namespace Wbxml.Model.Alloc
open Wbxml

/-- Representation invariant of a dynamic buffer: no block, no capacity. (`grow_buff` before its
    repair broke it: `malloced` raised, `data` NULL.) -/
def ABuf.ok (b : ABuf) : Prop := b.isStatic = false → b.dataId = none → b.malloced = 0 ∧ b.bytes = []

theorem bufCreate_tri (src : Option Bytes) (blk : Nat) :
    Spec [] [] (bufCreate src blk) ownedBufOpt (fun r => ∀ b, r = some b → b.ok) (· = none) := by
  unfold bufCreate
  refine .malloc (.ret (.refl _) ⟨rfl, fun _ h => nomatch h⟩ fun _ => rfl) fun h => ?_
  have empty : Tri [] [h] False (Prog.ret (some (⟨h, none, [], 0, false⟩ : ABuf)))
      (fun r B => B = ownedBufOpt r ∧ (∀ b, r = some b → b.ok)) (· = none) :=
    .ret (.refl _) ⟨rfl, by simp [ABuf.ok]⟩ False.elim
  rcases src with _ | d <;> dsimp only
  · exact empty
  refine .ite (fun _ => empty) fun _ => ?_
  refine .malloc ?_ fun p => .ret (.refl _) ⟨rfl, by simp [ABuf.ok]⟩ False.elim
  exact .release (Frees.free (some h)) (Fr := []) (.refl _) (.ret (.refl _) ⟨rfl, fun _ h => nomatch h⟩ fun _ => rfl)

theorem bufStaCreate_tri (d : Bytes) :
    Spec [] [] (bufStaCreate d) ownedBufOpt (fun _ => True) (· = none) :=
  .malloc (.ret (.refl _) ⟨rfl, trivial⟩ fun _ => rfl) fun _ => .ret (.refl _) ⟨rfl, trivial⟩ False.elim

theorem bufDestroy_frees (b : Option ABuf) : Frees (bufDestroy b) (ownedBufOpt b) := by
  rcases b with _ | b
  · exact .nil
  unfold bufDestroy
  simp only [bind_eq, ownedBufOpt, ABuf.owned]
  refine .deref List.mem_cons_self ?_
  cases b.isStatic <;> simp only [Bool.not_false, Bool.not_true, Bool.false_eq_true, if_true, if_false]
  · exact ((Frees.free b.dataId).seq (.free (some b.hdr))).perm (by perm_count)
  · exact Frees.free (some b.hdr)

/-- The common shape of the buffer mutators: the buffer object is the same struct, `data` may have
    moved to a fresh block; a delivered failure is reported as FALSE. -/
def BufStep (b : ABuf) (s : Ledger) (r : ABuf × Bool) (s' : Ledger) : Prop :=
  r.1.hdr = b.hdr ∧ r.1.isStatic = b.isStatic ∧ Clean s s' b.owned r.1.owned ∧ (s.hits < s'.hits → r.2 = false) ∧
  (b.ok → r.1.ok)

/-- The same as a specification (`R`: the blocks the mutator reads besides the buffer). -/
abbrev BufSpec (R : List Nat) (b : ABuf) (p : Prog (ABuf × Bool)) : Prop :=
  Spec R b.owned p (fun r => r.1.owned) (fun r => r.1.hdr = b.hdr ∧ r.1.isStatic = b.isStatic ∧ (b.ok → r.1.ok))
    (fun r => r.2 = false)

theorem ABuf.owned_dyn {b : ABuf} (h : b.isStatic = false) : b.owned = b.hdr :: b.dataId.toList := by
  simp [ABuf.owned, h]

theorem BufSpec.same {R : List Nat} {b : ABuf} {F : Prop} (ok : Bool) (he : F → ok = false) :
    Tri R b.owned F (Prog.ret (b, ok))
      (fun r B => B = r.1.owned ∧ r.1.hdr = b.hdr ∧ r.1.isStatic = b.isStatic ∧ (b.ok → r.1.ok)) (fun r => r.2 = false) :=
  .ret (.refl _) ⟨rfl, rfl, rfl, id⟩ he

theorem growBuff_tri (b : ABuf) (size : Nat) :
    Spec [] b.owned (growBuff b size) (fun r => r.1.owned)
      (fun r => (r.1.hdr = b.hdr ∧ r.1.isStatic = b.isStatic ∧ (b.ok → r.1.ok)) ∧
        (b.ok → r.2 = true → b.isStatic = false → r.1.dataId.isSome)) (fun r => r.2 = false) := by
  unfold growBuff
  refine .deref (.inl List.mem_cons_self) ?_
  cases hst : b.isStatic
  case true => exact .ret (.refl _) ⟨rfl, ⟨rfl, hst, id⟩, by simp⟩ False.elim
  simp only [Bool.false_eq_true, if_false]
  refine .ite (fun _ => ?_) fun hroom => ?_
  · refine (realloc_tri b.dataId).after [b.hdr] (by rw [ABuf.owned_dyn hst]; exact .refl _) nofun fun q _ => ?_
    rcases q with _ | q
    · exact .ret (by rw [ABuf.owned_dyn hst]; exact .refl _) ⟨rfl, ⟨rfl, hst, id⟩, by simp⟩ fun _ => rfl
    · exact .ret (.refl _) ⟨by simp [ABuf.owned], ⟨rfl, rfl, by simp [ABuf.ok]⟩, by simp⟩ (by simp)
  · refine .ret (.refl _) ⟨rfl, ⟨rfl, hst, id⟩, fun hok _ _ => ?_⟩ False.elim
    cases hd : b.dataId with
    | some q => rfl
    | none => have := (hok hst hd).1; simp only [ABuf.len] at hroom; omega

theorem insertData_tri (b : ABuf) (pos : Nat) (d : Bytes) (hok : b.ok) : BufSpec [] b (insertData b pos d) := by
  unfold insertData
  refine .deref (.inl List.mem_cons_self) (.ite (fun _ => BufSpec.same false nofun) fun _ => ?_)
  refine (growBuff_tri b d.length).step (.refl _) nofun fun ⟨b1, grown⟩ ⟨⟨e1, e2, k1⟩, hsome⟩ => ?_
  simp only at e1 e2 k1 hsome ⊢
  cases grown with
  | false => exact .ret (.refl _) ⟨rfl, e1, e2, k1⟩ fun _ => rfl
  | true =>
    have hns : b.isStatic = false := by
      cases hb : b.isStatic <;> simp_all
    cases hd : b1.dataId with
    | none => simp [hd] at hsome; exact absurd (hsome hok) (by simp [hns])
    | some q =>
      refine .deref (.inl (by simp [ABuf.owned, e2, hns, hd])) ?_
      exact .ret (.refl _) ⟨by simp [ABuf.owned, hd], e1, e2, fun _ => by simp [ABuf.ok]⟩ (by simp)

/-- `if (buffer->is_static) return FALSE;` in front of a mutator. -/
theorem BufSpec.dyn {R : List Nat} {b : ABuf} {p : Prog (ABuf × Bool)} (hp : BufSpec R b p) :
    BufSpec R b (Prog.bind (deref (some b.hdr)) fun _ => if b.isStatic = true then Prog.ret (b, false) else p) := by
  exact .deref (.inl List.mem_cons_self) (.ite (fun _ => BufSpec.same false nofun) fun _ => hp)

theorem bufAppendData_tri (b : ABuf) (d : Option Bytes) (hok : b.ok) : BufSpec [] b (bufAppendData b d) := by
  unfold bufAppendData
  refine BufSpec.dyn ?_
  rcases d with _ | d
  · exact BufSpec.same true nofun
  exact .ite (fun _ => BufSpec.same true nofun) fun _ => insertData_tri b b.len d hok

theorem bufAppendChar_tri (b : ABuf) (ch : UInt8) (hok : b.ok) : BufSpec [] b (bufAppendChar b ch) :=
  (insertData_tri b b.len [ch] hok).dyn

theorem bufInsertCstr_tri (b : ABuf) (str : Bytes) (pos : Nat) (hok : b.ok) : BufSpec [] b (bufInsertCstr b str pos) :=
  (insertData_tri b pos str hok).dyn

theorem bufInsertCstr_spec (b : ABuf) (str : Bytes) (pos : Nat) (s : Ledger) (wf : s.WF) (own : Owns s b.owned) (hok : b.ok) :
    Good (bufInsertCstr b str pos) s (BufStep b s) :=
  (Tri.good (bufInsertCstr_tri b str pos hok) wf own nofun).mono fun _ _ ⟨c, e, a, b, o⟩ => ⟨a, b, c, e, o⟩

theorem bufCstr_spec (b : ABuf) (s : Ledger) (hlive : b.hdr ∈ s.live) :
    Good (bufCstr b) s (fun r s' => s' = s ∧ (b.ok → r.isSome)) := by
  unfold bufCstr
  refine Good.deref hlive ?_
  split
  · simp [good_ret]
  next hlen =>
  split
  · simp [good_ret]
  next hst =>
  split
  · next hd =>
    refine good_ret.2 ⟨rfl, fun hok => ?_⟩
    have := (hok (by simpa using hst) (by simpa using hd)).2
    simp [ABuf.len, this] at hlen
  · simp [good_ret]

/-- The source is only read: a buffer borrowed, or the destination itself. -/
theorem bufAppend_tri (R : List Nat) (dest : ABuf) (src : Option ABuf) (hok : dest.ok)
    (hsrc : ∀ i ∈ src.toList.map (·.hdr), i ∈ dest.owned ∨ i ∈ R) : BufSpec R dest (bufAppend dest src) := by
  unfold bufAppend
  refine BufSpec.dyn ?_
  rcases src with _ | x
  · exact BufSpec.same true nofun
  exact .read (hsrc _ (by simp)) (bufCstr_spec x) fun d _ => (bufAppendData_tri dest d hok).borrow nofun

theorem hdr_mem_ownedBufOpt {b : Option ABuf} {i : Nat} (h : i ∈ b.toList.map (·.hdr)) : i ∈ ownedBufOpt b := by
  cases b <;> simp_all [ownedBufOpt, ABuf.owned]

/-- A request can fail only when there is something to copy: the error condition says so. -/
theorem bufDuplicate_tri (b : Option ABuf) :
    Spec (b.toList.map (·.hdr)) [] (bufDuplicate b) ownedBufOpt (fun r => ∀ x, r = some x → x.ok)
      (fun r => r = none ∧ b.isSome) := by
  rcases b with _ | x
  · exact .ret (.refl _) ⟨rfl, fun _ h => nomatch h⟩ False.elim
  unfold bufDuplicate
  refine .read (.inr (by simp)) (bufCstr_spec x) fun d _ => ?_
  exact ((bufCreate_tri d x.len).borrow nofun).mono id (fun _ B q => ⟨B, .refl _, q⟩) fun _ _ _ e => ⟨e, rfl⟩

theorem listCreate_tri {ι : Type} :
    Spec [] [] (listCreate (ι := ι)) (fun r => match r with | none => [] | some l => [l.hdr])
      (fun r => ∀ l, r = some l → l.cells = []) (· = none) :=
  .malloc (.ret (.refl _) ⟨rfl, fun _ h => nomatch h⟩ fun _ => rfl) fun _ => .ret (.refl _) ⟨rfl, by simp⟩ False.elim

/-- `wbxml_list_append`: the list struct is only read; with TRUE exactly one fresh cell, at the end. -/
theorem listAppend_tri {ι : Type} (l : AList ι) (item : ι) :
    Tri [l.hdr] [] False (listAppend l item)
      (fun r B => r.1.hdr = l.hdr ∧ ((r.2 = false ∧ r.1 = l ∧ B = []) ∨
        (r.2 = true ∧ ∃ c, r.1.cells = l.cells ++ [(c, item)] ∧ B = [c]))) (fun r => r.2 = false) := by
  unfold listAppend
  refine .deref (.inr List.mem_cons_self) (.malloc ?_ fun c => ?_)
  · exact .ret (.refl _) ⟨rfl, .inl ⟨rfl, rfl, rfl⟩⟩ fun _ => rfl
  · exact .ret (.refl _) ⟨rfl, .inr ⟨rfl, c, rfl, rfl⟩⟩ False.elim

theorem listAppend_spec {ι : Type} (l : AList ι) (item : ι) (s : Ledger) (wf : s.WF) (hl : l.hdr ∈ s.live) :
    Good (listAppend l item) s (fun r s' =>
      r.1.hdr = l.hdr ∧ (s.hits < s'.hits → r.2 = false) ∧
      ((r.2 = false ∧ r.1 = l ∧ Clean s s' [] []) ∨
       (r.2 = true ∧ ∃ c, r.1.cells = l.cells ++ [(c, item)] ∧ Clean s s' [] [c]))) :=
  (listAppend_tri l item s wf (Owns.nil s) (by simpa using hl)).mono fun _ _ ⟨_, ⟨e, q⟩, c, h⟩ =>
    ⟨e, fun hh => h (.inr hh), q.imp (fun ⟨a, b, e⟩ => ⟨a, b, e ▸ c⟩) fun ⟨a, x, b, e⟩ => ⟨a, x, b, e ▸ c⟩⟩

/-- `wbxml_list_insert`: as `listAppend_tri`, the fresh cell anywhere in the chain. -/
theorem listInsert_tri {ι : Type} (l : AList ι) (item : ι) (pos : Nat) :
    Tri [l.hdr] [] False (listInsert l item pos)
      (fun r B => r.1.hdr = l.hdr ∧ ((r.2 = false ∧ r.1 = l ∧ B = []) ∨
        (r.2 = true ∧ ∃ c, B = [c] ∧ (r.1.cells.map (·.1)).Perm (c :: l.cells.map (·.1))))) (fun r => r.2 = false) := by
  unfold listInsert
  refine .malloc (.ret (.refl _) ⟨rfl, .inl ⟨rfl, rfl, rfl⟩⟩ fun _ => rfl) fun c => ?_
  refine .deref (.inr List.mem_cons_self) (.ret (.refl _) ⟨rfl, .inr ⟨rfl, c, rfl, ?_⟩⟩ False.elim)
  simp only [List.map_append, List.map_cons, List.append_assoc, List.singleton_append]
  conv => rhs; rw [← List.take_append_drop pos l.cells, List.map_append]
  exact List.perm_middle

theorem listExtractFirst_spec {ι : Type} (l : AList ι) (s : Ledger) (wf : s.WF) (hl : l.hdr ∈ s.live)
    (hc : ∀ c ∈ l.cells.map (·.1), c ∈ s.live) :
    Good (listExtractFirst l) s (fun r s' =>
      r.1.hdr = l.hdr ∧ s'.hits = s.hits ∧ s'.next = s.next ∧
      match l.cells with
      | [] => r = (l, none) ∧ s' = s
      | (c, it) :: rest => r.2 = some it ∧ r.1.cells = rest ∧ Clean s s' [c] []) := by
  unfold listExtractFirst
  refine Good.deref hl ?_
  cases hcells : l.cells with
  | nil => simp [good_ret]
  | cons x rest =>
    obtain ⟨c, it⟩ := x
    have hcl : c ∈ s.live := hc c (by simp [hcells])
    refine Good.deref hcl (Good.bind (free_spec (some c) s wf (by rintro _ ⟨⟩; exact hcl)) ?_)
    rintro _ s2 ⟨c2, h2, n2⟩
    exact good_ret.2 ⟨rfl, h2, n2, rfl, rfl, c2⟩

/-- Blocks of a chain of cells, given what each item owns. -/
def cellsOwned {ι : Type} (oi : ι → List Nat) (cells : List (Nat × ι)) : List Nat :=
  cells.flatMap (fun c => c.1 :: oi c.2)

theorem cellsOwned_append {ι : Type} (oi : ι → List Nat) (A B : List (Nat × ι)) :
    cellsOwned oi (A ++ B) = cellsOwned oi A ++ cellsOwned oi B := by
  simp [cellsOwned, List.flatMap_append]

theorem cellsOwned_nil {ι : Type} (oi : ι → List Nat) : cellsOwned oi [] = [] := rfl

theorem cellsOwned_cons {ι : Type} (oi : ι → List Nat) (c : Nat) (it : ι) (rest : List (Nat × ι)) :
    cellsOwned oi ((c, it) :: rest) = c :: (oi it ++ cellsOwned oi rest) := rfl

/-- What a destructor must do: release exactly the item's blocks, allocate nothing. It unfolds to
    `∀ it, Frees (d it) (oi it)`, so a proof passes a function into `Frees` facts where a `Destroys` is
    asked for. -/
def Destroys {ι : Type} (oi : ι → List Nat) (d : ι → Prog Unit) : Prop :=
  ∀ it s, s.WF → Owns s (oi it) →
    Good (d it) s (fun _ s' => Clean s s' (oi it) [] ∧ s'.hits = s.hits ∧ s'.next = s.next)

theorem cellsDestroy_frees {ι : Type} (oi : ι → List Nat) (d : ι → Prog Unit) (hd : Destroys oi d)
    (cells : List (Nat × ι)) : Frees (cellsDestroy cells d) (cellsOwned oi cells) := by
  induction cells with
  | nil => exact .nil
  | cons x rest ih =>
    unfold cellsDestroy
    exact .deref List.mem_cons_self ((Frees.seq (hd x.2) ((Frees.free (some x.1)).seq ih)).perm (by
      rw [cellsOwned_cons]; perm_count))

/-- Blocks of a (possibly NULL) list. -/
def listOwned {ι : Type} (oi : ι → List Nat) : Option (AList ι) → List Nat
  | none => []
  | some l => l.hdr :: cellsOwned oi l.cells

theorem listOwned_none {ι : Type} (oi : ι → List Nat) : listOwned oi none = [] := rfl

theorem listDestroy_frees {ι : Type} (oi : ι → List Nat) (d : ι → Prog Unit) (hd : Destroys oi d)
    (l : Option (AList ι)) : Frees (listDestroy l d) (listOwned oi l) := by
  rcases l with _ | l
  · exact .nil
  unfold listDestroy
  exact .deref List.mem_cons_self (((cellsDestroy_frees oi d hd l.cells).seq (.free (some l.hdr))).perm (by
    simp only [listOwned]; perm_count))

theorem forM_frees {ι : Type} (oi : ι → List Nat) (d : ι → Prog Unit) (hd : Destroys oi d) (xs : List ι) :
    Frees (forM_ xs d) (xs.flatMap oi) := by
  induction xs with
  | nil => exact .nil
  | cons x rest ih => exact Frees.seq (hd x) ih

theorem nameDestroy_frees (t : Option AName) : Frees (nameDestroy t) (ownedNameOpt t) := by
  rcases t with _ | t
  · exact .nil
  unfold nameDestroy
  simp only [bind_eq, ownedNameOpt, AName.owned]
  refine .deref List.mem_cons_self ?_
  cases t.v with
  | token r => exact Frees.free (some t.hdr)
  | literal b => exact ((bufDestroy_frees b).seq (.free (some t.hdr))).perm (by perm_count)

theorem nameCreateToken_tri (row : Nat) : Spec [] [] (nameCreateToken row) ownedNameOpt (fun _ => True) (· = none) :=
  .malloc (.ret (.refl _) ⟨rfl, trivial⟩ fun _ => rfl) fun _ => .ret (.refl _) ⟨rfl, trivial⟩ False.elim

theorem nameCreateLiteral_tri (value : Option Bytes) :
    Spec [] [] (nameCreateLiteral value) ownedNameOpt (fun _ => True) (· = none) := by
  unfold nameCreateLiteral
  refine .malloc (.ret (.refl _) ⟨rfl, trivial⟩ fun _ => rfl) fun h => ?_
  rcases value with _ | v <;> dsimp only
  · exact .ret (.refl _) ⟨rfl, trivial⟩ False.elim
  refine (bufCreate_tri (some v) v.length).make nofun fun b _ => ?_
  rcases b with _ | b
  · exact .release (nameDestroy_frees (some ⟨h, .literal none⟩)) (Fr := []) (.refl _) (.ret (.refl _) ⟨rfl, trivial⟩ fun _ => rfl)
  · exact .ret (.refl _) ⟨rfl, trivial⟩ (by simp)

/-- The original is only read.  A request can fail only when there is something to copy. -/
theorem nameDuplicate_tri (t : Option AName) :
    Spec (ownedNameOpt t) [] (nameDuplicate t) ownedNameOpt (fun _ => True) (fun r => r = none ∧ t.isSome) := by
  rcases t with _ | t
  · exact .ret (.refl _) ⟨rfl, trivial⟩ False.elim
  unfold nameDuplicate
  refine .deref (.inr List.mem_cons_self) (.malloc (.ret (.refl _) ⟨rfl, trivial⟩ fun _ => ⟨rfl, rfl⟩) fun h => ?_)
  cases hv : t.v with
  | token r => exact .ret (.refl _) ⟨rfl, trivial⟩ False.elim
  | literal b =>
    refine (bufDuplicate_tri b).make (fun i hi => .inl ?_) fun b' _ => ?_
    · simp [ownedNameOpt, AName.owned, hv, hdr_mem_ownedBufOpt hi]
    refine .ite (fun hcond => ?_) fun hcond => ?_
    · obtain rfl : b' = none := Option.isNone_iff_eq_none.1 (Bool.and_eq_true _ _ ▸ hcond).1
      exact .release (Frees.free (some h)) (Fr := []) (.refl _) (.ret (.refl _) ⟨rfl, trivial⟩ fun _ => ⟨rfl, rfl⟩)
    · refine .ret (.refl _) ⟨rfl, trivial⟩ fun f => absurd ?_ hcond
      rcases f with f | f
      · exact f.elim
      · simp [f.1, f.2]

theorem attrCreate_tri :
    Spec [] [] attrCreate ownedAttrOpt (fun r => ∀ a, r = some a → a.name = none ∧ a.value = none) (· = none) :=
  .malloc (.ret (.refl _) ⟨rfl, fun _ h => nomatch h⟩ fun _ => rfl) fun _ =>
    .ret (.refl _) ⟨rfl, fun _ h => Option.some.inj h ▸ ⟨rfl, rfl⟩⟩ False.elim

theorem attrDestroy_frees (a : Option AAttr) : Frees (attrDestroy a) (ownedAttrOpt a) := by
  rcases a with _ | a
  · exact .nil
  unfold attrDestroy
  exact .deref List.mem_cons_self (((nameDestroy_frees a.name).seq ((bufDestroy_frees a.value).seq
    (.free (some a.hdr)))).perm (by simp only [ownedAttrOpt, AAttr.owned]; perm_count))

theorem attr_destroys : Destroys AAttr.owned (fun a => attrDestroy (some a)) := fun a => attrDestroy_frees (some a)

theorem buf_destroys : Destroys ABuf.owned (fun b => bufDestroy (some b)) := fun b => bufDestroy_frees (some b)

/-- The original is only read. -/
theorem attrDuplicate_tri (a : Option AAttr) :
    Spec (ownedAttrOpt a) [] (attrDuplicate a) ownedAttrOpt (fun _ => True) (· = none) := by
  rcases a with _ | a
  · exact .ret (.refl _) ⟨rfl, trivial⟩ False.elim
  unfold attrDuplicate
  refine .deref (.inr List.mem_cons_self) (.malloc (.ret (.refl _) ⟨rfl, trivial⟩ fun _ => rfl) fun h => ?_)
  refine (nameDuplicate_tri a.name).make (fun i hi => .inl (by simp [ownedAttrOpt, AAttr.owned, hi])) fun n _ => ?_
  refine (bufDuplicate_tri a.value).make (fun i hi => .inl ?_) fun v _ => ?_
  · simp [ownedAttrOpt, AAttr.owned, hdr_mem_ownedBufOpt hi]
  refine .ite (fun _ => ?_) fun hcond => ?_
  · exact .release (attrDestroy_frees (some ⟨h, n, v⟩)) (Fr := []) (.refl _) (.ret (.refl _) ⟨rfl, trivial⟩ fun _ => rfl)
  · refine .ret (.refl _) ⟨rfl, trivial⟩ fun f => absurd ?_ hcond
    rcases f with (f | f) | f
    · exact f.elim
    · simp [f.1, f.2]
    · simp [f.1, f.2]

abbrev attrsOwned (l : Option (AList AAttr)) : List Nat := listOwned AAttr.owned l

theorem ANode.owned_eq (n : ANode) :
    n.owned = n.hdr :: (ownedNameOpt n.name ++ attrsOwned n.attrs ++ ownedBufOpt n.content) := by
  cases h : n.attrs <;> simp [ANode.owned, attrsOwned, listOwned, h, AList.owned, cellsOwned]

theorem nodeCreate_tri :
    Spec [] [] nodeCreate (fun r => match r with | none => [] | some n => n.owned)
      (fun r => ∀ n, r = some n → n.name = none ∧ n.attrs = none ∧ n.content = none) (· = none) :=
  .malloc (.ret (.refl _) ⟨rfl, fun _ h => nomatch h⟩ fun _ => rfl) fun _ =>
    .ret (.refl _) ⟨rfl, fun _ h => Option.some.inj h ▸ ⟨rfl, rfl, rfl⟩⟩ False.elim

theorem nodeDestroy_frees (n : Option ANode) :
    Frees (nodeDestroy n) (match n with | none => [] | some n => n.owned) := by
  rcases n with _ | n
  · exact .nil
  unfold nodeDestroy
  exact .deref List.mem_cons_self (((nameDestroy_frees n.name).seq ((listDestroy_frees _ _ attr_destroys n.attrs).seq
    ((bufDestroy_frees n.content).seq (.free (some n.hdr))))).perm (by
      simp only [ANode.owned_eq, attrsOwned]; perm_count))

/-- The attribute list of a node, made now if the node has none: either way the node owns it, and
    nothing has been released. -/
theorem nodeAttrList_tri (n : ANode) :
    Spec [] n.owned (match n.attrs with | some l => Prog.ret (some l) | none => listCreate)
      (fun l => match l with | none => n.owned | some l => ({ n with attrs := some l } : ANode).owned)
      (fun l => ∀ l', l = some l' → ∀ i ∈ n.owned, i ∈ ({ n with attrs := some l' } : ANode).owned) (· = none) := by
  cases h : n.attrs with
  | some l => exact .ret (by simp [ANode.owned, h]) ⟨rfl, by simp_all [ANode.owned]⟩ False.elim
  | none =>
    refine .malloc (.ret (.refl _) ⟨rfl, fun _ e => nomatch e⟩ fun _ => rfl) fun x => .ret ?_ ⟨rfl, fun _ e => ?_⟩ False.elim
    · simp only [ANode.owned, h, AList.owned, List.flatMap_nil]
      perm_count
    · cases e
      simp only [ANode.owned, h, List.append_nil, List.mem_cons, List.mem_append]
      exact fun i => Or.imp_right (Or.imp_left Or.inl)

/-- The shape of `wbxml_tree_node_add_attr`: same node struct, more owned blocks.  The caller's
    attribute is only read; its blocks are borrowed, or the node's own. -/
theorem nodeAddAttr_tri (R : List Nat) (n : ANode) (attr : AAttr) (hattr : ∀ i ∈ attr.owned, i ∈ R ∨ i ∈ n.owned) :
    Spec R n.owned (nodeAddAttr n attr) (fun r => r.1.owned)
      (fun r => r.1.hdr = n.hdr ∧ r.1.content = n.content ∧ r.1.name = n.name) (fun r => r.2 = ENOMEM) := by
  unfold nodeAddAttr
  refine .deref (.inl List.mem_cons_self) ((nodeAttrList_tri n).step (.refl _) nofun fun l hkeep => ?_)
  rcases l with _ | l <;> dsimp only
  · exact .ret (.refl _) ⟨rfl, rfl, rfl, rfl⟩ fun _ => rfl
  refine (attrDuplicate_tri (some attr)).make (fun i hi => (hattr i hi).imp id (hkeep l rfl i)) fun c _ => ?_
  rcases c with _ | c <;> dsimp only
  · exact .ret (by simp [ownedAttrOpt]) ⟨rfl, rfl, rfl, rfl⟩ fun _ => rfl
  refine (listAppend_tri l c).callQ (Fr := ({ n with attrs := some l } : ANode).owned ++ c.owned) (.refl _)
    (fun i hi => .inr (by rw [List.mem_singleton.1 hi]; simp [ANode.owned, AList.owned])) ?_
  rintro ⟨l2, ok⟩ B ⟨e3, ⟨rfl, rfl, rfl⟩ | ⟨rfl, cid, hcells, rfl⟩⟩
  · simp only [Bool.not_false, if_true]
    exact .release (attrDestroy_frees (some c)) (.refl _) (.ret (.refl _) ⟨rfl, rfl, rfl, rfl⟩ fun _ => rfl)
  · simp only [Bool.not_true, Bool.false_eq_true, if_false]
    refine .ret ?_ ⟨rfl, rfl, rfl, rfl⟩ (by simp)
    -- the node now owns the list with one more cell holding the copy
    simp only at e3 hcells
    simp only [ANode.owned, AList.owned, e3, hcells, List.flatMap_append, List.flatMap_cons, List.flatMap_nil]
    perm_count

end Wbxml.Model.Alloc
