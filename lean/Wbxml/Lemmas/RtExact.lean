/-
  Round trip (C03): the tree read off a grammar element by structural recursion (`nodeOfElem`,
  `kidsOfItems`, with `addChars` / `addN` on top of `addKid`). Character data added piecewise is character
  data added at once (`addChars_addChars`); the children read off items that are neither elements nor
  processing instructions are ONE run of character data (`kidsOfItems_leaves`). The XML-level view of a
  tree (`ntoks`); the view of the tree read off an element is the view of its events (`ntoks_nodeOfElem`).
-/
import Wbxml.Lemmas.EncWSplit
import Wbxml.Lemmas.TreeBuildBasic
namespace Wbxml.Lemmas.Rt
open Wbxml Wbxml.Model Wbxml.Spec Wbxml.Lemmas.ParseSer Wbxml.Lemmas.EncW

/-- Character data joins the children as a text node — merged into a preceding text sibling —
    unless it is empty (`charsEv` reports nothing then). -/
def addChars (kids : List Node) (s : Bytes) : List Node :=
  if s.isEmpty then kids else addKid kids (.text s)

mutual
/-- The node an element of the grammar stands for (pages threaded as in `evElem`). -/
def nodeOfElem (c : Ctx) (pg : Pages) : Elem → Node
  | .mk sw tag attrs content =>
    .elt (tagName c (swPage sw pg.tag) tag).1 (evAttrs c pg.attr attrs).1
      (kidsOfContent c (tagName c (swPage sw pg.tag) tag).2 ⟨swPage sw pg.tag, (evAttrs c pg.attr attrs).2⟩ content [])
def kidsOfContent (c : Ctx) (own : Option TagRow) (pg : Pages) : Option (List Item) → List Node → List Node
  | none, acc => acc
  | some items, acc => kidsOfItems c own pg items acc
/-- The children a content sequence adds to the children `acc` collected so far. -/
def kidsOfItems (c : Ctx) (own : Option TagRow) (pg : Pages) : List Item → List Node → List Node
  | [], acc => acc
  | it :: rest, acc => kidsOfItems c own (evItem c own pg it).2 rest (kidOfItem c own pg it acc)
def kidOfItem (c : Ctx) (own : Option TagRow) (pg : Pages) : Item → List Node → List Node
  | .elem e, acc => addKid acc (nodeOfElem c pg e)
  | .str s, acc => addChars acc (strText c s)
  | .entity code, acc => addChars acc (entityText code)
  | .opaque d, acc => addChars acc ((opaqueText c own d).getD [])
  | .ext _ x, acc => addChars acc ((extText c x).getD [])
  | .pi _, acc => acc
end

theorem kidsOfItems_nil (c own pg acc) : kidsOfItems c own pg [] acc = acc := by rw [kidsOfItems]
theorem kidsOfItems_cons (c own pg it rest acc) : kidsOfItems c own pg (it :: rest) acc =
    kidsOfItems c own (evItem c own pg it).2 rest (kidOfItem c own pg it acc) := by rw [kidsOfItems]
theorem kidsOfContent_none (c own pg acc) : kidsOfContent c own pg none acc = acc := by rw [kidsOfContent]
theorem kidsOfContent_some (c own pg items acc) :
    kidsOfContent c own pg (some items) acc = kidsOfItems c own pg items acc := by rw [kidsOfContent]
theorem nodeOfElem_mk (c : Ctx) (pg : Pages) (sw tag attrs content) : nodeOfElem c pg (.mk sw tag attrs content) =
    .elt (tagName c (swPage sw pg.tag) tag).1 (evAttrs c pg.attr attrs).1
      (kidsOfContent c (tagName c (swPage sw pg.tag) tag).2 ⟨swPage sw pg.tag, (evAttrs c pg.attr attrs).2⟩ content []) := by
  rw [nodeOfElem]
theorem kidOfItem_elem (c own pg e acc) : kidOfItem c own pg (.elem e) acc = addKid acc (nodeOfElem c pg e) := by
  rw [kidOfItem]
theorem kidOfItem_str (c own pg s acc) : kidOfItem c own pg (.str s) acc = addChars acc (strText c s) := by rw [kidOfItem]
theorem kidOfItem_entity (c own pg code acc) : kidOfItem c own pg (.entity code) acc = addChars acc (entityText code) := by
  rw [kidOfItem]
theorem kidOfItem_opaque (c own pg d acc) :
    kidOfItem c own pg (.opaque d) acc = addChars acc ((opaqueText c own d).getD []) := by rw [kidOfItem]
theorem kidOfItem_ext (c own pg sw x acc) : kidOfItem c own pg (.ext sw x) acc = addChars acc ((extText c x).getD []) := by
  rw [kidOfItem]
theorem kidOfItem_pi (c own pg a acc) : kidOfItem c own pg (.pi a) acc = acc := by rw [kidOfItem]

/-- Append a normalised child: an empty text node is dropped, a text node is merged into a
    preceding text sibling (`addKid`). -/
def addN (acc : List Node) (n : Node) : List Node :=
  match n with
  | .text s => addChars acc s
  | _ => addKid acc n

theorem addChars_nil (acc : List Node) : addChars acc [] = acc := rfl

theorem addChars_cons (acc : List Node) (b : UInt8) (s : Bytes) : addChars acc (b :: s) = addKid acc (.text (b :: s)) := rfl

theorem addChars_addChars (acc : List Node) (a b : Bytes) : addChars (addChars acc a) b = addChars acc (a ++ b) := by
  cases a with
  | nil => rfl
  | cons x a =>
    cases b with
    | nil => rw [addChars_nil, List.append_nil]
    | cons y b =>
      rw [addChars_cons, addChars_cons, List.cons_append, addChars_cons]
      cases hl : lastText acc with
      | false => rw [addKid_text_after _ _ hl, addKid_text_merge, addKid_text_after _ _ hl]; rfl
      | true =>
        obtain ⟨pre, t, rfl⟩ := lastText_split acc hl
        rw [addKid_text_merge, addKid_text_merge, addKid_text_merge, List.append_assoc]; rfl

theorem addN_text (acc : List Node) (s : Bytes) : addN acc (.text s) = addChars acc s := rfl
theorem addN_elt (acc : List Node) (n a k) : addN acc (.elt n a k) = addKid acc (.elt n a k) := rfl

theorem kidsOfItems_append (c : Ctx) (own : Option TagRow) : ∀ (a b : List Item) (pg : Pages) (acc : List Node),
    kidsOfItems c own pg (a ++ b) acc = kidsOfItems c own (evItems c own pg a).2 b (kidsOfItems c own pg a acc)
  | [], b, pg, acc => by rw [List.nil_append, evItems_nil, kidsOfItems_nil]
  | x :: a, b, pg, acc => by
    rw [List.cons_append, kidsOfItems_cons, kidsOfItems_cons, evItems_cons, kidsOfItems_append c own a b]

theorem kidsOfItems_single (c : Ctx) (own : Option TagRow) (pg : Pages) (it : Item) (acc : List Node) :
    kidsOfItems c own pg [it] acc = kidOfItem c own pg it acc := by
  rw [kidsOfItems_cons, kidsOfItems_nil]

def leafItem : Item → Bool
  | .elem _ => false
  | .pi _ => false
  | _ => true

theorem charsCat_one (b : Bytes) : charsCat (charsEv b) = b := by
  have := charsCat_charsEv b []
  rwa [List.append_nil, charsCat, List.append_nil] at this

theorem charsCat_append : ∀ (a b : List Event), charsCat (a ++ b) = charsCat a ++ charsCat b
  | [], _ => rfl
  | e :: a, b => by
    cases e <;> simp only [List.cons_append, charsCat, charsCat_append a b, List.append_assoc]

theorem leafItem_spec (c : Ctx) (own : Option TagRow) (pg : Pages) (it : Item) (h : leafItem it = true) (acc : List Node) :
    kidOfItem c own pg it acc = addChars acc (charsCat (evItem c own pg it).1) ∧
    (evItem c own pg it).1.flatMap toks = (charsCat (evItem c own pg it).1).map .ch := by
  cases it with
  | elem e => cases h
  | pi a => cases h
  | str s => rw [kidOfItem_str, evItem_str, charsCat_one, toks_charsEv]; exact ⟨rfl, rfl⟩
  | entity code => rw [kidOfItem_entity, evItem_entity, charsCat_one, toks_charsEv]; exact ⟨rfl, rfl⟩
  | «opaque» d => rw [kidOfItem_opaque, evItem_opaque, charsCat_one, toks_charsEv]; exact ⟨rfl, rfl⟩
  | ext sw x => rw [kidOfItem_ext, evItem_ext, charsCat_one, toks_charsEv]; exact ⟨rfl, rfl⟩

theorem kidsOfItems_leaves (c : Ctx) (own : Option TagRow) : ∀ (items : List Item) (pg : Pages) (acc : List Node),
    items.all leafItem = true →
    kidsOfItems c own pg items acc = addChars acc (charsCat (evItems c own pg items).1) ∧
    (evItems c own pg items).1.flatMap toks = (charsCat (evItems c own pg items).1).map .ch
  | [], pg, acc, _ => by rw [kidsOfItems_nil, evItems_nil]; exact ⟨rfl, rfl⟩
  | it :: rest, pg, acc, h => by
    rw [List.all_cons, Bool.and_eq_true] at h
    obtain ⟨h1, h2⟩ := leafItem_spec c own pg it h.1 acc
    obtain ⟨h3, h4⟩ := kidsOfItems_leaves c own rest (evItem c own pg it).2 (kidOfItem c own pg it acc) h.2
    rw [kidsOfItems_cons, evItems_cons, h3, h1, addChars_addChars, charsCat_append, List.flatMap_append, h2, h4,
      List.map_append]
    exact ⟨rfl, rfl⟩

theorem leaf_of_Leaf {c : WCfg} {tbl : List StrEntry} {it : Item} (h : Leaf c tbl it) : leafItem it = true := by
  cases h <;> rfl

theorem kidsOfItems_of_view (c : Ctx) (own : Option TagRow) (items : List Item) (pg : Pages) (acc : List Node)
    (hl : items.all leafItem = true) (t : Bytes) (hv : (evItems c own pg items).1.flatMap toks = t.map .ch) :
    kidsOfItems c own pg items acc = addChars acc t := by
  obtain ⟨h1, h2⟩ := kidsOfItems_leaves c own items pg acc hl
  rw [h1, (List.map_inj_right fun _ _ h => Tok.ch.inj h).mp (h2.symm.trans hv)]

mutual
/-- The view `toks` takes of events, taken of a tree: start / stop with XML names and attribute
    views, one `ch` per octet of character data. (CDATA sections and embedded documents are outside
    the plain fragment and contribute nothing.) -/
def ntoks : Node → List Tok
  | .elt name attrs kids => .start name.xmlName (attrs.map attrView) :: (ntoksL kids ++ [.stop name.xmlName])
  | .text s => s.map .ch
  | .cdata _ => []
  | .tree _ _ _ => []
def ntoksL : List Node → List Tok
  | [] => []
  | n :: r => ntoks n ++ ntoksL r
end

theorem ntoksL_nil : ntoksL [] = [] := by rw [ntoksL]
theorem ntoksL_cons (n r) : ntoksL (n :: r) = ntoks n ++ ntoksL r := by rw [ntoksL]
theorem ntoks_elt (name attrs kids) : ntoks (.elt name attrs kids) =
    .start name.xmlName (attrs.map attrView) :: (ntoksL kids ++ [.stop name.xmlName]) := by rw [ntoks]
theorem ntoks_text (s) : ntoks (.text s) = s.map .ch := by rw [ntoks]

theorem ntoksL_append : ∀ (a b : List Node), ntoksL (a ++ b) = ntoksL a ++ ntoksL b
  | [], b => by rw [List.nil_append, ntoksL_nil, List.nil_append]
  | x :: a, b => by rw [List.cons_append, ntoksL_cons, ntoksL_cons, ntoksL_append a b, List.append_assoc]

theorem ntoksL_single (n : Node) : ntoksL [n] = ntoks n := by rw [ntoksL_cons, ntoksL_nil, List.append_nil]

theorem ntoksL_addKid (acc : List Node) (n : Node) : ntoksL (addKid acc n) = ntoksL acc ++ ntoks n := by
  rcases addKid_cases acc n with ⟨_, e⟩ | ⟨pre, t, s, rfl, rfl, e⟩ <;> rw [e]
  · rw [ntoksL_append, ntoksL_single]
  · rw [ntoksL_append, ntoksL_append, ntoksL_single, ntoksL_single, ntoks_text, ntoks_text, ntoks_text,
      List.map_append, List.append_assoc]

theorem ntoksL_addChars (acc : List Node) (s : Bytes) : ntoksL (addChars acc s) = ntoksL acc ++ s.map .ch := by
  unfold addChars
  split
  · rename_i h; rw [List.isEmpty_iff.mp h]; simp
  · rw [ntoksL_addKid, ntoks_text]

theorem ntoksL_addN (acc : List Node) (n : Node) : ntoksL (addN acc n) = ntoksL acc ++ ntoks n := by
  cases n with
  | text s => simp only [addN]; rw [ntoksL_addChars, ntoks_text]
  | elt nm a ks => exact ntoksL_addKid acc (.elt nm a ks)
  | cdata ks => exact ntoksL_addKid acc (.cdata ks)
  | tree l cs r => exact ntoksL_addKid acc (.tree l cs r)

mutual
theorem ntoks_nodeOfElem (c : Ctx) : ∀ (e : Elem) (pg : Pages),
    ntoks (nodeOfElem c pg e) = (evElem c pg e).1.flatMap toks
  | .mk sw tag attrs content, pg => by
    rw [nodeOfElem_mk, ParseSer.evElem_mk, ntoks_elt, ntoksL_kidsOfContent c content _ _ [], ntoksL_nil]
    simp only [List.nil_append, List.flatMap_cons, List.flatMap_append, List.flatMap_nil, toks, List.append_nil,
      List.singleton_append]
theorem ntoksL_kidsOfContent (c : Ctx) : ∀ (content : Option (List Item)) (own : Option TagRow) (pg : Pages)
    (acc : List Node), ntoksL (kidsOfContent c own pg content acc) = ntoksL acc ++ (evContent c own pg content).1.flatMap toks
  | none, own, pg, acc => by rw [kidsOfContent_none, ParseSer.evContent_none]; simp
  | some items, own, pg, acc => by
    rw [kidsOfContent_some, ParseSer.evContent_some]; exact ntoksL_kidsOfItems c items own pg acc
theorem ntoksL_kidsOfItems (c : Ctx) : ∀ (items : List Item) (own : Option TagRow) (pg : Pages)
    (acc : List Node), ntoksL (kidsOfItems c own pg items acc) = ntoksL acc ++ (evItems c own pg items).1.flatMap toks
  | [], own, pg, acc => by rw [kidsOfItems_nil, ParseSer.evItems_nil]; simp
  | it :: more, own, pg, acc => by
    rw [kidsOfItems_cons, ParseSer.evItems_cons, ntoksL_kidsOfItems c more own _ _, ntoksL_kidOfItem c it own pg acc]
    simp only [List.flatMap_append, List.append_assoc]
theorem ntoksL_kidOfItem (c : Ctx) : ∀ (it : Item) (own : Option TagRow) (pg : Pages)
    (acc : List Node), ntoksL (kidOfItem c own pg it acc) = ntoksL acc ++ (evItem c own pg it).1.flatMap toks
  | it, own, pg, acc => by
    cases it with
    | elem e => rw [kidOfItem_elem, ParseSer.evItem_elem, ntoksL_addKid, ntoks_nodeOfElem c e pg]
    | pi p =>
      rw [kidOfItem_pi, ParseSer.evItem_pi]
      unfold evPi
      simp [toks]
    | _ => rw [(leafItem_spec c own pg _ rfl acc).1, (leafItem_spec c own pg _ rfl acc).2, ntoksL_addChars]
end

end Wbxml.Lemmas.Rt
