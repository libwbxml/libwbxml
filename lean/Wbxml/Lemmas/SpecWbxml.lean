/-
  The defining equations of the mutually recursive functions of `Spec/Wbxml.lean` (`serElem`, `evElem`,
  `wfElem` and their companions on content, item lists and items) as rewrite rules, the same functions on an
  element with a page switch in terms of the element without it, and the parser's `current_tag` slot after a
  list of content items (`slotEnd`).
-/
import Wbxml.Spec.Wbxml
namespace Wbxml.Lemmas.ParseSer
open Wbxml Wbxml.Model Wbxml.Spec

theorem serElem_mk (sw tag attrs content) : serElem (.mk sw tag attrs content) =
    serSw sw ++ (serTag (tagFlags (!attrs.isEmpty) content.isSome) tag ++
      ((if attrs.isEmpty then [] else serAttrs attrs ++ [0x01]) ++ serContent content)) := by
  rw [serElem]

theorem evElem_mk (c : Ctx) (pg : Pages) (sw tag attrs content) : evElem c pg (.mk sw tag attrs content) =
    (.startElt (tagName c (swPage sw pg.tag) tag).1 (evAttrs c pg.attr attrs).1 ::
      ((evContent c (tagName c (swPage sw pg.tag) tag).2 ⟨swPage sw pg.tag, (evAttrs c pg.attr attrs).2⟩ content).1 ++
        [.endElt (tagName c (swPage sw pg.tag) tag).1]),
     (evContent c (tagName c (swPage sw pg.tag) tag).2 ⟨swPage sw pg.tag, (evAttrs c pg.attr attrs).2⟩ content).2) := by
  rw [evElem]

theorem wfElem_mk (c : Ctx) (slot) (pg : Pages) (sw tag attrs content) :
    wfElem c slot pg (.mk sw tag attrs content) =
    (wfSw sw && wfTag c (swPage sw pg.tag) tag && wfAttrs c pg.attr attrs &&
    wfContent c (tagName c (swPage sw pg.tag) tag).2
      (slotOfTag (tagName c (swPage sw pg.tag) tag).2 slot tag)
      ⟨swPage sw pg.tag, (evAttrs c pg.attr attrs).2⟩ content) := by
  rw [wfElem]

theorem serItems_cons (it : Item) (rest : List Item) : serItems (it :: rest) = serItem it ++ serItems rest := by
  rw [serItems]
theorem serItems_nil : serItems [] = [] := by rw [serItems]
theorem evItems_nil (c own pg) : evItems c own pg [] = ([], pg) := by rw [evItems]
theorem evItems_cons (c own pg it rest) : evItems c own pg (it :: rest) =
    ((evItem c own pg it).1 ++ (evItems c own (evItem c own pg it).2 rest).1,
      (evItems c own (evItem c own pg it).2 rest).2) := by rw [evItems]
theorem wfItems_cons (c own slot pg it rest) : wfItems c own slot pg (it :: rest) =
    (wfItem c own slot pg it && wfItems c own (slotAfter slot it) (evItem c own pg it).2 rest) := by rw [wfItems]
theorem serContent_some (items) : serContent (some items) = serItems items ++ [0x01] := by rw [serContent]
theorem serContent_none : serContent none = [] := by rw [serContent]
theorem evContent_some (c own pg items) : evContent c own pg (some items) = evItems c own pg items := by rw [evContent]
theorem evContent_none (c own pg) : evContent c own pg none = ([], pg) := by rw [evContent]
theorem wfContent_some (c own slot pg items) : wfContent c own slot pg (some items) = wfItems c own slot pg items := by
  rw [wfContent]

/-- The parser's `current_tag` slot after a list of content items. -/
def slotEnd (slot : Option TagRow) : List Item → Option TagRow
  | [] => slot
  | it :: rest => slotEnd (slotAfter slot it) rest

theorem serElem_sw (p : Nat) (tag attrs content) :
    serElem (.mk (some p) tag attrs content) = 0x00 :: byte p :: serElem (.mk none tag attrs content) := by
  rw [serElem_mk, serElem_mk]; rfl

theorem evElem_sw (c : Ctx) (pg : Pages) (p : Nat) (tag attrs content) :
    evElem c pg (.mk (some p) tag attrs content) = evElem c ⟨p, pg.attr⟩ (.mk none tag attrs content) := by
  rw [evElem_mk, evElem_mk]; rfl

theorem wfElem_sw (c : Ctx) (slot) (pg : Pages) (p : Nat) (tag attrs content) :
    wfElem c slot pg (.mk (some p) tag attrs content) =
      (decide (p < 256) && wfElem c slot ⟨p, pg.attr⟩ (.mk none tag attrs content)) := by
  rw [wfElem_mk, wfElem_mk]; simp [wfSw, swPage, Bool.and_assoc]

theorem serItem_elem (e) : serItem (.elem e) = serElem e := by rw [serItem]
theorem serItem_str (s) : serItem (.str s) = serStr s := by rw [serItem]
theorem serItem_entity (code) : serItem (.entity code) = 0x02 :: mb code := by rw [serItem]
theorem serItem_opaque (d) : serItem (.opaque d) = serOpaque d := by rw [serItem]
theorem serItem_ext (sw x) : serItem (.ext sw x) = serSw sw ++ serExt x := by rw [serItem]
theorem serItem_pi (a) : serItem (.pi a) = serPi a := by rw [serItem]

theorem evItem_elem (c own pg e) : evItem c own pg (.elem e) = evElem c pg e := by rw [evItem]
theorem evItem_str (c own pg s) : evItem c own pg (.str s) = (charsEv (strText c s), pg) := by rw [evItem]
theorem evItem_entity (c own pg code) : evItem c own pg (.entity code) = (charsEv (entityText code), pg) := by
  rw [evItem]
theorem evItem_opaque (c own pg d) : evItem c own pg (.opaque d) = (charsEv ((opaqueText c own d).getD []), pg) := by
  rw [evItem]
theorem evItem_ext (c own) (pg : Pages) (sw x) : evItem c own pg (.ext sw x) =
    (charsEv ((extText c x).getD []), ⟨swPage sw pg.tag, pg.attr⟩) := by rw [evItem]
theorem evItem_pi (c own) (pg : Pages) (a) : evItem c own pg (.pi a) =
    ([(evPi c pg.attr a).1], ⟨pg.tag, (evPi c pg.attr a).2⟩) := by rw [evItem]

theorem wfItem_elem (c own slot pg e) : wfItem c own slot pg (.elem e) = wfElem c slot pg e := by rw [wfItem]
theorem wfItem_str (c own slot pg s) : wfItem c own slot pg (.str s) = wfStr c s := by rw [wfItem]
theorem wfItem_entity (c own slot pg code) : wfItem c own slot pg (.entity code) = wfEntity code := by rw [wfItem]
theorem wfItem_opaque (c own slot pg d) : wfItem c own slot pg (.opaque d) =
    (decide (d.length < 4294967296) && (opaqueText c own d).isSome &&
      (opaqueText c slot d == opaqueText c own d)) := by rw [wfItem]
theorem wfItem_ext (c own slot pg sw x) : wfItem c own slot pg (.ext sw x) = (wfSw sw && wfExt c x) := by rw [wfItem]
theorem wfItem_pi (c own slot) (pg : Pages) (a) : wfItem c own slot pg (.pi a) = wfPi c pg.attr a := by rw [wfItem]

theorem opaqueText_eq_some {c : Ctx} {own : Option TagRow} {d b : Bytes} (h : opaqueText c own d = some b) :
    decodeOpaqueContent c.lang.id own d = .ok b := by
  unfold opaqueText at h
  split at h
  · rename_i h'; rw [h', Option.some.inj h]
  · cases h

theorem opaqueAttrText_eq_some {c : Ctx} {d b : Bytes} (h : opaqueAttrText c d = some b) :
    decodeOpaqueAttrValue c.lang.id d = .ok b := by
  unfold opaqueAttrText at h
  split at h
  · rename_i h'; rw [h', Option.some.inj h]
  · cases h

end Wbxml.Lemmas.ParseSer
