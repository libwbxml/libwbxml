/- The simp set `bit_arith`: the C bit operators on `Nat` written as arithmetic (`Lemmas/CodecBits.lean` fills it). -/
import Lean.Meta.Tactic.Simp.RegisterCommand
/-- Shifts as multiplication and division by a power of two, masks as remainders, `|` of disjoint
    bit ranges as `+`; use as `simp (disch := omega) only [bit_arith]`. -/
register_simp_attr bit_arith
