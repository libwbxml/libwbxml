/-
  WBXML encoder proofs: value elements (`wbxml_encode_value_element_buffer/_list`).

  * the classes the pieces of a value stay in (`VOk`): strings NUL-free, value tokens rows of the
    language's value table, extension tokens rows of its extension table, table references offsets
    of string-table entries (the extension pass here, the splitting loops in `EncWSplit`);
  * `emitVElts` writes the serialisation of a list of grammar items (content context: `itemsOfVElt`,
    all of them `Leaf`s: content items that are not elements, processing instructions or entities) or of attribute value pieces (attribute
    context: `avalsOf`), with `SWITCH_PAGE` exactly when the attribute page changes (`swFor`).
-/
import Wbxml.Lemmas.Bytes
import Wbxml.Lemmas.EncWSpec
import Wbxml.Lemmas.EncWBasic
namespace Wbxml.Lemmas.EncW
open Wbxml Wbxml.Model Wbxml.Spec Wbxml.Lemmas.ParseSer
open Wbxml.Model.Codec (mbEncode)

theorem ptrAdd_ok {what : String} {s : Bytes} {n : Nat} {r : Bytes} (h : ptrAdd what s n = .ok r) : r = s.drop n := by
  unfold ptrAdd at h
  split at h
  · injection h with h; exact h.symm
  · cases h

/-- The class every piece of a value stays in through the splitting passes. -/
def VOk (c : WCfg) (tbl : List StrEntry) : VElt → Prop
  | .str s => nulFree s = true
  | .ext r => ∃ exts, c.lang.exts = some exts ∧ r ∈ exts
  | .tok r => ∃ vals, c.lang.values = some vals ∧ r ∈ vals
  | .ref off => ∃ e ∈ tbl, e.offset = off

def notTok : VElt → Prop
  | .tok _ => False
  | _ => True

def notExt : VElt → Prop
  | .ext _ => False
  | _ => True

/-- What a class of value elements needs for a splitting pass to keep it: the pass cuts strings. -/
def CutStable (P : VElt → Prop) : Prop := ∀ s i, P (.str s) → P (.str (s.take i)) ∧ P (.str (s.drop i))

theorem vok_cut (c : WCfg) (tbl) : CutStable (VOk c tbl) :=
  fun s i h => ⟨nulFree_take s i h, nulFree_drop s i h⟩
theorem notTok_cut : CutStable notTok := fun _ _ _ => ⟨trivial, trivial⟩
theorem notExt_cut : CutStable notExt := fun _ _ _ => ⟨trivial, trivial⟩

theorem extPass_all (P : VElt → Prop) (hnil : P (.str [])) (r : ExtRow) (hr : P (.ext r)) (l : List VElt)
    (hl : ∀ e ∈ l, P e) : ∀ e ∈ extPass r l, P e := by
  intro e he
  unfold extPass at he
  rw [List.mem_flatMap] at he
  obtain ⟨x, hx, hex⟩ := he
  cases x with
  | str s =>
    simp only at hex
    split at hex
    · simp only [List.mem_cons, List.mem_nil_iff, or_false] at hex
      rcases hex with rfl | rfl
      · exact hnil
      · exact hr
    · simp only [List.mem_cons, List.mem_nil_iff, or_false] at hex
      subst hex; exact hl _ hx
  | ext r' => simp only [List.mem_cons, List.mem_nil_iff, or_false] at hex; subst hex; exact hl _ hx
  | tok r' => simp only [List.mem_cons, List.mem_nil_iff, or_false] at hex; subst hex; exact hl _ hx
  | ref o => simp only [List.mem_cons, List.mem_nil_iff, or_false] at hex; subst hex; exact hl _ hx

theorem splitByExts_all (P : VElt → Prop) (hnil : P (.str [])) (exts : List ExtRow) (hrows : ∀ r ∈ exts, P (.ext r))
    (l : List VElt) (hl : ∀ e ∈ l, P e) : ∀ e ∈ splitByExts exts l, P e :=
  List.foldlRecOn exts _ hl fun l' hl' r hr => extPass_all P hnil r (hrows r hr) l' hl'

theorem attrTokenW_frame (token page : Nat) (st : WSt) :
    (attrTokenW token page st).tagPage = st.tagPage ∧ (attrTokenW token page st).strtbl = st.strtbl := by
  unfold attrTokenW
  split <;> exact ⟨rfl, rfl⟩

/-- The `[switchPage]` the token writers put in front of a token of page `p` when page `cur` is in force:
    what every statement about a written tag, attribute start or value token is phrased with. -/
def swFor (cur p : Nat) : Option Nat := if cur != p % 256 then some (p % 256) else none

theorem swPage_swFor (cur p : Nat) : swPage (swFor cur p) cur = p % 256 := by
  unfold swFor swPage
  split
  · rfl
  · rename_i h; simp only [bne_iff_ne, ne_eq, Decidable.not_not] at h; simpa using h

theorem wfSw_swFor (cur p : Nat) : wfSw (swFor cur p) = true := by
  unfold swFor; split
  · simp only [wfSw, decide_eq_true_eq]; omega
  · rfl

theorem byte_mod (p : Nat) : byte (p % 256) = UInt8.ofNat p := by
  unfold byte
  apply UInt8.toNat_inj.mp
  simp [UInt8.toNat_ofNat']

theorem attrTokenW_out (token page : Nat) (st : WSt) :
    (attrTokenW token page st).out = st.out ++ (serSw (swFor st.attrPage page) ++ [UInt8.ofNat token]) ∧
    (attrTokenW token page st).attrPage = page % 256 := by
  unfold attrTokenW swFor
  by_cases h : (st.attrPage != page % 256) = true
  · simp only [h, ↓reduceIte, emit_out, serSw, byte_mod, List.append_assoc, emit_attrPage]
    exact ⟨by simp, trivial⟩
  · simp only [h, Bool.false_eq_true, ↓reduceIte, emit_out, serSw, List.nil_append, emit_attrPage, true_and]
    simp only [bne_iff_ne, ne_eq, Decidable.not_not] at h
    exact h

theorem emitVElt_frame (st : WSt) (e : VElt) :
    (emitVElt st e).tagPage = st.tagPage ∧ (emitVElt st e).strtbl = st.strtbl := by
  cases e with
  | str s => simp only [emitVElt]; split <;> exact ⟨rfl, rfl⟩
  | ext r => exact ⟨rfl, rfl⟩
  | ref o => exact ⟨rfl, rfl⟩
  | tok r => exact attrTokenW_frame _ _ _

theorem emitVElts_frame (l : List VElt) (st : WSt) :
    (emitVElts st l).tagPage = st.tagPage ∧ (emitVElts st l).strtbl = st.strtbl :=
  List.foldlRecOn (motive := fun st' => st'.tagPage = st.tagPage ∧ st'.strtbl = st.strtbl) l _ ⟨rfl, rfl⟩
    fun st' h e _ => ⟨(emitVElt_frame st' e).1.trans h.1, (emitVElt_frame st' e).2.trans h.2⟩

/-- The grammar items `wbxml_encode_value_element_list` writes for one element, content context. -/
def itemsOfVElt : VElt → List Item
  | .str s => if s.length > 0 then [.str (.inl s)] else []
  | .ref off => [.str (.tbl off)]
  | .ext r => [.ext none (.tbl 0 (r.token % 256))]
  | .tok _ => []

theorem serItem_extT0 (v : Nat) : serItem (.ext none (.tbl 0 v)) = 0x80 :: mbEncode v := by
  rw [serItem_ext]; rfl
theorem serItem_opq (d : Bytes) : serItem (.opaque d) = opaqueW d := by rw [serItem_opaque]; rfl

theorem emitVElt_content (st : WSt) (e : VElt) (h : notTok e) :
    emitVElt st e = st.emit (serItems (itemsOfVElt e)) := by
  cases e with
  | str s =>
    simp only [emitVElt, itemsOfVElt]
    split
    · rw [serItems_cons, serItems_nil, serItem_str, List.append_nil]; rfl
    · rw [serItems_nil, emit_nil]
  | ext r => simp only [emitVElt, itemsOfVElt, serItems_cons, serItems_nil, serItem_extT0, List.append_nil]; rfl
  | ref o => simp only [emitVElt, itemsOfVElt, serItems_cons, serItems_nil, serItem_str, List.append_nil]; rfl
  | tok r => exact absurd h (by simp [notTok])

theorem emitVElts_content (l : List VElt) (h : ∀ e ∈ l, notTok e) (st : WSt) :
    emitVElts st l = st.emit (serItems (l.flatMap itemsOfVElt)) := by
  induction l generalizing st with
  | nil => simp [emitVElts, serItems_nil, emit_nil]
  | cons e es ih =>
    have := ih (fun x hx => h x (List.mem_cons_of_mem _ hx)) (emitVElt st e)
    simp only [emitVElts, List.foldl_cons] at this ⊢
    rw [this, emitVElt_content st e (h e List.mem_cons_self), emit_emit, List.flatMap_cons, serItems_append]

/-- The content items a text node can be written as: everything but elements and processing
    instructions. -/
inductive Leaf (c : WCfg) (tbl : List StrEntry) : Item → Prop
  | inl (s : Bytes) : nulFree s = true → Leaf c tbl (.str (.inl s))
  | ref (off : Nat) : (∃ e ∈ tbl, e.offset = off) → Leaf c tbl (.str (.tbl off))
  | ext (v : Nat) : c.lang.exts.isSome = true → v < 256 → Leaf c tbl (.ext none (.tbl 0 v))
  | opq (d : Bytes) : Leaf c tbl (.opaque d)

theorem Leaf.mono {c : WCfg} {tbl tbl' : List StrEntry} (hp : tbl <+: tbl') {it : Item} (h : Leaf c tbl it) :
    Leaf c tbl' it := by
  cases h with
  | inl s hs => exact .inl s hs
  | ref off ho => obtain ⟨e, he, ho⟩ := ho; exact .ref off ⟨e, hp.subset he, ho⟩
  | ext v h1 h2 => exact .ext v h1 h2
  | opq d => exact .opq d

theorem itemsOfVElt_leaf (c : WCfg) (tbl) (e : VElt) (h : VOk c tbl e) : ∀ it ∈ itemsOfVElt e, Leaf c tbl it := by
  intro it hit
  cases e with
  | str s =>
    simp only [itemsOfVElt] at hit
    split at hit
    · simp only [List.mem_cons, List.mem_nil_iff, or_false] at hit; subst hit; exact .inl s h
    · cases hit
  | ext r =>
    simp only [itemsOfVElt, List.mem_cons, List.mem_nil_iff, or_false] at hit; subst hit
    obtain ⟨exts, he, _⟩ := h
    exact .ext _ (by simp [he]) (Nat.mod_lt _ (by decide))
  | ref o =>
    simp only [itemsOfVElt, List.mem_cons, List.mem_nil_iff, or_false] at hit; subst hit
    exact .ref o h
  | tok r => cases hit

theorem leaf_page (c : WCfg) (tbl) (ctx : Ctx) (own) (pg : Pages) (it : Item) (h : Leaf c tbl it) :
    (evItem ctx own pg it).2 = pg := by
  cases h with
  | inl s _ => rw [evItem_str]
  | ref off _ => rw [evItem_str]
  | ext v _ _ => rw [evItem_ext]; rfl
  | opq d => rw [evItem_opaque]

theorem leaves_slotEnd (c : WCfg) (tbl) (slot) (items : List Item) (h : ∀ it ∈ items, Leaf c tbl it) :
    slotEnd slot items = slot := by
  induction items with
  | nil => rfl
  | cons it rest ih =>
    simp only [slotEnd]
    have : slotAfter slot it = slot := by
      cases h it List.mem_cons_self <;> rfl
    rw [this]
    exact ih (fun x hx => h x (List.mem_cons_of_mem _ hx))

/-- The attribute value pieces `wbxml_encode_value_element_list` writes for one element, attribute
    context, and the attribute page in force afterwards (`SWITCH_PAGE` exactly when a value token's page
    differs). -/
def avalsOfVElt (ap : Nat) : VElt → List AVal × Nat
  | .str s => (if s.length > 0 then [.str (.inl s)] else [], ap)
  | .ref off => ([.str (.tbl off)], ap)
  | .tok r => ([.tok (swFor ap r.page) r.token], r.page % 256)
  | .ext _ => ([], ap)

def avalsOf (ap : Nat) : List VElt → List AVal × Nat
  | [] => ([], ap)
  | e :: es => ((avalsOfVElt ap e).1 ++ (avalsOf (avalsOfVElt ap e).2 es).1, (avalsOf (avalsOfVElt ap e).2 es).2)

theorem emitVElt_attr (st : WSt) (e : VElt) (h : notExt e) :
    (emitVElt st e).out = st.out ++ serAVals (avalsOfVElt st.attrPage e).1 ∧
    (emitVElt st e).attrPage = (avalsOfVElt st.attrPage e).2 := by
  cases e with
  | str s =>
    simp only [emitVElt, avalsOfVElt]
    split
    · exact ⟨by simp [serAVals, serAVal, serStr, inlineW], rfl⟩
    · exact ⟨by simp [serAVals], rfl⟩
  | ext r => exact absurd h (by simp [notExt])
  | ref o => exact ⟨by simp [emitVElt, avalsOfVElt, serAVals, serAVal, serStr, tablerefW], rfl⟩
  | tok r =>
    have := attrTokenW_out r.token r.page st
    simp only [emitVElt, avalsOfVElt, serAVals, serAVal, List.append_nil]
    exact ⟨this.1, this.2⟩

theorem emitVElts_attr (l : List VElt) (h : ∀ e ∈ l, notExt e) (st : WSt) :
    (emitVElts st l).out = st.out ++ serAVals (avalsOf st.attrPage l).1 ∧
    (emitVElts st l).attrPage = (avalsOf st.attrPage l).2 := by
  induction l generalizing st with
  | nil => exact ⟨by simp [emitVElts, avalsOf, serAVals], rfl⟩
  | cons e es ih =>
    have h1 := emitVElt_attr st e (h e List.mem_cons_self)
    have h2 := ih (fun x hx => h x (List.mem_cons_of_mem _ hx)) (emitVElt st e)
    simp only [emitVElts, List.foldl_cons] at h2 ⊢
    rw [h1.2] at h2
    refine ⟨?_, h2.2⟩
    rw [h2.1, h1.1, avalsOf, serAVals_append, List.append_assoc]

theorem avalsOfVElt_page (ctx : Ctx) (e : VElt) (ap : Nat) :
    (avalsText ctx ap (avalsOfVElt ap e).1).2 = (avalsOfVElt ap e).2 := by
  cases e with
  | str s => simp only [avalsOfVElt]; split <;> rfl
  | ext r => rfl
  | ref o => rfl
  | tok r =>
    simp only [avalsOfVElt, avalsText, avalText]
    exact swPage_swFor ap r.page

theorem avalsOf_page (ctx : Ctx) (l : List VElt) (ap : Nat) :
    (avalsText ctx ap (avalsOf ap l).1).2 = (avalsOf ap l).2 := by
  induction l generalizing ap with
  | nil => rfl
  | cons e es ih =>
    rw [avalsOf]
    rw [avalsText_append, avalsOfVElt_page]
    exact ih _

theorem avalsOf_refs (c : WCfg) (tbl) (l : List VElt) (h : ∀ e ∈ l, VOk c tbl e) (ap : Nat) :
    ∀ off ∈ refsAVals (avalsOf ap l).1, ∃ e ∈ tbl, e.offset = off := by
  induction l generalizing ap with
  | nil => intro off ho; cases ho
  | cons e es ih =>
    intro off ho
    rw [avalsOf] at ho
    simp only [refsAVals_append, List.mem_append] at ho
    rcases ho with ho | ho
    · cases e with
      | str s =>
        simp only [avalsOfVElt] at ho
        split at ho
        · simp [refsAVals, refsAVal, refsStr] at ho
        · cases ho
      | ext r => cases ho
      | ref o =>
        simp only [avalsOfVElt, refsAVals, refsAVal, refsStr, List.append_nil, List.mem_cons,
          List.mem_nil_iff, or_false] at ho
        subst ho; exact h _ List.mem_cons_self
      | tok r => simp [avalsOfVElt, refsAVals, refsAVal] at ho
    · exact ih (fun x hx => h x (List.mem_cons_of_mem _ hx)) _ off ho

theorem avalsOf_opqs (l : List VElt) (ap : Nat) : opqsAVals (avalsOf ap l).1 = [] := by
  induction l generalizing ap with
  | nil => rfl
  | cons e es ih =>
    rw [avalsOf]
    simp only [opqsAVals_append, ih, List.append_nil]
    cases e with
    | str s => simp only [avalsOfVElt]; split <;> rfl
    | ext r => rfl
    | ref o => rfl
    | tok r => rfl

end Wbxml.Lemmas.EncW
