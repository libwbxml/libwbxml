/-
  Truncation and trailing octets, from extension stability (`Lemmas/ParserSafeExt`): `rootEnd cfg bs` is the
  offset just past the root element of `bs`; it stays where it is when octets are appended (`rootEnd_ext`), so
  no cut of `bs` before it is accepted (`take_not_ok`; `header_take_not_ok` for the header stage alone), and
  octets after an accepted document are ignored (`parse_append`). `Props/C13`, Part C, states these.
-/
import Wbxml.Lemmas.ParserSafeExt
namespace Wbxml.Lemmas.ParserSafe
open Wbxml Wbxml.Model

/-- Offset just past the end of the root element — header, leading PIs and root element parsed —
    if the run gets that far. -/
def rootEnd (cfg : PCfg) (bs : Bytes) : Option Nat :=
  match parseHeader cfg bs with
  | .error _ => none
  | .ok (s, l) =>
    match piLoop (s.rest.length + 1) [Event.startDoc s.charset l.id] s with
    | .error _ => none
    | .ok (ev, s1) =>
      match parseElement (2 * s1.rest.length + 2) ev s1 with
      | .error _ => none
      | .ok (_, s2) => some (bs.length - s2.rest.length)

theorem rootEnd_eq_some {cfg : PCfg} {bs : Bytes} {e : Nat} (h : rootEnd cfg bs = some e) :
    ∃ s l ev s1 ev2 s2, parseHeader cfg bs = .ok (s, l) ∧
      piLoop (s.rest.length + 1) [Event.startDoc s.charset l.id] s = .ok (ev, s1) ∧
      parseElement (2 * s1.rest.length + 2) ev s1 = .ok (ev2, s2) ∧
      e = bs.length - s2.rest.length ∧ s2.rest.length + 4 ≤ bs.length ∧
      s1.lang ≠ none := by
  unfold rootEnd at h
  split at h
  · cases h
  · rename_i s l hh
    split at h
    · cases h
    · rename_i ev s1 hp
      split at h
      · cases h
      · rename_i ev2 s2 he
        have ⟨hl, hsuf, hlen⟩ := (parseHeader_ok cfg bs).of_ok hh
        dsimp only at hl hsuf hlen
        have hl0 : s.lang ≠ none := by rw [hl]; simp
        have a1 := (piLoop_ok _ _ s hl0 (Nat.lt_succ_self _)).of_ok hp
        dsimp only at a1
        have hl1 : s1.lang ≠ none := a1.lang_ne hl0
        have a2 := (parseElement_ok (ev := ev) hl1 (Nat.le_refl _)).of_ok he
        dsimp only at a2
        refine ⟨s, l, ev, s1, ev2, s2, hh, hp, he, ?_, ?_, hl1⟩
        · simpa using h.symm
        · have := a1.len; have := a2.len; omega

theorem rootEnd_of_parse_ok {cfg : PCfg} {bs : Bytes} (h : (parse cfg bs).result = .ok ()) :
    ∃ e, rootEnd cfg bs = some e ∧ e ≤ (parse cfg bs).consumed := by
  rcases parse_anatomy cfg bs with ⟨c, _, h', _⟩ | ⟨s, l, c, _, _, h', _⟩ | ⟨s, l, ev, s', hh, hb, _, _, hc, hsuf, hlen⟩
  · rw [h'] at h; cases h
  · rw [h'] at h; cases h
  · have ⟨hl, _, _⟩ := (parseHeader_ok cfg bs).of_ok hh
    obtain ⟨ev1, s1, ev2, s2, h1, h2, h3, a1, a3⟩ := parseBody_stages (by rw [hl]; simp) hb
    refine ⟨bs.length - s2.rest.length, ?_, ?_⟩
    · simp only [rootEnd, hh, h1, h2]
    · rw [hc]; have := a3.len; omega

/-- Header, leading processing instructions and root element read the same when octets are appended: the
    leading `piLoop` stops in front of the root element, which is not empty. -/
theorem rootStages_ext {cfg : PCfg} {bs : Bytes} (x : Bytes) {s s1 s2 : PState} {l : Lang} {ev0 ev1 ev2 : List Event}
    (hh : parseHeader cfg bs = .ok (s, l)) (hp : piLoop (s.rest.length + 1) ev0 s = .ok (ev1, s1))
    (he : parseElement (2 * s1.rest.length + 2) ev1 s1 = .ok (ev2, s2)) (hl1 : s1.lang ≠ none) :
    parseHeader cfg (bs ++ x) = .ok (ext s x, l) ∧
    piLoop ((ext s x).rest.length + 1) ev0 (ext s x) = .ok (ev1, ext s1 x) ∧
    parseElement (2 * (ext s1 x).rest.length + 2) ev1 (ext s1 x) = .ok (ev2, ext s2 x) := by
  have hne1 : s1.rest ≠ [] := fun hr =>
    not_ok_of_nil (parseElement_ok (ev := ev1) hl1 (Nat.le_refl _)) hr _ he
  exact ⟨(parseHeader_stab cfg bs x).apply hh,
    piLoop_stab x (s.rest.length + 1) ((ext s x).rest.length + 1) _ s (by simp) ev1 s1 hp hne1,
    parseElement_ext x hl1 he (by simp; omega)⟩

theorem rootEnd_ext {cfg : PCfg} {p : Bytes} {e : Nat} (x : Bytes) (h : rootEnd cfg p = some e) :
    rootEnd cfg (p ++ x) = some e ∧ e ≤ p.length := by
  obtain ⟨s, l, ev, s1, ev2, s2, hh, hp, he, hE, hlen, hl1⟩ := rootEnd_eq_some h
  obtain ⟨hh', hp', he'⟩ := rootStages_ext x hh hp he hl1
  refine ⟨?_, by omega⟩
  unfold rootEnd
  rw [hh']
  dsimp only [ext_charset]
  rw [hp']
  dsimp only
  rw [he']
  simp only [ext_rest, List.length_append]
  congr 1
  omega

/-- **Truncation.** If the root element of `bs` ends at offset `e`, no cut of `bs` before `e` is
    accepted. -/
theorem take_not_ok {cfg : PCfg} {bs : Bytes} {e k : Nat} (h : rootEnd cfg bs = some e) (hk : k < e) :
    (parse cfg (bs.take k)).result ≠ .ok () := by
  intro hok
  obtain ⟨e', he', hle⟩ := rootEnd_of_parse_ok hok
  have ⟨h2, hlen⟩ := rootEnd_ext (bs.drop k) he'
  rw [List.take_append_drop, h] at h2
  cases h2
  have : (bs.take k).length ≤ k := by simp [List.length_take]; omega
  omega

theorem header_take_not_ok {cfg : PCfg} {bs : Bytes} {s : PState} {l : Lang} {k : Nat}
    (h : parseHeader cfg bs = .ok (s, l)) (hk : k < bs.length - s.rest.length) :
    ∀ r, parseHeader cfg (bs.take k) ≠ .ok r := by
  rintro ⟨s', l'⟩ h'
  have h2 := (parseHeader_stab cfg (bs.take k) (bs.drop k)).apply h'
  rw [List.take_append_drop, h] at h2
  simp only [Except.ok.injEq, Prod.mk.injEq] at h2
  have hs : s.rest = s'.rest ++ bs.drop k := by rw [h2.1]; rfl
  have := ((parseHeader_ok cfg (bs.take k)).of_ok h').2.1.length_le
  simp only [List.length_take] at this
  have hl : s.rest.length = s'.rest.length + (bs.length - k) := by rw [hs]; simp
  omega

/-- Bytes after the document are ignored: appending `y` to an accepted input changes nothing,
    provided `y` cannot be taken for one more trailing processing instruction (that is only possible
    when the run consumed the whole input and `y` starts with the `PI` token 0x43). -/
theorem parse_append {cfg : PCfg} {bs : Bytes} (y : Bytes) (h : (parse cfg bs).result = .ok ())
    (hy : (parse cfg bs).consumed = bs.length → y.head? ≠ some 0x43) :
    (parse cfg (bs ++ y)).result = .ok () ∧ (parse cfg (bs ++ y)).events = (parse cfg bs).events ∧
    (parse cfg (bs ++ y)).consumed = (parse cfg bs).consumed := by
  rcases parse_anatomy cfg bs with ⟨c, _, h', _⟩ | ⟨s, l, c, _, _, h', _⟩ | ⟨s, l, ev, s', hh, hb, _, hev, hc, hsuf, hlen⟩
  · rw [h'] at h; cases h
  · rw [h'] at h; cases h
  · have ⟨hl, _, _⟩ := (parseHeader_ok cfg bs).of_ok hh
    obtain ⟨ev1, s1, ev2, s2, h1, h2, h3, a1, _⟩ := parseBody_stages (by rw [hl]; simp) hb
    obtain ⟨hh', h1', h2'⟩ := rootStages_ext y hh h1 h2 (a1.lang_ne (by rw [hl]; simp))
    have hx3 : isToken (ext s' y) 0x43 = false := by
      by_cases hr : s'.rest = []
      · have hcons : (parse cfg bs).consumed = bs.length := by rw [hc, hr]; simp
        have := hy hcons
        unfold isToken
        simp only [ext_rest, hr, List.nil_append]
        cases hyy : (y.head? == some (0x43 : UInt8)) with
        | false => rfl
        | true => exact absurd (by simpa using hyy) this
      · rw [isToken_ext y _ hr]; exact piLoop_exit h3
    have h3' := piLoop_stab' y (s2.rest.length + 1) ((ext s2 y).rest.length + 1) _ s2 (by simp) ev s' h3 hx3
    have hb' : parseBody [Event.startDoc s.charset l.id] (ext s y) = .ok (ev, ext s' y) := by
      unfold parseBody
      rw [h1']
      simp only [bind, Except.bind]
      rw [h2']
      dsimp only
      rw [h3']
    unfold parse
    rw [hh']
    simp only [ext_charset, hb', hh, hb, ext_rest, List.length_append, true_and]
    omega

end Wbxml.Lemmas.ParserSafe
