/-
  C02, bounds, tree half: the tree `treeOfXml` builds is linearly bounded by the events Expat
  reported.

  * `evSize`: number of events and attributes plus all octets of element names, attribute names and
    values and character data — "the length of the document after entity expansion" as far as the
    model sees it (Expat is a parameter).
  * `sizeWts_fits`: the weights of `Node.sizeW w` fit the budget `2 * evSize1 e` per event (a
    character-data event may add a CDATA node and a text node, a lone LF becomes CR LF).
  * `expSize`: events of a run with the runs of all embedded documents (`expSum evSize1`).
  * `treeOfXml_sizeW`: `sizeW w t ≤ 2 * expSize + D * expDocs` when `1 + w lang ≤ D`.
-/
import Wbxml.Lemmas.X2WCount
import Wbxml.Lemmas.CodecBase64

namespace Wbxml.Lemmas.X2W
open Wbxml Wbxml.Model

def attrsOctets : List (Bytes × Bytes) → Nat
  | [] => 0
  | p :: r => 1 + p.1.length + p.2.length + attrsOctets r

/-- One event: itself, its attributes (one unit each), and the octets of the names, attribute values
    and character data it carries. -/
def evSize1 : XEvent → Nat
  | .xmlDecl _ _ => 1
  | .doctype _ _ => 1
  | .startElt name attrs _ => 1 + name.length + attrsOctets attrs
  | .endElt name _ => 1 + name.length
  | .startCdata => 1
  | .endCdata => 1
  | .chars s => 1 + s.length
  | .pi => 1

def evSize : List XEvent → Nat
  | [] => 0
  | e :: r => evSize1 e + evSize r

theorem evSize1_pos (e : XEvent) : 1 ≤ evSize1 e := by
  cases e <;> simp only [evSize1] <;> omega

theorem evSize_append (a b : List XEvent) : evSize (a ++ b) = evSize a + evSize b := by
  induction a with
  | nil => simp [evSize]
  | cons e r ih => simp only [List.cons_append, evSize, ih]; omega

theorem length_le_evSize : ∀ (evs : List XEvent), evs.length ≤ evSize evs
  | [] => Nat.le_refl _
  | e :: r => by
    have := evSize1_pos e
    have := length_le_evSize r
    simp only [List.length_cons, evSize]; omega

theorem base64NoSpaces_length (s : Bytes) : (base64NoSpaces s).length ≤ s.length := by
  unfold base64NoSpaces
  exact List.length_filter_le _ _

theorem attrsSize_map_le (g : Bytes × Bytes → Attr) (hg : ∀ p, (g p).size ≤ 1 + p.1.length + p.2.length) :
    ∀ (l : List (Bytes × Bytes)), attrsSize (l.map g) ≤ attrsOctets l
  | [] => by simp [attrsSize, attrsOctets]
  | p :: rest => by
    have := hg p
    have := attrsSize_map_le g hg rest
    simp only [List.map_cons, attrsSize, attrsOctets]
    omega

theorem sizeWts_fits (w : Option Lang → Nat) : (sizeWts w).Fits (fun e => 2 * evSize1 e) where
  text_append s t := by simp only [sizeWts, List.length_append]; omega
  held_none := rfl
  decode c d name idx hd := by
    have h2 := Lemmas.Codec.b64Decode_length _ _ hd
    have h3 := base64NoSpaces_length c
    simp only [sizeWts, contentLen, evSize1]
    omega
  startCdata := by simp [sizeWts, evSize1]
  chars s s' h := by
    rcases h with rfl | ⟨rfl, rfl⟩ <;> simp only [sizeWts, evSize1, List.length_cons, List.length_nil] <;> omega
  cache c s s' h := by
    rcases h with rfl | ⟨rfl, rfl⟩ <;> cases c <;>
      simp only [sizeWts, evSize1, contentLen, Option.getD, List.length_append, List.length_cons, List.length_nil] <;> omega
  start lang name attrs idx := by
    have h1 := xeTag_size lang name
    have h2 := localName_length name
    have h3 := attrsSize_map_le _ (xeAttr_size lang) attrs
    simp only [sizeWts, evSize1]
    omega

/-- Every request belongs to one end-element event. -/
theorem queries_length_le (main : List Lang) (input : Bytes) (sub : Bytes → Option (Except Nat Tree)) :
    ∀ (evs : List XEvent) (b : XBState), (queries main input sub evs b).length ≤ evs.length
  | [], b => by simp [queries]
  | e :: evs, b => by
    have ih := queries_length_le main input sub evs (xbuildStep main input sub b e)
    simp only [queries, List.length_append, List.length_cons]
    cases queryOf main input b e with
    | none => simp only [List.length_nil]; omega
    | some d => simp only [List.length_cons, List.length_nil]; omega

theorem sum_map_succ (a : Bytes → Nat) : ∀ (l : List Bytes),
    (l.map (fun d => 1 + a d)).sum = l.length + (l.map a).sum
  | [] => by simp
  | x :: l => by
    simp only [List.map_cons, List.sum_cons, sum_map_succ a l, List.length_cons]
    omega

/-- Events of the run of `xml` and of the runs of all embedded documents the builder asks for
    while processing it, recursively (the recursion `treeOfXml` performs, with its fuel). -/
def expSize (main : List Lang) (env : List (Bytes × ExpatRun)) : Nat → Bytes → Nat
  | 0, _ => 0
  | f + 1, xml =>
    match env.find? (fun p => p.1 == xml) with
    | none => 0
    | some (_, run) =>
      evSize run.events +
        ((queries main xml (subOf main env f) run.events {}).map (expSize main env f)).sum

/-- `evSize` and `expSize`, in which C02 states its bounds, are the sums `evSum` and `expSum` of the weighted
    count at the weight `evSize1`. -/
theorem evSum_evSize1 : ∀ (evs : List XEvent), evSum evSize1 evs = evSize evs
  | [] => rfl
  | e :: r => by simp only [evSum, evSize, evSum_evSize1 r]

theorem expSum_evSize1 (main : List Lang) (env : List (Bytes × ExpatRun)) :
    ∀ (f : Nat) (xml : Bytes), expSum evSize1 main env f xml = expSize main env f xml
  | 0, _ => rfl
  | f + 1, xml => by
    have : expSum evSize1 main env f = expSize main env f := funext (expSum_evSize1 main env f)
    simp only [expSum, expSize, evSum_evSize1, this]
    cases List.find? (fun p => p.fst == xml) env with
    | none => rfl
    | some p => rfl

/-- Every embedded document is paid for by the end-element event that closes it. -/
theorem expDocs_le (main : List Lang) (env : List (Bytes × ExpatRun)) :
    ∀ (f : Nat) (xml : Bytes), expDocs main env f xml ≤ 1 + expSize main env f xml
  | 0, xml => by simp [expDocs]
  | f + 1, xml => by
    simp only [expDocs, expSize]
    split
    · omega
    · rename_i k run hfind
      simp only [hfind]
      have h1 := sum_map_le (expDocs main env f) (fun d => 1 + expSize main env f d)
        (queries main xml (subOf main env f) run.events {}) (fun d _ => expDocs_le main env f d)
      rw [sum_map_succ] at h1
      have h2 := queries_length_le main xml (subOf main env f) run.events {}
      have h3 := length_le_evSize run.events
      omega

theorem expSize_plain (main : List Lang) (env : List (Bytes × ExpatRun)) (f : Nat) (xml k : Bytes) (run : ExpatRun)
    (hfind : env.find? (fun p => p.1 == xml) = some (k, run))
    (hq : queries main xml (subOf main env f) run.events {} = []) :
    expSize main env (f + 1) xml = evSize run.events ∧ expDocs main env (f + 1) xml = 1 := by
  simp [expSize, expDocs, hfind, hq]

/-- **The tree is linear in the events**: with `1 + w lang ≤ D` for the language of every document
    `treeOfXml` delivers, `sizeW w t ≤ 2 * expSize + D * expDocs`. -/
theorem treeOfXml_sizeW (main : List Lang) (env : List (Bytes × ExpatRun)) (w : Option Lang → Nat) (D : Nat)
    (hw : ∀ f xml t, treeOfXml main env f xml = .ok t → 1 + w t.lang ≤ D) (f : Nat) (xml : Bytes) (t : Tree)
    (h : treeOfXml main env f xml = .ok t) :
    t.sizeW w ≤ 2 * expSize main env f xml + D * expDocs main env f xml := by
  have := treeOfXml_w (sizeWts_fits w) main env D hw f xml t h
  rw [expSum_mul, expSum_evSize1] at this
  simpa only [Tree.wsum, wsum_size, Tree.sizeW] using this

end Wbxml.Lemmas.X2W
