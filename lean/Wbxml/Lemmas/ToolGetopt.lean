/-
  C20 — lemmas about the option scanners: `wbxml_getopt` (attgetopt.c) never reads outside an
  argv string, its loop terminates within `attFuel`, and both scanners honour the contract `main`
  relies on (`ScanOK`).
-/
import Wbxml.Model.ToolGetopt
namespace Wbxml.Model.Tool
open Wbxml

/-- argv strings are C strings: no embedded NUL. -/
def NulFree (argv : Argv) : Prop := ∀ w ∈ argv, (0 : UInt8) ∉ w

/-- What `main` needs from one getopt event: an option declared with `:` comes with its argument,
    and getopt's own messages start with `argv[0]: `. -/
def EvOK (opts : Bytes) (argv : Argv) (e : Ev) : Prop :=
  (e.opt ≠ 63 → optLookup opts e.opt = some true → e.arg.isSome = true) ∧
  (∀ m ∈ e.err, ∃ a0 r, argv.head? = some a0 ∧ m = a0 ++ b!": " ++ r)

structure ScanOK (opts : Bytes) (argv : Argv) (sr : ScanRes) : Prop where
  len : sr.argv.length = argv.length
  head : sr.argv.head? = argv.head?
  optind : 1 ≤ sr.optind
  evs : ∀ e ∈ sr.evs, EvOK opts argv e

/-! The three kinds of event a scanner delivers: a complaint (`'?'` and one line `argv[0]: …`), an
option with its argument, an option that takes none. -/

theorem EvOK.err {opts : Bytes} {argv : Argv} {a0 : Bytes} (hh : argv.head? = some a0) (s t : Bytes) :
    EvOK opts argv ⟨63, none, [a0 ++ (b!": " ++ s) ++ t]⟩ :=
  ⟨fun h => absurd rfl h, fun m hm =>
    ⟨a0, s ++ t, hh, by rw [List.mem_singleton.mp hm]; simp only [List.append_assoc]⟩⟩

theorem EvOK.arg {opts : Bytes} {argv : Argv} (c : UInt8) (a : Bytes) : EvOK opts argv ⟨c, some a, []⟩ :=
  ⟨fun _ _ => rfl, fun _ h => nomatch h⟩

theorem EvOK.plain {opts : Bytes} {argv : Argv} {c : UInt8} (h : optLookup opts c = some false) :
    EvOK opts argv ⟨c, none, []⟩ :=
  ⟨fun _ h' => (by cases h.symm.trans h'), fun _ h => nomatch h⟩

theorem wchar_lt {w : Bytes} {j : Nat} (h : j < w.length) : wchar w j = .ok w[j] := by
  simp [wchar, List.getElem?_eq_getElem h]

theorem wchar_len (w : Bytes) : wchar w w.length = .ok 0 := by
  simp [wchar]

theorem argvAt_some {argv : Argv} {i : Nat} {w : Bytes} (h : argv[i]? = some w) : argvAt argv i = .ok w := by
  simp [argvAt, h]

theorem remChars_cons {argv : Argv} {i : Nat} {w : Bytes} (h : argv[i]? = some w) :
    remChars argv i = w.length + 1 + remChars argv (i + 1) := by
  have hi : i < argv.length := (List.getElem?_eq_some_iff.mp h).1
  have hw : argv[i] = w := (List.getElem?_eq_some_iff.mp h).2
  unfold remChars
  rw [List.drop_eq_getElem_cons hi, hw]
  simp

theorem remChars_ge {argv : Argv} {i : Nat} (h : argv.length ≤ i) : remChars argv i = 0 := by
  unfold remChars
  rw [List.drop_eq_nil_of_le h]
  rfl

theorem remChars_succ_le (argv : Argv) (i : Nat) : remChars argv (i + 1) ≤ remChars argv i := by
  by_cases h : i < argv.length
  · have := remChars_cons (argv := argv) (i := i) (w := argv[i]) (by simp [h])
    omega
  · rw [remChars_ge (by omega), remChars_ge (by omega)]
    exact Nat.le_refl 0

/-- State invariant of `wbxml_getopt`: `sp > 1` only in the middle of a word, on a real character. -/
def Inv (argv : Argv) (st : GState) : Prop :=
  1 ≤ st.optind ∧ (st.sp = 1 ∨ ∃ w, argv[st.optind]? = some w ∧ 1 < st.sp ∧ st.sp < w.length)

/-- The word the scan stands in the middle of has more than two characters. -/
theorem midword_ne_dashdash {w : Bytes} {sp : Nat} (h1 : 1 < sp) (h2 : sp < w.length) : w ≠ b!"--" := by
  rintro rfl
  simp at h2
  omega

/-- Termination measure: characters (and terminators) not yet passed. -/
def mu (argv : Argv) (st : GState) : Nat := remChars argv st.optind + 1 - st.sp

theorem nulFree_getElem {argv : Argv} (hn : NulFree argv) {i : Nat} {w : Bytes} (hw : argv[i]? = some w)
    {j : Nat} (hj : j < w.length) : w[j] ≠ 0 := by
  intro h0
  exact hn w (List.mem_of_getElem? hw) (h0 ▸ List.getElem_mem hj)

theorem wchar_next {argv : Argv} (hn : NulFree argv) {i : Nat} {w : Bytes} (hw : argv[i]? = some w)
    {sp : Nat} (hs : sp < w.length) :
    ∃ nxt, wchar w (sp + 1) = .ok nxt ∧ ((sp + 1 = w.length ∧ nxt = 0) ∨ (sp + 1 < w.length ∧ nxt ≠ 0)) := by
  by_cases h : sp + 1 < w.length
  · exact ⟨w[sp + 1], wchar_lt h, .inr ⟨h, nulFree_getElem hn hw h⟩⟩
  · have : sp + 1 = w.length := by omega
    exact ⟨0, this ▸ wchar_len w, .inl ⟨this, rfl⟩⟩

theorem remChars_anti (argv : Argv) {i j : Nat} (h : i ≤ j) : remChars argv j ≤ remChars argv i := by
  induction h with
  | refl => exact Nat.le_refl _
  | step _ ih => exact Nat.le_trans (remChars_succ_le argv _) ih

theorem mu_word {argv : Argv} {i sp : Nat} {w : Bytes} (hw : argv[i]? = some w) (hs : sp ≤ w.length + 1)
    {k : Nat} (hk : 1 ≤ k) : mu argv ⟨i + k, 1⟩ < mu argv ⟨i, sp⟩ := by
  have h1 := remChars_cons hw
  have h2 := remChars_anti argv (show i + 1 ≤ i + k by omega)
  simp only [mu]
  omega

theorem mu_char {argv : Argv} {i sp : Nat} {w : Bytes} (hw : argv[i]? = some w) (hs : sp < w.length) :
    mu argv ⟨i, sp + 1⟩ < mu argv ⟨i, sp⟩ := by
  have h1 := remChars_cons hw
  simp only [mu]
  omega

/-- The three outcomes of `wbxml_getopt` once the option character `c` is classified. `hlook`: a plain
    option was found by `optLookup` (the caller never looks `:` up: the C code calls it illegal first). -/
theorem attDecide_spec (opts : Bytes) (argv : Argv) (st : GState) (w a0 : Bytes) (c nxt : UInt8)
    (look : Option Bool)
    (h1 : 1 ≤ st.optind) (hw : argv[st.optind]? = some w) (hs1 : 1 ≤ st.sp) (hs : st.sp < w.length)
    (hhead : argv.head? = some a0)
    (hlook : look = some false → optLookup opts c = some false)
    (hnx : (st.sp + 1 = w.length ∧ nxt = 0) ∨ (st.sp + 1 < w.length ∧ nxt ≠ 0)) :
    ∃ e st', attDecide argv st w a0 c nxt look = .ok (.ev e st') ∧ Inv argv st' ∧
      mu argv st' < mu argv st ∧ EvOK opts argv e := by
  have hnew : ∀ k, 1 ≤ k → Inv argv ⟨st.optind + k, 1⟩ ∧ mu argv ⟨st.optind + k, 1⟩ < mu argv st :=
    fun k hk => ⟨⟨Nat.le_trans h1 (Nat.le_add_right _ _), .inl rfl⟩, mu_word hw (by omega) hk⟩
  have hadv : Inv argv (advance st nxt) ∧ mu argv (advance st nxt) < mu argv st := by
    rcases hnx with ⟨_, rfl⟩ | ⟨hmid, hne⟩
    · exact hnew 1 (Nat.le_refl 1)
    · rw [advance, if_neg (by simpa using hne)]
      exact ⟨⟨h1, .inr ⟨w, hw, Nat.lt_succ_of_le hs1, hmid⟩⟩, mu_char hw hs⟩
  cases look with
  | none => exact ⟨_, _, rfl, hadv.1, hadv.2, EvOK.err hhead b!"illegal option -- " [c]⟩
  | some b =>
    cases b with
    | false => exact ⟨_, _, rfl, hadv.1, hadv.2, EvOK.plain (hlook rfl)⟩
    | true =>
      rcases hnx with ⟨_, rfl⟩ | ⟨_, hne⟩
      · by_cases hge : st.optind + 1 ≥ argv.length
        · exact ⟨⟨63, none, [attNeedsArg a0 c]⟩, _, by unfold attDecide; simp only [bne_self_eq_false, Bool.false_eq_true, if_false, hge, if_true],
            (hnew 1 (Nat.le_refl 1)).1, (hnew 1 (Nat.le_refl 1)).2, EvOK.err hhead b!"option requires an argument -- " [c]⟩
        · obtain ⟨a, ha⟩ : ∃ a, argv[st.optind + 1]? = some a :=
            ⟨_, List.getElem?_eq_getElem (Nat.lt_of_not_ge hge)⟩
          refine ⟨⟨c, some a, []⟩, ⟨st.optind + 2, 1⟩, ?_, (hnew 2 (by omega)).1, (hnew 2 (by omega)).2, EvOK.arg c a⟩
          unfold attDecide
          simp only [bne_self_eq_false, Bool.false_eq_true, if_false, hge, argvAt_some ha]
      · have hb : (nxt != 0) = true := by simp [hne]
        exact ⟨⟨c, some (w.drop (st.sp + 1)), []⟩, _, by unfold attDecide; simp only [hb, if_true],
          (hnew 1 (Nat.le_refl 1)).1, (hnew 1 (Nat.le_refl 1)).2, EvOK.arg c _⟩

/-- From `c = argv[optind][sp]` on: in a C string the reads of `c` and of the character behind it stay
    inside the word, and `argv[0]` exists. -/
theorem attBody_spec (opts : Bytes) (argv : Argv) (st : GState) (w : Bytes) (hn : NulFree argv)
    (h1 : 1 ≤ st.optind) (hw : argv[st.optind]? = some w) (hs1 : 1 ≤ st.sp) (hs : st.sp < w.length) :
    ∃ e st', attBody opts argv st = .ok (.ev e st') ∧ Inv argv st' ∧ mu argv st' < mu argv st ∧
      EvOK opts argv e := by
  have hlt : st.optind < argv.length := (List.getElem?_eq_some_iff.mp hw).1
  have hc : w[st.sp] ≠ 0 := nulFree_getElem hn hw hs
  have hc' : (w[st.sp] == 0) = false := by simpa using hc
  obtain ⟨a0, ha0⟩ : ∃ a0, argv[0]? = some a0 :=
    ⟨argv[0]'(by omega), List.getElem?_eq_getElem (by omega)⟩
  have hhead : argv.head? = some a0 := by rw [List.head?_eq_getElem?]; exact ha0
  obtain ⟨nxt, hnxt, hnx⟩ := wchar_next hn hw hs
  have hb : attBody opts argv st =
      attDecide argv st w a0 w[st.sp] nxt (if w[st.sp] == 58 then none else optLookup opts w[st.sp]) := by
    simp [attBody, argvAt_some hw, wchar_lt hs, argvAt_some ha0, hc', hnxt]
  rw [hb]
  apply attDecide_spec opts argv st w a0 w[st.sp] nxt _ h1 hw hs1 hs hhead _ hnx
  intro h
  split at h
  · cases h
  · exact h

/-- One call of `wbxml_getopt` from a state that satisfies `Inv`: EOF, or an event that honours the
    contract, a state that satisfies `Inv` again and a smaller measure. -/
theorem attStep_spec (opts : Bytes) (argv : Argv) (st : GState) (hn : NulFree argv) (hi : Inv argv st) :
    (∃ st', attStep opts argv st = .ok (.eof st') ∧ 1 ≤ st'.optind) ∨
    (∃ e st', attStep opts argv st = .ok (.ev e st') ∧ Inv argv st' ∧ mu argv st' < mu argv st ∧
      EvOK opts argv e) := by
  obtain ⟨h1, hsp⟩ := hi
  rcases hsp with hsp | ⟨w, hw, hgt, hlt⟩
  · -- at the beginning of a word
    unfold attStep
    simp only [hsp, beq_self_eq_true, if_true]
    by_cases hge : st.optind ≥ argv.length
    · exact .inl ⟨st, by simp [hge], h1⟩
    · simp only [hge, if_false]
      obtain ⟨w, hw⟩ : ∃ w, argv[st.optind]? = some w := ⟨_, List.getElem?_eq_getElem (Nat.lt_of_not_ge hge)⟩
      simp only [argvAt_some hw]
      match w, hw with
      | [], _ => exact .inl ⟨st, by simp [wchar], h1⟩
      | c0 :: rest, hw =>
        by_cases h45 : c0 = 45
        · subst h45
          match rest, hw with
          | [], _ => exact .inl ⟨st, by simp [wchar], h1⟩
          | c1 :: r, hw =>
            have hc1 : c1 ≠ 0 := by
              have := nulFree_getElem hn hw (j := 1) (by simp)
              simpa using this
            have hb : (c1 == 0) = false := by simpa using hc1
            have := attBody_spec opts argv st (45 :: c1 :: r) hn h1 hw (by omega) (by simp [hsp])
            refine .inr ?_
            simpa [wchar, hb] using this
        · have hb : (c0 != 45) = true := by simp [h45]
          exact .inl ⟨st, by simp [wchar, hb], h1⟩
  · -- in the middle of a word (`sp > 1`): the word cannot be "--"
    unfold attStep
    have hne : (st.sp == 1) = false := by
      simp only [beq_eq_false_iff_ne, ne_eq]
      omega
    have hdd : (w == b!"--") = false := beq_eq_false_iff_ne.mpr (midword_ne_dashdash hgt hlt)
    simp only [hne, Bool.false_eq_true, if_false, argvAt_some hw, hdd]
    exact .inr (attBody_spec opts argv st w hn h1 hw (by omega) hlt)

theorem attLoop_spec (opts : Bytes) (argv : Argv) (hn : NulFree argv) :
    ∀ (n : Nat) (st : GState) (acc : List Ev), Inv argv st → mu argv st < n →
      (∀ e ∈ acc, EvOK opts argv e) →
      ∃ sr, attLoop opts argv n st acc = .ok sr ∧ ScanOK opts argv sr := by
  intro n
  induction n with
  | zero => intro st acc _ h; omega
  | succ n ih =>
    intro st acc hi hmu hacc
    rcases attStep_spec opts argv st hn hi with ⟨st', hst, h1⟩ | ⟨e, st', hst, hi', hlt, hev⟩
    · refine ⟨⟨acc.reverse, st'.optind, argv⟩, by simp [attLoop, hst], rfl, rfl, h1, ?_⟩
      intro e he
      exact hacc e (List.mem_reverse.mp he)
    · have := ih st' (e :: acc) hi' (by omega) (by
        intro x hx
        rcases List.mem_cons.mp hx with rfl | hx
        · exact hev
        · exact hacc x hx)
      simpa [attLoop, hst] using this

/-- `wbxml_getopt` run to EOF on any argv of C strings: no read outside a string, no dereference of
    `argv[argc]`, the fuel is never exhausted, and the result honours the contract. -/
theorem attScan_ok (opts : Bytes) (argv : Argv) (hn : NulFree argv) :
    ∃ sr, attScan opts argv = .ok sr ∧ ScanOK opts argv sr := by
  apply attLoop_spec opts argv hn (attFuel argv) ⟨1, 1⟩ [] ⟨Nat.le_refl 1, .inl rfl⟩
  · have := remChars_succ_le argv 0
    rw [show (0 : Nat) + 1 = 1 from rfl] at this
    simp only [mu, attFuel]
    omega
  · intro e he
    cases he

theorem gnuCluster_evs (opts a0 : Bytes) (argv : Argv) (hh : argv.head? = some a0) :
    ∀ (cs : Bytes) (next : List Bytes), ∀ e ∈ (gnuCluster opts a0 cs next).1, EvOK opts argv e := by
  intro cs
  induction cs with
  | nil => intro next e he; simp [gnuCluster] at he
  | cons c cs ih =>
    intro next e he
    unfold gnuCluster at he
    split at he
    · rcases List.mem_cons.mp he with rfl | he
      · rw [gnuInvalid, List.append_assoc]; exact EvOK.err hh b!"invalid option -- '" _
      · exact ih next e he
    · rename_i hl
      rcases List.mem_cons.mp he with rfl | he
      · refine EvOK.plain ?_
        split at hl
        · cases hl
        · exact hl
      · exact ih next e he
    · split at he <;> rw [List.mem_singleton] at he <;> subst he
      · exact EvOK.arg c _
      · rw [gnuNeedsArg, List.append_assoc]; exact EvOK.err hh b!"option requires an argument -- '" _
      · exact EvOK.arg c _

theorem gnuWords_spec (opts a0 : Bytes) (argv : Argv) (hh : argv.head? = some a0) :
    ∀ (ws : List Bytes) (skip : Bool),
      (∀ e ∈ (gnuWords opts a0 ws skip).evs, EvOK opts argv e) ∧
      (gnuWords opts a0 ws skip).optWords.length + (gnuWords opts a0 ws skip).nonOpts.length = ws.length := by
  intro ws
  induction ws with
  | nil => intro skip; simp [gnuWords]
  | cons w rest ih =>
    intro skip
    cases skip with
    | true =>
      have := ih false
      simp only [gnuWords, List.length_cons]
      exact ⟨this.1, by omega⟩
    | false =>
      unfold gnuWords
      split
      · simp
        omega
      · split
        · have := ih (gnuCluster opts a0 (w.drop 1) rest).2
          refine ⟨?_, by simp only [List.length_cons]; omega⟩
          intro e he
          rcases List.mem_append.mp he with he | he
          · exact gnuCluster_evs opts a0 argv hh _ _ e he
          · exact this.1 e he
        · have := ih false
          exact ⟨this.1, by simp only [List.length_cons]; omega⟩

theorem gnuScan_ok (opts : Bytes) (argv : Argv) : ScanOK opts argv (gnuScan opts argv) := by
  cases argv with
  | nil => exact ⟨rfl, rfl, Nat.le_refl 1, by intro e he; cases he⟩
  | cons a0 rest =>
    have := gnuWords_spec opts a0 (a0 :: rest) rfl rest false
    refine ⟨?_, rfl, by simp [gnuScan], this.1⟩
    simp only [gnuScan, List.length_cons, List.length_append]
    omega

end Wbxml.Model.Tool
