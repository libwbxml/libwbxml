/-
  The table facts of the encoder theorems (`langOk`, `valSemOk`, `attrSemOk`, `tagSemOk`,
  `attrNameSemOk`) from the table facts of C08: the ranges are those of `tagTableOK`, `attrTableOK`,
  `valTableRange`; the `…SemOk` facts say "the first row with a row's page and token agrees with the
  row", and where no two rows share page and token that row is the row itself.
-/
import Wbxml.Lemmas.EncWAttrRead
namespace Wbxml.Lemmas.EncW
open Wbxml Wbxml.Model Wbxml.Spec

theorem tagSemOk_of_self {l : Lang}
    (h : ∀ t, l.tags = some t → ∀ r ∈ t, nulFree r.name = true ∧ decTag t r.page r.token = some r) :
    tagSemOk l = true := by
  unfold tagSemOk
  cases ht : l.tags with
  | none => rfl
  | some t =>
    simp only [List.all_eq_true, Bool.and_eq_true]
    exact fun r hr => ⟨(h t ht r hr).1, by rw [(h t ht r hr).2]; simp⟩

theorem attrNameSemOk_of_self {l : Lang}
    (h : ∀ t, l.attrs = some t → ∀ r ∈ t, nulFree r.name = true ∧ decAttr t r.page r.token = some r) :
    attrNameSemOk l = true := by
  unfold attrNameSemOk
  cases ht : l.attrs with
  | none => rfl
  | some t =>
    simp only [List.all_eq_true, Bool.and_eq_true]
    exact fun r hr => ⟨(h t ht r hr).1, by rw [(h t ht r hr).2]; simp⟩

theorem attrSemOk_of_self {l : Lang} (h : ∀ t, l.attrs = some t → ∀ r ∈ t, decAttr t r.page r.token = some r) :
    attrSemOk l = true := by
  unfold attrSemOk
  cases ht : l.attrs with
  | none => rfl
  | some t =>
    rw [List.all_eq_true]
    exact fun r hr => by rw [h t ht r hr]; simp

theorem valSemOk_of_self {l : Lang} (h : ∀ t, l.values = some t → ∀ r ∈ t, decVal t r.page r.token = some r) :
    valSemOk l = true := by
  unfold valSemOk
  cases ht : l.values with
  | none => rfl
  | some t =>
    rw [List.all_eq_true]
    exact fun r hr => by rw [h t ht r hr]; simp

/-- What `langOk` asks beyond the token ranges. -/
def langOkRest (l : Lang) : Bool :=
  (match l.attrs with | some t => t.all (fun r => !dtRow l.id r || (r.value.getD []).isEmpty) | none => true) &&
  (match l.exts with | some _ => isWv l.id | none => true) &&
  (decide (0 < l.pub.wbxmlId) && decide (l.pub.wbxmlId < 4294967296))

theorem langOk_of_tables {l : Lang} (ht : ∀ t, l.tags = some t → tagTableOK t = true)
    (ha : ∀ t, l.attrs = some t → attrTableOK t = true) (hv : ∀ t, l.values = some t → valTableRange t = true)
    (hr : langOkRest l = true) : langOk l = true := by
  simp only [langOkRest, Bool.and_eq_true] at hr
  simp only [langOk, Bool.and_eq_true]
  refine ⟨⟨⟨⟨?_, ?_⟩, ?_⟩, hr.1.2⟩, hr.2⟩
  · cases h : l.tags with
    | none => rfl
    | some t =>
      have := ht t h
      simp only [tagTableOK, Bool.and_eq_true] at this
      exact this.1.1
  · cases h : l.attrs with
    | none => rfl
    | some t =>
      have := ha t h
      rw [h] at hr
      simp only [attrTableOK, Bool.and_eq_true] at this
      exact Bool.and_eq_true _ _ ▸ ⟨this.1, hr.1.1⟩
  · cases h : l.values with
    | none => rfl
    | some t => exact hv t h

end Wbxml.Lemmas.EncW
