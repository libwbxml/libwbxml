/-
  What a reader makes of an attribute the encoder wrote. The readers that resolve strings, tokens and
  names the way the encoder meant them (`Rd`, `RdT`, their common part `RdA`); what an attribute start
  may be (`AStartOk`) and what such a reader makes of it (`astartOk_rd`); the attribute a reader reports
  as a function of the source attribute alone (`xAttr`: exact name, value `vAttrValue`) and the views
  that follow from it (`attrView_xAttr`, `srcView_of_exact`). Nothing here looks at the encoder's code.
-/
import Wbxml.Lemmas.EncWAttrPlan
import Wbxml.Lemmas.EncWSplit
import Wbxml.Lemmas.EncWTyped
namespace Wbxml.Lemmas.EncW
open Wbxml Wbxml.Model Wbxml.Spec Wbxml.Lemmas.ParseSer
open Wbxml.Model.Codec (mbEncode)

/-- The last argument is `current_attr` after the start. -/
inductive AStartOk (c : WCfg) (tbl : List StrEntry) (ap : Nat) (nm : Bytes) : AStart → Option AttrRow → Prop
  | tok (attrs : List AttrRow) (r : AttrRow) : c.lang.attrs = some attrs → r ∈ attrs → r.name = nm →
      AStartOk c tbl ap nm (.tok (swFor ap r.page) r.token) (some r)
  | lit (off : Nat) : (∃ e ∈ tbl, e.offset = off ∧ e.str = nm) → AStartOk c tbl ap nm (.lit off) none

def preOf : Option AttrRow → Bytes
  | some r => r.value.getD []
  | none => []

theorem attrRow_found (c : WCfg) (ctx : Ctx) (hlang : ctx.lang = c.lang) (attrs : List AttrRow)
    (ha : c.lang.attrs = some attrs) (r : AttrRow) (hr : r ∈ attrs) (hp : r.page < 256) (ap : Nat) :
    ∃ r', attrRow ctx (swPage (swFor ap r.page) ap) r.token = some r' ∧ decAttr attrs r.page r.token = some r' ∧
      r' ∈ attrs ∧ r'.token = r.token ∧ r'.page = r.page := by
  rw [swPage_swFor, Nat.mod_eq_of_lt hp]
  have ha' : ctx.lang.attrs = some attrs := by rw [hlang]; exact ha
  simp only [attrRow, ha', decAttr]
  cases hf : attrs.find? (fun x => x.token == r.token && x.page == r.page) with
  | none =>
    have := List.find?_eq_none.mp hf r hr
    simp at this
  | some r' =>
    have h1 := List.find?_some hf
    simp only [Bool.and_eq_true, beq_iff_eq] at h1
    exact ⟨r', rfl, rfl, List.mem_of_find?_eq_some hf, h1.1, h1.2⟩

/-- A reader that resolves strings, tokens and names the way the encoder meant them, for a language
    with alias-free tables and without typed attribute values. `RdT` below is the reader for every
    language; neither implies the other. -/
structure Rd (c : WCfg) (tbl : List StrEntry) (ctx : Ctx) : Prop where
  lang : ctx.lang = c.lang
  res : Resolves ctx.tbl tbl
  ok : langOk c.lang = true
  vs : valSemOk c.lang = true
  as : attrSemOk c.lang = true
  ts : tagSemOk c.lang = true
  an : attrNameSemOk c.lang = true
  nta : noTypedAttr c.lang.id = true

/-- A reader like `Rd` for EVERY language: typed attribute values allowed, aliases in the tag table
    allowed (the view then names the alias, see `nameView`). -/
structure RdT (c : WCfg) (tbl : List StrEntry) (ctx : Ctx) : Prop where
  lang : ctx.lang = c.lang
  res : Resolves ctx.tbl tbl
  ok : langOk c.lang = true
  vs : valSemOk c.lang = true
  as : attrSemOk c.lang = true
  an : attrNameSemOk c.lang = true
  tl : typedLangOk c.lang = true

theorem RdT.mono {c : WCfg} {tbl tbl' : List StrEntry} {ctx : Ctx} (h : RdT c tbl' ctx) (hp : tbl <+: tbl') :
    RdT c tbl ctx := ⟨h.lang, h.res.mono hp, h.ok, h.vs, h.as, h.an, h.tl⟩

/-- What `Rd` and `RdT` share, and all that reading an attribute takes. -/
structure RdA (c : WCfg) (tbl : List StrEntry) (ctx : Ctx) : Prop where
  lang : ctx.lang = c.lang
  res : Resolves ctx.tbl tbl
  ok : langOk c.lang = true
  vs : valSemOk c.lang = true
  as : attrSemOk c.lang = true
  an : attrNameSemOk c.lang = true

theorem RdA.mono {c : WCfg} {tbl tbl' : List StrEntry} {ctx : Ctx} (h : RdA c tbl' ctx) (hp : tbl <+: tbl') :
    RdA c tbl ctx := ⟨h.lang, h.res.mono hp, h.ok, h.vs, h.as, h.an⟩

theorem Rd.toA {c : WCfg} {tbl : List StrEntry} {ctx : Ctx} (h : Rd c tbl ctx) : RdA c tbl ctx :=
  ⟨h.lang, h.res, h.ok, h.vs, h.as, h.an⟩

theorem RdT.toA {c : WCfg} {tbl : List StrEntry} {ctx : Ctx} (h : RdT c tbl ctx) : RdA c tbl ctx :=
  ⟨h.lang, h.res, h.ok, h.vs, h.as, h.an⟩

theorem noTypedAttr_not_ota (id : Nat) (h : noTypedAttr id = true) : (id == 1901) = false := by
  simp only [noTypedAttr, Bool.and_eq_true, Bool.not_eq_true'] at h
  exact h.2

/-- What a reader shows for a `%Datetime` payload (`decode_datetime`; nothing for an empty one). -/
def dtShow (p : Bytes) : Bytes :=
  if p.isEmpty then [] else match decodeDatetime p with | .ok b => b | .error _ => []

/-- **The value a reader reports for an attribute**, as a function of the source value `v` (a C
    string) and the row `cur` of its start token (`startRow`): the value itself, except under an SI /
    EMN `%Datetime` start token, where it is the text `decode_datetime` makes of the BCD payload
    `wbxml_encode_datetime` makes of `v` (C12: the same instant). Not for OTA settings (the icon
    value): the theorems that read `xAttr` carry `(c.lang.id == 1901) = false`; C07 treats OTA by another
    argument. No option is looked at. -/
def vAttrValue (c : WCfg) (cur : Option AttrRow) (v : Bytes) : Bytes :=
  match cur with
  | some r =>
    if dtRow c.lang.id r && !v.isEmpty then
      match Typed.datetimePayload v with
      | .ok p => dtShow p
      | .error _ => v
    else v
  | none => v

def vAttr (c : WCfg) (a : Attr) : Bytes × Bytes :=
  (a.name.cName, withNul (vAttrValue c (startRow c a) (cstrOf a.value)))

def vAttrs (c : WCfg) (attrs : List Attr) : List (Bytes × Bytes) :=
  if c.lang.attrs.isSome then attrs.map (vAttr c) else []

/-- **The `AName` a reader gives the attribute start written** — representation included: the token
    name of the FIRST row with the page and token of `current_attr` (`startRow`), or the literal
    with the attribute's own name when the start was written as a literal. -/
def exactAName (l : Lang) (cur : Option AttrRow) (nm : Bytes) : AName :=
  match cur with
  | some r =>
    match l.attrs with
    | some attrs =>
      match decAttr attrs r.page r.token with
      | some d => .token d
      | none => .literal nm
    | none => .literal nm
  | none => .literal nm

/-- The attribute a reader reports, as a function of the source attribute alone. -/
def xAttr (c : WCfg) (a : Attr) : Attr :=
  { name := exactAName c.lang (startRow c a) a.name.cName,
    value := withNul (vAttrValue c (startRow c a) (cstrOf a.value)) }

def xAttrs (c : WCfg) (attrs : List Attr) : List Attr :=
  if c.lang.attrs.isSome then attrs.map (xAttr c) else []

theorem dtRow_congr (id : Nat) (r r' : AttrRow) (ht : r'.token = r.token) (hp : r'.page = r.page) :
    dtRow id r' = dtRow id r := by simp only [dtRow, ht, hp]

/-- What a reader in the encoder's language makes of an attribute start the encoder wrote. -/
structure AStartRd (c : WCfg) (tbl : List StrEntry) (ap : Nat) (nm : Bytes) (as : AStart) (cur : Option AttrRow)
    (ctx : Ctx) : Prop where
  isdt : isDatetimeAttr ctx (astartName ctx ap as).1 = cur.any (dtRow c.lang.id)
  nopre : ∀ r, cur = some r → dtRow c.lang.id r = true → r.value.getD [] = []
  dtpre : cur.any (dtRow c.lang.id) = true → (astartName ctx ap as).2.1 = []
  pre : attrSemOk c.lang = true → (astartName ctx ap as).2.1 = preOf cur
  exact : Resolves ctx.tbl tbl → nulFree nm = true → (astartName ctx ap as).1 = exactAName c.lang cur nm
  wf : csOk ctx = true → (∀ e ∈ tbl, e.offset < ctx.tbl.length) → wfAStart ctx ap as = true

theorem astartOk_rd {c : WCfg} {tbl} {ap : Nat} {nm} {as : AStart} {cur} (h : AStartOk c tbl ap nm as cur)
    (ctx : Ctx) (hlang : ctx.lang = c.lang) (hl : langOk c.lang = true) : AStartRd c tbl ap nm as cur ctx := by
  cases h with
  | lit off ho =>
    obtain ⟨e, he, rfl, rfl⟩ := ho
    exact ⟨rfl, nofun, nofun, fun _ => rfl, fun hres hnf => congrArg AName.literal (hres e he hnf),
      fun hcs hoffs => by simp [wfAStart, hcs, hoffs e he]⟩
  | tok attrs r ha hr hn =>
    have hrange := attrRange r (langOk_attrs hl ha hr).1
    obtain ⟨r', hf, hd, hm, ht, hp⟩ := attrRow_found c ctx hlang attrs ha r hr hrange.2 ap
    refine ⟨?_, fun r0 h0 hdt => by cases h0; exact (langOk_attrs hl ha hr).2 hdt, fun hdt => ?_, fun hsem => ?_,
      fun _ _ => by simp only [astartName, hf, exactAName, ha, hd],
      fun _ _ => by simp only [wfAStart, wfSw_swFor, hrange.1, hf, Option.isSome_some, Bool.and_self]⟩
    · simp only [astartName, hf]
      exact hlang ▸ dtRow_congr _ r r' ht hp
    · simp only [astartName, hf]
      exact (langOk_attrs hl ha hm).2 ((dtRow_congr _ r r' ht hp).trans hdt)
    · simp only [attrSemOk, ha, List.all_eq_true, beq_iff_eq] at hsem
      have hs := hsem r hr
      rw [hd, Option.map_some, Option.some.injEq] at hs
      simp only [astartName, hf, preOf, hs]

theorem astartOk_refs (c : WCfg) (tbl) (ap : Nat) (nm) (as : AStart) (cur) (h : AStartOk c tbl ap nm as cur) :
    ∀ off ∈ refsAStart as, ∃ e ∈ tbl, e.offset = off := by
  intro off ho
  cases h with
  | tok attrs r ha hr _ => cases ho
  | lit o hoo =>
    simp only [refsAStart, List.mem_cons, List.mem_nil_iff, or_false] at ho
    subst ho
    obtain ⟨e, he, heo, _⟩ := hoo
    exact ⟨e, he, heo⟩

theorem opaqueAttrText_plain (ctx : Ctx) (h : (ctx.lang.id == 1901) = false) (p : Bytes) :
    opaqueAttrText ctx p = some p := by
  simp only [opaqueAttrText, decodeOpaqueAttrValue, h, Bool.false_eq_true, ↓reduceIte]

theorem attrValueText_ok (c : WCfg) (tbl) (ap : Nat) (nm) (as : AStart) (cur) (h : AStartOk c tbl ap nm as cur)
    (ctx : Ctx) (hc : Compat c tbl ctx) (hl : langOk c.lang = true) (vals : List AVal)
    (hdt : ∀ r, cur = some r → dtRow c.lang.id r = true → vals = []) :
    (attrValueText ctx (astartName ctx ap as).1
      ((astartName ctx ap as).2.1 ++ (avalsText ctx (astartName ctx ap as).2.2 vals).1)).isSome = true := by
  have hrd := astartOk_rd h ctx hc.lang hl
  unfold attrValueText
  rw [hrd.isdt]
  cases cur with
  | none => simp
  | some r =>
    by_cases hd : dtRow c.lang.id r = true
    · rw [hrd.dtpre hd, hdt r rfl hd]
      rfl
    · simp [hd]

theorem dtRow_not_ota (id : Nat) (r : AttrRow) (h : dtRow id r = true) : (id == 1901) = false := by
  simp only [dtRow, Bool.or_eq_true, Bool.and_eq_true, beq_iff_eq] at h
  rcases h with ⟨⟨h, _⟩, _⟩ | ⟨⟨h, _⟩, _⟩ <;> simp [h]

def srcAttrView (a : Attr) : Bytes × Bytes := (a.name.cName, withNul (cstrOf a.value))

theorem attrOver_nulFree (l : Lang) (a : Attr) (attrs : List AttrRow) (hattrs : l.attrs = some attrs)
    (ha : attrOver l a = true) (han : attrNameSemOk l = true) : nulFree a.name.cName = true := by
  cases hn : a.name with
  | literal s => exact nulFree_cstrOf s
  | token r =>
    simp only [attrOver, hn, hattrs, Bool.and_eq_true, List.contains_iff_mem] at ha
    simp only [attrNameSemOk, hattrs, List.all_eq_true, Bool.and_eq_true] at han
    exact (han r ha.2).1

theorem xAttr_name (c : WCfg) (a : Attr) (attrs : List AttrRow) (hattrs : c.lang.attrs = some attrs)
    (ha : attrOver c.lang a = true) (han : attrNameSemOk c.lang = true) :
    (xAttr c a).name.xmlName = a.name.cName := by
  simp only [xAttr, exactAName]
  cases hs : startRow c a with
  | none => rfl
  | some r =>
    obtain ⟨hn, hm⟩ := startRow_mem c a attrs hattrs ha r hs
    simp only [hattrs]
    cases hd : decAttr attrs r.page r.token with
    | none => rfl
    | some d =>
      simp only [attrNameSemOk, hattrs, List.all_eq_true, Bool.and_eq_true, beq_iff_eq] at han
      have := (han r hm).2
      rw [hd, Option.map_some, Option.some.injEq] at this
      simp only [AName.xmlName, this, hn]

theorem attrView_xAttr (c : WCfg) (a : Attr) (attrs : List AttrRow) (hattrs : c.lang.attrs = some attrs)
    (ha : attrOver c.lang a = true) (han : attrNameSemOk c.lang = true) : attrView (xAttr c a) = vAttr c a :=
  Prod.ext (xAttr_name c a attrs hattrs ha han) rfl

theorem vAttr_plain (c : WCfg) (a : Attr) (h : noTypedAttr c.lang.id = true) : vAttr c a = srcAttrView a := by
  simp only [vAttr, srcAttrView, vAttrValue]
  cases startRow c a with
  | none => rfl
  | some r => simp only [noTypedAttr_dt _ h r, Bool.false_and, Bool.false_eq_true, ↓reduceIte]

theorem srcView_of_exact (c : WCfg) (l : List Attr) (attrs : List AttrRow) (hattrs : c.lang.attrs = some attrs)
    (hall : l.all (attrOver c.lang) = true) (han : attrNameSemOk c.lang = true)
    (hn : noTypedAttr c.lang.id = true) : (l.map (xAttr c)).map attrView = l.map srcAttrView := by
  rw [List.map_map]
  exact List.map_congr_left fun a ha =>
    (attrView_xAttr c a attrs hattrs (List.all_eq_true.mp hall a ha) han).trans (vAttr_plain c a hn)

end Wbxml.Lemmas.EncW
