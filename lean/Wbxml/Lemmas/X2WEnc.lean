/-
  C02, encoder half, the functions below the node walk: on names that are non-empty C strings and
  languages whose table rows have non-empty names no encoder function answers `.ub` / `.fuel`. (`Ok` is
  the result predicate of `Lemmas/ParserSafeBasic.lean`: success with a post-condition, or a non-zero
  library error code.) The post-condition of each function says what happens to the string table
  (`StOk`) and bounds the potential `wpot` (`Lemmas/X2WPot.lean`) of the state it returns.
-/
import Wbxml.Model.EncWbxml
import Wbxml.Lemmas.ParserSafeBasic
import Wbxml.Lemmas.CodecBase64
import Wbxml.Lemmas.EncWAttr
import Wbxml.Lemmas.X2WPot
import Wbxml.Lemmas.X2WNames
namespace Wbxml.Lemmas.X2W
open Wbxml Wbxml.Model Wbxml.Lemmas.ParserSafe
open Wbxml.Model.Codec (mbEncode b64DecodeE)
open Wbxml.Model.Typed (encodeDatetime encodeWvInt encodeWvDate wvEncKind WvKind WvItem)

/-- The encoder's options after `encoder_encode_tree`: OTA settings never use a string table (`cfgOk_derive`
    establishes `ota`; no lemma below reads it). -/
structure CfgOk (c : WCfg) : Prop where
  names : langNames c.lang = true
  ota : c.lang.id = 1901 → c.useStrtbl = false

/-- String-table entries are non-empty (and never alias a text node's buffer). The second half is
    `EncW.StrInv.noAlias`; `StrInv` also fixes offsets and declared length, which totality does not need. -/
def StOk (st : WSt) : Prop := ∀ e ∈ st.strtbl, e.alias = none ∧ e.str ≠ []

theorem StOk.of_eq {st st' : WSt} (h : StOk st) (e : st'.strtbl = st.strtbl) : StOk st' := by
  unfold StOk; rw [e]; exact h

theorem stOk_init : StOk {} := by intro e he; cases he

attribute [local simp] EW.badDatetime EW.badParameter EW.internal EW.unknownTag EW.strtblDisabled
  EncW.attrTokenW_curAttr

/-- **One search pass ends and never raises the potential**: with a non-empty needle every round removes weight
    from the part of the list still to be visited, and for a token of at most 6 the pieces cost no more than the string. -/
theorem splitPass_ok (needle : Bytes) (mk : VElt) (hn : needle ≠ []) (hmk : vpot mk ≤ 6) :
    ∀ (f : Nat) (done l : List VElt), (l.map VElt.weight).sum < f →
      Ok (fun res => vpotL res ≤ vpotL done + vpotL l) (splitPass needle mk f done l)
  | 0, _, _, h => by omega
  | f + 1, done, [], _ => by simp [splitPass, vpotL]
  | f + 1, done, e :: rest, h => by
    simp only [List.map_cons, List.sum_cons] at h
    have hw : 1 ≤ e.weight := by cases e <;> simp only [VElt.weight] <;> omega
    rw [splitPass_succ]
    split
    · refine (splitPass_ok needle mk hn hmk f _ _ (by omega)).mono fun _ a => ?_
      simp only [vpotL_append, vpotL] at a ⊢
      omega
    · rename_i d back hc
      obtain ⟨h1, h2⟩ := cutAt_spec hc
      have hl := List.length_pos_iff.mpr hn
      refine (splitPass_ok needle mk hn hmk f _ _ (by simp only [List.map_append, List.sum_append]; omega)).mono fun _ a => ?_
      have := h2 hl hmk
      simp only [vpotL_append, vpotL] at *
      omega

theorem splitByValues_ok : ∀ (rows : List ValRow) (l : List VElt), (∀ r ∈ rows, r.name ≠ []) →
    Ok (fun res => vpotL res ≤ vpotL l) (splitByValues rows l)
  | [], l, _ => by simp [splitByValues]
  | r :: rs, l, h => by
    simp only [splitByValues]
    refine Ok.bind (splitPass_ok r.name (.tok r) (h r (by simp)) (by simp [vpot]) _ [] l (by simp [splitFuel])) ?_
    intro l' a
    refine (splitByValues_ok rs l' (fun x hx => h x (by simp [hx]))).mono fun _ b => ?_
    simp only [vpotL] at a
    omega

theorem splitByStrtbl_ok : ∀ (es : List StrEntry) (l : List VElt), (∀ e ∈ es, e.str ≠ []) →
    Ok (fun res => vpotL res ≤ vpotL l) (splitByStrtbl es l)
  | [], l, _ => by simp [splitByStrtbl]
  | e :: es, l, h => by
    simp only [splitByStrtbl]
    refine Ok.bind (splitPass_ok e.str (.ref e.offset) (h e (by simp)) (by simp [vpot]) _ [] l (by simp [splitFuel])) ?_
    intro l' a
    refine (splitByStrtbl_ok es l' (fun x hx => h x (by simp [hx]))).mono fun _ b => ?_
    simp only [vpotL] at a
    omega

@[simp] theorem emit_strtbl (st : WSt) (bs : Bytes) : (st.emit bs).strtbl = st.strtbl := rfl
@[simp] theorem emit_curAttr (st : WSt) (bs : Bytes) : (st.emit bs).curAttr = st.curAttr := rfl

@[simp] theorem attrTokenW_strtbl (t p : Nat) (st : WSt) : (attrTokenW t p st).strtbl = st.strtbl :=
  (EncW.attrTokenW_frame t p st).2

@[simp] theorem tagTokenW_strtbl (t p : Nat) (st : WSt) : (tagTokenW t p st).strtbl = st.strtbl := by
  unfold tagTokenW; split <;> rfl

@[simp] theorem emitVElts_strtbl (l : List VElt) (st : WSt) : (emitVElts st l).strtbl = st.strtbl :=
  (EncW.emitVElts_frame l st).2

theorem strtblAdd_ok (st : WSt) (s : Bytes) (hs : s ≠ []) (h : StOk st) : StOk (strtblAdd st s none).1 := by
  unfold strtblAdd
  split
  · exact h
  · intro e he
    simp only [List.mem_append, List.mem_singleton] at he
    rcases he with he | rfl
    · exact h e he
    · exact ⟨rfl, hs⟩

theorem b64DecodeE_safe (s : Bytes) : Safe (b64DecodeE s) := by
  rw [Wbxml.Lemmas.Codec.b64DecodeE_eq]; simp [Safe]

theorem dtFilter_safe : ∀ (s : Bytes), Safe (Typed.dtFilter s)
  | [] => by simp [Typed.dtFilter, Safe]
  | c :: cs => by
    have ih := dtFilter_safe cs
    unfold Typed.dtFilter
    split
    · cases h : Typed.dtFilter cs with
      | ok r => simp [Except.map, Safe]
      | error e => rw [h] at ih; cases e <;> simp_all [Except.map, Safe]
    · split
      · exact ih
      · simp [Safe]

theorem encodeDatetime_safe (s : Bytes) : Safe (encodeDatetime s) := by
  unfold encodeDatetime Typed.datetimePayload
  have := dtFilter_safe s
  cases h : Typed.dtFilter s with
  | ok r => simp [Except.map, Safe]
  | error e => rw [h] at this; cases e <;> simp_all [Except.map, Safe]

theorem encodeWvInt_safe (s : Bytes) : Safe (encodeWvInt s) := by
  unfold encodeWvInt
  split
  · simp [Safe]
  · split <;> simp [Safe]

theorem wvDateOpaque_safe (s : Bytes) : Safe (Typed.wvDateOpaque s) := by
  unfold Typed.wvDateOpaque
  extract_lets len0 tmp len zr
  split
  · simp [Safe]
  · split
    · simp [Safe]
    · have hzr : Safe zr := by
        unfold zr
        (repeat' split) <;> simp [Safe]
      cases hz : zr with
      | error e => rw [hz] at hzr; cases e <;> simp_all [Safe]
      | ok p =>
        simp only
        (repeat' split) <;> simp [Safe]

theorem encodeWvDate_safe (s : Bytes) (hs : s ≠ []) : Safe (encodeWvDate s) := by
  unfold encodeWvDate
  simp only [hs, ↓reduceIte]
  split
  · simp [Safe]
  · exact wvDateOpaque_safe s

/-- An OPAQUE of base64-decoded text costs at most its frame more than the text. -/
theorem emit_b64_pot (st : WSt) (s d : Bytes) (hd : d.length ≤ (b64TextW s).length) :
    wpot (st.emit (opaqueW d)) ≤ wpot st + 6 + s.length := by
  have h2 := b64TextW_length s
  have h3 := opaqueW_length d
  rw [wpot_emit]
  omega

theorem otaIconW_ok (na : Option (List Attr)) (s : Bytes) (st : WSt) :
    Ok (fun r => ∀ st', r = some st' → st'.strtbl = st.strtbl ∧ wpot st' ≤ wpot st + 6 + s.length)
      (otaIconW na s st) := by
  unfold otaIconW
  split
  · split
    · bind_ok (ok_and_of (b64DecodeE_safe (b64TextW s)) (Lemmas.Codec.b64DecodeE_length _)) with d hd
      simp only [Ok_pure]
      intro st' h; cases h
      exact ⟨rfl, emit_b64_pot st s d hd.2⟩
    · simp
  · simp

theorem attrSpecialW_ok (c : WCfg) (na : Option (List Attr)) (s : Bytes) (st : WSt) :
    Ok (fun r => ∀ st', r = some st' → st'.strtbl = st.strtbl ∧ wpot st' ≤ wpot st + 6 + s.length)
      (attrSpecialW c na s st) := by
  have hdt : Ok (fun r => ∀ st', r = some st' → st'.strtbl = st.strtbl ∧ wpot st' ≤ wpot st + 6 + s.length)
      (do let item ← encodeDatetime s; pure (some (st.emit item))) := by
    bind_ok (ok_and_of (encodeDatetime_safe s) (encodeDatetime_length s)) with item hi
    simp only [Ok_pure]
    intro st' h; cases h
    refine ⟨rfl, ?_⟩
    rw [wpot_emit]
    omega
  rw [EncW.attrSpecialW_eq]
  split
  · simp
  · split
    · exact hdt
    · split
      · exact otaIconW_ok na s st
      · simp

theorem strtblSplit_ok (c : WCfg) (st : WSt) (hst : StOk st) (l : List VElt) :
    Ok (fun l2 => vpotL l2 ≤ vpotL l) (if c.useStrtbl then splitByStrtbl st.strtbl l else pure l) := by
  split
  · exact splitByStrtbl_ok _ _ (fun e he => (hst e he).2)
  · exact Nat.le_refl _

theorem encAttrValueW_ok (c : WCfg) (hc : CfgOk c) (na : Option (List Attr)) (s : Bytes) (st : WSt)
    (hst : StOk st) :
    Ok (fun st' => st'.strtbl = st.strtbl ∧ wpot st' ≤ wpot st + 8 * s.length + 2) (encAttrValueW c na s st) := by
  unfold encAttrValueW
  split
  · exact ⟨rfl, by omega⟩
  · rename_i hs
    have hs1 : 1 ≤ s.length := by
      cases s with
      | nil => simp at hs
      | cons _ _ => simp
    bind_ok (attrSpecialW_ok c na s st) with r hr
    cases r with
    | some st' =>
      simp only [Ok_pure]
      exact ⟨(hr st' rfl).1, by have := (hr st' rfl).2; omega⟩
    | none =>
      have h1 : Ok (fun l => vpotL l ≤ vpotL [VElt.str s]) (match c.lang.values with
          | some vals => splitByValues vals [VElt.str s]
          | none => pure [VElt.str s]) := by
        split
        · rename_i vals hv
          exact splitByValues_ok vals _ fun r hr => langNames_values hc.names hv (r := r) hr
        · exact Nat.le_refl _
      bind_ok h1 with l a1
      bind_ok (strtblSplit_ok c st hst l) with l2 a2
      simp only [Ok_pure, emitVElts_strtbl, true_and]
      have a3 := emitVElts_pot l2 st
      simp only [vpotL, vpot] at a1
      omega

theorem wvContentW_ok (c : WCfg) (s : Bytes) (hs : s ≠ []) (st : WSt) :
    Ok (fun r => ∀ st', r = some st' → st'.strtbl = st.strtbl ∧ wpot st' ≤ wpot st + s.length + 12)
      (wvContentW c s st) := by
  unfold wvContentW
  simp only
  split
  · bind_ok (ok_and_of (encodeWvInt_safe s) (fun r hr item (e : r = some item) => encodeWvInt_length s item (e ▸ hr))) with r hr
    cases r with
    | some item =>
      simp only [Ok_pure]
      intro st' h; cases h
      have := hr.2 item rfl
      refine ⟨rfl, ?_⟩
      rw [wpot_emit]
      omega
    | none => simp
  · bind_ok (ok_and_of (encodeWvDate_safe s hs) (encodeWvDate_length s)) with item hi
    simp only [Ok_pure]
    intro st' h; cases h
    refine ⟨rfl, ?_⟩
    rw [wpot_emit]
    omega
  · split
    · simp
    · split
      · rename_i r _
        simp only [Ok_pure]
        intro st' h; cases h
        have := extW_length r.token
        refine ⟨rfl, ?_⟩
        rw [wpot_emit]
        omega
      · simp

theorem drmrelContentW_ok (parent : Option Name) (s : Bytes) (st : WSt) :
    Ok (fun r => ∀ st', r = some st' → st'.strtbl = st.strtbl ∧ wpot st' ≤ wpot st + 6 + s.length)
      (drmrelContentW parent s st) := by
  unfold drmrelContentW
  split
  · split
    · bind_ok (ok_and_of (b64DecodeE_safe (b64TextW s)) (Lemmas.Codec.b64DecodeE_length _)) with d hd
      simp only [Ok_pure]
      intro st' h; cases h
      exact ⟨rfl, emit_b64_pot st s d hd.2⟩
    · simp
  · simp

/-- **Content text**: the string table is untouched; at most `9 n + 9` for `n` octets. -/
theorem encContentValueW_ok (c : WCfg) (parent : Option Name) (s : Bytes) (st : WSt) (hst : StOk st) :
    Ok (fun st' => st'.strtbl = st.strtbl ∧ wpot st' ≤ wpot st + 9 * s.length + 9)
      (encContentValueW c parent s st) := by
  unfold encContentValueW
  split
  · exact ⟨rfl, by omega⟩
  · rename_i hs
    have hs' : s ≠ [] := by intro e; simp [e] at hs
    have hs1 : 1 ≤ s.length := List.length_pos_iff.mpr hs'
    have h1 : Ok (fun r => ∀ st', r = some st' → st'.strtbl = st.strtbl ∧ wpot st' ≤ wpot st + s.length + 12)
        (if isWv c.lang.id then wvContentW c s st else pure none) := by
      split
      · exact wvContentW_ok c s hs' st
      · simp
    bind_ok h1 with r1 hr1
    cases r1 with
    | some st' =>
      simp only [Ok_pure]
      exact ⟨(hr1 st' rfl).1, by have := (hr1 st' rfl).2; omega⟩
    | none =>
      have h2 : Ok (fun r => ∀ st', r = some st' → st'.strtbl = st.strtbl ∧ wpot st' ≤ wpot st + 6 + s.length)
          (if c.lang.id == 1801 then drmrelContentW parent s st else pure none) := by
        split
        · exact drmrelContentW_ok parent s st
        · simp
      bind_ok h2 with r2 hr2
      cases r2 with
      | some st' =>
        simp only [Ok_pure]
        exact ⟨(hr2 st' rfl).1, by have := (hr2 st' rfl).2; omega⟩
      | none =>
        have a0 := syncmlTypeText_pot c.lang.id s
        bind_ok (strtblSplit_ok c st hst _) with l2 a2
        have a1 : vpotL l2 ≤ vpotL [VElt.str (syncmlTypeText c.lang.id s)] := by
          refine Nat.le_trans a2 ?_
          split
          · exact splitByExts_pot _ _
          · exact Nat.le_refl _
        simp only [Ok_pure, emitVElts_strtbl, true_and]
        have a3 := emitVElts_pot l2 st
        have e1 : vpotL [VElt.str (syncmlTypeText c.lang.id s)] = 8 * (syncmlTypeText c.lang.id s).length + 2 := rfl
        omega

/-- A literal name: its string-table entry, the LITERAL token and the index. -/
theorem literal_pot (st : WSt) (name : Bytes) (t : UInt8) :
    wpot ((strtblAdd st name none).1.emit (t :: mbEncode (strtblAdd st name none).2)) ≤ wpot st + name.length + 7 := by
  have h1 := strtblAdd_pot st name none
  have h2 := Codec.mbEncode_length_le (strtblAdd st name none).2
  rw [wpot_emit]
  simp only [List.length_cons]
  omega

theorem attrLiteralW_ok (c : WCfg) (name : Bytes) (hn : name ≠ []) (st : WSt) (hst : StOk st) :
    Ok (fun st' => StOk st' ∧ wpot st' ≤ wpot st + name.length + 7) (attrLiteralW c name st) := by
  unfold attrLiteralW
  split
  · simp
  · simp only [Ok_pure]
    exact ⟨(strtblAdd_ok st name hn hst).of_eq rfl, literal_pot st name _⟩

theorem attrToken_pot (st : WSt) (r : AttrRow) :
    wpot (attrTokenW r.token r.page { st with curAttr := some r }) ≤ wpot st + 3 :=
  attrTokenW_pot r.token r.page { st with curAttr := some r }

/-- The C name of a well-named attribute name is not empty and no longer than the size charged for the name. -/
theorem acName (a : AName) (h : anameOk a = true) : a.cName ≠ [] ∧ a.cName.length ≤ a.size := by
  cases a with
  | token r => exact ⟨fun (e : r.name = []) => by simp [anameOk, e] at h, Nat.le_refl _⟩
  | literal s => exact ⟨fun (e : cstrOf s = []) => by simp [anameOk, e] at h, cstrOf_length_le s⟩

/-- The attribute start: a token (the pointer step of `startPlan` never fails, what is left is a tail of
    the value), or the name as a literal. -/
theorem attrStartW_ok (c : WCfg) (a : Attr) (ha : anameOk a.name = true) (v : Bytes) (st : WSt)
    (hst : StOk st) :
    Ok (fun r => StOk r.2 ∧ wpot r.2 ≤ wpot st + a.name.size + 7 ∧ ∀ r', r.1 = some r' → r'.length ≤ v.length)
      (attrStartW c a v st) := by
  rw [EncW.attrStartW_eq]
  split
  · rename_i r rest hp
    obtain ⟨_, _, o, rfl, _, htail⟩ := EncW.startPlan_spec c a v r rest hp
    refine ⟨hst.of_eq (by simp), Nat.le_trans (attrToken_pot st r) (by omega), fun r' e => ?_⟩
    obtain ⟨n, rfl⟩ := htail r' e
    simp only [List.length_drop]
    omega
  · obtain ⟨hn, hlen⟩ := acName a.name ha
    bind_ok (attrLiteralW_ok c a.name.cName hn _ (hst.of_eq rfl)) with st' hst'
    simp only [Ok_pure]
    have h := hst'.2
    change wpot st' ≤ wpot st + _ + 7 at h
    exact ⟨hst'.1, by omega, fun r' e => by cases e; exact Nat.le_refl _⟩

/-- **One attribute**: at most nine octets per unit of its size. -/
theorem encAttrW_ok (c : WCfg) (hc : CfgOk c) (na : Option (List Attr)) (a : Attr) (ha : anameOk a.name = true)
    (st : WSt) (hst : StOk st) :
    Ok (fun st' => StOk st' ∧ wpot st' ≤ wpot st + 9 * a.size) (encAttrW c na a st) := by
  unfold encAttrW
  split
  · exact ⟨hst, by omega⟩
  · bind_ok (attrStartW_ok c a ha (cstrOf a.value) st hst) with ⟨rest, st1⟩ h1
    have hv := cstrOf_length_le a.value
    simp only [Attr.size]
    cases rest with
    | none =>
      exact ⟨h1.1.of_eq rfl, by show wpot st1 ≤ _; omega⟩
    | some s =>
      bind_ok (encAttrValueW_ok c hc na s st1 h1.1) with st2 h2
      simp only [Ok_pure]
      have := h1.2.2 s rfl
      exact ⟨h1.1.of_eq h2.1, by show wpot st2 ≤ _; omega⟩

theorem encAttrsW_ok (c : WCfg) (hc : CfgOk c) (na : Option (List Attr)) :
    ∀ (attrs : List Attr), attrs.all (fun a => anameOk a.name) = true → ∀ (st : WSt), StOk st →
      Ok (fun st' => StOk st' ∧ wpot st' ≤ wpot st + 9 * attrsSize attrs) (encAttrsW c na attrs st)
  | [], _, st, hst => by
    simp only [encAttrsW, Ok_pure, attrsSize]
    exact ⟨hst, Nat.le_refl _⟩
  | a :: rest, h, st, hst => by
    simp only [List.all_cons, Bool.and_eq_true] at h
    simp only [encAttrsW, attrsSize]
    bind_ok (encAttrW_ok c hc na a h.1 st hst) with st1 h1
    exact (encAttrsW_ok c hc na rest h.2 st1 h1.1).mono (fun st' h2 => ⟨h2.1, by have := h1.2; have := h2.2; omega⟩)

theorem tagLiteralW_ok (c : WCfg) (name : Bytes) (hn : name ≠ []) (mask : Nat) (st : WSt) (hst : StOk st) :
    Ok (fun st' => StOk st' ∧ wpot st' ≤ wpot st + name.length + 7) (tagLiteralW c name mask st) := by
  unfold tagLiteralW
  split
  · simp
  · simp only [Ok_pure]
    exact ⟨(strtblAdd_ok st name hn hst).of_eq rfl, literal_pot st name _⟩

/-- The same for an element name. -/
theorem ncName (n : Name) (h : nameOk n = true) : n.cName ≠ [] ∧ n.cName.length ≤ n.size := by
  cases n with
  | token r => exact ⟨fun (e : r.name = []) => by simp [nameOk, e] at h, Nat.le_refl _⟩
  | literal s => exact ⟨fun (e : cstrOf s = []) => by simp [nameOk, e] at h, cstrOf_length_le s⟩

theorem encTagW_ok (c : WCfg) (name : Name) (hn : nameOk name = true) (hasContent hasAttrs : Bool) (st : WSt)
    (hst : StOk st) :
    Ok (fun st' => StOk st' ∧ wpot st' ≤ wpot st + name.size + 7) (encTagW c name hasContent hasAttrs st) := by
  obtain ⟨hne, hlen⟩ := ncName name hn
  unfold encTagW
  extract_lets found st1 token page token'
  have hst1 : StOk st1 := hst.of_eq rfl
  have e1 : wpot st1 = wpot st := rfl
  split
  · exact (tagLiteralW_ok c _ hne _ _ hst1).mono (fun st' h => ⟨h.1, by have := h.2; omega⟩)
  · simp only [Ok_pure]
    have := tagTokenW_pot token' page st1
    exact ⟨hst1.of_eq (by simp), by omega⟩

theorem encElementStartW_ok (c : WCfg) (hc : CfgOk c) (na : Option (List Attr)) (name : Name)
    (hn : nameOk name = true) (attrs : List Attr) (ha : attrs.all (fun a => anameOk a.name) = true)
    (hasContent : Bool) (st : WSt) (hst : StOk st) :
    Ok (fun st' => StOk st' ∧ wpot st' ≤ wpot st + name.size + 8 + 9 * attrsSize attrs)
      (encElementStartW c na name attrs hasContent st) := by
  unfold encElementStartW
  bind_ok (encTagW_ok c name hn hasContent _ st hst) with st1 h1
  bind_ok (encAttrsW_ok c hc na attrs ha st1 h1.1) with st2 h2
  simp only [Ok_pure]
  split
  · refine ⟨h2.1.of_eq rfl, ?_⟩
    rw [wpot_emit]
    simp only [List.length_cons, List.length_nil]
    omega
  · exact ⟨h2.1, by omega⟩

theorem aliasWrite_ok (st : WSt) (k : Nat) (s : Bytes) (h : StOk st) : StOk (st.aliasWrite k s) := by
  rw [EncW.aliasWrite_eq st k s (fun e he => (h e he).1)]
  exact h

/-- **One text node**: the string table stays well-formed; at most `9 n + 9` for `n` octets. The
    blank stripping and the vObject line-end fix leave the potential alone and lengthen the text by
    at most one octet. -/
theorem encTextW_ok (c : WCfg) (parent : Option Name) (s : Bytes) (st : WSt) (hst : StOk st) :
    Ok (fun st' => StOk st' ∧ wpot st' ≤ wpot st + 9 * s.length + 9) (encTextW c parent s st) := by
  unfold encTextW
  extract_lets k st1 strip s' st2 fix s'' st3
  have hst1 : StOk st1 := hst.of_eq rfl
  have e1 : wpot st1 = wpot st := rfl
  have hs' : s'.length ≤ s.length := by
    unfold s'
    split
    · exact stripBlanks_length_le s
    · exact Nat.le_refl _
  have h2 : StOk st2 ∧ wpot st2 = wpot st ∧ st2.cdata = st.cdata := by
    unfold st2
    split
    · exact ⟨aliasWrite_ok _ _ _ hst1, rfl, rfl⟩
    · exact ⟨hst1, rfl, rfl⟩
  have hs'' : s''.length ≤ s.length + 1 := by
    unfold s''
    split
    · rename_i hf
      have hf' : s' = [0x0a] := by
        unfold fix at hf
        simp only [Bool.and_eq_true, beq_iff_eq] at hf
        exact hf.2
      rw [hf'] at hs'
      simp only [List.length_cons, List.length_nil] at hs' ⊢
      omega
    · omega
  have h3 : StOk st3 ∧ wpot st3 = wpot st ∧ st3.cdata = st.cdata := by
    unfold st3
    split
    · exact ⟨aliasWrite_ok _ _ _ h2.1, h2.2.1, h2.2.2⟩
    · exact h2
  split
  · simp only [Ok_pure]
    have := opaqueW_length s
    exact ⟨hst1.of_eq rfl, by rw [wpot_emit]; omega⟩
  · split
    · simp only [Ok_pure]
      exact ⟨hst1, by omega⟩
    · split
      · split
        · simp
        · rename_i cd hcd
          simp only [Ok_pure]
          refine ⟨h3.1.of_eq rfl, ?_⟩
          have hc0 : contentLen st3.cdata = cd.length := by rw [h3.2.2, ← h2.2.2, hcd]; rfl
          have h3p := h3.2.1
          simp only [wpot, contentLen, List.length_append] at hc0 h3p ⊢
          omega
      · have := cstrOf_length_le s'
        exact (encContentValueW_ok c parent _ _ h2.1).mono
          (fun st' e => ⟨h2.1.of_eq e.1, by have := e.2; have := h2.2.1; omega⟩)

theorem keepRefs_ok : ∀ (rs : List Ref) (st : WSt) (one : List Ref), StOk st → StOk (keepRefs rs st one).1
  | [], st, one, h => h
  | r :: rs, st, one, h => by
    unfold keepRefs
    split
    · rename_i hc
      have hne : r.str ≠ [] := by intro e; rw [e] at hc; simp at hc
      exact keepRefs_ok rs _ one (strtblAdd_ok st r.str hne h)
    · exact keepRefs_ok rs st _ h

theorem docStartW_ok (c : WCfg) (r : Node) : StOk (docStartW c r) := by
  unfold docStartW
  split
  · unfold strtblInitialize checkReferences
    exact keepRefs_ok _ _ _ (keepRefs_ok _ _ _ stOk_init)
  · exact stOk_init

theorem cfgOk_derive (c : WCfg) (h : langNames c.lang = true) : CfgOk (deriveCfg c) := by
  unfold deriveCfg
  split
  · exact ⟨h, fun _ => rfl⟩
  · rename_i hn
    refine ⟨h, fun h1901 => ?_⟩
    simp [h1901] at hn

end Wbxml.Lemmas.X2W
