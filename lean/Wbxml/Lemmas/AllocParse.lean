/-
  C16 — the attribute side of the parser on the ledger: `parse_attr_value`, `parse_attr_start`,
  `parse_stag`, `parse_attribute` with its value loop, the `realloc`ed attribute table and
  `parse_element` without content.
-/
import Wbxml.Model.AllocParse
import Wbxml.Lemmas.AllocCont
namespace Wbxml.Model.Alloc
open Wbxml

theorem ne_ok_iff (ret : Nat) : (ret != OK) = true ↔ ret ≠ OK := by simp

/-- The producers of a buffer (`parse_attr_value`, the items of `parse_content`): the buffer comes with
    `WBXML_OK` only. -/
abbrev RefSpec (p : Prog (Nat × Option ABuf)) : Prop :=
  Spec [] [] p (fun r => ownedBufOpt r.2) (fun r => r.1 ≠ OK → r.2 = none) (fun r => r.1 ≠ OK)

/-- `b = …_create(…); return b ? WBXML_OK : WBXML_ERROR_NOT_ENOUGH_MEMORY` -/
theorem RefSpec.exit {F : Prop} (b : Option ABuf) (hF : F → b = none) :
    Tri [] (ownedBufOpt b) F (match b with | none => Prog.ret (ENOMEM, none) | some b => Prog.ret (OK, some b))
      (fun r B => B = ownedBufOpt r.2 ∧ (r.1 ≠ OK → r.2 = none)) (fun r => r.1 ≠ OK) := by
  cases b with
  | none => exact .ret (.refl _) ⟨rfl, fun _ => rfl⟩ fun _ => ENOMEM_ne_OK
  | some b => exact .ret (.refl _) ⟨rfl, fun h => absurd rfl h⟩ fun f => nomatch hF f

theorem parseAttrValue_tri (p : Piece) : RefSpec (parseAttrValue p) := by
  cases p with
  | err c => exact .ret (.refl _) ⟨rfl, fun _ => rfl⟩ nofun
  | sta bs => exact (bufStaCreate_tri bs).step (.refl _) nofun fun b _ => RefSpec.exit b (·.resolve_left id)
  | dyn bs => exact (bufCreate_tri (some bs) bs.length).step (.refl _) nofun fun b _ => RefSpec.exit b (·.resolve_left id)

/-- A shape is well formed when its error outcomes carry a real error code. -/
def AttrStart.wf : AttrStart → Prop
  | .err c => c ≠ OK
  | _ => True

def TagShape.wf : TagShape → Prop
  | .err c => c ≠ OK
  | _ => True

/-- A function that returns a code and, exactly with `WBXML_OK`, an object (`obj r`, its blocks `owned`). -/
abbrev Made {α β : Type} (code : α → Nat) (obj : α → Option β) (owned : Option β → List Nat) (p : Prog α) : Prop :=
  Spec [] [] p (fun r => owned (obj r)) (fun r => (code r ≠ OK → obj r = none) ∧ (code r = OK → (obj r).isSome))
    (fun r => code r ≠ OK)

theorem parseLiteralRef_tri (nm : Bytes) : Made (·.1) (·.2) ownedBufOpt (parseLiteralRef nm) := by
  refine (bufStaCreate_tri nm).step (.refl _) nofun fun b _ => ?_
  cases b with
  | none => exact .ret (.refl _) ⟨rfl, fun _ => rfl, fun h => absurd h ENOMEM_ne_OK⟩ fun _ => ENOMEM_ne_OK
  | some b => exact .ret (.refl _) ⟨rfl, fun h => absurd rfl h, fun _ => rfl⟩ (by simp)

/-- `*_create_literal(get_cstr(ref))` + destroy of the reference: the common body of the literal
    cases of `parse_attr_start` and `parse_stag` (`f` builds the value returned from the name). -/
theorem literalName_tri {β : Type} (f : Option AName → β) (lit : ABuf) {F : Prop} {Q : β → List Nat → Prop} {E : β → Prop}
    (hQ : ∀ n, Q (f n) (ownedNameOpt n)) (hE : ∀ n, n = none ∨ F → E (f n)) :
    Tri [] lit.owned F (Prog.bind (bufCstr lit) (fun cstr => Prog.bind (nameCreateLiteral cstr) (fun name =>
      Prog.bind (bufDestroy (some lit)) (fun _ => Prog.ret (f name))))) Q E :=
  .read (.inl List.mem_cons_self) (bufCstr_spec lit) fun cstr _ =>
    (nameCreateLiteral_tri cstr).call (.refl _) nofun fun name _ =>
      (.release (bufDestroy_frees (some lit)) (.refl _) (.ret (.refl _) (hQ name) fun h => hE name h.symm))

theorem parseAttrStart_tri (st : AttrStart) (hst : st.wf) : Made (·.1) (·.2.1) ownedNameOpt (parseAttrStart st) := by
  cases st with
  | err c => exact .ret (.refl _) ⟨rfl, fun _ => rfl, fun h => absurd h hst⟩ nofun
  | unknown =>
    refine (nameCreateLiteral_tri (some unknownName)).step (.refl _) nofun fun name _ => ?_
    cases name with
    | none => exact .ret (.refl _) ⟨rfl, fun _ => rfl, fun h => absurd h ENOMEM_ne_OK⟩ fun _ => ENOMEM_ne_OK
    | some n => exact .ret (.refl _) ⟨rfl, fun h => absurd rfl h, fun _ => rfl⟩ (by simp)
  | token row pfx =>
    refine (nameCreateToken_tri row).step (.refl _) nofun fun name _ => ?_
    cases name with
    | none => exact .ret (.refl _) ⟨rfl, fun _ => rfl, fun h => absurd h ENOMEM_ne_OK⟩ fun _ => ENOMEM_ne_OK
    | some n => exact .ret (.refl _) ⟨rfl, fun h => absurd rfl h, fun _ => rfl⟩ (by simp)
  | literal nm =>
    refine (parseLiteralRef_tri nm).step (.refl _) nofun fun ⟨ret, lit⟩ ⟨e1, k1⟩ => ?_
    refine .if_ne_ok (fun hret => ?_) (fun hret => ?_)
    · cases e1 hret
      exact .ret (.refl _) ⟨rfl, fun _ => rfl, fun h => absurd h hret⟩ fun _ => hret
    · subst hret
      obtain ⟨lit, rfl⟩ := Option.isSome_iff_exists.1 (k1 rfl)
      refine literalName_tri _ lit (fun n => ⟨rfl, ?_⟩) fun n noName => ?_
      · cases n <;> simp [ENOMEM_ne_OK]
      · -- no failure before (`parse_literal` gave `WBXML_OK`), so the name is missing
        obtain rfl := noName.resolve_right fun before => before.elim id fun h => h rfl
        exact ENOMEM_ne_OK

theorem parseStag_tri (t : TagShape) (ht : t.wf) : Made (·.1) (·.2) ownedNameOpt (parseStag t) := by
  cases t with
  | err c => exact .ret (.refl _) ⟨rfl, fun _ => rfl, fun h => absurd h ht⟩ nofun
  | token row =>
    refine (nameCreateToken_tri row).step (.refl _) nofun fun name _ => ?_
    cases name with
    | none => exact .ret (.refl _) ⟨rfl, fun _ => rfl, fun h => absurd h ENOMEM_ne_OK⟩ fun _ => ENOMEM_ne_OK
    | some n => exact .ret (.refl _) ⟨rfl, fun h => absurd rfl h, fun _ => rfl⟩ (by simp)
  | unknown =>
    refine (nameCreateLiteral_tri (some unknownName)).step (.refl _) nofun fun name _ => ?_
    cases name with
    | none => exact .ret (.refl _) ⟨rfl, fun _ => rfl, fun h => absurd h ENOMEM_ne_OK⟩ fun _ => ENOMEM_ne_OK
    | some n => exact .ret (.refl _) ⟨rfl, fun h => absurd rfl h, fun _ => rfl⟩ (by simp)
  | literal nm =>
    refine (parseLiteralRef_tri nm).step (.refl _) nofun fun ⟨ret, lit⟩ ⟨e1, k1⟩ => ?_
    refine .if_ne_ok (fun hret => ?_) (fun hret => ?_)
    · cases e1 hret
      exact .ret (.refl _) ⟨rfl, fun _ => rfl, fun h => absurd h hret⟩ fun _ => hret
    · subst hret
      obtain ⟨lit, rfl⟩ := Option.isSome_iff_exists.1 (k1 rfl)
      refine literalName_tri _ lit (fun n => ⟨rfl, ?_⟩) fun n noName => ?_
      · cases n <;> simp [ENOMEM_ne_OK]
      · -- no failure before (`parse_literal` gave `WBXML_OK`), so the name is missing
        obtain rfl := noName.resolve_right fun before => before.elim id fun h => h rfl
        exact ENOMEM_ne_OK

/-- The terminating NUL that `parse_attribute` and `parse_pi` append to a non-empty value. -/
theorem appendNulUnlessEmpty_tri (v : ABuf) (hok : v.ok) :
    BufSpec [] v (if v.len > 0 then bufAppendChar v 0 else Prog.ret (v, true)) :=
  .ite (fun _ => bufAppendChar_tri v 0 hok) fun _ => .ret (.refl _) ⟨rfl, rfl, rfl, id⟩ nofun

/-- The release of the attribute name and value in hand, on the exits of `parse_attribute` and `parse_pi`. -/
theorem dropNameValue_tri {β : Type} (r : β) (name : Option AName) (value : ABuf) {O : List Nat} {F : Prop}
    {Q : β → List Nat → Prop} {E : β → Prop} (hO : O.Perm (ownedNameOpt name ++ value.owned)) (hQ : Q r []) (hE : F → E r) :
    Tri [] O F (Prog.bind (nameDestroy name) fun _ => Prog.bind (bufDestroy (some value)) fun _ => Prog.ret r) Q E :=
  .release (nameDestroy_frees name) (hO.trans List.perm_append_comm) (.release (bufDestroy_frees (some value)) (.refl _) (.ret (.refl _) hQ hE))

theorem attrValueLoop_tri (name : Option AName) (pieces : List Piece) (value : ABuf) (hok : value.ok) :
    Spec [] (ownedNameOpt name ++ value.owned) (attrValueLoop name value pieces)
      (fun r => match r.2 with | none => [] | some v => ownedNameOpt name ++ v.owned)
      (fun r => (r.1 ≠ OK → r.2 = none) ∧ (r.1 = OK → r.2.isSome) ∧ ∀ v, r.2 = some v → v.ok) (fun r => r.1 ≠ OK) := by
  induction pieces generalizing value with
  | nil => exact .ret (.refl _) ⟨rfl, fun h => absurd rfl h, fun _ => rfl, fun v hv => Option.some.inj hv ▸ hok⟩ nofun
  | cons p rest ih =>
    unfold attrValueLoop
    refine (parseAttrValue_tri p).make nofun fun ⟨ret, tmp⟩ e1 => ?_
    refine .if_ne_ok (fun hret => ?_) (fun hret => ?_)
    · cases e1 hret
      exact dropNameValue_tri _ name value (.of_eq (List.append_nil _)) ⟨rfl, fun _ => rfl, fun h => absurd h hret, nofun⟩ fun _ => hret
    · subst hret
      refine (bufAppend_tri (ownedBufOpt tmp) value tmp hok fun i hi => .inr (hdr_mem_ownedBufOpt hi)).at
        (ownedNameOpt name) (ownedBufOpt tmp) (.of_eq (List.append_assoc ..)) (fun i hi => .inr (.inr hi)) fun ⟨value', ok⟩ ⟨_, _, k2⟩ => ?_
      cases ok with
      | false =>
        exact .release (nameDestroy_frees name) List.perm_append_comm (.release (bufDestroy_frees (some value')) List.perm_append_comm
          (.release (bufDestroy_frees tmp) (.refl _)
            (.ret (.refl _) ⟨rfl, fun _ => rfl, fun h => absurd h ENOMEM_ne_OK, nofun⟩ fun _ => ENOMEM_ne_OK)))
      | true =>
        exact .release (bufDestroy_frees tmp) (by perm_count) ((ih value' (k2 hok)).lower (by simp))

theorem parseAttribute_tri (a : AttrShape) (hst : a.start.wf) : Made (·.1) (·.2) ownedAttrOpt (parseAttribute a) := by
  unfold parseAttribute
  refine (parseAttrStart_tri a.start hst).step (.refl _) nofun fun ⟨ret, name, start⟩ ⟨e1, k1⟩ => ?_
  refine .if_ne_ok (fun hret => ?_) (fun hret => ?_)
  · cases e1 hret
    exact .ret (.refl _) ⟨rfl, fun _ => rfl, fun h => absurd h hret⟩ fun _ => hret
  · subst hret
    obtain ⟨n, rfl⟩ := Option.isSome_iff_exists.1 (k1 rfl)
    refine (bufCreate_tri start ATTR_BLOCK).make nofun fun value ok2 => ?_
    cases value with
    | none =>
      exact .release (nameDestroy_frees (some n)) List.perm_append_comm
        (.ret (.refl _) ⟨rfl, fun _ => rfl, fun h => absurd h ENOMEM_ne_OK⟩ fun _ => ENOMEM_ne_OK)
    | some value =>
      refine (attrValueLoop_tri (some n) a.pieces value (ok2 value rfl)).step (.refl _) nofun fun ⟨ret3, v3⟩ ⟨e3, k3, o3⟩ => ?_
      cases v3 with
      | none => exact .ret (.refl _) ⟨rfl, fun _ => rfl, fun h => nomatch k3 h⟩ fun _ h => nomatch k3 h
      | some value3 =>
        obtain rfl : ret3 = OK := Decidable.byContradiction fun h => nomatch e3 h
        -- `attr_name->type` is read, and the terminator appended, when the value is not empty
        refine .derefWhen (.inl List.mem_cons_self) ?_
        refine (appendNulUnlessEmpty_tri value3 (o3 value3 rfl)).after _ (.refl _) nofun fun ⟨value4, ok4⟩ _ => ?_
        cases ok4 with
        | false =>
          exact dropNameValue_tri _ _ value4 (.refl _) ⟨rfl, fun _ => rfl, fun h => absurd h ENOMEM_ne_OK⟩ fun _ => ENOMEM_ne_OK
        | true =>
          refine attrCreate_tri.make nofun fun attr e5 => ?_
          cases attr with
          | none =>
            exact dropNameValue_tri _ _ value4 (.of_eq (List.append_nil _)) ⟨rfl, fun _ => rfl, fun h => absurd h ENOMEM_ne_OK⟩
              fun _ => ENOMEM_ne_OK
          | some attr =>
            obtain ⟨en, ev⟩ := e5 attr rfl
            exact .ret (by simp only [ownedAttrOpt, AAttr.owned, en, ev, ownedNameOpt, ownedBufOpt]; perm_count)
              ⟨rfl, fun h => absurd rfl h, fun _ => rfl⟩ (by simp)

theorem freeAttrsTable_frees (tbl : Ptr) (entries : List AAttr) (hnone : tbl = none → entries = []) :
    Frees (freeAttrsTable tbl entries) (tbl.toList ++ entries.flatMap AAttr.owned) := by
  cases tbl with
  | none => cases hnone rfl; exact .nil
  | some t =>
    exact .deref (by simp) (((forM_frees AAttr.owned _ attr_destroys entries).seq (.free (some t))).perm
      List.perm_append_comm)

theorem attrTableLoop_tri (element : Option AName) (attrs : List AttrShape) (hshape : ∀ a ∈ attrs, a.start.wf)
    (tbl : Ptr) (entries : List AAttr) (hnone : tbl = none → entries = []) :
    Spec [] (ownedNameOpt element ++ (tbl.toList ++ entries.flatMap AAttr.owned)) (attrTableLoop element tbl entries attrs)
      (fun r => if r.1 = OK then ownedNameOpt element ++ (r.2.1.toList ++ r.2.2.flatMap AAttr.owned) else [])
      (fun r => r.2.1 = none → r.2.2 = []) (fun r => r.1 ≠ OK) := by
  induction attrs generalizing tbl entries with
  | nil => exact .ret (.refl _) ⟨rfl, hnone⟩ nofun
  | cons a rest ih =>
    unfold attrTableLoop
    refine (parseAttribute_tri a (hshape a (by simp))).make nofun fun ⟨ret, attr⟩ ⟨e1, k1⟩ => ?_
    refine .if_ne_ok (fun hret => ?_) (fun hret => ?_)
    · cases e1 hret
      exact .release (nameDestroy_frees element) (by simp only [ownedAttrOpt]; perm_count) (.release (freeAttrsTable_frees tbl entries hnone) (.refl _)
        (.ret (.refl _) ⟨(if_neg hret).symm, fun _ => rfl⟩ fun _ => hret))
    · subst hret
      obtain ⟨att, rfl⟩ := Option.isSome_iff_exists.1 (k1 rfl)
      refine (realloc_tri tbl).at (ownedNameOpt element) (entries.flatMap AAttr.owned ++ att.owned)
        (.of_eq (by simp only [List.append_assoc, ownedAttrOpt])) nofun fun q _ => ?_
      cases q with
      | none =>
        -- the old table stays; the attribute in hand goes before it
        exact .release (nameDestroy_frees element) List.perm_append_comm (.release (attrDestroy_frees (some att)) (by simp only [ownedAttrOpt]; perm_count)
          (.release (freeAttrsTable_frees tbl entries hnone) (.refl _)
            (.ret (.refl _) ⟨(if_neg ENOMEM_ne_OK).symm, fun _ => rfl⟩ fun _ => ENOMEM_ne_OK)))
      | some q =>
        -- the new table `q` takes the place of the old one, the attribute joins the entries
        refine .deref (.inl (by simp)) ?_
        exact ((ih (fun x hx => hshape x (by simp [hx])) (some q) (entries ++ [att]) nofun).lower (by simp)).perm
          (by simp only [List.flatMap_append, List.flatMap_cons, List.flatMap_nil, List.append_nil, Option.toList]; exact .refl _)

theorem parseElement_tri (t : TagShape) (ht : t.wf) (attrs : List AttrShape) (hshape : ∀ a ∈ attrs, a.start.wf) :
    Spec [] [] (parseElement t attrs) (fun _ => []) (fun _ => True) (· ≠ OK) := by
  unfold parseElement
  refine (parseStag_tri t ht).step (.refl _) nofun fun ⟨ret, element⟩ ⟨e1, k1⟩ => ?_
  refine .if_ne_ok (fun hret => ?_) (fun hret => ?_)
  · cases e1 hret
    exact .ret (.refl _) ⟨rfl, trivial⟩ fun _ => hret
  · subst hret
    obtain ⟨e, rfl⟩ := Option.isSome_iff_exists.1 (k1 rfl)
    refine .deref (.inl List.mem_cons_self) ?_
    refine (attrTableLoop_tri (some e) attrs hshape none [] fun _ => rfl).step (by simp) nofun fun ⟨ret2, tbl, entries⟩ e2 => ?_
    refine .if_ne_ok (fun hret2 => ?_) (fun hret2 => ?_)
    · exact .ret (.of_eq (if_neg hret2)) ⟨rfl, trivial⟩ fun _ => hret2
    · subst hret2
      exact .release (freeAttrsTable_frees tbl entries e2) (.refl _) (.release (nameDestroy_frees (some e))
        (.refl _) (.ret (.refl _) ⟨rfl, trivial⟩ (by simp)))

end Wbxml.Model.Alloc
