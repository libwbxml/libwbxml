/-
  `takeWhile` / `dropWhile` / `getLast?` facts that core does not have.
-/
namespace Wbxml.Lemmas

theorem takeWhile_eq_self {α : Type} {p : α → Bool} {l : List α} (h : ∀ x ∈ l, p x = true) : l.takeWhile p = l := by
  simpa using List.takeWhile_append_of_pos (l₂ := []) h

theorem dropWhile_eq_nil_iff {α : Type} {p : α → Bool} : ∀ {l : List α}, l.dropWhile p = [] ↔ ∀ x ∈ l, p x = true
  | [] => by simp
  | a :: l => by
    by_cases ha : p a = true
    · rw [List.dropWhile_cons_of_pos ha, dropWhile_eq_nil_iff]; simp [ha]
    · rw [List.dropWhile_cons_of_neg ha]; simp [ha]

theorem getLast_split {α : Type} (l : List α) (x : α) (h : l.getLast? = some x) : l = l.dropLast ++ [x] := by
  obtain ⟨init, rfl⟩ := List.getLast?_eq_some_iff.1 h
  rw [List.dropLast_concat]

end Wbxml.Lemmas
