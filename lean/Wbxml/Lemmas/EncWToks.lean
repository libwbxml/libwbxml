/-
  What the round-trip and option theorems (C03, C06, C07) compare, and the table hypotheses under which a
  reader gives a token the meaning the encoder meant: the XML-level view of an event list (`Tok`, `toks`,
  `attrView`; `charsCat` for character data alone) and the "first row with a row's page and token agrees
  with the row" predicates `tagSemOk`, `attrNameSemOk`, `attrSemOk`, `valSemOk`.
-/
import Wbxml.Spec.Wbxml
import Wbxml.Model.Tables
namespace Wbxml.Lemmas.EncW
open Wbxml Wbxml.Model Wbxml.Spec

/-! ### The XML-level view of an event list

  `toks` forgets what C03 lists as normalisations of representation: character data is taken octet
  by octet (so the chunking into `chars` events does not matter), names are compared as XML names
  (token or literal does not matter), document start/end and processing instructions are dropped. -/

inductive Tok where
  | start (name : Bytes) (attrs : List (Bytes × Bytes))
  | stop (name : Bytes)
  | ch (b : UInt8)
  deriving DecidableEq, Repr

def attrView (x : Attr) : Bytes × Bytes := (x.name.xmlName, x.value)

def toks : Event → List Tok
  | .startElt n attrs => [.start n.xmlName (attrs.map attrView)]
  | .endElt n => [.stop n.xmlName]
  | .chars s => s.map .ch
  | _ => []

theorem toks_charsEv (b : Bytes) : (charsEv b).flatMap toks = b.map .ch := by
  unfold charsEv
  split
  · rename_i h; simp [List.isEmpty_iff.mp h]
  · simp [toks]

def charsCat : List Event → Bytes
  | [] => []
  | .chars s :: r => s ++ charsCat r
  | _ :: r => charsCat r

theorem charsCat_charsEv (b : Bytes) (r : List Event) : charsCat (charsEv b ++ r) = b ++ charsCat r := by
  unfold charsEv
  split
  · rename_i h; simp [List.isEmpty_iff.mp h]
  · simp [charsCat]

/-- No aliases in the tag table: the first row with a row's page and token has the same name, and
    names are NUL-free. (False for ActiveSync only: two names share a token there, which is the
    "earlier alias" normalisation of C03.) -/
def tagSemOk (l : Lang) : Bool :=
  match l.tags with
  | some tags => tags.all (fun r => nulFree r.name && (decTag tags r.page r.token).map (·.name) == some r.name)
  | none => true

/-- The same for the names of attribute start tokens. -/
def attrNameSemOk (l : Lang) : Bool :=
  match l.attrs with
  | some attrs => attrs.all (fun r => nulFree r.name && (decAttr attrs r.page r.token).map (·.name) == some r.name)
  | none => true

/-- The first row with an attribute start's page and token carries the same value prefix. -/
def attrSemOk (l : Lang) : Bool :=
  match l.attrs with
  | some attrs => attrs.all (fun r => (decAttr attrs r.page r.token).map (·.value) == some r.value)
  | none => true

/-- Every value token decodes (first row with its page and token) to a row with the same text. -/
def valSemOk (l : Lang) : Bool :=
  match l.values with
  | some vals => vals.all (fun r => (decVal vals r.page r.token).map (·.name) == some r.name)
  | none => true

end Wbxml.Lemmas.EncW
