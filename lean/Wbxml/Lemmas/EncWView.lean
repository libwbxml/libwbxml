/-
  WBXML encoder proofs: the readings of a written node as definitions about the source tree, and what holds
  between them. `srcToks` is the plain view C03 compares, `vNode` the typed view, `xNode` the exact tree a
  reader builds; `ViewN`, `ViewT`, `TreeT`, `WfN` say what the items written for a node mean to a reader at
  the same position (`Pos`). `vNode` is `ntoks` of `xNode` (`ntoks_xNode`) and, on a plain language, `srcToks`
  (`vNode_plain`): facts about the source tree alone, with which `TreeT` gives `ViewT` at every node
  (`ViewT.of_tree`) and `ViewN` at the root (`ViewN.of_viewT_root`). The induction that establishes `TreeT`
  and `WfN` is `EncWNode.encNode_seg`.
-/
import Wbxml.Lemmas.EncWPos
import Wbxml.Lemmas.EncWAttr
import Wbxml.Lemmas.RtExact
namespace Wbxml.Lemmas.EncW
open Wbxml Wbxml.Model Wbxml.Spec Wbxml.Lemmas.ParseSer Wbxml.Lemmas.Rt
open Wbxml.Model.Codec (mbEncode)

def isElt : Node → Bool
  | .elt _ _ _ => true
  | _ => false

/-! ### The source view (what C03 compares)

  `srcToks c n` is the XML-level view (`Tok`) of a node under the documented normalisations:
  element names and attribute names as XML names, attribute values as C strings with the trailing
  NUL the handlers get, attributes dropped for a language without attribute table, character data
  `normText` octet by octet. It is defined without any encoder state. -/

/-- Languages whose content the encoder never types: not Wireless Village, not DRMREL, no
    binary-flagged tags. -/
def plainLang (l : Lang) : Bool :=
  !isWv l.id && !(l.id == 1801) &&
  (match l.tags with | some t => t.all (fun r => r.opts &&& 1 == 0) | none => true)

mutual
/-- No CDATA section and no embedded document below. -/
def plainNode : Node → Bool
  | .elt _ _ kids => plainNodes kids
  | .text _ => true
  | .cdata _ => false
  | .tree _ _ _ => false
def plainNodes : List Node → Bool
  | [] => true
  | n :: r => plainNode n && plainNodes r
end

mutual
def srcToks (c : WCfg) : Node → List Tok
  | .elt name attrs kids => .start name.cName (srcAttrsView c attrs) :: (srcToksL c kids ++ [.stop name.cName])
  | .text s => (normText c s).map .ch
  | .cdata _ => []
  | .tree _ _ _ => []
def srcToksL (c : WCfg) : List Node → List Tok
  | [] => []
  | n :: r => srcToks c n ++ srcToksL c r
end

theorem plainLang_found (l : Lang) (name : Name) (tp : Nat) (hn : nameOver l name = true)
    (hp : plainLang l = true) : isBinaryTag (foundAt l tp name) = false := by
  cases hf : foundAt l tp name with
  | none => rfl
  | some r =>
    obtain ⟨⟨tags, ht, hm⟩, _⟩ := foundAt_spec l tp name hn r hf
    simp only [plainLang, ht, Bool.and_eq_true, List.all_eq_true, beq_iff_eq] at hp
    simp [isBinaryTag, hp.2 r hm]

/-- What a reader makes of the items written for a plain node is the source view. -/
def ViewN (c : WCfg) (n : Node) (st st' : WSt) (items : List Item) : Prop :=
  plainNode n = true → plainLang c.lang = true → noTypedAttr c.lang.id = true →
    st.inCdata = false → isBinaryTag st.curTag = false →
    st'.inCdata = false ∧ opqsItems items = [] ∧
    ∀ ctx : Ctx, Rd c st'.strtbl ctx → ∀ own,
      (evItems ctx own ⟨st.tagPage, st.attrPage⟩ items).1.flatMap toks = srcToks c n

/-! ### The typed source view (every language but Wireless Village / OTA settings)

  `vNode c parent cur tp n` is the XML-level view a reader has of what the encoder writes for the
  node `n` — typed content included: `%Datetime` attribute values (`vAttrValue`), text under a
  DRMREL `ds:KeyValue` and under a binary-flagged tag (`vText`), names as the reader's table
  resolves the token written (`nameView`: the first alias). It depends on the POSITION (name of the
  enclosing element, `current_tag`, tag code page in force — the page decides which row a literal
  name is resolved to) but on NO encoder option other than the language and the white-space policy
  and on no encoder state: it is defined by recursion over the source tree alone. -/

/-- The tag page in force after the tag. -/
def pageAfter (f : Option TagRow) (tp : Nat) : Nat :=
  match f with
  | some r => r.page % 256
  | none => tp

theorem tagLink_page (c : WCfg) (name : Name) (st : WSt) (sw tag) (h : TagLink c name st sw tag) :
    swPage sw st.tagPage = pageAfter (foundAt c.lang st.tagPage name) st.tagPage := by
  unfold TagLink at h
  cases hf : foundAt c.lang st.tagPage name with
  | some r => rw [hf] at h; rw [h.1, swPage_swFor]; rfl
  | none => rw [hf] at h; rw [h.1]; rfl

mutual
def vNode (c : WCfg) (parent : Option Name) (cur : Option TagRow) (tp : Nat) : Node → List Tok × Nat
  | .elt name attrs kids =>
    (.start (nameView c.lang (foundAt c.lang tp name) name.cName) (vAttrs c attrs) ::
      ((vNodes c (some name) (foundAt c.lang tp name) (pageAfter (foundAt c.lang tp name) tp) kids).1 ++
        [.stop (nameView c.lang (foundAt c.lang tp name) name.cName)]),
     (vNodes c (some name) (foundAt c.lang tp name) (pageAfter (foundAt c.lang tp name) tp) kids).2)
  | .text s => ((vText c parent cur s).map .ch, tp)
  | .cdata _ => ([], tp)
  | .tree _ _ _ => ([], tp)
def vNodes (c : WCfg) (parent : Option Name) (cur : Option TagRow) (tp : Nat) : List Node → List Tok × Nat
  | [] => ([], tp)
  | n :: r =>
    ((vNode c parent cur tp n).1 ++ (vNodes c parent none (vNode c parent cur tp n).2 r).1,
     (vNodes c parent none (vNode c parent cur tp n).2 r).2)
end

/-- What a reader at the same position (`Pos`) makes of the items written for a plain node is the
    typed source view; the tag page afterwards is the one the view computes. -/
def ViewT (c : WCfg) (parent : Option Name) (n : Node) (st st' : WSt) (items : List Item) : Prop :=
  plainNode n = true → isWv c.lang.id = false → (c.lang.id == 1901) = false → st.inCdata = false →
    st'.inCdata = false ∧ st'.tagPage = (vNode c parent st.curTag st.tagPage n).2 ∧
    ∀ ctx : Ctx, RdT c st'.strtbl ctx → ∀ (ty pre : Bool) (own slot : Option TagRow),
      Pos c ctx parent st.curTag ty pre own slot →
      (evItems ctx own ⟨st.tagPage, st.attrPage⟩ items).1.flatMap toks = (vNode c parent st.curTag st.tagPage n).1

/-! ### The exact round-trip tree (every language but Wireless Village / OTA settings)

  `xNode c parent cur tp n` is the TREE a reader builds from what the encoder writes for the plain
  node `n` — same recursion, same position arguments as `vNode`, but it returns a `Node`: element
  names with their representation (`exactName`: the first row with the page and token of the row
  found, or a literal), attributes `xAttr` (`exactAName` of `startRow`, value `vAttrValue`),
  character data `vText`, children folded with `addN` (empty text dropped, adjacent text merged).
  The tag page is threaded through `vNode`'s second component. -/

mutual
def xNode (c : WCfg) (parent : Option Name) (cur : Option TagRow) (tp : Nat) : Node → Node
  | .elt name attrs kids =>
    .elt (exactName c.lang (foundAt c.lang tp name) name.cName) (xAttrs c attrs)
      (xKids c (some name) (foundAt c.lang tp name) (pageAfter (foundAt c.lang tp name) tp) kids [])
  | .text s => .text (vText c parent cur s)
  | .cdata kids => .cdata kids
  | .tree l cs r => .tree l cs r
def xKids (c : WCfg) (parent : Option Name) (cur : Option TagRow) (tp : Nat) : List Node → List Node → List Node
  | [], acc => acc
  | n :: r, acc => xKids c parent none (vNode c parent cur tp n).2 r (addN acc (xNode c parent cur tp n))
end

theorem xNode_elt (c parent cur tp name attrs kids) : xNode c parent cur tp (.elt name attrs kids) =
    .elt (exactName c.lang (foundAt c.lang tp name) name.cName) (xAttrs c attrs)
      (xKids c (some name) (foundAt c.lang tp name) (pageAfter (foundAt c.lang tp name) tp) kids []) := by
  rw [xNode]
theorem xNode_text (c parent cur tp s) : xNode c parent cur tp (.text s) = .text (vText c parent cur s) := by rw [xNode]
theorem xKids_nil (c parent cur tp acc) : xKids c parent cur tp [] acc = acc := by rw [xKids]
theorem xKids_cons (c parent cur tp n r acc) : xKids c parent cur tp (n :: r) acc =
    xKids c parent none (vNode c parent cur tp n).2 r (addN acc (xNode c parent cur tp n)) := by rw [xKids]

theorem vNode_elt_2 (c parent cur tp name attrs kids) : (vNode c parent cur tp (.elt name attrs kids)).2 =
    (vNodes c (some name) (foundAt c.lang tp name) (pageAfter (foundAt c.lang tp name) tp) kids).2 := by
  rw [vNode]
theorem vNode_text_2 (c parent cur tp s) : (vNode c parent cur tp (.text s)).2 = tp := by rw [vNode]
theorem vNodes_nil_2 (c parent cur tp) : (vNodes c parent cur tp []).2 = tp := by rw [vNodes]
theorem vNodes_cons_2 (c parent cur tp n r) : (vNodes c parent cur tp (n :: r)).2 =
    (vNodes c parent none (vNode c parent cur tp n).2 r).2 := by rw [vNodes]

/-- The children a reader at the same position (`Pos`) reads off the items written for a plain node
    are the children so far plus the exact node `xNode`. -/
def TreeT (c : WCfg) (parent : Option Name) (n : Node) (st st' : WSt) (items : List Item) : Prop :=
  plainNode n = true → isWv c.lang.id = false → (c.lang.id == 1901) = false → st.inCdata = false →
    ∀ ctx : Ctx, RdT c st'.strtbl ctx → ∀ (ty pre : Bool) (own slot : Option TagRow),
      Pos c ctx parent st.curTag ty pre own slot → ∀ acc : List Node,
      kidsOfItems ctx own ⟨st.tagPage, st.attrPage⟩ items acc = addN acc (xNode c parent st.curTag st.tagPage n)

def TreeTL (c : WCfg) (parent : Option Name) (l : List Node) (st st' : WSt) (items : List Item) : Prop :=
  plainNodes l = true → isWv c.lang.id = false → (c.lang.id == 1901) = false → st.inCdata = false →
    ∀ ctx : Ctx, RdT c st'.strtbl ctx → ∀ (ty pre : Bool) (own slot : Option TagRow),
      Pos c ctx parent st.curTag ty pre own slot → ∀ acc : List Node,
      kidsOfItems ctx own ⟨st.tagPage, st.attrPage⟩ items acc = xKids c parent st.curTag st.tagPage l acc

/-- **Typed content included**: under the source hypotheses (each one a recorded finding, see
    `Lemmas/EncWTyped.lean`) the items written for a node are well-formed for every reader context
    that agrees with the encoder and stands at the same position (`Pos`). -/
def WfN (c : WCfg) (parent : Option Name) (n : Node) (st st' : WSt) (items : List Item) : Prop :=
  ∀ (ty pre : Bool), typedLangOk c.lang = true →
    noCdataInTyped c.lang ty n = true → validDatetimeAttrs c.lang n = true →
    b64TextDecodes c parent n = true → keyValueTextFirst c parent pre n = true →
    ∀ ctx, Compat c st'.strtbl ctx → (∀ d ∈ opqsItems items, d.length < 4294967296) →
    ∀ own slot, Pos c ctx parent st.curTag ty pre own slot →
      wfItems ctx own slot ⟨st.tagPage, st.attrPage⟩ items = true

def WfL (c : WCfg) (parent : Option Name) (l : List Node) (st st' : WSt) (items : List Item) : Prop :=
  ∀ (ty pre : Bool), typedLangOk c.lang = true →
    noCdataInTypedL c.lang ty l = true → validDatetimeAttrsL c.lang l = true →
    b64TextDecodesL c parent l = true → keyValueTextFirstL c parent pre l = true →
    ∀ ctx, Compat c st'.strtbl ctx → (∀ d ∈ opqsItems items, d.length < 4294967296) →
    ∀ own slot, Pos c ctx parent st.curTag ty pre own slot →
      wfItems ctx own slot ⟨st.tagPage, st.attrPage⟩ items = true

/-- Where the encoder stands after a plain node: outside CDATA, on the tag page `tp` (the one the
    typed view computes). -/
def PageT (plain : Bool) (tp : Nat) (st st' : WSt) : Prop :=
  plain = true → st.inCdata = false → st'.inCdata = false ∧ st'.tagPage = tp

/-- A plain tree of a plain language is written without OPAQUE. -/
def NoOpq (c : WCfg) (plain : Bool) (st : WSt) (items : List Item) : Prop :=
  plain = true → plainLang c.lang = true → noTypedAttr c.lang.id = true →
    st.inCdata = false → isBinaryTag st.curTag = false → opqsItems items = []

theorem xAttrs_view (c : WCfg) (han : attrNameSemOk c.lang = true) (l : List Attr)
    (hall : l.all (attrOver c.lang) = true) : (xAttrs c l).map attrView = vAttrs c l := by
  unfold xAttrs vAttrs
  cases hat : c.lang.attrs with
  | none => rfl
  | some attrs =>
    simp only [Option.isSome_some, ↓reduceIte, List.map_map]
    exact List.map_congr_left fun a ha => attrView_xAttr c a attrs hat (List.all_eq_true.mp hall a ha) han

mutual
theorem ntoks_xNode (c : WCfg) (han : attrNameSemOk c.lang = true) :
    ∀ (n : Node) (parent : Option Name) (cur : Option TagRow) (tp : Nat), nodeOver c.lang n = true →
      ntoks (xNode c parent cur tp n) = (vNode c parent cur tp n).1
  | .elt name attrs kids, parent, cur, tp, ho => by
    rw [nodeOver, Bool.and_eq_true, Bool.and_eq_true] at ho
    simp only [xNode, vNode, ntoks_elt, exactName_xmlName, xAttrs_view c han attrs ho.1.2,
      ntoksL_xKids c han kids _ _ _ [] ho.2, ntoksL_nil, List.nil_append]
  | .text s, parent, cur, tp, _ => by simp only [xNode, vNode, ntoks_text]
  | .cdata _, _, _, _, _ => by simp only [xNode, vNode, ntoks]
  | .tree _ _ _, _, _, _, _ => by simp only [xNode, vNode, ntoks]
theorem ntoksL_xKids (c : WCfg) (han : attrNameSemOk c.lang = true) :
    ∀ (l : List Node) (parent : Option Name) (cur : Option TagRow) (tp : Nat) (acc : List Node),
      nodesOver c.lang l = true →
      ntoksL (xKids c parent cur tp l acc) = ntoksL acc ++ (vNodes c parent cur tp l).1
  | [], _, _, _, acc, _ => by simp only [xKids, vNodes, List.append_nil]
  | n :: r, parent, cur, tp, acc, ho => by
    rw [nodesOver, Bool.and_eq_true] at ho
    simp only [xKids, vNodes, ntoksL_xKids c han r _ _ _ _ ho.2, ntoksL_addN,
      ntoks_xNode c han n parent cur tp ho.1, List.append_assoc]
end

theorem ViewT.of_tree {c : WCfg} {parent : Option Name} {n : Node} {st st' : WSt} {items : List Item}
    (hov : nodeOver c.lang n = true)
    (hst : PageT (plainNode n) (vNode c parent st.curTag st.tagPage n).2 st st')
    (hT : TreeT c parent n st st' items) : ViewT c parent n st st' items := by
  intro hpn hnw hno hcd
  refine ⟨(hst hpn hcd).1, (hst hpn hcd).2, fun ctx hr ty pre own slot hpos => ?_⟩
  have := congrArg ntoksL (hT hpn hnw hno hcd ctx hr ty pre own slot hpos [])
  rw [ntoksL_kidsOfItems, ntoksL_addN, ntoksL_nil, List.nil_append, List.nil_append] at this
  rw [this]
  exact ntoks_xNode c hr.an n parent st.curTag st.tagPage hov

/-- A plain language has the table facts of the typed forms: no binary-flagged tag, no OTA icon. -/
theorem plain_typedLangOk (l : Lang) (hp : plainLang l = true) (hn : noTypedAttr l.id = true) :
    typedLangOk l = true := by
  simp only [plainLang, Bool.and_eq_true] at hp
  simp only [noTypedAttr, Bool.and_eq_true, Bool.not_eq_true', beq_eq_false_iff_ne] at hn
  unfold typedLangOk
  rw [Bool.and_eq_true, List.all_eq_true, List.all_eq_true]
  refine ⟨fun r hr => ?_, fun r _ => by simp [iconRow, hn.2]⟩
  cases ht : l.tags with
  | none => rw [ht] at hr; cases hr
  | some t =>
    rw [ht] at hr hp
    simp only [List.all_eq_true] at hp
    rw [hp.2 r hr]; rfl

theorem plain_kvPar (l : Lang) (h : (l.id == 1801) = false) (p : Option Name) : kvPar l p = false := by
  cases p with
  | none => rfl
  | some nm => cases nm <;> simp [kvPar, isKvRow, h]

/-- With alias-free tag tables the reader resolves the token written to the source name. -/
theorem nameView_plain (l : Lang) (hts : tagSemOk l = true) (tp : Nat) (name : Name) (ho : nameOver l name = true) :
    nameView l (foundAt l tp name) name.cName = name.cName := by
  cases hf : foundAt l tp name with
  | none => rfl
  | some r =>
    obtain ⟨⟨tags, ht, hm⟩, hnm⟩ := foundAt_spec l tp name ho r hf
    simp only [tagSemOk, ht, List.all_eq_true, Bool.and_eq_true, beq_iff_eq] at hts
    have := (hts r hm).2
    simp only [nameView, ht]
    cases hd : decTag tags r.page r.token with
    | none => rfl
    | some d =>
      rw [hd, Option.map_some, Option.some.injEq] at this
      show d.name = name.cName
      rw [this, hnm]

theorem vAttrs_plain (c : WCfg) (hn : noTypedAttr c.lang.id = true) (attrs : List Attr) :
    vAttrs c attrs = srcAttrsView c attrs := by
  unfold vAttrs srcAttrsView
  split
  · exact List.map_congr_left fun a _ => vAttr_plain c a hn
  · rfl

mutual
theorem vNode_plain (c : WCfg) (hp : plainLang c.lang = true) (hn : noTypedAttr c.lang.id = true)
    (hts : tagSemOk c.lang = true) :
    ∀ (n : Node) (parent : Option Name) (cur : Option TagRow) (tp : Nat), nodeOver c.lang n = true →
      isBinaryTag cur = false → (vNode c parent cur tp n).1 = srcToks c n
  | .elt name attrs kids, parent, cur, tp, ho, _ => by
    rw [nodeOver, Bool.and_eq_true, Bool.and_eq_true] at ho
    have hb : isBinaryTag (foundAt c.lang tp name) = false := plainLang_found c.lang name tp ho.1.1 hp
    simp only [vNode, srcToks, nameView_plain _ hts tp name ho.1.1, vAttrs_plain c hn,
      vNodes_plain c hp hn hts kids _ _ _ ho.2 hb]
  | .text s, parent, cur, tp, _, hb => by
    simp only [plainLang, Bool.and_eq_true, Bool.not_eq_true'] at hp
    simp [vNode, srcToks, vText, hb, plain_kvPar _ hp.1.2]
  | .cdata _, _, _, _, _, _ => by simp only [vNode, srcToks]
  | .tree _ _ _, _, _, _, _, _ => by simp only [vNode, srcToks]
theorem vNodes_plain (c : WCfg) (hp : plainLang c.lang = true) (hn : noTypedAttr c.lang.id = true)
    (hts : tagSemOk c.lang = true) :
    ∀ (l : List Node) (parent : Option Name) (cur : Option TagRow) (tp : Nat), nodesOver c.lang l = true →
      isBinaryTag cur = false → (vNodes c parent cur tp l).1 = srcToksL c l
  | [], _, _, _, _, _ => by simp only [vNodes, srcToksL]
  | n :: r, parent, cur, tp, ho, hb => by
    rw [nodesOver, Bool.and_eq_true] at ho
    simp only [vNodes, srcToksL, vNode_plain c hp hn hts n parent cur tp ho.1 hb,
      vNodes_plain c hp hn hts r parent none _ ho.2 rfl]
end

theorem ViewN.of_viewT_root {c : WCfg} {n : Node} {st st' : WSt} {e : Elem}
    (hov : nodeOver c.lang n = true) (hcur : st.curTag = none)
    (hopq : NoOpq c (plainNode n) st [.elem e]) (hT : ViewT c none n st st' [.elem e]) :
    ViewN c n st st' [.elem e] := by
  intro hpn hpl hnta hcd hbin
  have hpl' := hpl
  simp only [plainLang, Bool.and_eq_true, Bool.not_eq_true'] at hpl'
  have hno := noTypedAttr_not_ota _ hnta
  obtain ⟨h1, _, hv⟩ := hT hpn hpl'.1.1 hno hcd
  refine ⟨h1, hopq hpn hpl hnta hcd hbin, fun ctx hr own => ?_⟩
  have := hv ctx ⟨hr.lang, hr.res, hr.ok, hr.vs, hr.as, hr.an, plain_typedLangOk _ hpl hnta⟩ false true none none
    (by rw [hcur]; exact Pos.root _ _ true)
  rw [evItems_single_events, evItem_elem] at this ⊢
  rw [this, hcur]
  exact vNode_plain c hpl hnta hr.ts n none none st.tagPage hov rfl

end Wbxml.Lemmas.EncW
