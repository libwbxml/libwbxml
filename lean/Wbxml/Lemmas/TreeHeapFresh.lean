/-
  C18 lemmas: what one `wbxml_tree_add_*` call does to the shape, to the abstract children of the parent
  and to the payloads — as the root, and under a live element / CDATA node: readings of `step_added`.
-/
import Wbxml.Lemmas.TreeHeapRun
namespace Wbxml.Model.TreeHeap
open Wbxml Wbxml.Model

theorem parentOK_of_cell {s : St} {P : Nat} {cP : Cell} (hcP : s.cellAt P = some cP) (hbr : cP.pay.isBranch = true) :
    parentOK s (some P) = true := by
  simp only [parentOK, hcP, hbr]

/-- The call `op` links a fresh childless node with payload `pay` as the last child of `P`: the node gets the
    next address, nothing else moves, no other payload changes. -/
structure AddsUnder (s : St) (G : BT) (P : Nat) (op : Op) (pay : Pay) (s' : St) : Prop where
  ok : stepChecked s op = .ok (.node (some s.heap.length), s')
  forest : Forest s' (BT.setKids P (BT.snoc (BT.kidsOf P G) (.node s.heap.length .nil .nil)) G)
  root : s'.root = s.root
  lang : s'.lang = s.lang
  charset : s'.charset = s.charset
  len : s'.heap.length = s.heap.length + 1
  fresh : s.heap.length ∉ G.ids
  new : payOf s'.cellAt s.heap.length = pay
  frame : ∀ j, j ≠ s.heap.length → payOf s'.cellAt j = payOf s.cellAt j

/-- What `Added.under` says of a call that adds one fresh node that is not text. -/
theorem step_adds_under {s : St} {G : BT} (hF : Forest s G) {P : Nat} {op : Op} {p : Pay} (hpre : pre s op = true)
    (h : op.adds s.lang = some (some P, p)) (hnt : p.isText = false) : ∃ s', AddsUnder s G P op p s' := by
  obtain ⟨r, s', G', e, hA⟩ := step_added hF hpre h
  obtain ⟨hr, K', hG, h1, h2, h3, _, _, hn⟩ := hA.under P rfl
  obtain ⟨hK, h4, h5⟩ := hn hnt
  subst hr hG hK
  exact ⟨s', stepChecked_of hpre e, hA.forest, h1, hA.keeps.1, hA.keeps.2, h2, h3, h4, h5⟩

theorem api_xml_elt_under {s : St} {G : BT} (hF : Forest s G) {P : Nat} {cP : Cell}
    (hcP : s.cellAt P = some cP) (hbr : cP.pay.isBranch = true) {L : Lang} (hl : s.lang = some L)
    (name : Bytes) (attrs : List (Bytes × Bytes)) :
    ∃ s', AddsUnder s G P (.addXmlEltAttrs (some P) name attrs)
      (.elt (xmlEltName L name).1 (attrs.map (xmlAttr L))) s' :=
  step_adds_under hF (by simp only [pre, parentOK_of_cell hcP hbr, hl, Option.isSome_some, Bool.and_self])
    (by rw [Op.adds, hl]; rfl) rfl

theorem api_cdata_under {s : St} {G : BT} (hF : Forest s G) {P : Nat} {cP : Cell}
    (hcP : s.cellAt P = some cP) (hbr : cP.pay.isBranch = true) :
    ∃ s', AddsUnder s G P (.addCdata (some P)) .cdata s' :=
  step_adds_under hF (parentOK_of_cell hcP hbr) rfl rfl

/-- On the empty heap the call `op` makes a childless node with payload `pay`, at address 0, the root. -/
structure AddsRoot (s : St) (op : Op) (pay : Pay) (s' : St) : Prop where
  ok : stepChecked s op = .ok (.node (some 0), s')
  forest : Forest s' (.node 0 .nil .nil)
  root : s'.root = some 0
  lang : s'.lang = s.lang
  charset : s'.charset = s.charset
  len : s'.heap.length = 1
  new : payOf s'.cellAt 0 = pay

theorem api_xml_elt_root {s : St} (hh : s.heap = []) (hr : s.root = none) {L : Lang} (hl : s.lang = some L)
    (name : Bytes) (attrs : List (Bytes × Bytes)) :
    ∃ s', AddsRoot s (.addXmlEltAttrs none name attrs) (.elt (xmlEltName L name).1 (attrs.map (xmlAttr L))) s' := by
  have hF := Forest.empty hh hr
  have hpre : pre s (.addXmlEltAttrs none name attrs) = true := by
    simp only [pre, parentOK, hl, Option.isSome_some, Bool.and_self]
  obtain ⟨r, s', G', e, hA⟩ := step_added hF hpre (by rw [Op.adds, hl]; rfl)
  obtain ⟨hr', hG, h1, h2, h3⟩ := (hA.top rfl).2 hr
  have hlen : s.heap.length = 0 := by rw [hh]; rfl
  rw [hlen] at hr' hG h1 h2 h3
  subst hr' hG
  exact ⟨s', stepChecked_of hpre e, hA.forest, h1, hA.keeps.1, hA.keeps.2, h2, h3⟩

/-- `wbxml_tree_add_text(tree, P, t)`: the chain below `P` becomes `K'`, whose plain nodes are the old ones with
    the text added by `Model.addKid`; the address is used up also when the text is merged; no payload outside
    the old chain changes. -/
structure AddsText (s : St) (G : BT) (P : Nat) (t : Bytes) (s' : St) (K' : BT) : Prop where
  ok : stepChecked s (.addText (some P) t) = .ok (.node (some s.heap.length), s')
  forest : Forest s' (BT.setKids P K' G)
  root : s'.root = s.root
  lang : s'.lang = s.lang
  charset : s'.charset = s.charset
  len : s'.heap.length = s.heap.length + 1
  abs : absBT s'.cellAt K' = addKid (absBT s.cellAt (BT.kidsOf P G)) (.text t)
  frame : ∀ j, j ∈ G.ids → j ∉ (BT.kidsOf P G).ids → payOf s'.cellAt j = payOf s.cellAt j

theorem api_text_under {s : St} {G : BT} (hF : Forest s G) {P : Nat} {cP : Cell}
    (hcP : s.cellAt P = some cP) (hbr : cP.pay.isBranch = true) (t : Bytes) : ∃ s' K', AddsText s G P t s' K' := by
  have hpre : pre s (.addText (some P) t) = true := parentOK_of_cell hcP hbr
  obtain ⟨r, s', G', e, hA⟩ := step_added hF hpre rfl
  obtain ⟨hr, K', hG, h1, h2, _, h4, h5, _⟩ := hA.under P rfl
  subst hr hG
  exact ⟨s', K', stepChecked_of hpre e, hA.forest, h1, hA.keeps.1, hA.keeps.2, h2, h4, h5⟩

end Wbxml.Model.TreeHeap
