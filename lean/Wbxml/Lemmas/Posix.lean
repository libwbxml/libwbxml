/-
  C14 — a check that implies `externOK` and looks at less: `Posix.functions` is written as the
  concatenation of its alphabetical parts, so a name is looked up under its initial instead of in
  the whole list; and that a name is on none of the four bad lists is one bit test against the
  residues of their keys (`maskOf`, `Lemmas/KeyBits.lean`).
-/
import Wbxml.Model.Posix
import Wbxml.Lemmas.KeyBits
namespace Wbxml.Model.Posix
open Wbxml Wbxml.Model

/-- The first byte of the name whose key is `k`, a letter in lower case (`fn_f` begins with `FD_CLR`). -/
def initial (k : Nat) : Nat := (k >>> (8 * (k.log2 / 8))) ||| 0x20

def functionParts : List (List Nat) :=
  [fn_us, fn_a, fn_b, fn_c, fn_d, fn_e, fn_f, fn_g, fn_h, fn_i, fn_j, fn_k, fn_l, fn_m, fn_n, fn_o, fn_p, fn_q,
   fn_r, fn_s, fn_t, fn_u, fn_v, fn_w, fn_y]

theorem functions_eq_flatten : functions = functionParts.flatten := by
  unfold functions functionParts
  simp only [List.flatten_cons, List.flatten_nil, List.append_nil, List.append_assoc]

def partFor (k : Nat) : List Nat :=
  (functionParts.find? (fun p => p.head?.map initial == some (initial k))).getD []

/-- Sound whatever `partFor` picks: it picks a part of `functions` or nothing. -/
theorem mem_functions_of_mem_partFor {k : Nat} (h : k ∈ partFor k) : k ∈ functions := by
  unfold partFor at h
  cases hf : functionParts.find? (fun p => p.head?.map initial == some (initial k)) with
  | none => simp [hf] at h
  | some p =>
    rw [hf] at h
    rw [functions_eq_flatten, List.mem_flatten]
    exact ⟨p, List.mem_of_find?_eq_some hf, h⟩

theorem externOK_spec (s : Bytes) : externOK s = true ↔
    keyOf (canon s) ∉ needNotBeThreadSafe ∧ keyOf (canon s) ∉ conditionallyNotThreadSafe ∧
    keyOf (canon s) ∉ implementationNotThreadSafe ∧ keyOf (canon s) ∉ processStateMutators ∧
    (keyOf (canon s) ∈ functions ∨ expatPrefix.isPrefixOf s = true ∨ isToolchain s = true) := by
  simp only [externOK, classify, apply_ite ExtClass.ok]
  -- a chain of `if`s with Bool leaves: read it as a Bool expression (the last three tests commute)
  simp only [ExtClass.ok, List.contains_iff_mem, Bool.if_false_left, Bool.if_true_left, Bool.if_false_right,
    Bool.and_true, Bool.and_eq_true, Bool.or_eq_true, Bool.not_eq_true', decide_eq_false_iff_not,
    decide_eq_true_eq, or_comm, or_left_comm, or_assoc]

def badKeys : List Nat :=
  needNotBeThreadSafe ++ conditionallyNotThreadSafe ++ implementationNotThreadSafe ++ processStateMutators

/-- Implies `externOK` (and, by its last disjunct, is implied by it); what the sweeps of C14
    evaluate: the bit set of `badKeys` is built once per declaration, and no list is walked but the
    part of `functions` with the name's initial and the toolchain lists; `externOK` itself is
    evaluated only for a name that is acceptable and whose residue is that of a bad key all the
    same. Residues are taken modulo 65521 as in `Lemmas/Tables.lean`. -/
def okMasked (s : Bytes) : Bool :=
  (!(maskOf (· % 65521) badKeys).testBit (keyOf (canon s) % 65521) &&
    ((partFor (keyOf (canon s))).contains (keyOf (canon s)) || expatPrefix.isPrefixOf s || isToolchain s)) ||
  externOK s

theorem externOK_of_masked {s : Bytes} (h : okMasked s = true) : externOK s = true := by
  rw [okMasked, Bool.or_eq_true] at h
  refine h.elim (fun h => ?_) id
  simp only [Bool.and_eq_true, Bool.not_eq_true', Bool.or_eq_true, List.contains_iff_mem] at h
  have hb := not_mem_of_mask (key := (· % 65521)) h.1
  simp only [badKeys, List.mem_append, not_or] at hb
  exact (externOK_spec s).2 ⟨hb.1.1.1, hb.1.1.2, hb.1.2, hb.2,
    h.2.elim (fun h => h.elim (fun h => .inl (mem_functions_of_mem_partFor h)) (fun h => .inr (.inl h)))
      (fun h => .inr (.inr h))⟩

theorem all_externOK_of_masked {l : List Bytes} (h : l.all okMasked = true) : l.all externOK = true :=
  List.all_eq_true.2 fun s hs => externOK_of_masked (List.all_eq_true.1 h s hs)

end Wbxml.Model.Posix
