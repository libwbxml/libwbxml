/-
  The XML printer `xmlNode` / `xmlNodes` (`Model/EncXml.lean`) as a pure function to a token list.

  `xtoks` is the printer without the encoder: it is given the four fields the printer reads (indentation
  level, `inContent`, `inCdata`, current tag) and returns the tokens appended and the two flags
  afterwards, with the same fuel discipline. It does not see the generation mode: the tokens say where
  indentation and line feeds go and which octets are character data; `XTok.render` decides what is
  written for them. `xml_toks` is the induction that ties the printer to `xtoks`; what the printer does
  with its state (the bytes already written are not looked at, `inCdata` is FALSE between two calls),
  its errors and the fuel a successful run had are read off `xtoks`. Two facts stay walks of `xmlNode`
  itself through its step equations (`xmlNode_elt` … `xmlNodes_cons`): `xml_fuel_mono`, an equation between
  two runs of the printer, and `XmlNs.xmlNode_sub`, which exhibits the call that prints a sub-node.

  The definitions the statements need stand here too, each in the namespace in which its users cite it:
  blank octets `isBlankB` with the C-string facts about escaped text (`Lemmas.EncW`), the fuel-and-shape
  test `okNode` / `okList` and the shape defect `rootedN` / `rootedL` (`Lemmas.ParserSafe`), `xmlOpen`
  with the step equations, `sh` / `shE` (a prefix under the output) and `xml_fuel_mono` (`Model.Flow`); in
  `Wbxml.Model` the tokens and `xtoks`, `cutToks`, `PrintErr` (what an error of the printer says),
  `needNode_eq_xmlFuel`, `W2XCfg.xcfg` with `treeToXml_toks`, and at the end what indented and compact generation share
  on elements with text children only (`xtoksL_texts`, `xmlNode_texts_only`).
-/
import Wbxml.Lemmas.ExceptBasic
import Wbxml.Lemmas.Bytes
import Wbxml.Lemmas.XmlPrint
import Wbxml.Model.Flow

namespace Wbxml.Lemmas.EncW
open Wbxml Wbxml.Model Wbxml.Spec

def isBlankB (b : UInt8) : Bool := b == 32 || b == 10

theorem nl_blank (c : Bool) : (if c then newLine else ([] : Bytes)).all isBlankB = true := by
  cases c <;> simp [newLine, isBlankB]

theorem sp_blank (c : Bool) (n : Nat) : (if c then spaces n else ([] : Bytes)).all isBlankB = true := by
  cases c
  · rfl
  · simp [spaces, isBlankB]


theorem cstrOf_nil : cstrOf [] = [] := rfl

theorem esc1_nulFree (c : Bool) (ch : UInt8) : nulFree (esc1 c ch) = (ch != 0) :=
  esc1_elim (motive := fun ch e => nulFree e = (ch != 0)) c rfl rfl rfl rfl rfl rfl (fun _ => rfl) (fun _ => rfl)
    (fun ch _ _ _ _ _ _ _ => by simp [nulFree]) ch

theorem nulFree_escape (c : Bool) (s : Bytes) : nulFree (xmlEscape c s) = nulFree s := by
  induction s with
  | nil => rfl
  | cons ch r ih =>
    rw [xmlEscape_cons, nulFree_append, ih, esc1_nulFree]
    simp [nulFree]

theorem cstrOf_escape (c : Bool) (s : Bytes) : cstrOf (xmlEscape c s) = xmlEscape c (cstrOf s) := by
  induction s with
  | nil => rfl
  | cons ch r ih =>
    rw [xmlEscape_cons, cstrOf_append, esc1_nulFree, cstrOf_cons]
    by_cases hb : (ch == 0) = true
    · have : ch = 0 := by simpa using hb
      subst this
      simp only [bne_self_eq_false, Bool.false_eq_true, ↓reduceIte, beq_self_eq_true]
      cases c <;> rfl
    · have hb' : (ch == 0) = false := by simpa using hb
      have hne : (ch != 0) = true := by simp [bne, hb']
      simp only [hne, ↓reduceIte, hb', Bool.false_eq_true, ih, xmlEscape_cons]

theorem blank_nulFree (w : Bytes) (h : w.all isBlankB = true) : nulFree w = true := by
  simp only [nulFree, List.all_eq_true] at h ⊢
  intro x hx
  have := h x hx
  simp only [isBlankB, Bool.or_eq_true, beq_iff_eq] at this
  rcases this with rfl | rfl <;> rfl


end Wbxml.Lemmas.EncW

namespace Wbxml.Lemmas.ParserSafe
open Wbxml Wbxml.Model

/-! The shape condition under which XML generation of a node is total with fuel `f`: the nesting
    (elements, sibling chains, embedded documents) fits into `f` units — `xmlNode` spends one unit per
    level and `xmlNodes` one per sibling — and no embedded document with a language lacks its root
    (the only `Err.ub` flag of the generator). Independent of options and printer state. -/
mutual
def okNode : Nat → Node → Bool
  | 0, _ => false
  | f + 1, .elt _ _ kids => okList f kids
  | _ + 1, .text _ => true
  | f + 1, .cdata kids => okList f kids
  | _ + 1, .tree none _ _ => true
  | _ + 1, .tree (some _) _ none => false
  | f + 1, .tree (some _) _ (some r) => okNode f r
def okList : Nat → List Node → Bool
  | 0, _ => false
  | _ + 1, [] => true
  | f + 1, n :: rest => okNode f n && okList f rest
end

/-! The shape defect on its own, without any fuel: `rootedN n` says that no embedded document in `n`
    that has a language lacks its root. -/
mutual
def rootedN : Node → Bool
  | .elt _ _ kids => rootedL kids
  | .text _ => true
  | .cdata kids => rootedL kids
  | .tree none _ _ => true
  | .tree (some _) _ none => false
  | .tree (some _) _ (some r) => rootedN r
def rootedL : List Node → Bool
  | [] => true
  | n :: rest => rootedN n && rootedL rest
end

end Wbxml.Lemmas.ParserSafe

namespace Wbxml.Model.Flow
open Wbxml Wbxml.Model Wbxml.Lemmas.XmlPrint

def xmlOpen (c : XCfg) (p : Parent) (name : Name) (attrs : List Attr) (kids : List Node) (st : XSt) : XSt :=
  xmlEndAttrs c kids
    (if c.lang.attrs.isSome then attrs.foldl (fun st a => xmlAttr c a st) (xmlTag c p name st) else xmlTag c p name st)

theorem xmlNode_zero (c : XCfg) (p : Parent) (n : Node) (st : XSt) : xmlNode c p 0 n st = .error .fuel := by
  simp only [xmlNode]

theorem xmlNodes_zero (c : XCfg) (p : Parent) (ns : List Node) (st : XSt) : xmlNodes c p 0 ns st = .error .fuel := by
  simp only [xmlNodes]

theorem xmlNode_elt (c : XCfg) (p : Parent) (f : Nat) (name attrs kids) (st : XSt) :
    xmlNode c p (f + 1) (.elt name attrs kids) st =
      xmlNodes c (childScope p name) f kids (xmlOpen c p name attrs kids st) >>= fun st1 =>
        .ok { (if kids.isEmpty then st1 else xmlEndTag c name kids st1) with curTag := none } := by
  simp only [xmlNode, xmlOpen]
  rfl

theorem xmlNode_text (c : XCfg) (p : Parent) (f : Nat) (s : Bytes) (st : XSt) :
    xmlNode c p (f + 1) (.text s) st = xmlText c s st >>= fun st1 => .ok { st1 with curTag := none } := by
  simp only [xmlNode]
  rfl

theorem xmlNode_cdata (c : XCfg) (p : Parent) (f : Nat) (kids : List Node) (st : XSt) :
    xmlNode c p (f + 1) (.cdata kids) st =
      xmlNodes c p f kids { st with inCdata := true, out := st.out ++ b!"<![CDATA[" } >>= fun st1 =>
        .ok { st1 with inCdata := false, out := st1.out ++ b!"]]>", curTag := none } := by
  simp only [xmlNode]
  rfl

theorem xmlNode_tree_none (c : XCfg) (p : Parent) (f : Nat) (cs : Nat) (root : Option Node) (st : XSt) :
    xmlNode c p (f + 1) (.tree none cs root) st = .error (.code 12) := by
  simp only [xmlNode]

theorem xmlNode_tree_noroot (c : XCfg) (p : Parent) (f : Nat) (l : Lang) (cs : Nat) (st : XSt) :
    xmlNode c p (f + 1) (.tree (some l) cs none) st = .error (.ub "nested tree without root") := by
  simp only [xmlNode]

theorem xmlNode_tree (c : XCfg) (p : Parent) (f : Nat) (l : Lang) (cs : Nat) (r : Node) (st : XSt) :
    xmlNode c p (f + 1) (.tree (some l) cs (some r)) st =
      xmlNode { c with lang := l } .none f r { indent := st.indent } >>= fun st' =>
        .ok { st with out := st.out ++ cstrOf st'.out, curTag := none } := by
  simp only [xmlNode]
  rfl

theorem xmlNodes_nil (c : XCfg) (p : Parent) (f : Nat) (st : XSt) : xmlNodes c p (f + 1) [] st = .ok st := by
  simp only [xmlNodes]

theorem xmlNodes_cons (c : XCfg) (p : Parent) (f : Nat) (n : Node) (rest : List Node) (st : XSt) :
    xmlNodes c p (f + 1) (n :: rest) st = xmlNode c p f n st >>= xmlNodes c p f rest := by
  simp only [xmlNodes]

theorem needNode_pos (n : Node) : 1 ≤ needNode n := by
  cases n with
  | elt a b k => simp only [needNode]; omega
  | text s => simp only [needNode]; omega
  | cdata k => simp only [needNode]; omega
  | tree l c r => cases r <;> simp only [needNode] <;> omega

theorem needList_pos (ns : List Node) : 1 ≤ needList ns := by
  cases ns <;> simp only [needList] <;> omega

theorem xml_fuel_mono (f : Nat) :
    (∀ (c : XCfg) (p : Parent) (n : Node) (st : XSt) (g : Nat), needNode n ≤ f → needNode n ≤ g →
        xmlNode c p f n st = xmlNode c p g n st) ∧
    (∀ (c : XCfg) (p : Parent) (ns : List Node) (st : XSt) (g : Nat), needList ns ≤ f → needList ns ≤ g →
        xmlNodes c p f ns st = xmlNodes c p g ns st) := by
  induction f with
  | zero =>
    exact ⟨fun c p n st g hf _ => by have := needNode_pos n; omega,
           fun c p ns st g hf _ => by have := needList_pos ns; omega⟩
  | succ f ih =>
    refine ⟨?_, ?_⟩
    · intro c p n st g hf hg
      cases g with
      | zero => have := needNode_pos n; omega
      | succ g =>
        cases n with
        | elt name attrs kids =>
          simp only [needNode] at hf hg
          rw [xmlNode_elt, xmlNode_elt, ih.2 c _ kids _ g (by omega) (by omega)]
        | text s => rw [xmlNode_text, xmlNode_text]
        | cdata kids =>
          simp only [needNode] at hf hg
          rw [xmlNode_cdata, xmlNode_cdata, ih.2 c _ kids _ g (by omega) (by omega)]
        | tree l cs r =>
          cases l with
          | none => rw [xmlNode_tree_none, xmlNode_tree_none]
          | some l =>
            cases r with
            | none => rw [xmlNode_tree_noroot, xmlNode_tree_noroot]
            | some r =>
              simp only [needNode] at hf hg
              rw [xmlNode_tree, xmlNode_tree, ih.1 _ _ r _ g (by omega) (by omega)]
    · intro c p ns st g hf hg
      cases g with
      | zero => have := needList_pos ns; omega
      | succ g =>
        cases ns with
        | nil => rw [xmlNodes_nil, xmlNodes_nil]
        | cons n rest =>
          simp only [needList] at hf hg
          rw [xmlNodes_cons, xmlNodes_cons, ih.1 c p n st g (by omega) (by omega)]
          cases xmlNode c p g n st with
          | error e => rfl
          | ok st1 => exact ih.2 c p rest st1 g (by omega) (by omega)

theorem xmlNode_mono (c : XCfg) (p : Parent) (n : Node) (st : XSt) (f : Nat) (h : needNode n ≤ f) :
    xmlNode c p f n st = xmlNode c p (needNode n) n st :=
  (xml_fuel_mono f).1 c p n st _ h (Nat.le_refl _)

theorem xmlNodes_mono (c : XCfg) (p : Parent) (ns : List Node) (st : XSt) (f : Nat) (h : needList ns ≤ f) :
    xmlNodes c p f ns st = xmlNodes c p (needList ns) ns st :=
  (xml_fuel_mono f).2 c p ns st _ h (Nat.le_refl _)

/-- The state with `o` put in front of the output (`shE` for a result): how "the printer does not look at what is
    already written" is said. -/
def sh (o : Bytes) (st : XSt) : XSt := { st with out := o ++ st.out }

def shE (o : Bytes) : Except Err XSt → Except Err XSt
  | .ok st => .ok (sh o st)
  | .error e => .error e


end Wbxml.Model.Flow

namespace Wbxml.Model
open Wbxml Wbxml.Lemmas Wbxml.Lemmas.EncW Wbxml.Lemmas.XmlPrint Wbxml.Lemmas.ParserSafe Wbxml.Model.Flow

def renderToks (c : XCfg) (ts : List XTok) : Bytes := ts.flatMap (XTok.render c)

theorem renderToks_nil (c : XCfg) : renderToks c [] = [] := rfl

theorem renderToks_cons (c : XCfg) (t : XTok) (ts : List XTok) : renderToks c (t :: ts) = t.render c ++ renderToks c ts := rfl

theorem renderToks_append (c : XCfg) (a b : List XTok) : renderToks c (a ++ b) = renderToks c a ++ renderToks c b :=
  List.flatMap_append

/-- `nsDecl` of a language: `xtoks` is not given a whole `XCfg`, and the declaration depends on the language only. -/
def nsDeclL (lang : Lang) (p : Parent) (name : Name) : Bytes :=
  nsDecl { lang := lang, gen := 0, delta := 0, ignoreEmpty := false, removeBlanks := false } p name

theorem nsDecl_eq_L (c : XCfg) (p : Parent) (name : Name) : nsDecl c p name = nsDeclL c.lang p name := rfl

/-- What `xml_encode_attr` writes: markup around the value, which is character data. -/
def attrToks (a : Attr) : List XTok :=
  [.mk ([32] ++ cstrOf a.name.xmlName ++ b!"=\""), .txt (cstrOf a.value), .mk [34]]

/-- The tokens of `xml_encode_tag`, the attribute list and `xml_encode_end_attrs`: indentation, `<name`, the
    namespace declaration, the attributes, `/>` or `>`, and the line feed of indented generation. -/
def openToks (lang : Lang) (p : Parent) (name : Name) (attrs : List Attr) (kids : List Node) (ind : UInt8) : List XTok :=
  [.sp ind, .mk ([60] ++ name.xmlName ++ nsDeclL lang p name)] ++
    (if lang.attrs.isSome then attrs.flatMap attrToks else []) ++
    [.mk (if kids.isEmpty then b!"/>" else [62])] ++ (if kids.isEmpty || haveChildElt kids then [.nl] else [])

/-- The tokens of `xml_encode_end_tag`; `ic` is `inContent` when it is called (a line feed after character data). -/
def closeToks (name : Name) (kids : List Node) (ind : UInt8) (ic : Bool) : List XTok :=
  (if haveChildElt kids then (if ic then [.nl] else []) ++ [.sp ind] else []) ++
    [.mk (b!"</" ++ name.xmlName ++ [62]), .nl]

/-- The token list of a rendering cut at its first NUL octet (an embedded document is appended as a C string). -/
def cutToks : List XTok → List XTok
  | [] => []
  | .mk bs :: r => if Spec.nulFree bs then .mk bs :: cutToks r else [.mk (cstrOf bs)]
  | .txt s :: r => if Spec.nulFree s then .txt s :: cutToks r else [.txt (cstrOf s)]
  | t :: r => t :: cutToks r

theorem cut_renderToks (c : XCfg) (ts : List XTok) : cstrOf (renderToks c ts) = renderToks c (cutToks ts) := by
  induction ts with
  | nil => rfl
  | cons t r ih =>
    cases t with
    | mk bs =>
      simp only [cutToks, renderToks_cons, XTok.render, cstrOf_append]
      cases Spec.nulFree bs with
      | true => simp only [↓reduceIte, renderToks_cons, XTok.render, ih]
      | false => simp [renderToks, XTok.render]
    | txt s =>
      simp only [cutToks, renderToks_cons, XTok.render, cstrOf_append, nulFree_escape]
      cases Spec.nulFree s with
      | true => simp only [↓reduceIte, renderToks_cons, XTok.render, ih]
      | false => simp [renderToks, XTok.render, cstrOf_escape]
    | sp k =>
      simp only [cutToks, renderToks_cons, cstrOf_append, ih]
      have h : Spec.nulFree (XTok.render c (.sp k)) = true := blank_nulFree _ (sp_blank _ _)
      rw [if_pos h]
    | nl =>
      simp only [cutToks, renderToks_cons, cstrOf_append, ih]
      have h : Spec.nulFree (XTok.render c .nl) = true := blank_nulFree _ (nl_blank _)
      rw [if_pos h]

/-- Tokens appended, `inContent` and `inCdata` afterwards. -/
abbrev TR := List XTok × Bool × Bool

mutual
/-- `xmlNode` without the encoder: given the indentation level, `inContent`, `inCdata` and the current tag, the tokens
    appended and the two flags afterwards. The level is counted as in indented generation whatever the mode. -/
def xtoks (k : TokCfg) (p : Parent) : Nat → Node → UInt8 → Bool → Bool → Option TagRow → Except Err TR
  | 0, _, _, _, _, _ => .error .fuel
  | f + 1, .elt name attrs kids, ind, ic, cd, _ => do
    let r ← xtoksL k (childScope p name) f kids (if haveChildElt kids then ind + 1 else ind) ic cd (tagOf name)
    pure (openToks k.lang p name attrs kids ind ++ r.1 ++ (if kids.isEmpty then [] else closeToks name kids ind r.2.1),
          if kids.isEmpty then r.2.1 else false, r.2.2)
  | _ + 1, .text s, _, ic, cd, cur =>
    (textTokC k cd cur s).map fun
      | none => ([], ic, cd)
      | some t => ([t], true, cd)
  | f + 1, .cdata kids, ind, ic, _, cur => do
    let r ← xtoksL k p f kids ind ic true cur
    pure (.mk b!"<![CDATA[" :: r.1 ++ [.mk b!"]]>"], r.2.1, false)
  | f + 1, .tree lang _ root, ind, ic, cd, _ =>
    match lang, root with
    | none, _ => .error (.code 12)
    | some _, none => .error (.ub "nested tree without root")
    | some l, some r => do
      let x ← xtoks { k with lang := l } .none f r ind false false none
      pure (cutToks x.1, ic, cd)
def xtoksL (k : TokCfg) (p : Parent) : Nat → List Node → UInt8 → Bool → Bool → Option TagRow → Except Err TR
  | 0, _, _, _, _, _ => .error .fuel
  | _ + 1, [], _, ic, cd, _ => .ok ([], ic, cd)
  | f + 1, n :: rest, ind, ic, cd, cur => do
    let a ← xtoks k p f n ind ic cd cur
    let b ← xtoksL k p f rest ind a.2.1 a.2.2 none
    pure (a.1 ++ b.1, b.2)
end

/-- The encoder after a run of `xtoks` that returned `r`; `cur` is the current tag afterwards (`none` after a node). -/
def XSt.put (st : XSt) (c : XCfg) (cur : Option TagRow) (r : TR) : XSt :=
  { st with out := st.out ++ renderToks c r.1, inContent := r.2.1, inCdata := r.2.2, curTag := cur }


theorem renderToks_attrs (c : XCfg) (attrs : List Attr) :
    renderToks c (attrs.flatMap attrToks) = attrs.flatMap (attrBytes (c.gen == 2)) := by
  induction attrs with
  | nil => rfl
  | cons a r ih =>
    rw [List.flatMap_cons, renderToks_append, ih, List.flatMap_cons]
    simp [renderToks, attrToks, XTok.render, attrBytes]

theorem renderToks_openToks (c : XCfg) (lang : Lang) (p : Parent) (name : Name) (attrs : List Attr) (kids : List Node)
    (ind : UInt8) :
    renderToks c (openToks lang p name attrs kids ind) =
      XTok.render c (.sp ind) ++ [60] ++ name.xmlName ++ nsDeclL lang p name ++
        (if lang.attrs.isSome then attrs.flatMap (attrBytes (c.gen == 2)) else []) ++
        (if kids.isEmpty then b!"/>" else [62]) ++ (if kids.isEmpty || haveChildElt kids then XTok.render c .nl else []) := by
  unfold openToks
  rw [renderToks_append, renderToks_append, renderToks_append]
  congr 1
  · congr 1
    · congr 1
      · simp only [renderToks_cons, renderToks_nil, XTok.render, List.append_nil, List.append_assoc]
      · split
        · exact renderToks_attrs c attrs
        · rfl
    · exact List.append_nil _
  · split
    · exact List.append_nil _
    · rfl

theorem renderToks_closeToks (c : XCfg) (name : Name) (kids : List Node) (ind : UInt8) (ic : Bool) :
    renderToks c (closeToks name kids ind ic) =
      (if haveChildElt kids then (if ic then XTok.render c .nl else []) ++ XTok.render c (.sp ind) else []) ++
        b!"</" ++ name.xmlName ++ [62] ++ XTok.render c .nl := by
  unfold closeToks
  rw [renderToks_append]
  cases haveChildElt kids <;> cases ic <;>
    simp only [renderToks_cons, renderToks_nil, renderToks_append, XTok.render, ↓reduceIte, Bool.false_eq_true,
      List.append_nil, List.nil_append, List.append_assoc]

theorem xmlOpen_toks (c : XCfg) (p : Parent) (name : Name) (attrs : List Attr) (kids : List Node) (st : XSt)
    (ind : UInt8) (hind : (c.gen == 1) = true → ind = st.indent) :
    xmlOpen c p name attrs kids st =
      { st with curTag := tagOf name,
                indent := if c.gen == 1 && haveChildElt kids then st.indent + 1 else st.indent,
                out := st.out ++ renderToks c (openToks c.lang p name attrs kids ind) } := by
  have hsp : XTok.render c (.sp ind) = if c.gen == 1 then spaces (st.indent.toNat * c.delta.toNat) else [] := by
    simp only [XTok.render]
    split
    · rename_i h; rw [hind h]
    · rfl
  have hnl : (if kids.isEmpty || haveChildElt kids then XTok.render c .nl else []) = endAttrsWs c kids := by
    unfold endAttrsWs
    cases hg : c.gen == 1 <;> cases (kids.isEmpty || haveChildElt kids) <;> simp [XTok.render, hg]
  unfold xmlOpen
  rw [xmlEndAttrs_out, renderToks_openToks, hsp, hnl, ← nsDecl_eq_L]
  split
  · rw [xmlAttrs_out, xmlTag_out]; simp only [List.append_assoc]
  · rw [xmlTag_out]; simp only [List.append_assoc, List.append_nil]

theorem xmlEndTag_toks (c : XCfg) (name : Name) (kids : List Node) (st : XSt) (ind : UInt8)
    (hind : (c.gen == 1 && haveChildElt kids) = true → st.indent = ind + 1) :
    xmlEndTag c name kids st =
      { st with out := st.out ++ renderToks c (closeToks name kids ind st.inContent),
                indent := if c.gen == 1 && haveChildElt kids then ind else st.indent,
                inContent := false } := by
  have hw : (if haveChildElt kids then (if st.inContent then XTok.render c .nl else []) ++ XTok.render c (.sp ind) else []) =
      endTagWs c kids st := by
    unfold endTagWs
    cases hd : haveChildElt kids with
    | false => simp
    | true =>
      cases hg : c.gen == 1 with
      | false => cases st.inContent <;> simp [XTok.render, hg]
      | true =>
        have := hind (by simp [hg, hd])
        rw [this, UInt8.add_sub_cancel]
        cases st.inContent <;> simp [XTok.render, hg]
  rw [xmlEndTag_out, renderToks_closeToks, hw]
  cases hd : (c.gen == 1 && haveChildElt kids) with
  | false => simp [XTok.render, List.append_assoc]
  | true =>
    have := hind hd
    simp [XTok.render, List.append_assoc, this, UInt8.add_sub_cancel]

/-- **The printer is `xtoks` rendered.** The level handed to `xtoks` matters in indented generation only. -/
theorem xml_toks (f : Nat) :
    (∀ (c : XCfg) (p : Parent) (n : Node) (st : XSt) (ind : UInt8), ((c.gen == 1) = true → ind = st.indent) →
      xmlNode c p f n st = (xtoks c.tk p f n ind st.inContent st.inCdata st.curTag).map (st.put c none)) ∧
    (∀ (c : XCfg) (p : Parent) (ns : List Node) (st : XSt) (ind : UInt8), ((c.gen == 1) = true → ind = st.indent) →
      xmlNodes c p f ns st =
        (xtoksL c.tk p f ns ind st.inContent st.inCdata st.curTag).map (st.put c (if ns.isEmpty then st.curTag else none))) := by
  induction f with
  | zero => exact ⟨fun c p n st _ _ => by rw [xmlNode_zero]; rfl, fun c p ns st _ _ => by rw [xmlNodes_zero]; rfl⟩
  | succ f ih =>
    refine ⟨?_, ?_⟩
    · intro c p n st ind hind
      cases n with
      | elt name attrs kids =>
        -- `xmlOpen_toks`, the children by induction, then `xmlEndTag_toks` (nothing for an empty element)
        rw [xmlNode_elt, xmlOpen_toks c p name attrs kids st ind hind, xtoks]
        have hind' : (c.gen == 1) = true → (if haveChildElt kids then ind + 1 else ind) =
            (if c.gen == 1 && haveChildElt kids then st.indent + 1 else st.indent) := by
          intro hg; rw [hg, hind hg]; simp
        rw [ih.2 c _ kids _ _ hind', map_bind_eq, bind_map_eq]
        congr 1
        funext r
        cases hk : kids.isEmpty with
        | true =>
          have : kids = [] := List.isEmpty_iff.mp hk
          subst this
          simp [XSt.put, pure, Except.pure, Except.map, renderToks_append, haveChildElt, XCfg.tk, List.append_assoc]
        | false =>
          simp only [Bool.false_eq_true, ↓reduceIte]
          rw [xmlEndTag_toks c name kids _ ind (by intro hd; simp only [XSt.put, hd, ↓reduceIte]; rw [hind (by simp at hd; simp [hd.1])])]
          simp only [XSt.put, pure, Except.pure, Except.map, renderToks_append, XCfg.tk, List.append_assoc, Except.ok.injEq]
          cases hd : (c.gen == 1 && haveChildElt kids) with
          | false => rfl
          | true => simp only [↓reduceIte]; rw [hind (by simp at hd; simp [hd.1])]
      | text s =>
        -- `xmlText_eq`: both sides map the same `textTokC`
        rw [Flow.xmlNode_text, xtoks, xmlText_eq, map_bind_eq]
        cases textTokC c.tk st.inCdata st.curTag s with
        | error e => rfl
        | ok x => cases x <;> simp [Except.map, bind, Except.bind, XSt.put, XSt.addTok, renderToks]
      | cdata kids =>
        -- the children by induction between the two markup tokens
        rw [xmlNode_cdata, xtoks, ih.2 c p kids { st with inCdata := true, out := st.out ++ b!"<![CDATA[" } ind hind, map_bind_eq, bind_map_eq]
        congr 1
        funext r
        simp [XSt.put, pure, Except.pure, Except.map, renderToks, XTok.render, List.append_assoc]
      | tree l cs r =>
        cases l with
        | none => rw [xmlNode_tree_none, xtoks]; rfl
        | some l =>
          cases r with
          | none => rw [xmlNode_tree_noroot, xtoks]; rfl
          | some r =>
            -- the embedded run by induction; `cut_renderToks` for the C-string copy
            rw [xmlNode_tree, xtoks, ih.1 { c with lang := l } .none r { indent := st.indent } ind hind, map_bind_eq, bind_map_eq]
            congr 1
            funext x
            simp [XSt.put, pure, Except.pure, Except.map, cut_renderToks]
            rfl
    · intro c p ns st ind hind
      cases ns with
      | nil => rw [xmlNodes_nil, xtoksL]; simp [Except.map, XSt.put, renderToks]
      | cons n rest =>
        rw [xmlNodes_cons, xtoksL, ih.1 c p n st ind hind, map_bind_eq, bind_map_eq]
        congr 1
        funext a
        rw [ih.2 c p rest (st.put c none a) ind hind]
        show Except.map _ (xtoksL c.tk p f rest ind a.2.1 a.2.2 none) = _
        cases xtoksL c.tk p f rest ind a.2.1 a.2.2 none with
        | error e => rfl
        | ok b => simp [XSt.put, Except.map, bind, Except.bind, pure, Except.pure, renderToks_append, List.append_assoc]

theorem xmlNode_toks (c : XCfg) (p : Parent) (f : Nat) (n : Node) (st : XSt) :
    xmlNode c p f n st = (xtoks c.tk p f n st.indent st.inContent st.inCdata st.curTag).map (st.put c none) :=
  (xml_toks f).1 c p n st st.indent (fun _ => rfl)

theorem xmlNodes_toks (c : XCfg) (p : Parent) (f : Nat) (ns : List Node) (st : XSt) :
    xmlNodes c p f ns st = (xtoksL c.tk p f ns st.indent st.inContent st.inCdata st.curTag).map
      (st.put c (if ns.isEmpty then st.curTag else none)) :=
  (xml_toks f).2 c p ns st st.indent (fun _ => rfl)

theorem xmlNode_ok_toks {c : XCfg} {p : Parent} {f : Nat} {n : Node} {st st' : XSt} (h : xmlNode c p f n st = .ok st') :
    ∃ r, xtoks c.tk p f n st.indent st.inContent st.inCdata st.curTag = .ok r ∧ st' = st.put c none r := by
  rw [xmlNode_toks] at h; exact map_eq_ok h

theorem xmlNodes_ok_toks {c : XCfg} {p : Parent} {f : Nat} {ns : List Node} {st st' : XSt}
    (h : xmlNodes c p f ns st = .ok st') :
    ∃ r, xtoksL c.tk p f ns st.indent st.inContent st.inCdata st.curTag = .ok r ∧
      st' = st.put c (if ns.isEmpty then st.curTag else none) r := by
  rw [xmlNodes_toks] at h; exact map_eq_ok h

theorem xmlNode_sh (c : XCfg) (p : Parent) (f : Nat) (n : Node) (o : Bytes) (st : XSt) :
    xmlNode c p f n (sh o st) = shE o (xmlNode c p f n st) := by
  rw [xmlNode_toks, xmlNode_toks]
  show Except.map _ (xtoks c.tk p f n st.indent st.inContent st.inCdata st.curTag) = _
  cases xtoks c.tk p f n st.indent st.inContent st.inCdata st.curTag with
  | error e => rfl
  | ok r => simp [Except.map, shE, sh, XSt.put, List.append_assoc]

/-- `parse_node` leaves every CDATA section it enters. -/
theorem xtoks_cd (f : Nat) :
    (∀ (k : TokCfg) (p : Parent) (n : Node) (ind : UInt8) (ic : Bool) (cur : Option TagRow) (r : TR),
      xtoks k p f n ind ic false cur = .ok r → r.2.2 = false) ∧
    (∀ (k : TokCfg) (p : Parent) (ns : List Node) (ind : UInt8) (ic : Bool) (cur : Option TagRow) (r : TR),
      xtoksL k p f ns ind ic false cur = .ok r → r.2.2 = false) := by
  induction f with
  | zero => exact ⟨fun _ _ _ _ _ _ _ h => (by rw [xtoks] at h; cases h), fun _ _ _ _ _ _ _ h => (by rw [xtoksL] at h; cases h)⟩
  | succ f ih =>
    refine ⟨fun k p n ind ic cur r h => ?_, fun k p ns ind ic cur r h => ?_⟩
    · cases n with
      | elt name attrs kids =>
        rw [xtoks] at h
        obtain ⟨a, ha, h⟩ := bind_eq_ok h
        cases h
        exact ih.2 _ _ _ _ _ _ a ha
      | text s =>
        rw [xtoks] at h
        obtain ⟨x, _, rfl⟩ := map_eq_ok h
        cases x <;> rfl
      | cdata kids =>
        rw [xtoks] at h
        obtain ⟨a, _, h⟩ := bind_eq_ok h
        cases h; rfl
      | tree l cs r0 =>
        cases l with
        | none => rw [xtoks] at h; cases h
        | some l =>
          cases r0 with
          | none => rw [xtoks] at h; cases h
          | some r0 =>
            rw [xtoks] at h
            obtain ⟨a, _, h⟩ := bind_eq_ok h
            cases h; rfl
    · cases ns with
      | nil => rw [xtoksL] at h; cases h; rfl
      | cons n rest =>
        rw [xtoksL] at h
        obtain ⟨a, ha, h⟩ := bind_eq_ok h
        obtain ⟨b, hb, h⟩ := bind_eq_ok h
        cases h
        rw [ih.1 _ _ _ _ _ _ a ha] at hb
        exact ih.2 _ _ _ _ _ _ b hb

theorem xmlNode_inCdata {c : XCfg} {p : Parent} {f : Nat} {n : Node} {st st' : XSt} (hst : st.inCdata = false)
    (h : xmlNode c p f n st = .ok st') : st'.inCdata = false := by
  obtain ⟨r, hr, rfl⟩ := xmlNode_ok_toks h
  rw [hst] at hr
  exact (xtoks_cd f).1 _ _ _ _ _ _ r hr

/-- What the printer can fail with: out of fuel (`short`), base64 of an empty buffer, an embedded document
    without a language, an embedded document with a language and no root (`rooted = false`). -/
def PrintErr (short : Prop) (rooted : Bool) (e : Err) : Prop :=
  (e = .fuel ∧ short) ∨ e = .code E.b64Enc ∨ e = .code 12 ∨ (e = .ub "nested tree without root" ∧ rooted = false)

theorem PrintErr.mono {s s' : Prop} {r r' : Bool} {e : Err} (h : PrintErr s r e) (hs : s → s') (hr : r = false → r' = false) :
    PrintErr s' r' e := by
  rcases h with ⟨h1, h2⟩ | h | h | ⟨h1, h2⟩
  · exact Or.inl ⟨h1, hs h2⟩
  · exact Or.inr (Or.inl h)
  · exact Or.inr (Or.inr (Or.inl h))
  · exact Or.inr (Or.inr (Or.inr ⟨h1, hr h2⟩))

/-- A call followed by a `pure` continuation: the error is the callee's, under weaker conditions. -/
theorem PrintErr.bind_pure {α β : Type} {m : Except Err α} {g : α → β} {s s' P P' : Prop} {r r' : Bool}
    (hm : (∀ e, m = .error e → PrintErr s r e) ∧ (∀ a, m = .ok a → P)) (hs : s → s') (hr : r = false → r' = false)
    (hP : P → P') :
    (∀ e, (m >>= fun a => pure (g a)) = .error e → PrintErr s' r' e) ∧ (∀ b, (m >>= fun a => pure (g a)) = .ok b → P') := by
  refine ⟨fun e h => ?_, fun b h => ?_⟩
  · rcases bind_eq_error h with h | ⟨a, _, h⟩
    · exact (hm.1 e h).mono hs hr
    · cases h
  · obtain ⟨a, ha, _⟩ := bind_eq_ok h
    exact hP (hm.2 a ha)

/-- Errors and fuel of `xtoks`: an error is one of the four of `PrintErr`, where out of fuel means that the
    fuel-and-shape test fails and the fuel is below `needNode`, and the missing root is the shape defect
    `rootedN n = false`; a successful run had at least the fuel `needNode n`. The same for lists. -/
theorem xtoks_fuel (f : Nat) :
    (∀ (k : TokCfg) (p : Parent) (n : Node) (ind : UInt8) (ic cd : Bool) (cur : Option TagRow),
      (∀ e, xtoks k p f n ind ic cd cur = .error e → PrintErr (okNode f n = false ∧ f < needNode n) (rootedN n) e) ∧
      (∀ r, xtoks k p f n ind ic cd cur = .ok r → needNode n ≤ f)) ∧
    (∀ (k : TokCfg) (p : Parent) (ns : List Node) (ind : UInt8) (ic cd : Bool) (cur : Option TagRow),
      (∀ e, xtoksL k p f ns ind ic cd cur = .error e → PrintErr (okList f ns = false ∧ f < needList ns) (rootedL ns) e) ∧
      (∀ r, xtoksL k p f ns ind ic cd cur = .ok r → needList ns ≤ f)) := by
  induction f with
  | zero =>
    refine ⟨fun k p n ind ic cd cur => ⟨fun e h => ?_, fun r h => ?_⟩, fun k p ns ind ic cd cur => ⟨fun e h => ?_, fun r h => ?_⟩⟩
    · rw [xtoks] at h; cases h; exact Or.inl ⟨rfl, by simp only [okNode], needNode_pos n⟩
    · rw [xtoks] at h; cases h
    · rw [xtoksL] at h; cases h; exact Or.inl ⟨rfl, by simp only [okList], needList_pos ns⟩
    · rw [xtoksL] at h; cases h
  | succ f ih =>
    refine ⟨fun k p n ind ic cd cur => ?_, fun k p ns ind ic cd cur => ?_⟩
    · cases n with
      | elt name attrs kids =>
        rw [xtoks]
        exact PrintErr.bind_pure (ih.2 k (childScope p name) kids _ ic cd (tagOf name))
          (fun ⟨a, b⟩ => ⟨by simp only [okNode]; exact a, by simp only [needNode]; omega⟩) (by simp only [rootedN]; exact id)
          (fun h => by simp only [needNode]; omega)
      | text s =>
        rw [xtoks]
        refine ⟨fun e h => ?_, fun r _ => by simp only [needNode]; omega⟩
        cases ht : textTokC k cd cur s with
        | ok x => rw [ht] at h; cases h
        | error e' => rw [ht] at h; cases h; exact Or.inr (Or.inl (textTok_error ht))
      | cdata kids =>
        rw [xtoks]
        exact PrintErr.bind_pure (ih.2 k p kids ind ic true cur)
          (fun ⟨a, b⟩ => ⟨by simp only [okNode]; exact a, by simp only [needNode]; omega⟩) (by simp only [rootedN]; exact id)
          (fun h => by simp only [needNode]; omega)
      | tree l cs r =>
        cases l with
        | none => rw [xtoks]; exact ⟨fun e h => (by cases h; exact Or.inr (Or.inr (Or.inl rfl))), fun r h => (by cases h)⟩
        | some l =>
          cases r with
          | none =>
            rw [xtoks]; exact ⟨fun e h => (by cases h; exact Or.inr (Or.inr (Or.inr ⟨rfl, rfl⟩))), fun r h => (by cases h)⟩
          | some r =>
            rw [xtoks]
            exact PrintErr.bind_pure (ih.1 { k with lang := l } .none r ind false false none)
              (fun ⟨a, b⟩ => ⟨by simp only [okNode]; exact a, by simp only [needNode]; omega⟩) (by simp only [rootedN]; exact id)
              (fun h => by simp only [needNode]; omega)
    · cases ns with
      | nil => rw [xtoksL]; exact ⟨fun e h => (by cases h), fun r _ => (by simp only [needList]; omega)⟩
      | cons n rest =>
        obtain ⟨h1, h2⟩ := ih.1 k p n ind ic cd cur
        rw [xtoksL]
        refine ⟨fun e h => ?_, fun r h => ?_⟩
        · rcases bind_eq_error h with h | ⟨a, _, h⟩
          · exact (h1 e h).mono (fun ⟨a, b⟩ => ⟨by simp only [okList, a, Bool.false_and], by simp only [needList]; omega⟩)
              (by intro h; simp only [rootedL, h, Bool.false_and])
          · rcases bind_eq_error h with h | ⟨b, _, h⟩
            · exact ((ih.2 k p rest ind a.2.1 a.2.2 none).1 e h).mono
                (fun ⟨a, b⟩ => ⟨by simp only [okList, a, Bool.and_false], by simp only [needList]; omega⟩)
                (by intro h; simp only [rootedL, h, Bool.and_false])
            · cases h
        · obtain ⟨a, ha, h⟩ := bind_eq_ok h
          obtain ⟨b, hb, _⟩ := bind_eq_ok h
          have := h2 a ha
          have := (ih.2 k p rest ind a.2.1 a.2.2 none).2 b hb
          simp only [needList]; omega

theorem xmlNode_error {c : XCfg} {p : Parent} {f : Nat} {n : Node} {st : XSt} {e : Err} (h : xmlNode c p f n st = .error e) :
    PrintErr (okNode f n = false ∧ f < needNode n) (rootedN n) e := by
  rw [xmlNode_toks] at h
  exact ((xtoks_fuel f).1 _ _ _ _ _ _ _).1 e (map_eq_error h)

theorem xmlNode_ok_fuel {c : XCfg} {p : Parent} {f : Nat} {n : Node} {st st' : XSt} (h : xmlNode c p f n st = .ok st') :
    needNode n ≤ f := by
  obtain ⟨r, hr, _⟩ := xmlNode_ok_toks h
  exact ((xtoks_fuel f).1 _ _ _ _ _ _ _).2 r hr

theorem xmlNode_ok_mono {c : XCfg} {p : Parent} {f : Nat} {n : Node} {st st' : XSt} (h : xmlNode c p f n st = .ok st')
    (g : Nat) (hg : f ≤ g) : xmlNode c p g n st = .ok st' := by
  have := xmlNode_ok_fuel h
  rw [xmlNode_mono c p n st g (by omega), ← xmlNode_mono c p n st f this]; exact h

mutual
/-- The structural budgets of `Model/Flow.lean` and `Model/EncXml.lean` are one function. -/
theorem needNode_eq_xmlFuel : ∀ (n : Node), needNode n = n.xmlFuel
  | .elt _ _ kids => by simp only [needNode, Node.xmlFuel, needList_eq_xmlFuelL kids]
  | .text _ => rfl
  | .cdata kids => by simp only [needNode, Node.xmlFuel, needList_eq_xmlFuelL kids]
  | .tree _ _ none => by simp only [needNode, Node.xmlFuel]
  | .tree _ _ (some r) => by simp only [needNode, Node.xmlFuel, needNode_eq_xmlFuel r]
theorem needList_eq_xmlFuelL : ∀ (ns : List Node), needList ns = Node.xmlFuelL ns
  | [] => rfl
  | n :: rest => by simp only [needList, Node.xmlFuelL, needNode_eq_xmlFuel n, needList_eq_xmlFuelL rest]
end

/-- The printer options `wbxml_tree_to_xml` derives from its parameter block. `EncW.xcfgOf`
    (`Lemmas/XmlModes.lean`) and `Rt.xcfgOf` (`Lemmas/RtReads.lean`) are the same function word for word, in the
    modules of C07 and C03, which import this one; where a statement of this file (`treeToXml_toks`,
    `treeToXml_ok_toks`) meets one of theirs, `cfg.xcfg lang` and `xcfgOf cfg lang` agree by unfolding. -/
def W2XCfg.xcfg (cfg : W2XCfg) (lang : Lang) : XCfg :=
  { lang := lang, gen := cfg.gen, delta := if cfg.gen == 1 then cfg.indent else 1,
    ignoreEmpty := !cfg.keepWs, removeBlanks := !cfg.keepWs }

/-- `wbxml_tree_to_xml` through the token list: what is written is rendered once, after the header.
    The one unfolding of `treeToXml`. -/
theorem treeToXml_toks (cfg : W2XCfg) (fuel : Nat) (t : Tree) :
    treeToXml cfg fuel t =
      match t.lang, t.root with
      | none, _ => .error (.code 12)
      | some _, none => .error (.ub "tree without root")
      | some lang, some root =>
        (xtoks (cfg.xcfg lang).tk .none fuel root 0 false false none).map fun r =>
          xmlHeader lang cfg.gen ++ renderToks (cfg.xcfg lang) r.1 := by
  unfold treeToXml
  cases t.lang with
  | none => rfl
  | some lang =>
    cases t.root with
    | none => rfl
    | some root =>
      show (xmlNode (cfg.xcfg lang) .none fuel root {} >>= fun st => pure (xmlHeader lang cfg.gen ++ st.out)) =
        (xtoks (cfg.xcfg lang).tk .none fuel root 0 false false none).map _
      rw [xmlNode_toks]
      show ((xtoks (cfg.xcfg lang).tk .none fuel root 0 false false none).map _ >>= _) = _
      cases xtoks (cfg.xcfg lang).tk .none fuel root 0 false false none <;> rfl

theorem treeToXml_ok_toks {cfg : W2XCfg} {fuel : Nat} {t : Tree} {xml : Bytes} (h : treeToXml cfg fuel t = .ok xml) :
    ∃ lang root r, t.lang = some lang ∧ t.root = some root ∧
      xtoks (cfg.xcfg lang).tk .none fuel root 0 false false none = .ok r ∧
      xml = xmlHeader lang cfg.gen ++ renderToks (cfg.xcfg lang) r.1 := by
  rw [treeToXml_toks] at h
  split at h
  · cases h
  · cases h
  · rename_i lang root hl hr
    obtain ⟨r, hr', rfl⟩ := map_eq_ok h
    exact ⟨lang, root, r, hl, hr, hr', rfl⟩

theorem treeToXml_ok_run {cfg : W2XCfg} {fuel : Nat} {t : Tree} {xml : Bytes} (h : treeToXml cfg fuel t = .ok xml) :
    ∃ lang root st, t.lang = some lang ∧ t.root = some root ∧
      xmlNode (cfg.xcfg lang) .none fuel root {} = .ok st ∧ xml = xmlHeader lang cfg.gen ++ st.out := by
  obtain ⟨lang, root, r, hl, hr, hx, rfl⟩ := treeToXml_ok_toks h
  exact ⟨lang, root, ({} : XSt).put (cfg.xcfg lang) none r, hl, hr,
    by rw [xmlNode_toks]; exact congrArg (Except.map _) hx, rfl⟩

/-- A token of character data is written alike in indented and in compact generation. -/
theorem textTok_render_gen (c : XCfg) {langId : Nat} {d1 d2 cd : Bool} {cur : Option TagRow} {s : Bytes} {t : XTok}
    (h : textTok langId d1 d2 cd cur s = .ok (some t)) : t.render { c with gen := 1 } = t.render { c with gen := 0 } := by
  have := textTok_res langId d1 d2 cd cur s
  rw [h] at this
  cases t <;> first | rfl | exact this.elim

/-- The tokens of a list of text nodes are rendered alike in indented and in compact generation: there is
    no indentation or line feed among them. -/
theorem xtoksL_texts (c : XCfg) (k : TokCfg) (p : Parent) : ∀ (kids : List Node), allText kids = true →
    ∀ (f : Nat) (ind : UInt8) (ic cd : Bool) (cur : Option TagRow) (r : TR), xtoksL k p f kids ind ic cd cur = .ok r →
      renderToks { c with gen := 1 } r.1 = renderToks { c with gen := 0 } r.1
  | [], _, f, _, _, _, _, r, h => by
    cases f with
    | zero => rw [xtoksL] at h; cases h
    | succ f => rw [xtoksL] at h; cases h; rfl
  | .text s :: rest, ht, f, ind, ic, cd, cur, r, h => by
    cases f with
    | zero => rw [xtoksL] at h; cases h
    | succ f =>
      rw [xtoksL] at h
      obtain ⟨a, ha, h⟩ := bind_eq_ok h
      obtain ⟨b, hb, h⟩ := bind_eq_ok h
      cases h
      have ih := xtoksL_texts c k p rest ht f ind a.2.1 a.2.2 none b hb
      rw [renderToks_append, renderToks_append, ih]
      congr 1
      cases f with
      | zero => rw [xtoks] at ha; cases ha
      | succ f =>
        rw [xtoks] at ha
        obtain ⟨x, hx, rfl⟩ := map_eq_ok ha
        cases x with
        | none => rfl
        | some t => exact congrArg (· ++ []) (textTok_render_gen c hx)
  | .elt _ _ _ :: _, ht, _, _, _, _, _, _, _ => by cases ht
  | .cdata _ :: _, ht, _, _, _, _, _, _, _ => by cases ht
  | .tree _ _ _ :: _, ht, _, _, _, _, _, _, _ => by cases ht

/-- An element all of whose children are text nodes, in indented generation: after the indentation, the start
    tag, what compact generation writes for the children, the end tag and a line feed, nothing between them. -/
theorem xmlNode_texts_only (c : XCfg) (parent : Parent) (f : Nat) (name : Name)
    (attrs : List Attr) (kids : List Node) (st st' : XSt) (hk : kids ≠ []) (ht : allText kids = true)
    (h : xmlNode { c with gen := 1 } parent (f + 1) (.elt name attrs kids) st = .ok st') :
    ∃ r,
      xmlNodes { c with gen := 0 } (childScope parent name) f kids { st with out := [], curTag := tagOf name } = .ok r ∧
      st'.out = st.out ++ spaces (st.indent.toNat * c.delta.toNat) ++ [60] ++ name.xmlName ++
        nsDecl c parent name ++ (if c.lang.attrs.isSome then attrs.flatMap (attrBytes false) else []) ++
        [62] ++ r.out ++ b!"</" ++ name.xmlName ++ [62, 10] := by
  have hne : kids.isEmpty = false := by cases kids with | nil => exact absurd rfl hk | cons _ _ => rfl
  have hce := allText_noElt kids ht
  obtain ⟨r, hr, rfl⟩ := xmlNode_ok_toks h
  rw [xtoks] at hr
  obtain ⟨rk, hrk, hr⟩ := Lemmas.bind_eq_ok hr
  cases hr
  simp only [hce, Bool.false_eq_true, ↓reduceIte] at hrk
  have h0 := (xml_toks f).2 { c with gen := 0 } (childScope parent name) kids { st with out := [], curTag := tagOf name }
    st.indent (fun hg => by cases hg)
  refine ⟨_, h0.trans (congrArg (Except.map _) hrk), ?_⟩
  simp only [XSt.put, renderToks_append, ← xtoksL_texts c _ _ kids ht _ _ _ _ _ rk hrk, hne, Bool.false_eq_true, ↓reduceIte]
  simp only [XCfg.tk]
  cases hA : c.lang.attrs <;>
    simp only [openToks, closeToks, hne, hce, hA, Option.isSome_some, Option.isSome_none, Bool.or_self, Bool.false_eq_true,
      ↓reduceIte, renderToks_append, renderToks_attrs] <;>
    simp [renderToks, XTok.render, nsDecl_eq_L, newLine, List.append_assoc]

end Wbxml.Model
