/-
  Round trip (C03), second trip: the text `wbxml_tree_to_xml` writes for a plain tree (compact or canonical,
  language without namespace table) is the header and `renderNode` of the root; it depends on the tree only
  through `canon`, and round-trip trees have no binary-flagged names.
-/
import Wbxml.Lemmas.RtReads
import Wbxml.Lemmas.RtNf
import Wbxml.Lemmas.XmlPrint
import Wbxml.Lemmas.EncXmlToks
namespace Wbxml.Lemmas.Rt
open Wbxml Wbxml.Model Wbxml.Spec Wbxml.Lemmas.EncW Wbxml.Lemmas.X2W

theorem treeToXml_ne_nil (cfg : W2XCfg) (fuel : Nat) (t : Tree) (xml : Bytes) (h : treeToXml cfg fuel t = .ok xml) :
    xml ≠ [] := by
  obtain ⟨lang, _, _, _, _, _, rfl⟩ := treeToXml_ok_run h
  -- the leftmost of the header's pieces is the literal `<?xml version="1.0"?>`
  unfold xmlHeader
  iterate 9 apply List.append_ne_nil_of_left_ne_nil
  exact List.cons_ne_nil _ _

/-! ### What the printer writes for a plain tree: the text `ReadsBack` is about

  `wbxml_tree_to_xml` in compact or canonical mode, for a language without namespace table, writes
  the header followed by `renderNode` of the root — start tags with the attributes
  (` name="escaped value"`), `/>` for an element without children, escaped character data
  (`printedText`), end tags, and nothing else. A conforming reader of that text reports
  `xmlEventsOf`; this is the content of the assumption `ReadsBack`. -/

mutual
def renderNode (c : XCfg) : Node → Bytes
  | .elt name attrs kids =>
    [60] ++ name.xmlName ++ (if c.lang.attrs.isSome then attrs.flatMap (XmlPrint.attrBytes (c.gen == 2)) else []) ++
      (if kids.isEmpty then b!"/>" else [62] ++ renderNodes c kids ++ (b!"</" ++ name.xmlName ++ [62]))
  | .text s => xmlEscape (c.gen == 2) (printedText c s)
  | .cdata _ => []
  | .tree _ _ _ => []
def renderNodes (c : XCfg) : List Node → Bytes
  | [] => []
  | k :: r => renderNode c k ++ renderNodes c r
end

mutual
/-- No binary-flagged (base64-carried) element name in the tree. -/
def noBinaryNames : Node → Bool
  | .elt name _ kids => !isBinaryTag (XmlPrint.tagOf name) && noBinaryNamesL kids
  | .text _ => true
  | .cdata _ => true
  | .tree _ _ _ => true
def noBinaryNamesL : List Node → Bool
  | [] => true
  | k :: r => noBinaryNames k && noBinaryNamesL r
end

theorem textStr_plain (langId : Nat) (hs : isSyncml langId = false) (cur : Option TagRow) (s : Bytes) :
    textStr langId cur s = s := by
  have h2201 : (langId == 2201) = false := by
    cases h : langId == 2201 with
    | false => rfl
    | true => simp only [isSyncml, h, Bool.or_true] at hs; cases hs
  unfold textStr
  simp only [hs, h2201, Bool.false_and, Bool.false_eq_true, ↓reduceIte]

/-- A text node outside CDATA and binary-flagged elements is written as `printedText`, escaped. -/
theorem xtoks_text_plain (c : XCfg) (hs : isSyncml c.lang.id = false) {p : Parent} {f : Nat} {s : Bytes} {ind : UInt8}
    {ic : Bool} {cur : Option TagRow} {r : TR} (hb : isBinaryTag cur = false)
    (h : xtoks c.tk p (f + 1) (.text s) ind ic false cur = .ok r) :
    renderToks c r.1 = xmlEscape (c.gen == 2) (printedText c s) := by
  rw [xtoks] at h
  obtain ⟨t, ht, rfl⟩ := map_eq_ok h
  unfold textTokC textTok at ht
  unfold printedText
  simp only [XCfg.tk, hb, textStr_plain _ hs, Bool.not_false, Bool.true_and, Bool.false_eq_true, ↓reduceIte] at ht
  split at ht
  · rename_i h1
    rw [← Except.ok.inj ht, if_pos h1, xmlEscape_nil]; rfl
  · rename_i h1
    rw [← Except.ok.inj ht, if_neg h1]
    simp only [renderToks, List.flatMap_cons, List.flatMap_nil, List.append_nil, XTok.render]

/-- Outside indented generation the tokens of a plain tree render to `renderNode`: indentation and line
    feeds render to nothing, and without namespace table no `xmlns` is declared. -/
theorem render_toks (c : XCfg) (hg : c.gen ≠ 1) (hns : c.lang.ns = none) (hs : isSyncml c.lang.id = false) :
    ∀ (f : Nat),
      (∀ (p : Parent) (n : Node) (ind : UInt8) (ic : Bool) (cur : Option TagRow) (r : TR), plainNode n = true →
        noBinaryNames n = true → isBinaryTag cur = false → xtoks c.tk p f n ind ic false cur = .ok r →
        renderToks c r.1 = renderNode c n) ∧
      (∀ (p : Parent) (ks : List Node) (ind : UInt8) (ic : Bool) (cur : Option TagRow) (r : TR), plainNodes ks = true →
        noBinaryNamesL ks = true → isBinaryTag cur = false → xtoksL c.tk p f ks ind ic false cur = .ok r →
        renderToks c r.1 = renderNodes c ks)
  | 0 => ⟨fun _ _ _ _ _ _ _ _ _ h => (by rw [xtoks] at h; cases h),
          fun _ _ _ _ _ _ _ _ _ h => (by rw [xtoksL] at h; cases h)⟩
  | f + 1 => by
    obtain ⟨ihN, ihL⟩ := render_toks c hg hns hs f
    have hg1 : (c.gen == 1) = false := by simpa using hg
    have hblank : ∀ t, (t = XTok.nl ∨ ∃ k, t = XTok.sp k) → XTok.render c t = [] := by
      rintro t (rfl | ⟨k, rfl⟩) <;> simp only [XTok.render, hg1, Bool.false_eq_true, ↓reduceIte]
    constructor
    · intro p n ind ic cur r hp hnb hb h
      cases n with
      | elt name attrs kids =>
        rw [plainNode] at hp
        rw [noBinaryNames, Bool.and_eq_true, Bool.not_eq_true'] at hnb
        rw [xtoks] at h
        obtain ⟨r1, h1, h2⟩ := bind_eq_ok h
        cases Except.ok.inj h2
        have hnsd : nsDeclL c.tk.lang p name = [] := by
          unfold nsDeclL XmlPrint.nsDecl
          simp only [XCfg.tk, hns]
        rw [renderToks_append, renderToks_append, renderToks_openToks, ihL _ kids _ _ _ r1 hp hnb.2 hnb.1 h1, renderNode,
          hnsd, hblank (.sp ind) (Or.inr ⟨_, rfl⟩), hblank .nl (Or.inl rfl)]
        cases kids with
        | nil =>
          simp only [XCfg.tk, List.isEmpty_nil, ite_self, ↓reduceIte, renderToks_nil, renderNodes, List.append_nil,
            List.nil_append, List.append_assoc]
          rfl
        | cons k rest =>
          simp only [List.isEmpty_cons, Bool.false_eq_true, ↓reduceIte]
          rw [renderToks_closeToks, hblank (.sp ind) (Or.inr ⟨_, rfl⟩), hblank .nl (Or.inl rfl)]
          simp only [XCfg.tk, ite_self, List.append_nil, List.nil_append, List.append_assoc]
          rfl
      | text s => rw [renderNode]; exact xtoks_text_plain c hs hb h
      | _ => rw [plainNode] at hp; cases hp
    · intro p ks ind ic cur r hp hnb hb h
      cases ks with
      | nil =>
        rw [xtoksL] at h
        cases Except.ok.inj h
        rfl
      | cons k rest =>
        rw [plainNodes, Bool.and_eq_true] at hp
        rw [noBinaryNamesL, Bool.and_eq_true] at hnb
        rw [xtoksL] at h
        obtain ⟨a, h1, h⟩ := bind_eq_ok h
        obtain ⟨b, h2, h⟩ := bind_eq_ok h
        cases Except.ok.inj h
        rw [(xtoks_cd f).1 _ _ _ _ _ _ a h1] at h2
        rw [renderToks_append, ihN p k ind ic cur a hp.1 hnb.1 hb h1, ihL p rest ind _ none b hp.2 hnb.2 rfl h2, renderNodes]

/-- **What is printed.** `wbxml_tree_to_xml` (compact or canonical, language without namespace
    table, not SyncML, plain tree without binary-flagged names) writes the header and `renderNode`
    of the root. -/
theorem treeToXml_render (cfg : W2XCfg) (fuel : Nat) (t : Tree) (lang : Lang) (r : Node) (xml : Bytes)
    (hlang : t.lang = some lang) (hroot : t.root = some r) (hg : cfg.gen ≠ 1) (hns : lang.ns = none)
    (hs : isSyncml lang.id = false) (hp : plainNode r = true) (hnb : noBinaryNames r = true)
    (h : treeToXml cfg fuel t = .ok xml) : xml = xmlHeader lang cfg.gen ++ renderNode (xcfgOf cfg lang) r := by
  obtain ⟨lang', r', x, hl', hr', h1, rfl⟩ := treeToXml_ok_toks h
  rw [hlang] at hl'; cases hl'
  rw [hroot] at hr'; cases hr'
  exact congrArg (xmlHeader lang cfg.gen ++ ·) ((render_toks (xcfgOf cfg lang) hg hns hs fuel).1 .none r 0 false none x hp hnb rfl h1)

mutual
theorem renderNode_canon (c : XCfg) : ∀ (n : Node), renderNode c (canon n) = renderNode c n
  | .elt name attrs kids => by
    rw [canon_elt, renderNode, renderNode, renderNodes_canonL c kids]
    have h1 : (canonL kids).isEmpty = kids.isEmpty := by cases kids <;> simp [canonL_nil, canonL_cons]
    have h2 : (attrs.map canonAttr).flatMap (XmlPrint.attrBytes (c.gen == 2)) =
        attrs.flatMap (XmlPrint.attrBytes (c.gen == 2)) := by
      rw [List.flatMap_map]; rfl
    rw [h1, h2]
    rfl
  | .text s => by rw [canon_text]
  | .cdata kids => by rw [canon]
  | .tree l cs r => by rw [canon]
theorem renderNodes_canonL (c : XCfg) : ∀ (ks : List Node), renderNodes c (canonL ks) = renderNodes c ks
  | [] => by rw [canonL_nil]
  | k :: r => by rw [canonL_cons, renderNodes, renderNodes, renderNode_canon c k, renderNodes_canonL c r]
end

theorem noBinaryNamesL_iff : ∀ (l : List Node), noBinaryNamesL l = true ↔ ∀ k ∈ l, noBinaryNames k = true
  | [] => by rw [noBinaryNamesL]; simp
  | k :: r => by rw [noBinaryNamesL, Bool.and_eq_true, noBinaryNamesL_iff r]; simp

theorem tagName_notBinary (c : Ctx) (hpl : plainLang c.lang = true) (tp : Nat) (tag : Tag) :
    isBinaryTag (XmlPrint.tagOf (tagName c tp tag).1) = false := by
  cases tag with
  | lit off => rfl
  | tok t =>
    simp only [tagName]
    cases hr : tagRow c tp t with
    | none => rfl
    | some r =>
      simp only [XmlPrint.tagOf]
      unfold tagRow at hr
      cases ht : c.lang.tags with
      | none => rw [ht] at hr; cases hr
      | some tags =>
        rw [ht] at hr
        have hm := List.mem_of_find?_eq_some hr
        simp only [plainLang, ht, Bool.and_eq_true, List.all_eq_true, beq_iff_eq] at hpl
        simp [isBinaryTag, hpl.2 r hm]

mutual
theorem noBinary_nodeOfElem (c : Ctx) (hpl : plainLang c.lang = true) : ∀ (e : Elem) (pg : Pages),
    noBinaryNames (nodeOfElem c pg e) = true
  | .mk sw tag attrs content, pg => by
    rw [nodeOfElem_mk, noBinaryNames, tagName_notBinary c hpl]
    exact (noBinaryNamesL_iff _).mpr (noBinary_kidsOfContent c hpl content _ _ [] (fun _ h => by cases h))
theorem noBinary_kidsOfContent (c : Ctx) (hpl : plainLang c.lang = true) : ∀ (content : Option (List Item))
    (own : Option TagRow) (pg : Pages) (acc : List Node), (∀ k ∈ acc, noBinaryNames k = true) →
    ∀ k ∈ kidsOfContent c own pg content acc, noBinaryNames k = true
  | none, own, pg, acc, h => by rw [kidsOfContent_none]; exact h
  | some items, own, pg, acc, h => by rw [kidsOfContent_some]; exact noBinary_kidsOfItems c hpl items own pg acc h
theorem noBinary_kidsOfItems (c : Ctx) (hpl : plainLang c.lang = true) : ∀ (items : List Item)
    (own : Option TagRow) (pg : Pages) (acc : List Node), (∀ k ∈ acc, noBinaryNames k = true) →
    ∀ k ∈ kidsOfItems c own pg items acc, noBinaryNames k = true
  | [], own, pg, acc, h => by rw [kidsOfItems_nil]; exact h
  | it :: more, own, pg, acc, h => by
    rw [kidsOfItems_cons]; exact noBinary_kidsOfItems c hpl more own _ _ (noBinary_kidOfItem c hpl it own pg acc h)
theorem noBinary_kidOfItem (c : Ctx) (hpl : plainLang c.lang = true) : ∀ (it : Item)
    (own : Option TagRow) (pg : Pages) (acc : List Node), (∀ k ∈ acc, noBinaryNames k = true) →
    ∀ k ∈ kidOfItem c own pg it acc, noBinaryNames k = true
  | it, own, pg, acc, h => by
    cases it with
    | elem e =>
      rw [kidOfItem_elem]
      exact addKid_all acc _ (fun s => by rw [noBinaryNames]) h (noBinary_nodeOfElem c hpl e pg)
    | pi p => rw [kidOfItem_pi]; exact h
    | _ =>
      rw [(leafItem_spec c own pg _ rfl acc).1]; unfold addChars; split
      · exact h
      · exact addKid_all acc _ (fun s => by rw [noBinaryNames]) h (by rw [noBinaryNames])
end

theorem noBinary_rootOfDoc (cfg : PCfg) (d : Doc) (l : Lang) (hpl : plainLang l = true) :
    noBinaryNames (rootOfDoc cfg d l) = true :=
  noBinary_nodeOfElem (headerCtx cfg d.hdr l) hpl _ _

theorem printed_congr (cfg : W2XCfg) (lang : Lang) (ta tb : Tree) (ra rb : Node) (fa fb : Nat) (xa xb : Bytes)
    (hla : ta.lang = some lang) (hlb : tb.lang = some lang) (hra : ta.root = some ra) (hrb : tb.root = some rb)
    (hg : cfg.gen ≠ 1) (hns : lang.ns = none) (hs : isSyncml lang.id = false)
    (hpa : plainNode ra = true) (hpb : plainNode rb = true) (hna : noBinaryNames ra = true)
    (hnb : noBinaryNames rb = true) (hc : canon ra = canon rb)
    (ha : treeToXml cfg fa ta = .ok xa) (hb : treeToXml cfg fb tb = .ok xb) : xa = xb := by
  rw [treeToXml_render cfg fa ta lang ra xa hla hra hg hns hs hpa hna ha,
    treeToXml_render cfg fb tb lang rb xb hlb hrb hg hns hs hpb hnb hb,
    ← renderNode_canon _ ra, ← renderNode_canon _ rb, hc]

/-- Two successful prints of trees with the same language and root give the same text, whatever
    the fuel and the recorded original charset. -/
theorem treeToXml_same (cfg : W2XCfg) (ta tb : Tree) (fa fb : Nat) (xa xb : Bytes) (hl : ta.lang = tb.lang)
    (hr : ta.root = tb.root) (ha : treeToXml cfg fa ta = .ok xa) (hb : treeToXml cfg fb tb = .ok xb) : xa = xb := by
  obtain ⟨la, ra, sa, hla, hra, h1, rfl⟩ := treeToXml_ok_run ha
  obtain ⟨lb, rb, sb, hlb, hrb, h3, rfl⟩ := treeToXml_ok_run hb
  rw [hl, hlb] at hla; cases hla
  rw [hr, hrb] at hra; cases hra
  have e1 := xmlNode_ok_mono h1 (fa + fb) (Nat.le_add_right _ _)
  rw [xmlNode_ok_mono h3 (fa + fb) (Nat.le_add_left _ _)] at e1
  rw [Except.ok.inj e1]

end Wbxml.Lemmas.Rt
