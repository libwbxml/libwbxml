/-
  C16 — tree building from XML on the ledger: `wbxml_tree_add_xml_elt`,
  `wbxml_tree_node_add_xml_attr(s)`, `wbxml_tree_add_xml_elt_with_attrs`; then the Expat call-backs
  of `wbxml_tree_clb_xml.c` (`wbxml_buffer_decode_base64` on the cache of a binary element, start /
  end element, CDATA sections, characters) and `wbxml_tree_from_xml`.
-/
import Wbxml.Model.AllocTreeXml
import Wbxml.Lemmas.AllocTreeClb
import Wbxml.Lemmas.AllocB64
namespace Wbxml.Model.Alloc
open Wbxml

theorem EB64DEC_ne_OK : EB64DEC ≠ OK := by decide
theorem EXMLLANG_ne_OK : EXMLLANG ≠ OK := by decide
theorem EXMLPARSE_ne_OK : EXMLPARSE ≠ OK := by decide

theorem xnameCreate_tri (x : XName) : Spec [] [] (xnameCreate x) ownedNameOpt (fun _ => True) (· = none) := by
  cases x with
  | token r => exact nameCreateToken_tri r
  | literal v => exact nameCreateLiteral_tri (some v)

theorem treeAddXmlElt_tri (c : TCtx) (tag : XName) (hok : c.ok) :
    Spec [] c.owned (treeAddXmlElt c tag) (fun r => r.1.owned)
      (fun r => (r.1.tree = c.tree ∧ r.1.error = c.error ∧ r.1.ok) ∧
        (r.2 = true → ∃ n, r.1 = pushFrame c .elt n ∧ n.content = none)) (fun r => r.2 = false) := by
  unfold treeAddXmlElt
  refine (xnameCreate_tri tag).make nofun fun t _ => ?_
  cases t with
  | none => exact .ret (.of_eq (List.append_nil _)) ⟨rfl, ⟨rfl, rfl, hok⟩, nofun⟩ fun _ => rfl
  | some t =>
    refine nodeCreate_tri.make nofun fun n hfields => ?_
    cases n with
    | none =>
      exact .release (nameDestroy_frees (some t)) (.of_eq (List.append_nil _)) (.ret (.refl _) ⟨rfl, ⟨rfl, rfl, hok⟩, nofun⟩ fun _ => rfl)
    | some n =>
      obtain ⟨fn, _, fc⟩ := hfields n rfl
      exact addOpenOrDrop_tri c .elt { n with name := some t } hok (fun b hb => nomatch fc.symm.trans hb) (by decide)
        ((List.append_assoc ..).symm ▸ (node_named_perm n t fn).symm.append_left _)
        (fun _ x h => ⟨x, fun ht => ⟨_, h ht, fc⟩⟩) (by simp)

theorem xmlAttrName_tri (a : XAttrIn) : Spec [] [] (xmlAttrName a) ownedNameOpt (fun _ => True) (· = none) := by
  unfold xmlAttrName
  cases a.xmlNs with
  | none => exact xnameCreate_tri a.name
  | some rest =>
    refine (bufCreate_tri (some b!"xml:") 4).step (.refl _) nofun fun xn k1 => ?_
    cases xn with
    | none => exact .ret (.refl _) ⟨rfl, trivial⟩ fun _ => rfl
    | some xn =>
      refine (bufAppendData_tri xn (some rest) (k1 xn rfl)).step (.refl _) nofun fun ⟨xn2, ok⟩ _ => ?_
      cases ok with
      | false => exact .release (bufDestroy_frees (some xn2)) (.refl _) (.ret (.refl _) ⟨rfl, trivial⟩ fun _ => rfl)
      | true =>
        -- a token needs no text; a literal name is made from the text of the buffer
        have hname : Spec [xn2.hdr] [] (match a.name with
            | .token r => nameCreateToken r
            | .literal _ => Prog.bind (bufCstr xn2) fun s => nameCreateLiteral s) ownedNameOpt (fun _ => True) (· = none) := by
          cases a.name with
          | token r => exact (nameCreateToken_tri r).borrow nofun
          | literal v => exact .read (.inr List.mem_cons_self) (bufCstr_spec xn2) fun cs _ => (nameCreateLiteral_tri cs).borrow nofun
        refine hname.make (fun _ hi => .inr (List.mem_singleton.1 hi ▸ List.mem_cons_self)) fun nm _ => ?_
        exact .release (bufDestroy_frees (some xn2)) List.perm_append_comm (.ret (.refl _) ⟨rfl, trivial⟩ (by simp))

theorem node_appendCell_perm (n : ANode) (l l2 : AList AAttr) (cid : Nat) (a : AAttr) (hn : n.attrs = some l)
    (hh : l2.hdr = l.hdr) (hc : l2.cells = l.cells ++ [(cid, a)]) :
    ({ n with attrs := some l2 } : ANode).owned.Perm (n.owned ++ a.owned ++ [cid]) := by
  simp only [ANode.owned_eq, hn, attrsOwned, listOwned, hh, hc, cellsOwned_append]
  simp only [cellsOwned, List.flatMap_cons, List.flatMap_nil, List.append_nil]
  perm_count

theorem attr_owned_eq (a : AAttr) : a.owned = a.hdr :: (ownedNameOpt a.name ++ ownedBufOpt a.value) := rfl

theorem attr_named_perm (a : AAttr) (t : AName) (h : a.name = none) :
    ({ a with name := some t } : AAttr).owned.Perm (a.owned ++ t.owned) := by
  simp only [attr_owned_eq, h, ownedNameOpt, List.nil_append, List.cons_append]
  exact List.perm_append_comm.cons _

theorem attr_valued_perm (a : AAttr) (v : ABuf) (h : a.value = none) :
    ({ a with value := some v } : AAttr).owned.Perm (a.owned ++ v.owned) :=
  .of_eq (by simp only [attr_owned_eq, h, ownedBufOpt, List.append_nil, List.cons_append])

theorem nodeAddXmlAttr_tri (n : ANode) (a : XAttrIn) : AttrsSpec [] n (nodeAddXmlAttr n a) := by
  unfold nodeAddXmlAttr
  refine .deref (.inl (hdr_mem_owned n)) ((nodeAttrList_tri n).step (.refl _) nofun fun l _ => ?_)
  cases l with
  | none => exact .ret (.refl _) ⟨rfl, rfl, rfl, rfl⟩ fun _ => ENOMEM_ne_OK
  | some l =>
    -- every later error exit releases the attribute under construction
    have hfail : ∀ {F : Prop} {O : List Nat} (at' : AAttr), O.Perm (({ n with attrs := some l } : ANode).owned ++ at'.owned) →
        Tri [] O F (Prog.bind (attrDestroy (some at')) fun _ => Prog.ret (({ n with attrs := some l } : ANode), ENOMEM))
          (fun r B => B = r.1.owned ∧ r.1.hdr = n.hdr ∧ r.1.content = n.content ∧ r.1.name = n.name) (fun r => r.2 ≠ OK) :=
      fun at' hO => .release (attrDestroy_frees (some at')) hO (.ret (.refl _) ⟨rfl, rfl, rfl, rfl⟩ fun _ => ENOMEM_ne_OK)
    refine attrCreate_tri.make nofun fun attr f2 => ?_
    cases attr with
    | none => exact .ret (.of_eq (List.append_nil _)) ⟨rfl, rfl, rfl, rfl⟩ fun _ => ENOMEM_ne_OK
    | some attr =>
      obtain ⟨fan, fav⟩ := f2 attr rfl
      refine (xmlAttrName_tri a).make nofun fun nm _ => ?_
      cases nm with
      | none => exact hfail attr (.of_eq (List.append_nil _))
      | some nm =>
        refine (bufCreate_tri (some a.value) a.value.length).make nofun fun v _ => ?_
        cases v with
        | none =>
          exact hfail { attr with name := some nm } ((List.append_nil _).symm ▸ (List.append_assoc ..).symm ▸
            (attr_named_perm attr nm fan).symm.append_left _)
        | some v =>
          have hp : (((({ n with attrs := some l } : ANode).owned ++ attr.owned) ++ nm.owned) ++ v.owned).Perm
              (({ n with attrs := some l } : ANode).owned ++ ({ attr with name := some nm, value := some v } : AAttr).owned) :=
            (List.Perm.of_eq (by simp only [List.append_assoc])).trans
              ((((attr_valued_perm { attr with name := some nm } v fav).trans ((attr_named_perm attr nm fan).append_right _)).trans
                (.of_eq (List.append_assoc ..))).symm.append_left _)
          refine (listAppend_tri l { attr with name := some nm, value := some v }).callQ (.refl _)
            (fun _ hi => .inr (List.mem_singleton.1 hi ▸ by simp [AList.owned]))
            fun ⟨l2, ok⟩ B ⟨e5, hcase⟩ => ?_
          rcases hcase with ⟨rfl, _, rfl⟩ | ⟨rfl, cid, hcells, rfl⟩
          · exact hfail _ hp
          · exact .ret ((List.perm_append_comm.trans (hp.append_right _)).trans
              (node_appendCell_perm { n with attrs := some l } l l2 cid _ rfl e5 hcells).symm) ⟨rfl, rfl, rfl, rfl⟩ (by simp)

theorem nodeAddXmlAttrs_tri (attrs : List XAttrIn) (n : ANode) : AttrsSpec [] n (nodeAddXmlAttrs n attrs) := by
  induction attrs generalizing n with
  | nil => exact .ret (.refl _) ⟨rfl, rfl, rfl, rfl⟩ nofun
  | cons a rest ih =>
    unfold nodeAddXmlAttrs
    refine (nodeAddXmlAttr_tri n a).step (.refl _) nofun fun ⟨n1, ret⟩ ⟨eh, ec, en⟩ => ?_
    refine .if_ne_ok (fun _ => .ret (.refl _) ⟨rfl, eh, ec, en⟩ fun _ => ENOMEM_ne_OK) (fun hret => ?_)
    exact (ih n1).mono (fun h => h.elim id fun h => h hret)
      (fun _ B ⟨e, h1, h2, h3⟩ => ⟨B, .refl _, e, h1.trans eh, h2.trans ec, h3.trans en⟩) fun _ _ _ => id

theorem treeAddXmlEltWithAttrs_tri (c : TCtx) (tag : XName) (attrs : List XAttrIn) (hok : c.ok) :
    TreeSpec [] c (treeAddXmlEltWithAttrs c tag attrs) :=
  addWithAttrs_tri (noAttrs := attrs.isEmpty) (attrs := (nodeAddXmlAttrs · attrs)) c hok (treeAddXmlElt_tri c tag hok)
    fun n => nodeAddXmlAttrs_tri attrs n

theorem bufDecodeB64_tri (b : ABuf) (hok : b.ok) :
    Spec [] b.owned (bufDecodeB64 b) (fun r => r.1.owned) (fun r => r.1.ok) (fun r => r.2 ≠ OK) := by
  unfold bufDecodeB64
  refine .deref (.inl List.mem_cons_self) (.ite (fun _ => ?_) fun _ => ?_)
  · exact .ret (.refl _) ⟨rfl, hok⟩ nofun
  · -- the buffer without its white space: the same object
    have hokF : ({ b with bytes := b.bytes.filter (fun ch => !Spec.Seq.ws ch) } : ABuf).ok := fun hs hd =>
      ⟨(hok hs hd).1, by simp [(hok hs hd).2]⟩
    refine .malloc (.ret (.refl _) ⟨rfl, hokF⟩ fun _ => EB64DEC_ne_OK) fun x => ?_
    cases hdec : Codec.b64Decode (b.bytes.filter (fun ch => !Spec.Seq.ws ch)) with
    | none => exact .release (Frees.free (some x)) (.refl _) (.ret (.refl _) ⟨rfl, hokF⟩ fun _ => EB64DEC_ne_OK)
    | some decoded =>
      refine (bufRewrite_tri { b with bytes := b.bytes.filter (fun ch => !Spec.Seq.ws ch) } decoded hokF).call (.refl _) nofun
        fun ⟨b3, ok⟩ ⟨_, _, k3⟩ => ?_
      exact .release (Frees.free (some x)) (.refl _) (.ret (.refl _) ⟨rfl, k3 hokF⟩ (by cases ok <;> simp [ENOMEM_ne_OK]))

def setContent (c : TCtx) (f : Frame) (rest : List Frame) (b : Option ABuf) : TCtx :=
  { c with frames := { f with node := { f.node with content := b } } :: rest }

theorem setContent_perm (c : TCtx) (f : Frame) (rest : List Frame) (b : Option ABuf) :
    (setContent c f rest b).owned.Perm ((setContent c f rest none).owned ++ ownedBufOpt b) := by
  simp only [setContent, TCtx.owned, List.flatMap_cons, Frame.owned, ANode.owned_eq, ownedBufOpt, List.append_nil]
  perm_count

theorem setContent_self (c : TCtx) (f : Frame) (rest : List Frame) (hf : c.frames = f :: rest) :
    setContent c f rest f.node.content = c := by
  cases c; cases f; simp_all [setContent]

theorem owned_perm_setContent (c : TCtx) (f : Frame) (rest : List Frame) (hf : c.frames = f :: rest) :
    c.owned.Perm ((setContent c f rest none).owned ++ ownedBufOpt f.node.content) := by
  have := setContent_perm c f rest f.node.content
  rwa [setContent_self c f rest hf] at this

theorem setContent_tree (c : TCtx) (f : Frame) (rest : List Frame) (b : Option ABuf) : (setContent c f rest b).tree = c.tree := rfl
theorem setContent_error (c : TCtx) (f : Frame) (rest : List Frame) (b : Option ABuf) : (setContent c f rest b).error = c.error := rfl

theorem setContent_ok (c : TCtx) (f : Frame) (rest : List Frame) (hf : c.frames = f :: rest) (hok : c.ok) (b : Option ABuf)
    (hb : ∀ x, b = some x → x.ok) : (setContent c f rest b).ok := by
  have hfo := hok.2.2 f (by simp [hf])
  refine ⟨fun _ => hok.1 (by simp [hf]), hok.2.1, ?_⟩
  intro x hx
  simp only [setContent, List.mem_cons] at hx
  rcases hx with rfl | hx
  · exact ⟨fun y hy => hb y hy, hfo.2.1, hfo.2.2⟩
  · exact hok.2.2 x (by simp [hf, hx])

/-- Adding the text node of `characters`: a failure is `WBXML_ERROR_INTERNAL`. -/
theorem addTextInternal_tri (c : TCtx) (text : Bytes) (hok : c.ok) :
    CbSpec [] c (Prog.bind (treeAddText c text) (fun x => if (!x.2) = true then Prog.ret { x.1 with error := EINTERNAL } else Prog.ret x.1)) :=
  (treeAddText_tri c text hok).failed EINTERNAL_ne_OK

theorem xmlBinaryEnd_tri (binRow : Nat → Bool) (c : TCtx) (hok : c.ok) : CbSpec [] c (xmlBinaryEnd binRow c) := by
  unfold xmlBinaryEnd
  rcases hf : c.frames with _ | ⟨f, rest⟩
  · exact CbSpec.ret (.refl hok) nofun
  · refine .ite (fun _ => ?_) fun _ => ?_
    · exact CbSpec.ret (.refl hok) nofun
    · refine .deref (.inl (head_mem hf)) ?_
      have hP := owned_perm_setContent c f rest hf
      cases hc : f.node.content with
      | none => exact CbSpec.ret (.refl hok) nofun
      | some content =>
        rw [hc] at hP
        have hok0 : (setContent c f rest none).ok := setContent_ok c f rest hf hok none nofun
        refine (bufDecodeB64_tri content ((hok.2.2 f (by simp [hf])).1 content hc)).after _ hP nofun fun ⟨content1, ret⟩ _ => ?_
        -- the decoded text becomes a text node, or the code of the decoder is recorded
        refine (?_ : Spec [content1.hdr] (setContent c f rest none).owned _ TCtx.owned
          (fun c1 => CbRel c c1 ∧ (ret ≠ OK → c1.error ≠ OK)) (fun c1 => c1.error ≠ OK)).call (.refl _)
          (fun _ hi => .inr (List.mem_singleton.1 hi ▸ List.mem_cons_self)) fun c1 ⟨r1, hr⟩ => ?_
        · refine .if_ne_ok (fun hret => .ret (.refl _) ⟨rfl, ⟨rfl, hok0, fun _ => hret⟩, fun _ => hret⟩ nofun) fun hret => ?_
          refine .read (.inr List.mem_cons_self) (bufCstr_spec content1) fun _ _ => ?_
          exact ((addTextInternal_tri (setContent c f rest none) content1.bytes hok0).borrow nofun).mono id
            (fun _ B ⟨e, r⟩ => ⟨B, .refl _, e, r, fun h => absurd hret h⟩) fun _ _ _ => id
        · -- the failure was in the decoder, or while the text node was added
          exact .release (bufDestroy_frees (some content1)) (.refl _)
            (CbSpec.ret r1 fun g => g.elim (fun g => hr (g.resolve_left id)) id)

theorem xmlBinaryChars_tri (c : TCtx) (f : Frame) (rest : List Frame) (hf : c.frames = f :: rest) (text : Bytes) (hok : c.ok) :
    CbSpec [] c (xmlBinaryChars c f rest text) := by
  unfold xmlBinaryChars
  refine .deref (.inl (head_mem hf)) ?_
  have hP := owned_perm_setContent c f rest hf
  cases hc : f.node.content with
  | none =>
    rw [hc] at hP
    refine (bufCreate_tri (some text) 1).make nofun fun b hk1 => ?_
    cases b with
    | none => exact .ret (.of_eq (List.append_nil _)) ⟨rfl, rfl, hok, fun _ => ENOMEM_ne_OK⟩ fun _ => ENOMEM_ne_OK
    | some b =>
      exact .ret (((hP.trans (.of_eq (List.append_nil _))).append_right _).trans (setContent_perm c f rest (some b)).symm)
        ⟨rfl, rfl, setContent_ok c f rest hf hok (some b) (fun x hx => Option.some.inj hx ▸ hk1 b rfl), id⟩ (by simp)
  | some b =>
    rw [hc] at hP
    have hbok : b.ok := (hok.2.2 f (by simp [hf])).1 b hc
    refine (bufAppendData_tri b (some text) hbok).after _ hP nofun fun ⟨b1, ok⟩ ⟨_, _, k1⟩ => ?_
    have hok1 : (setContent c f rest (some b1)).ok :=
      setContent_ok c f rest hf hok (some b1) (fun x hx => Option.some.inj hx ▸ k1 hbok)
    cases ok with
    | false => exact .ret (setContent_perm c f rest (some b1)).symm ⟨rfl, rfl, hok1, fun _ => ENOMEM_ne_OK⟩ fun _ => ENOMEM_ne_OK
    | true => exact .ret (setContent_perm c f rest (some b1)).symm ⟨rfl, rfl, hok1, id⟩ (by simp)

theorem clbXmlStart_tri (c : TCtx) (langOk : Bool) (tag : XName) (attrs : List XAttrIn) (hok : c.ok) :
    CbSpec [] c (clbXmlStart c langOk tag attrs) := by
  unfold clbXmlStart
  refine .if_ne_ok (fun h => CbSpec.ret (.refl hok) fun _ => h) fun _ => ?_
  refine .ite (fun _ => .ret (.refl _) ⟨rfl, rfl, hok, fun _ => EXMLLANG_ne_OK⟩ nofun) fun _ => ?_
  exact (treeAddXmlEltWithAttrs_tri c tag attrs hok).orDropped ENOMEM_ne_OK fun c1 r1 => CbSpec.ret (.refl r1.2.1) nofun

theorem clbXmlEnd_tri (binRow : Nat → Bool) (c : TCtx) (hok : c.ok) : CbSpec [] c (clbXmlEnd binRow c) :=
  (xmlBinaryEnd_tri binRow c hok).step (.refl _) nofun fun c1 r1 =>
    CbSpec.then r1 (clbEndElement_tri c1 r1.2.1) (·.resolve_left id)

theorem clbXmlStartCdata_tri (c : TCtx) (hok : c.ok) : CbSpec [] c (clbXmlStartCdata c) := by
  unfold clbXmlStartCdata
  refine .if_ne_ok (fun h => CbSpec.ret (.refl hok) fun _ => h) fun _ => ?_
  exact (treeAddCdata_tri c hok).orDropped EINTERNAL_ne_OK fun c1 r1 => CbSpec.ret (.refl r1.2.1) nofun

theorem clbXmlEndCdata_tri (c : TCtx) (hok : c.ok) : CbSpec [] c (clbXmlEndCdata c) := by
  refine .of_moves fun s hl => ?_
  unfold clbXmlEndCdata
  refine Good.if_ne_ok (fun _ => good_ret.2 ⟨rfl, .refl _, .refl hok⟩) (fun _ => ?_)
  rcases hf : c.frames with _ | ⟨f, _ | ⟨g, rest⟩⟩
  · exact good_ret.2 ⟨rfl, by simp [TCtx.owned, hf], rfl, ⟨fun h => absurd rfl h, hok.2.1, fun _ h => nomatch h⟩, fun _ => EINTERNAL_ne_OK⟩
  · exact Good.deref (hl _ (head_mem hf)) (Good.deref (hl _ (tree_mem_owned c)) (good_ret.2 ⟨rfl, .refl _, .refl hok⟩))
  · exact Good.deref (hl _ (head_mem hf)) (good_ret.2 ⟨rfl, popFrame_perm c hok, popFrame_tree c, popFrame_ok c hok,
      fun h => by rw [popFrame_error]; exact h⟩)

theorem clbXmlChars_tri (binRow : Nat → Bool) (c : TCtx) (text : Bytes) (dt : DataType) (hok : c.ok) :
    CbSpec [] c (clbXmlChars binRow c text dt) := by
  unfold clbXmlChars
  refine .if_ne_ok (fun h => CbSpec.ret (.refl hok) fun _ => h) fun _ => ?_
  generalize (if (dt == DataType.vobject && text == [0x0A]) = true then [0x0D, 0x0A] else text) = text'
  generalize (dt != DataType.normal && match c.frames with
    | f :: _ => f.kind != NKind.cdata && !(match f.kids with | k :: _ => k.kind == NKind.cdata | [] => false)
    | [] => false) = needCdata
  refine (Tri.ite (fun _ => treeAddCdata_tri c hok) fun _ => .ret (.refl _) ⟨rfl, rfl, rfl, hok⟩ nofun).step (.refl _) nofun
    fun ⟨c1, ok⟩ ⟨t1, e1, ok1⟩ => ?_
  cases ok with
  | false => exact CbSpec.dropped t1 ok1 EINTERNAL_ne_OK
  | true =>
    simp only [Bool.not_true, Bool.false_eq_true, if_false]
    have r1 : CbRel c c1 := ⟨t1, ok1, fun he h' => he (e1.symm.trans h')⟩
    have htext := CbSpec.then (F := False ∨ (c1, true).2 = false) r1 (addTextInternal_tri c1 text' ok1) (by simp)
    rcases hf : c1.frames with _ | ⟨f, rest⟩
    · exact htext
    · exact .ite (fun _ => CbSpec.then r1 (xmlBinaryChars_tri c1 f rest hf text' ok1) (by simp)) fun _ => htext

theorem clbXmlEvent_tri (binRow : Nat → Bool) (c : TCtx) (e : XEvent) (hok : c.ok) : CbSpec [] c (clbXmlEvent binRow c e) := by
  cases e with
  | start langOk tag attrs => exact clbXmlStart_tri c langOk tag attrs hok
  | stop => exact clbXmlEnd_tri binRow c hok
  | startCdata => exact clbXmlStartCdata_tri c hok
  | endCdata => exact clbXmlEndCdata_tri c hok
  | chars text dt => exact clbXmlChars_tri binRow c text dt hok

theorem clbXmlEvents_tri (binRow : Nat → Bool) (events : List XEvent) (c : TCtx) (hok : c.ok) :
    CbSpec [] c (clbXmlEvents binRow c events) := by
  induction events generalizing c with
  | nil => exact CbSpec.ret (.refl hok) nofun
  | cons e rest ih =>
    exact (clbXmlEvent_tri binRow c e hok).step (.refl _) nofun fun c1 r1 => CbSpec.then r1 (ih c1 r1.2.1) (·.resolve_left id)

theorem treeFromXml_tri (binRow : Nat → Bool) (events : List XEvent) (parseOk : Bool) :
    TreeMade [] (treeFromXml binRow events parseOk) := by
  unfold treeFromXml
  refine treeCreate_tri.step (.refl _) nofun fun c0 hshape => ?_
  cases c0 with
  | none => exact .ret (.refl _) ⟨rfl, fun _ => rfl, fun _ h => nomatch h⟩ fun _ => ENOMEM_ne_OK
  | some c0 =>
    obtain ⟨t, rfl⟩ := hshape c0 rfl
    refine (clbXmlEvents_tri binRow events _ (TCtx.ok_new t)).step (.refl _) nofun fun c2 ⟨_, ok2, _⟩ => ?_
    cases parseOk with
    | false => exact TreeMade.drop c2 EXMLPARSE_ne_OK
    | true => exact .if_ne_ok (fun herr => TreeMade.drop c2 herr) fun herr => TreeMade.done c2 ok2 herr (·.resolve_left (by simp))

end Wbxml.Model.Alloc
