/-
  C16 — specifications of the encoder functions (modelled statement by statement) in the ledger monad: string-table
  elements, the encoder object, `encoder_init_output`, the document body, the header builders with
  `wbxml_build_result`, and `wbxml_strtbl_add_element` with the well-formedness of the table (`TblInv`).
-/
import Wbxml.Model.AllocEnc
import Wbxml.Lemmas.AllocCont
namespace Wbxml.Model.Alloc
open Wbxml

def ownedEltOpt : Option StrElt → List Nat
  | none => []
  | some e => e.owned

theorem strEltCreate_tri (string : ABuf) (stat : Bool) :
    Spec [] [] (strEltCreate string stat) (fun r => match r with | none => [] | some e => [e.hdr])
      (fun r => ∀ e, r = some e → e.string = string ∧ e.stat = stat) (· = none) :=
  .malloc (.ret (.refl _) ⟨rfl, fun _ h => nomatch h⟩ fun _ => rfl) fun _ => .ret (.refl _) ⟨rfl, by simp⟩ False.elim

theorem strEltDestroy_frees (e : Option StrElt) : Frees (strEltDestroy e) (ownedEltOpt e) := by
  rcases e with _ | e
  · exact .nil
  unfold strEltDestroy
  simp only [bind_eq, ownedEltOpt, StrElt.owned]
  refine .deref List.mem_cons_self ?_
  cases e.stat <;> simp only [Bool.not_false, Bool.not_true, Bool.false_eq_true, if_true, if_false]
  · exact ((bufDestroy_frees (some e.string)).seq (.free (some e.hdr))).perm (by simp only [ownedBufOpt]; perm_count)
  · exact Frees.free (some e.hdr)

theorem elt_destroys : Destroys StrElt.owned (fun x => strEltDestroy (some x)) := fun e => strEltDestroy_frees (some e)

theorem AEnc.owned_eq (e : AEnc) : e.owned = e.hdr :: (listOwned StrElt.owned e.strstbl ++ ownedBufOpt e.output) := by
  cases h : e.strstbl <;> simp [AEnc.owned, ownedStrList, listOwned, h, AList.owned, cellsOwned]

def ownedEncOpt : Option AEnc → List Nat
  | none => []
  | some e => e.owned

theorem encCreate_tri :
    Spec [] [] encCreate ownedEncOpt
      (fun r => ∀ e, r = some e → e.output = none ∧ ∃ l, e.strstbl = some l ∧ l.cells = []) (· = none) := by
  unfold encCreate
  refine .malloc (.ret (.refl _) ⟨rfl, fun _ h => nomatch h⟩ fun _ => rfl) fun h => ?_
  refine (listCreate_tri (ι := StrElt)).make nofun fun l hc => ?_
  rcases l with _ | l
  · exact .release (Frees.free (some h)) (Fr := []) (.refl _) (.ret (.refl _) ⟨rfl, fun _ h => nomatch h⟩ fun _ => rfl)
  · exact .ret (by simp [ownedEncOpt, AEnc.owned, ownedStrList, AList.owned, hc l rfl, ownedBufOpt])
      ⟨rfl, by simp [hc l rfl]⟩ (by simp)

theorem encDestroy_frees (e : Option AEnc) : Frees (encDestroy e) (ownedEncOpt e) := by
  rcases e with _ | e
  · exact .nil
  unfold encDestroy
  exact .deref List.mem_cons_self (((bufDestroy_frees e.output).seq ((listDestroy_frees _ _ elt_destroys e.strstbl).seq
    (.free (some e.hdr)))).perm (by simp only [ownedEncOpt, AEnc.owned_eq]; perm_count))

/-- Steps that keep the encoder struct and its string table and only touch the output buffer. -/
def EncStep (e : AEnc) (s : Ledger) (e' : AEnc) (s' : Ledger) : Prop :=
  e'.hdr = e.hdr ∧ Clean s s' e.owned e'.owned ∧ (∀ o, e'.output = some o → o.ok) ∧ e'.useStrtbl = e.useStrtbl

/-- `EncStep` without the ledger. -/
abbrev EncKept (e e' : AEnc) : Prop := e'.hdr = e.hdr ∧ (∀ o, e'.output = some o → o.ok) ∧ e'.useStrtbl = e.useStrtbl

theorem encInitOutput_tri (e : AEnc) (hok : ∀ o, e.output = some o → o.ok) :
    Spec [] e.owned (encInitOutput e) (fun r => r.1.owned)
      (fun r => EncKept e r.1 ∧ r.1.strstbl = e.strstbl ∧ r.1.strstblLen = e.strstblLen ∧ (r.2 = true → r.1.output.isSome))
      (fun r => r.2 = false) := by
  unfold encInitOutput
  refine .deref (.inl List.mem_cons_self) ?_
  cases ho : e.output with
  | some o => exact .ret (.refl _) ⟨rfl, ⟨rfl, hok, rfl⟩, rfl, rfl, by simp [ho]⟩ False.elim
  | none =>
    refine (bufCreate_tri (some []) DOC_BLOCK).make nofun fun b ok1 => ?_
    rcases b with _ | b
    · exact .ret (by simp [ownedBufOpt]) ⟨rfl, ⟨rfl, hok, rfl⟩, rfl, rfl, nofun⟩ fun _ => rfl
    · exact .ret (by simp [AEnc.owned, ho, ownedBufOpt]) ⟨rfl, ⟨rfl, fun o ho' => by cases ho'; exact ok1 b rfl, rfl⟩, rfl, rfl, by simp⟩
        (by simp)

/-- The output buffer stands last among the encoder's blocks. -/
theorem AEnc.owned_out {e : AEnc} {o : ABuf} (ho : e.output = some o) :
    e.owned = (e.hdr :: ownedStrList e.strstbl) ++ o.owned := by
  simp [AEnc.owned, ho, ownedBufOpt]

/-- The document body only touches the output buffer. -/
theorem encodeBody_tri (chunks : List Bytes) (e : AEnc) (o : ABuf) (ho : e.output = some o) (hk : o.ok) :
    Spec [] o.owned (encodeBody e chunks) (fun r => ownedBufOpt r.1.output)
      (fun r => EncKept e r.1 ∧ r.1.strstbl = e.strstbl ∧ r.1.strstblLen = e.strstblLen ∧ r.1.output.isSome)
      (fun r => r.2 ≠ OK) := by
  induction chunks generalizing e o with
  | nil =>
    exact .ret (.refl _) ⟨by simp [ho, ownedBufOpt], ⟨rfl, fun o' ho' => by rw [ho] at ho'; cases ho'; exact hk, rfl⟩, rfl, rfl,
      by simp [ho]⟩ nofun
  | cons chunk rest ih =>
    unfold encodeBody
    simp only [ho, bind_eq, pure_eq]
    refine (bufAppendData_tri o (some chunk) hk).step (.refl _) nofun fun ⟨o1, ok⟩ ⟨_, _, k1⟩ => ?_
    cases ok with
    | false =>
      exact .ret (.refl _) ⟨rfl, ⟨rfl, fun o' ho' => by cases ho'; exact k1 hk, rfl⟩, rfl, rfl, rfl⟩ fun _ => by simp [EAPPEND, OK]
    | true => exact (ih { e with output := some o1 } o1 rfl (k1 hk)).lower (by simp)

/-- One `wbxml_buffer_append_*` on the header followed by `if (!ok) return EAPPEND`. -/
theorem header_step {R : List Nat} {h : ABuf} {F : Prop} {p : Prog (ABuf × Bool)} (hp : BufSpec R h p) (hok : h.ok)
    {k : ABuf × Bool → Prog (ABuf × Nat)}
    (hnext : ∀ h1 : ABuf, h1.ok → Tri R h1.owned F (k (h1, true)) (fun r B => B = r.1.owned ∧ r.1.ok) (fun r => r.2 ≠ OK)) :
    Tri R h.owned F (Prog.bind p (fun r => if (!r.2) = true then Prog.ret (r.1, EAPPEND) else k r))
      (fun r B => B = r.1.owned ∧ r.1.ok) (fun r => r.2 ≠ OK) := by
  refine Tri.step hp (.refl _) (fun _ => id) fun ⟨h1, ok⟩ ⟨_, _, k1⟩ => ?_
  cases ok with
  | false => exact .ret (.refl _) ⟨rfl, k1 hok⟩ fun _ => by simp [EAPPEND, OK]
  | true => exact (hnext h1 (k1 hok)).lower (by simp)

/-- `wbxml_strtbl_construct`; the strings of the table are only read. -/
theorem strtblConstruct_tri (elts : List StrElt) (h : ABuf) (hok : h.ok) :
    Spec (elts.map (·.string.hdr)) h.owned (strtblConstruct h elts) (fun r => r.1.owned) (fun r => r.1.ok)
      (fun r => r.2 ≠ OK) := by
  induction elts generalizing h with
  | nil => exact .ret (.refl _) ⟨rfl, hok⟩ False.elim
  | cons elt rest ih =>
    unfold strtblConstruct
    refine header_step (bufAppend_tri _ h (some elt.string) hok fun i hi => .inr (by simp_all)) hok fun h1 ok1 => ?_
    refine header_step ((bufAppendChar_tri h1 0 ok1).borrow nofun) ok1 fun h2 ok2 => ?_
    exact (ih h2 ok2).borrow fun i hi => List.mem_cons_of_mem _ hi

/-- The blocks `wbxml_fill_header` reads besides the header: the strings of the table. -/
def AEnc.strings (e : AEnc) : List Nat :=
  match e.strstbl with
  | none => []
  | some l => l.items.map (·.string.hdr)

theorem fillHeader_tri (e : AEnc) (h : ABuf) (version publicId : Nat) (hok : h.ok) :
    Spec e.strings h.owned (fillHeader e h version publicId) (fun r => r.1.owned) (fun r => r.1.ok) (fun r => r.2 ≠ OK) := by
  unfold fillHeader
  refine header_step ((bufAppendChar_tri h _ hok).borrow nofun) hok fun h1 ok1 => ?_
  refine header_step ((bufAppendData_tri h1 _ ok1).borrow nofun) ok1 fun h2 ok2 => ?_
  -- no charset field in a WBXML 1.0 header
  have hcharset : BufSpec e.strings h2 (if (version != 0) = true then bufAppendData h2 (some (mbOctets CHARSET_UTF8))
      else Prog.ret (h2, true)) :=
    .ite (fun _ => (bufAppendData_tri h2 _ ok2).borrow nofun) fun _ => BufSpec.same true nofun
  refine header_step hcharset ok2 fun h3 ok3 => ?_
  refine header_step ((bufAppendData_tri h3 _ ok3).borrow nofun) ok3 fun h4 ok4 => ?_
  refine .ite (fun _ => ?_) fun _ => .ret (.refl _) ⟨rfl, ok4⟩ False.elim
  cases hl : e.strstbl with
  | none => exact .ret (.refl _) ⟨rfl, ok4⟩ False.elim
  | some l => exact (strtblConstruct_tri l.items h4 ok4).borrow fun i hi => by simpa [AEnc.strings, hl] using hi

/-- The block of `*wbxml` / `*xml`, the one thing a conversion hands to its caller. -/
def ownedResult : Option (Nat × Bytes) → List Nat
  | none => []
  | some r => [r.1]

/-- The blocks `wbxml_build_result` reads: the encoder struct, its output buffer, the strings of its table. -/
def AEnc.reads (e : AEnc) : List Nat := e.hdr :: (e.output.toList.map (·.hdr) ++ e.strings)

theorem AEnc.reads_live {e : AEnc} {s : Ledger} (hl : e.hdr ∈ s.live) (hout : ∀ o, e.output = some o → o.hdr ∈ s.live)
    (hstr : ∀ l, e.strstbl = some l → ∀ x ∈ l.items, x.string.hdr ∈ s.live) :
    ∀ i ∈ e.reads, i ∈ s.live ∧ i ∉ ([] : List Nat) := by
  intro i hi
  refine ⟨?_, nofun⟩
  simp only [AEnc.reads, AEnc.strings, List.mem_cons, List.mem_append, List.mem_map] at hi
  rcases hi with rfl | ⟨o, ho, rfl⟩ | hi
  · exact hl
  · exact hout o (by simpa using ho)
  · cases hs : e.strstbl with
    | none => simp [hs] at hi
    | some l =>
      obtain ⟨x, hx, rfl⟩ := by simpa [hs] using hi
      exact hstr l hs x hx

/-- `wbxml_build_result`: the encoder is only read; the header buffer never outlives the call; the
    result block is the only thing produced, and only with `WBXML_OK`. -/
theorem buildResult_tri (e : AEnc) (version publicId : Nat) (hout : ∀ o, e.output = some o → o.ok) :
    Spec e.reads [] (buildResult e version publicId) (fun r => ownedResult r.2) (fun r => r.1 ≠ OK → r.2 = none)
      (fun r => r.1 ≠ OK) := by
  unfold buildResult
  refine .deref (.inr List.mem_cons_self) ((bufCreate_tri (some []) HEADER_BLOCK).make nofun fun header ok1 => ?_)
  rcases header with _ | header <;> dsimp only
  · exact .ret (.refl _) ⟨rfl, fun _ => rfl⟩ fun _ => ENOMEM_ne_OK
  refine (fillHeader_tri e header version publicId (ok1 header rfl)).step (.refl _)
    (fun i hi => List.mem_cons_of_mem _ (List.mem_append_right _ hi)) fun ⟨header2, ret⟩ okk2 => ?_
  refine .if_ne_ok (fun hret => ?_) fun hret => ?_
  · exact .release (bufDestroy_frees (some header2)) (Fr := []) (.refl _) (.ret (.refl _) ⟨rfl, fun _ => rfl⟩ fun _ => hret)
  subst hret
  refine .malloc ?_ fun r => ?_
  · exact .release (bufDestroy_frees (some header2)) (Fr := []) (.refl _) (.ret (.refl _) ⟨rfl, fun _ => rfl⟩ fun _ => ENOMEM_ne_OK)
  refine .read (.inl (by simp [ABuf.owned])) (bufCstr_spec header2) fun hb hbs => ?_
  refine .reads (X := fun ob => ob.isSome) (fun s hl => ?_) fun ob hobs => ?_
  · cases ho : e.output with
    | none => simp [good_ret]
    | some o =>
      exact (bufCstr_spec o s (hl _ (.inr (by simp [AEnc.reads, ho])))).mono fun r s' ⟨a, b⟩ => ⟨a, b (hout o ho)⟩
  refine .release (bufDestroy_frees (some header2)) (Fr := [r]) (by simp only [ownedBufOpt]; perm_count) ?_
  obtain ⟨hbv, rfl⟩ := Option.isSome_iff_exists.1 (hbs okk2)
  obtain ⟨obv, rfl⟩ := Option.isSome_iff_exists.1 hobs
  exact .ret (.refl _) ⟨rfl, fun h => absurd rfl h⟩ (by simp)

/-- Offsets are consecutive: each entry starts where the previous one (plus its terminator) ended,
    and the total is `len`. -/
def offsOk : Nat → List StrElt → Nat → Prop
  | off, [], len => off = len
  | off, x :: r, len => x.offset = off ∧ offsOk (off + x.string.len + 1) r len

theorem offsOk_append (off : Nat) (xs : List StrElt) (len : Nat) (x : StrElt) (h : offsOk off xs len)
    (hx : x.offset = len) : offsOk off (xs ++ [x]) (len + x.string.len + 1) := by
  induction xs generalizing off with
  | nil => simp only [offsOk] at h; subst h; simp [offsOk, hx]
  | cons y r ih => simp only [offsOk, List.cons_append] at h ⊢; exact ⟨h.1, ih _ h.2⟩

/-- The string table as `wbxml_strtbl_construct` writes it out: offsets consecutive from 0 and adding
    up to `strstbl_len`, no two entries with the same bytes. -/
def TblInv (e : AEnc) : Prop :=
  ∃ l, e.strstbl = some l ∧ offsOk 0 l.items e.strstblLen ∧ (l.items.map (·.string.bytes)).Nodup

theorem TblInv.add {e : AEnc} {l l1 : AList StrElt} {elt : StrElt} {c : Nat} (hs : e.strstbl = some l)
    (hany : ¬ l.items.any (fun x => x.string.bytes == elt.string.bytes) = true)
    (hl1 : l1.cells = l.cells ++ [(c, { elt with offset := e.strstblLen })]) (h : TblInv e) :
    TblInv { e with strstbl := some l1, strstblLen := e.strstblLen + elt.string.len + 1 } := by
  obtain ⟨l0, hl0, ho, hn⟩ := h
  obtain rfl : l = l0 := Option.some.inj (hs.symm.trans hl0)
  have hi : l1.items = l.items ++ [{ elt with offset := e.strstblLen }] := by simp [hl1, AList.items]
  refine ⟨l1, rfl, hi ▸ offsOk_append 0 l.items e.strstblLen _ ho rfl, ?_⟩
  rw [hi, List.map_append, List.nodup_append]
  refine ⟨hn, by simp, fun a ha b hb hab => hany ?_⟩
  obtain rfl : b = elt.string.bytes := by simpa using hb
  obtain ⟨y, hy, hye⟩ := List.mem_map.1 ha
  exact List.any_eq_true.2 ⟨y, hy, by simp [hye, hab]⟩

/-- The table only gained entries that own their string. -/
def TblGrew (e e' : AEnc) : Prop :=
  ∀ l', e'.strstbl = some l' → ∀ x ∈ l'.items, (∃ l, e.strstbl = some l ∧ x ∈ l.items) ∨ x.stat = false

theorem TblGrew.trans {e e1 e2 : AEnc} (h1 : TblGrew e e1) (h2 : TblGrew e1 e2) : TblGrew e e2 :=
  fun l' hl' x hx => (h2 l' hl' x hx).elim (fun ⟨l, hl, hxl⟩ => h1 l hl x hxl) Or.inr

/-- The encoder struct and the setting stay; the table only grows, by entries that own their string,
    and stays well-formed. -/
structure EncGrew (e e' : AEnc) : Prop where
  hdr : e'.hdr = e.hdr
  useStrtbl : e'.useStrtbl = e.useStrtbl
  grew : TblGrew e e'
  inv : TblInv e → TblInv e'

theorem EncGrew.trans {e e1 e2 : AEnc} (a : EncGrew e e1) (b : EncGrew e1 e2) : EncGrew e e2 :=
  ⟨b.hdr.trans a.hdr, b.useStrtbl.trans a.useStrtbl, a.grew.trans b.grew, fun h => b.inv (a.inv h)⟩

/-- Nothing happened to the table. -/
theorem EncGrew.of_eq {e e' : AEnc} (h : e'.hdr = e.hdr) (u : e'.useStrtbl = e.useStrtbl) (t : e'.strstbl = e.strstbl)
    (l : e'.strstblLen = e.strstblLen) : EncGrew e e' :=
  ⟨h, u, fun l' hl' _ hx => Or.inl ⟨l', t ▸ hl', hx⟩, fun ⟨l', hl', a, b⟩ => ⟨l', t ▸ hl', l ▸ a, b⟩⟩

/-- What the string-table functions keep of the encoder: the output buffer as well. -/
structure TblKept (e e' : AEnc) : Prop extends EncGrew e e' where
  output : e'.output = e.output

theorem TblKept.refl (e : AEnc) : TblKept e e := ⟨.of_eq rfl rfl rfl rfl, rfl⟩

theorem TblKept.trans {e e1 e2 : AEnc} (a : TblKept e e1) (b : TblKept e1 e2) : TblKept e e2 :=
  ⟨a.toEncGrew.trans b.toEncGrew, b.output.trans a.output⟩

/-- `wbxml_strtbl_add_element`: the element belongs to the table exactly when `added`. -/
theorem strtblAddElement_tri (e : AEnc) (elt : StrElt) :
    Spec [] (e.owned ++ elt.owned) (strtblAddElement e elt) (fun r => r.1.owned ++ (if r.2.2 then [] else elt.owned))
      (fun r => (r.2.2 = true → r.2.1 = true) ∧ (elt.stat = false → TblKept e r.1)) (fun r => r.2.1 = false) := by
  unfold strtblAddElement
  refine .deref (.inl (List.mem_append_left _ List.mem_cons_self)) ?_
  cases hs : e.strstbl with
  | none => exact .ret (.refl _) ⟨rfl, nofun, fun _ => .refl e⟩ False.elim
  | some l =>
    refine .ite (fun _ => .ret (.refl _) ⟨rfl, nofun, fun _ => .refl e⟩ False.elim) fun hany => ?_
    refine (listAppend_tri l { elt with offset := e.strstblLen }).callQ (Fr := e.owned ++ elt.owned) (.refl _)
      (fun i hi => .inr (by rw [List.mem_singleton.1 hi]; simp [AEnc.owned, hs, ownedStrList, AList.owned])) ?_
    rintro ⟨l1, ok⟩ B ⟨eh, ⟨rfl, rfl, rfl⟩ | ⟨rfl, cid, hcells, rfl⟩⟩
    · exact .ret (.refl _) ⟨rfl, nofun, fun _ => .refl e⟩ fun _ => rfl
    · simp only at eh hcells
      refine .ret ?_ ⟨rfl, fun _ => rfl, fun hst => ⟨⟨rfl, rfl, ?_, TblInv.add hs hany hcells⟩, rfl⟩⟩ (by simp)
      · simp only [AEnc.owned, hs, ownedStrList, AList.owned, eh, hcells, List.flatMap_append, List.flatMap_cons,
          List.flatMap_nil, StrElt.owned, if_true, List.append_nil]
        perm_count
      · intro l' hl' x hx
        obtain rfl : l1 = l' := by simpa using hl'
        simp only [AList.items, hcells, List.map_append, List.map_cons, List.map_nil, List.mem_append, List.mem_singleton] at hx
        rcases hx with hx | rfl
        · exact Or.inl ⟨l, hs, by simpa [AList.items] using hx⟩
        · exact Or.inr hst

/-- What the items of `strings` own: nothing when the buffers are borrowed from the tree. -/
def strOi (stat : Bool) (b : ABuf) : List Nat := if stat then [] else b.owned

theorem string_destroys (stat : Bool) : Destroys (strOi stat) (destroyString stat) := by
  intro b
  unfold destroyString
  cases stat
  · exact bufDestroy_frees (some b)
  · exact Frees.nil

end Wbxml.Model.Alloc
