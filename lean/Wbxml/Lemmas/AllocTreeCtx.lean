/-
  C16 — tree building on the ledger: invariants of the call-back context, the pure moves of
  `current` (they only permute the blocks the context owns), the sibling walk, and the destruction
  of the tree.
-/
import Wbxml.Model.AllocTree
import Wbxml.Lemmas.AllocCont
namespace Wbxml.Model.Alloc
open Wbxml

theorem EINTERNAL_ne_OK : EINTERNAL ≠ OK := by decide

/-- `TCtx.ok` piece by piece: a node, a closed child, an open frame. -/
def nodeOk (n : ANode) : Prop := ∀ b, n.content = some b → b.ok

def Kid.ok (k : Kid) : Prop := nodeOk k.node ∧ (k.kind = .text → k.below = [])

def Frame.ok (f : Frame) : Prop := nodeOk f.node ∧ f.kind ≠ .text ∧ ∀ k ∈ f.kids, k.ok

/-- The context is consistent: the root is either on the open path or closed, not both; content
    buffers are well-formed; text nodes are leaves. -/
def TCtx.ok (c : TCtx) : Prop :=
  (c.frames ≠ [] → c.root = none) ∧ (∀ k, c.root = some k → k.ok) ∧ ∀ f ∈ c.frames, f.ok

theorem Frame.close_ok (f : Frame) (h : f.ok) : f.close.ok :=
  ⟨h.1, fun hk => absurd hk h.2.1⟩

theorem Frame.close_owned (f : Frame) : f.close.owned = f.owned := rfl

theorem TCtx.owned_cons (c : TCtx) (f : Frame) (rest : List Frame) (h : c.frames = f :: rest) :
    c.owned = c.tree :: (ownedKidOpt c.root ++ (f.owned ++ rest.flatMap Frame.owned)) := by
  simp [TCtx.owned, h]

theorem popFrame_nil (c : TCtx) (hf : c.frames = []) : popFrame c = c := by simp [popFrame, hf]

theorem popFrame_one (c : TCtx) (f : Frame) (hf : c.frames = [f]) :
    popFrame c = { c with root := some f.close, frames := [] } := by simp [popFrame, hf]

theorem popFrame_two (c : TCtx) (f g : Frame) (rest : List Frame) (hf : c.frames = f :: g :: rest) :
    popFrame c = { c with frames := { g with kids := g.kids ++ [f.close] } :: rest } := by simp [popFrame, hf]

theorem popFrame_perm (c : TCtx) (h : c.ok) : (popFrame c).owned.Perm c.owned := by
  rcases hf : c.frames with _ | ⟨f, _ | ⟨g, rest⟩⟩
  · rw [popFrame_nil c hf]
  · rw [popFrame_one c f hf]
    have hr : c.root = none := h.1 (by simp [hf])
    simp [TCtx.owned, hf, hr, ownedKidOpt, Frame.close_owned]
  · rw [popFrame_two c f g rest hf]
    simp only [TCtx.owned, hf, List.flatMap_cons, Frame.owned, List.flatMap_append, List.flatMap_nil,
      List.append_nil, Kid.owned, Frame.close]
    perm_count

theorem popFrame_tree (c : TCtx) : (popFrame c).tree = c.tree := by
  unfold popFrame; split <;> rfl

theorem popFrame_error (c : TCtx) : (popFrame c).error = c.error := by
  unfold popFrame; split <;> rfl

theorem popFrame_ok (c : TCtx) (h : c.ok) : (popFrame c).ok := by
  rcases hf : c.frames with _ | ⟨f, _ | ⟨g, rest⟩⟩
  · rw [popFrame_nil c hf]; exact h
  · rw [popFrame_one c f hf]
    refine ⟨by simp, ?_, by simp⟩
    intro k hk
    simp only [Option.some.injEq] at hk
    subst hk
    exact Frame.close_ok f (h.2.2 f (by simp [hf]))
  · rw [popFrame_two c f g rest hf]
    have hr : c.root = none := h.1 (by simp [hf])
    refine ⟨fun _ => hr, fun k hk => ?_, ?_⟩
    · simp only at hk; rw [hr] at hk; cases hk
    · intro x hx
      simp only [List.mem_cons] at hx
      rcases hx with rfl | hx
      · have hg := h.2.2 g (by simp [hf])
        have hf' := h.2.2 f (by simp [hf])
        refine ⟨hg.1, hg.2.1, fun k hk => ?_⟩
        simp only [List.mem_append, List.mem_singleton] at hk
        rcases hk with hk | rfl
        · exact hg.2.2 k hk
        · exact Frame.close_ok f hf'
      · exact h.2.2 x (by simp [hf, hx])

theorem popFrame_length (c : TCtx) : (popFrame c).frames.length = c.frames.length - 1 := by
  unfold popFrame
  split <;> simp_all

theorem closeAll_spec (n : Nat) (c : TCtx) (h : c.ok) :
    (closeAll n c).owned.Perm c.owned ∧ (closeAll n c).ok ∧ (closeAll n c).tree = c.tree ∧
    (closeAll n c).error = c.error ∧ (c.frames.length ≤ n → (closeAll n c).frames = []) := by
  induction n generalizing c with
  | zero =>
    simp only [closeAll]
    exact ⟨List.Perm.refl _, h, by simp, by simp, fun hl => by simpa using hl⟩
  | succ n ih =>
    simp only [closeAll]
    split
    · rename_i he
      exact ⟨List.Perm.refl _, h, rfl, rfl, fun _ => by simpa using he⟩
    · obtain ⟨a, b, c1, d, e⟩ := ih (popFrame c) (popFrame_ok c h)
      refine ⟨a.trans (popFrame_perm c h), b, c1.trans (popFrame_tree c), d.trans (popFrame_error c), fun hl => e ?_⟩
      rw [popFrame_length]; omega

theorem dropCurrent_spec (c : TCtx) (h : c.ok) :
    (dropCurrent c).owned.Perm c.owned ∧ (dropCurrent c).ok ∧ (dropCurrent c).tree = c.tree ∧
    (dropCurrent c).error = c.error ∧ (dropCurrent c).frames = [] := by
  obtain ⟨a, b, c1, d, e⟩ := closeAll_spec c.frames.length c h
  exact ⟨a, b, c1, d, e (Nat.le_refl _)⟩

theorem TCtx.owned_error (c : TCtx) (e : Nat) : ({ c with error := e } : TCtx).owned = c.owned := rfl

theorem TCtx.ok_error (c : TCtx) (e : Nat) (h : c.ok) : ({ c with error := e } : TCtx).ok := h

theorem walkKids_spec (kids : List Kid) (s : Ledger) (h : ∀ k ∈ kids, k.node.hdr ∈ s.live) :
    Good (walkKids kids) s (fun _ s' => s' = s) := by
  induction kids with
  | nil => simp only [walkKids, pure_eq, good_ret]
  | cons k rest ih => exact Good.deref (h k (by simp)) (ih fun k' hk' => h k' (by simp [hk']))

/-- The sibling walk of `wbxml_tree_add_node` reads the children, held or borrowed. -/
theorem Tri.walkKids {β : Type} {R O : List Nat} {F : Prop} {kids : List Kid} {k : Unit → Prog β}
    {Q : β → List Nat → Prop} {E : β → Prop} (hL : ∀ x ∈ kids, x.node.hdr ∈ O ∨ x.node.hdr ∈ R)
    (hk : Tri R O F (k ()) Q E) : Tri R O F (Prog.bind (Alloc.walkKids kids) k) Q E := fun s wf own hR =>
  Good.bind_read (walkKids_spec kids s fun x hx => (hL x hx).elim (own.2 _) fun y => (hR _ y).1) fun _ => hk s wf own hR

theorem hdr_mem_owned (n : ANode) : n.hdr ∈ n.owned := by simp [ANode.owned]

theorem kid_hdr_mem (f : Frame) {k : Kid} (hk : k ∈ f.kids) : k.node.hdr ∈ f.owned := by
  simp only [Frame.owned, List.mem_append, List.mem_flatMap]
  exact Or.inr ⟨k, hk, by simp [Kid.owned, hdr_mem_owned]⟩

theorem frame_mem_owned (c : TCtx) {f : Frame} (hf : f ∈ c.frames) {i : Nat} (hi : i ∈ f.owned) : i ∈ c.owned := by
  simp only [TCtx.owned, List.mem_cons, List.mem_append, List.mem_flatMap]
  exact Or.inr (Or.inr ⟨f, hf, hi⟩)

theorem tree_mem_owned (c : TCtx) : c.tree ∈ c.owned := by simp [TCtx.owned]

theorem freeAll_frees (L : List Nat) : Frees (forM_ L fun b => free (some b)) L := by
  simpa using forM_frees (fun b => [b]) _ (fun b => Frees.free (some b)) L

theorem kidDestroy_frees (k : Kid) : Frees (kidDestroy k) k.owned :=
  ((freeAll_frees k.below).seq (nodeDestroy_frees (some k.node))).perm List.perm_append_comm

theorem frameDestroy_frees (f : Frame) : Frees (frameDestroy f) f.owned :=
  ((forM_frees Kid.owned _ kidDestroy_frees f.kids).seq (nodeDestroy_frees (some f.node))).perm List.perm_append_comm

theorem treeDestroy_frees (c : TCtx) : Frees (treeDestroy c) c.owned := by
  have hroot : Frees (match c.root with | none => Prog.ret () | some k => kidDestroy k) (ownedKidOpt c.root) := by
    cases c.root with
    | none => exact .nil
    | some k => exact kidDestroy_frees k
  exact .deref (tree_mem_owned c) ((hroot.seq ((forM_frees Frame.owned _ frameDestroy_frees c.frames).seq
    (.free (some c.tree)))).perm (by simp only [TCtx.owned]; perm_count))

end Wbxml.Model.Alloc
