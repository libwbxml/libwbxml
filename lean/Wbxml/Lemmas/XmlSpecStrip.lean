/-
  `xml_encode_text` keeps character data within the XML characters: stripping blanks, the SyncML
  media-type rewriting and the base64 form (`xmlChars_vText`) — so the precondition on text nodes can be
  stated on the nodes' own octets (`okNode_text_of_chars`).
-/
import Wbxml.Lemmas.XmlSpecView
namespace Wbxml.Lemmas.XmlSpec
open Wbxml Wbxml.Model Wbxml.Spec Wbxml.Spec.Xml Wbxml.Lemmas.EncW Wbxml.Lemmas.XmlPrint Wbxml.Lemmas.XmlNs

theorem xmlChars_dropWhile (p : UInt8 → Bool) (hp : ∀ b, p b = true → b.toNat < 0x80) (s : Bytes)
    (h : xmlChars s = true) : xmlChars (s.dropWhile p) = true := by
  induction s with
  | nil => rfl
  | cons a r ih =>
    by_cases ha : p a = true
    · rw [List.dropWhile_cons_of_pos ha]
      rw [xmlChars_cons_ascii a r (hp a ha)] at h
      simp only [Bool.and_eq_true] at h
      exact ih h.2
    · rw [List.dropWhile_cons_of_neg ha]; exact h

def rstrip (p : UInt8 → Bool) (l : Bytes) : Bytes := (l.reverse.dropWhile p).reverse

theorem rstrip_cons (p : UInt8 → Bool) (x : UInt8) (l : Bytes) :
    rstrip p (x :: l) = if (rstrip p l).isEmpty && p x then [] else x :: rstrip p l := by
  unfold rstrip
  rw [List.reverse_cons, List.dropWhile_append]
  by_cases h : (List.dropWhile p l.reverse).isEmpty = true
  · simp only [h, ↓reduceIte, List.isEmpty_reverse, Bool.true_and]
    by_cases hx : p x = true
    · simp [hx]
    · simp only [Bool.not_eq_true] at hx
      have he : List.dropWhile p l.reverse = [] := by simpa using h
      simp [hx, he]
  · simp only [Bool.not_eq_true] at h
    simp [h]

theorem rstrip_high (p : UInt8 → Bool) (hp : ∀ b, p b = true → b.toNat < 0x80) (ch r : Bytes)
    (h : ∀ b ∈ ch, 0x80 ≤ b.toNat) : rstrip p (ch ++ r) = ch ++ rstrip p r := by
  induction ch with
  | nil => rfl
  | cons b t ih =>
    have hb : p b = false := by
      cases hpb : p b with
      | false => rfl
      | true => have := hp b hpb; have := h b List.mem_cons_self; omega
    rw [List.cons_append, rstrip_cons, hb, ih (fun x hx => h x (List.mem_cons_of_mem _ hx))]
    simp

theorem xmlChars_rstrip (p : UInt8 → Bool) (hp : ∀ b, p b = true → b.toNat < 0x80) (s : Bytes)
    (h : xmlChars s = true) : xmlChars (rstrip p s) = true := by
  revert h
  refine allCp_induct isChar (fun s => xmlChars (rstrip p s) = true) rfl ?_ ?_ s
  · intro a r ha hc _ ih
    rw [rstrip_cons]
    split
    · rfl
    · rw [xmlChars_cons_ascii a _ ha, hc, ih]; rfl
  · intro ch cp r _ hch hd _ hc _ ih
    rw [rstrip_high p hp ch r hch]
    exact allCp_multi isChar ch cp hd hc _ ih

theorem isSpaceC_ascii (b : UInt8) (h : isSpaceC b = true) : b.toNat < 0x80 := by
  simp only [isSpaceC, Bool.or_eq_true, beq_iff_eq, Bool.and_eq_true, decide_eq_true_eq] at h
  rcases h with rfl | h
  · decide
  · omega

theorem xmlChars_stripBlanks (s : Bytes) (h : xmlChars s = true) : xmlChars (stripBlanks s) = true :=
  xmlChars_rstrip isSpaceC isSpaceC_ascii _ (xmlChars_dropWhile isSpaceC isSpaceC_ascii s h)

theorem b64Char_ascii (n : Nat) : (b64Char n).toNat < 0x80 ∧ isChar (b64Char n).toNat = true := by
  have h : ∀ i, i < 64 → (b64Alphabet.getD i 0).toNat < 0x80 ∧ isChar (b64Alphabet.getD i 0).toNat = true := by decide
  exact h (n % 64) (Nat.mod_lt _ (by decide))

theorem xmlChars_b64 (s : Bytes) : xmlChars (b64EncodeGo s) = true :=
  allCp_of_ascii isChar _ fun b hb => by
    simpa using List.all_eq_true.mp (b64EncodeGo_all (fun b => decide (b.toNat < 0x80) && isChar b.toNat)
      (fun n => by simp [b64Char_ascii n]) (by decide) s) b hb

theorem xmlChars_ite (cnd : Bool) (L x : Bytes) (hL : xmlChars L = true) (hx : xmlChars x = true) :
    xmlChars (if cnd then L else x) = true := by
  cases cnd
  · exact hx
  · exact hL

theorem xmlChars_textStr (id : Nat) (cur : Option TagRow) (s : Bytes) (h : xmlChars s = true) :
    xmlChars (textStr id cur s) = true := by
  unfold textStr
  exact xmlChars_ite _ _ _ (by decide) (xmlChars_ite _ _ _ (by decide) h)

/-- **Character data of XML characters stays so** through `xml_encode_text`'s white-space stripping,
    media-type rewriting and base64 form. -/
theorem xmlChars_vText (c : XCfg) (cur : Option TagRow) (s : Bytes) (h : xmlChars s = true) :
    xmlChars (vText c cur s) = true := by
  unfold vText
  simp only
  split
  · rfl
  · split
    · exact xmlChars_b64 _
    · apply xmlChars_textStr
      split
      · exact xmlChars_stripBlanks s h
      · exact h

theorem okNode_text_of_chars (c : XCfg) (p : Parent) (cur : Option TagRow) (s : Bytes) (h : xmlChars s = true) :
    okNode c p cur (.text s) = true := by
  simp only [okNode]; exact xmlChars_vText c cur s h

end Wbxml.Lemmas.XmlSpec
