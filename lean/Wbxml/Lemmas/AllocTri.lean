/-
  C16 — the specification triple of the model functions and its rules.

  `Tri R A F p Q E`: from every well-formed ledger in which the caller holds the blocks `A` and the
  blocks `R` (somebody else's: borrowed, only read) are live, the run of `p` ends without fault holding
  some blocks `B` with `Q r B`; and `E r` ("an error is reported") if a failure is delivered during
  the run, or had been delivered before (`F`, for a program that is the rest of a function body).
  A proof by these rules never names a ledger: the frame is part of the call rules, and "which request
  failed" is the flag, raised by the error condition of each callee and discharged at each exit.
-/
import Wbxml.Lemmas.AllocFrame
namespace Wbxml.Model.Alloc
open Wbxml

def Tri (R A : List Nat) (F : Prop) (p : Prog α) (Q : α → List Nat → Prop) (E : α → Prop) : Prop :=
  ∀ s, s.WF → Owns s A → (∀ i ∈ R, i ∈ s.live ∧ i ∉ A) →
    Good p s (fun r s' => ∃ B, Q r B ∧ Clean s s' A B ∧ (F ∨ s.hits < s'.hits → E r))

/-- The specification of a whole function in standard form: holding `A`, it ends holding exactly
    `own r`, with `X r`. -/
abbrev Spec (R A : List Nat) (p : Prog α) (own : α → List Nat) (X : α → Prop) (E : α → Prop) : Prop :=
  Tri R A False p (fun r B => B = own r ∧ X r) E

namespace Tri

section one
variable {R R' A O : List Nat} {F F' : Prop} {p q : Prog α} {Q Q' : α → List Nat → Prop} {E E' : α → Prop}

/-- An exit: what is held is what the specification says (up to order), and the flag is accounted for. -/
theorem ret {a : α} {A' : List Nat} (hp : A.Perm A') (hq : Q a A') (he : F → E a) : Tri R A F (Prog.ret a) Q E :=
  fun _ wf own _ =>
  good_ret.2 ⟨A', hq, (Clean.id wf own).prod_perm hp, fun h => h.elim he fun h => absurd h (Nat.lt_irrefl _)⟩

/-- Consequence: the flag may be lowered, the blocks held reordered, the conclusions weakened (a loop's
    induction hypothesis as the rest of the body). -/
theorem mono (h : Tri R A F p Q E) (hF : F' → F) (hQ : ∀ r B, Q r B → ∃ B', B.Perm B' ∧ Q' r B')
    (hE : ∀ r B, Q r B → E r → E' r) : Tri R A F' p Q' E' :=
  fun s wf own hR => (h s wf own hR).mono fun r _ ⟨B, q, c, e⟩ =>
    let ⟨B', hp, q'⟩ := hQ r B q
    ⟨B', q', c.prod_perm hp, fun f => hE r B q (e (f.imp_left hF))⟩

/-- `mono` for the flag alone: `(by simp)` once the results that raised it are known. -/
theorem lower (h : Tri R A F p Q E) (hF : F' → F) : Tri R A F' p Q E :=
  h.mono hF (fun _ B q => ⟨B, .refl _, q⟩) fun _ _ _ => id

/-- The blocks held may be listed in another order (an induction hypothesis stated for another order). -/
theorem perm (h : Tri R A F p Q E) (hO : O.Perm A) : Tri R O F p Q E := fun s wf own hR =>
  (h s wf (own.perm hO) fun i hi => ⟨(hR i hi).1, fun ha => (hR i hi).2 (hO.mem_iff.2 ha)⟩).mono
    fun _ _ ⟨B, q, c, e⟩ => ⟨B, q, c.cons_perm hO.symm, e⟩

/-- A raised flag is harmless for a program whose result shows the error anyway (an error code kept
    in an object that the program never clears). -/
theorem raise (h : Tri R A F' p Q E) (hE : ∀ r B, Q r B → F → E r) : Tri R A F p Q E :=
  fun s wf own hR => (h s wf own hR).mono fun r _ ⟨B, q, c, e⟩ => ⟨B, q, c, fun f => f.elim (hE r B q) fun y => e (Or.inr y)⟩

/-- More blocks may be borrowed than are read (a callee's specification under the caller's `R`). -/
theorem borrow (h : Tri R' A F p Q E) (hR : ∀ i ∈ R', i ∈ R) : Tri R A F p Q E :=
  fun s wf own hr => h s wf own fun i hi => hr i (hR i hi)

/-- `if (ret != WBXML_OK) … else …` -/
theorem if_ne_ok {ret : Nat} (hp : ret ≠ OK → Tri R A F p Q E) (hq : ret = OK → Tri R A F q Q E) :
    Tri R A F (if (ret != OK) = true then p else q) Q E := fun s wf own hR =>
  Good.if_ne_ok (fun x => hp x s wf own hR) (fun x => hq x s wf own hR)

/-- `if … else …` on any other condition. -/
theorem ite {c : Prop} [Decidable c] (hp : c → Tri R A F p Q E) (hq : ¬ c → Tri R A F q Q E) :
    Tri R A F (if c then p else q) Q E := by
  split
  · exact hp ‹_›
  · exact hq ‹_›

end one

variable {R R' A O : List Nat} {F : Prop} {p : Prog α} {k : α → Prog β} {QA : α → List Nat → Prop}
  {own : α → List Nat} {X EA : α → Prop} {Q : β → List Nat → Prop} {E : β → Prop}

/-- Frame rule: a callee that holds `A` runs where `Fl ++ A ++ Fr` is held (up to order) and may borrow
    from the frame; what it made stands where `A` stood.  The flag is raised by its error condition. -/
theorem frame (Fl Fr : List Nat) (hp : Tri R' A False p QA EA) (hO : O.Perm (Fl ++ (A ++ Fr)))
    (hR : ∀ i ∈ R', i ∈ R ∨ i ∈ Fl ∨ i ∈ Fr) :
    Tri R O F p (fun r C => ∃ B, QA r B ∧ C = Fl ++ (B ++ Fr)) (fun r => F ∨ EA r) := by
  intro s wf own hRl
  have hO' : O.Perm (A ++ (Fr ++ Fl)) := hO.trans (by perm_count)
  have own' := own.perm hO'
  obtain ⟨oA, oF, dAF⟩ := Owns.append_iff.1 own'
  refine (hp s wf oA fun i hi => ?_).mono ?_
  · rcases hR i hi with h | h
    · exact ⟨(hRl i h).1, fun hA => (hRl i h).2 (hO'.mem_iff.2 (List.mem_append_left _ hA))⟩
    · have hm : i ∈ Fr ++ Fl := List.mem_append.2 h.symm
      exact ⟨oF.2 i hm, fun hA => dAF i hA hm⟩
  rintro r s1 ⟨B, q, c, e⟩
  exact ⟨_, ⟨B, q, rfl⟩, ((Clean.frame_r (Fr ++ Fl) wf c own').cons_perm hO'.symm).prod_perm (by perm_count),
    fun h => h.imp id fun h => e (Or.inr h)⟩

/-- Sequencing: the rest of the body starts with what the first part holds, and with its error
    condition as flag. -/
theorem bind (hp : Tri R O F p QA EA) (hk : ∀ r B, QA r B → Tri R B (EA r) (k r) Q E) :
    Tri R O F (Prog.bind p k) Q E := by
  intro s wf own hRl
  refine Good.bind (hp s wf own hRl) ?_
  rintro r s1 ⟨B, q, c, e⟩
  refine (hk r B q s1 c.wf c.owns fun i hi => c.outside wf (hRl i hi).1 (hRl i hi).2).mono ?_
  rintro r' s2 ⟨C, q', c', e'⟩
  refine ⟨C, q', Clean.trans_recycle wf c c', fun h => e' ?_⟩
  rcases h with h | h
  · exact Or.inl (e (Or.inl h))
  · by_cases h1 : s.hits < s1.hits
    · exact Or.inl (e (Or.inr h1))
    · exact Or.inr (by omega)

/-! ### Calling a function by its specification

  The blocks held are split as `Fl ++ A ++ Fr` by a permutation (`.refl _` when they are written that
  way); the rest of the body holds `Fl ++ own r ++ Fr`.  Choose the frame so that what the callee makes
  stands where the `owned` function of the object under construction lists it: `at` for a member in
  the middle, `call` (frame right), `after` (frame left), `step` (no frame) typed without the `[] ++`
  and `++ []`; `make` is `after` for a callee that starts with nothing (a constructor). -/

theorem «at» (Fl Fr : List Nat) (hp : Spec R' A p own X EA) (hO : O.Perm (Fl ++ (A ++ Fr)))
    (hR : ∀ i ∈ R', i ∈ R ∨ i ∈ Fl ∨ i ∈ Fr) (hk : ∀ r, X r → Tri R (Fl ++ (own r ++ Fr)) (F ∨ EA r) (k r) Q E) :
    Tri R O F (Prog.bind p k) Q E :=
  (hp.frame Fl Fr hO hR).bind fun r _ ⟨_, ⟨eB, x⟩, e⟩ => e ▸ eB ▸ hk r x

theorem call {Fr : List Nat} (hp : Spec R' A p own X EA) (hO : O.Perm (A ++ Fr)) (hR : ∀ i ∈ R', i ∈ R ∨ i ∈ Fr)
    (hk : ∀ r, X r → Tri R (own r ++ Fr) (F ∨ EA r) (k r) Q E) : Tri R O F (Prog.bind p k) Q E :=
  hp.at [] Fr hO (fun i hi => (hR i hi).imp id Or.inr) hk

theorem after (Fl : List Nat) (hp : Spec R' A p own X EA) (hO : O.Perm (Fl ++ A)) (hR : ∀ i ∈ R', i ∈ R ∨ i ∈ Fl)
    (hk : ∀ r, X r → Tri R (Fl ++ own r) (F ∨ EA r) (k r) Q E) : Tri R O F (Prog.bind p k) Q E :=
  hp.at Fl [] (by rwa [List.append_nil]) (fun i hi => (hR i hi).imp id Or.inl) fun r x => by
    rw [List.append_nil]; exact hk r x

theorem step (hp : Spec R' A p own X EA) (hO : O.Perm A) (hR : ∀ i ∈ R', i ∈ R)
    (hk : ∀ r, X r → Tri R (own r) (F ∨ EA r) (k r) Q E) : Tri R O F (Prog.bind p k) Q E :=
  hp.after [] hO (fun i hi => Or.inl (hR i hi)) hk

theorem make (hp : Spec R' [] p own X EA) (hR : ∀ i ∈ R', i ∈ R ∨ i ∈ O)
    (hk : ∀ r, X r → Tri R (O ++ own r) (F ∨ EA r) (k r) Q E) : Tri R O F (Prog.bind p k) Q E :=
  hp.after O (by rw [List.append_nil]) hR hk

/-- The call rule for a specification whose blocks are not a function of the result (`listAppend_tri`);
    frame on the right. -/
theorem callQ {Fr : List Nat} (hp : Tri R' A False p QA EA) (hO : O.Perm (A ++ Fr)) (hR : ∀ i ∈ R', i ∈ R ∨ i ∈ Fr)
    (hk : ∀ r B, QA r B → Tri R (B ++ Fr) (F ∨ EA r) (k r) Q E) : Tri R O F (Prog.bind p k) Q E :=
  (hp.frame [] Fr hO fun i hi => (hR i hi).imp id Or.inr).bind fun r _ ⟨B, q, e⟩ => e ▸ hk r B q

theorem _root_.Wbxml.Model.Alloc.malloc_tri : Spec [] [] malloc Option.toList (fun _ => True) (· = none) := fun s wf _ _ =>
  (malloc_spec s wf).mono fun _ _ ⟨c, e⟩ => ⟨_, ⟨rfl, trivial⟩, c, fun f => f.elim False.elim e⟩

/-- A destructor is a specification that reports nothing. -/
theorem _root_.Wbxml.Model.Alloc.Frees.tri {p : Prog Unit} (h : Frees p A) :
    Spec [] A p (fun _ => []) (fun _ => True) (fun _ => False) :=
  fun s wf own _ => (h s wf own).mono fun _ _ ⟨c, e, _⟩ =>
    ⟨_, ⟨rfl, trivial⟩, c, fun f => f.elim id fun h => absurd (e ▸ h) (Nat.lt_irrefl _)⟩

/-- `realloc` of a block held (or of NULL): on failure the block is still held. -/
theorem _root_.Wbxml.Model.Alloc.realloc_tri (p : Ptr) :
    Spec [] p.toList (realloc p) (fun q => match q with | none => p.toList | some x => [x]) (fun _ => True) (· = none) :=
  fun s wf own _ => (realloc_spec p s wf fun a ha => own.2 a (by simp [ha])).mono fun q _ ⟨c, h, _⟩ =>
    ⟨_, ⟨rfl, trivial⟩, by cases q with
      | none => simpa using Clean.frame_r p.toList wf c own
      | some x => exact c, fun f => f.elim False.elim h⟩

/-- `p = malloc(…)`: with NULL the flag is up; otherwise the block joins the blocks held (behind them,
    the order in which the `owned` functions list the members of a struct). -/
theorem malloc {k : Ptr → Prog β} (hnone : Tri R O True (k none) Q E) (hsome : ∀ x, Tri R (O ++ [x]) F (k (some x)) Q E) :
    Tri R O F (Prog.bind Alloc.malloc k) Q E :=
  malloc_tri.make nofun fun h _ => by
    cases h with
    | none => exact (List.append_nil O).symm ▸ hnone.lower fun _ => trivial
    | some x => exact (hsome x).lower fun f => f.elim id nofun

/-- Release some of the blocks held (`free`, a destructor) — written last, as an exit unwinds what
    was made last — then go on with the rest. -/
theorem release {Fr : List Nat} {p : Prog Unit} {k : Unit → Prog β} (hp : Frees p A) (hO : O.Perm (Fr ++ A))
    (hk : Tri R Fr F (k ()) Q E) : Tri R O F (Prog.bind p k) Q E :=
  hp.tri.after Fr hO nofun fun _ _ => (List.append_nil Fr).symm ▸ hk.lower fun h => h.elim id False.elim

/-- `*a` for a block held or borrowed. -/
theorem deref {a : Nat} {k : Unit → Prog β} (ha : a ∈ O ∨ a ∈ R) (hk : Tri R O F (k ()) Q E) :
    Tri R O F (Prog.bind (Alloc.deref (some a)) k) Q E :=
  fun s wf own hR => Good.deref (ha.elim (own.2 a) fun h => (hR a h).1) (hk s wf own hR)

/-- `if (c) … *a …` -/
theorem derefWhen {c : Bool} {a : Nat} {k : Unit → Prog β} (ha : a ∈ O ∨ a ∈ R) (hk : Tri R O F (k ()) Q E) :
    Tri R O F (Prog.bind (Alloc.derefWhen c (some a)) k) Q E := by
  cases c with
  | false => exact hk
  | true => exact .deref ha hk

/-- A callee that leaves the ledger alone, specified at the `Good` level for the live blocks it reads. -/
theorem reads (hp : ∀ s : Ledger, (∀ i, i ∈ O ∨ i ∈ R → i ∈ s.live) → Good p s (fun r s' => s' = s ∧ X r))
    (hk : ∀ r, X r → Tri R O F (k r) Q E) : Tri R O F (Prog.bind p k) Q E := fun s wf own hR =>
  Good.bind (hp s fun i hi => hi.elim (own.2 i) fun x => (hR i x).1) fun r _ ⟨e, x⟩ => e ▸ hk r x s wf own hR

/-- … through one of them. -/
theorem read {a : Nat} (ha : a ∈ O ∨ a ∈ R) (hp : ∀ s : Ledger, a ∈ s.live → Good p s (fun r s' => s' = s ∧ X r))
    (hk : ∀ r, X r → Tri R O F (k r) Q E) : Tri R O F (Prog.bind p k) Q E :=
  reads (fun s hl => hp s (hl a ha)) hk

/-- A specification read in a given ledger. -/
theorem good (h : Spec R A p own X EA) {s : Ledger} (wf : s.WF) (o : Owns s A) (hR : ∀ i ∈ R, i ∈ s.live ∧ i ∉ A) :
    Good p s (fun r s' => Clean s s' A (own r) ∧ (s.hits < s'.hits → EA r) ∧ X r) :=
  (h s wf o hR).mono fun _ _ ⟨_, ⟨e, x⟩, c, f⟩ => ⟨e ▸ c, fun h => f (Or.inr h), x⟩

/-- For a specification that only reads the blocks `L`, borrowed or among those held: it is enough
    that they are live. -/
theorem good_live {L : List Nat} (h : ∀ R, (∀ i ∈ L, i ∈ A ∨ i ∈ R) → Spec R A p own X EA) {s : Ledger} (wf : s.WF)
    (o : Owns s A) (hL : ∀ i ∈ L, i ∈ s.live) :
    Good p s (fun r s' => Clean s s' A (own r) ∧ (s.hits < s'.hits → EA r) ∧ X r) :=
  (h (L.filter (· ∉ A)) fun i hi => (Classical.em (i ∈ A)).imp id fun hn => List.mem_filter.2 ⟨hi, by simpa using hn⟩).good wf o
    fun i hi => ⟨hL i (List.mem_filter.1 hi).1, by simpa using (List.mem_filter.1 hi).2⟩

/-- What the specification says of the result alone (the `_ok` / `_result` companions of C16). -/
theorem result (h : Spec R A p own X EA) {s : Ledger} (wf : s.WF) (o : Owns s A) (hR : ∀ i ∈ R, i ∈ s.live ∧ i ∉ A) :
    Good p s (fun r _ => X r) :=
  (h.good wf o hR).mono fun _ _ x => x.2.2

end Tri

end Wbxml.Model.Alloc
