/-
  WBXML encoder proofs: which option fields the node walk (`encNodeG`) depends on.

  * `produce_anonymous` and `textual_publicid` are read by `fillHeaderW` only;
  * the version is read by `fillHeaderW` and handed down to embedded documents, nowhere else.
  Both in one induction (`encNodeG_coreV`); `encNodeG_eq_of_core` and `encNodeG_version` are its two uses.
-/
import Wbxml.Model.EncWbxml
namespace Wbxml.Lemmas.EncW
open Wbxml Wbxml.Model

/-- The option fields the node walk can see. -/
def core (c : WCfg) : WCfg :=
  { lang := c.lang, ignoreEmpty := c.ignoreEmpty, removeBlanks := c.removeBlanks,
    useStrtbl := c.useStrtbl, version := c.version }

mutual
/-- No embedded document (`WBXML_TREE_TREE_NODE`) anywhere below. -/
def noNested : Node → Bool
  | .elt _ _ kids => noNestedL kids
  | .text _ => true
  | .cdata kids => noNestedL kids
  | .tree _ _ _ => false
def noNestedL : List Node → Bool
  | [] => true
  | n :: r => noNested n && noNestedL r
end

def coreV (c : WCfg) (v : Nat) : WCfg := { core c with version := v }

theorem coreV_self (c : WCfg) : coreV c c.version = core c := rfl

theorem encAttrsW_coreV (c : WCfg) (v : Nat) (na : Option (List Attr)) (l : List Attr) (st : WSt) :
    encAttrsW c na l st = encAttrsW (coreV c v) na l st := by
  induction l generalizing st with
  | nil => rfl
  | cons a r ih =>
    simp only [encAttrsW]
    show (encAttrW (coreV c v) na a st >>= _) = _
    congr 1; funext st'; exact ih st'

theorem encElementStartW_coreV (c : WCfg) (v : Nat) (na n a h st) :
    encElementStartW c na n a h st = encElementStartW (coreV c v) na n a h st := by
  unfold encElementStartW
  simp only [← encAttrsW_coreV c v]
  rfl

theorem encTextW_core (c : WCfg) (p s st) : encTextW c p s st = encTextW (core c) p s st := rfl
theorem nestedCfg_core (c : WCfg) (l) : nestedCfg c l = nestedCfg (core c) l := rfl
theorem encTextW_version (c : WCfg) (v : Nat) (p s st) : encTextW { c with version := v } p s st = encTextW c p s st := rfl

theorem encNodeG_coreV (v : Nat) :
    (∀ (c : WCfg) (parent : Option Name) (encEnd : Bool) (n : Node) (st : WSt), noNested n = true ∨ v = c.version →
      encNodeG c parent encEnd n st = encNodeG (coreV c v) parent encEnd n st) ∧
    (∀ (c : WCfg) (parent : Option Name) (l : List Node) (st : WSt), noNestedL l = true ∨ v = c.version →
      encNodesW c parent l st = encNodesW (coreV c v) parent l st) := by
  apply encNodeG.mutual_induct
  · intro c parent encEnd name attrs kids st ih hn
    rw [noNested] at hn
    simp only [encNodeG, ← encElementStartW_coreV c v]
    congr 1; funext st1
    simp only [ih st1 hn]
  · intro c parent encEnd s st _
    simp only [encNodeG]
    rfl
  · intro c parent encEnd kids st s hs _
    simp only [encNodeG, hs]
  · intro c parent encEnd kids st hs ih hn
    rw [noNested] at hn
    simp only [encNodeG, hs, ih hn]
  · intro c parent encEnd cs root st hn
    simp only [encNodeG]
  · intro c parent encEnd cs st l hn
    simp only [encNodeG]
  -- an embedded document: only the second alternative is left, and `coreV c c.version = core c`
  · intro c parent encEnd cs st l r c' _ hn
    obtain rfl : v = c.version := by simpa [noNested] using hn
    simp only [encNodeG, coreV_self, ← nestedCfg_core c]
  · intro c parent st _
    simp only [encNodesW]
  · intro c parent n rest st ih1 ih2 hn
    have hn' : (noNested n = true ∧ noNestedL rest = true) ∨ v = c.version := by
      rw [noNestedL, Bool.and_eq_true] at hn; exact hn
    simp only [encNodesW, ih1 (hn'.imp And.left id)]
    congr 1; funext st1
    exact ih2 st1 (hn'.imp And.right id)

theorem encNodeG_eq_of_core (c c' : WCfg) (h : core c = core c') (parent encEnd n st) :
    encNodeG c parent encEnd n st = encNodeG c' parent encEnd n st := by
  rw [(encNodeG_coreV c.version).1 c _ _ _ _ (Or.inr rfl), (encNodeG_coreV c'.version).1 c' _ _ _ _ (Or.inr rfl),
    coreV_self, coreV_self, h]

theorem encNodeG_version (v : Nat) (c : WCfg) (parent : Option Name) (encEnd : Bool) (n : Node) (st : WSt)
    (hn : noNested n = true) :
    encNodeG { c with version := v } parent encEnd n st = encNodeG c parent encEnd n st := by
  rw [(encNodeG_coreV v).1 c _ _ _ _ (Or.inl hn), (encNodeG_coreV v).1 { c with version := v } _ _ _ _ (Or.inr rfl)]
  rfl

end Wbxml.Lemmas.EncW
