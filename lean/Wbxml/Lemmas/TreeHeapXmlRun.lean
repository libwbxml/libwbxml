/-
  C18 lemmas: the simulation over a whole event list (induction over the list), and the
  result: on `plainEvents`, the API history of the events, run on the empty tree of the selected
  language, ends in a state whose abstraction is the tree the XML front end built. Of the front end over
  a run it uses: no error at the end means none on the way; the language, once set, is changed by a DOCTYPE
  event only.
-/
import Wbxml.Lemmas.TreeHeapXmlSim
namespace Wbxml.Model.TreeHeap
open Wbxml Wbxml.Model
open Wbxml.Lemmas.X2W (isDoctypeEv xstep_start_root step_error step_lang)

/-- The prolog is never re-entered, and a DOCTYPE occurs only there. -/
theorem PStep.not_prolog {L : Lang} {ph ph' : PPhase} {e : XEvent} (h : PStep L ph e ph') (hph : ph ≠ .prolog) :
    ph' ≠ .prolog ∧ isDoctypeEv e = false := by
  cases h with
  | pi => exact ⟨hph, rfl⟩
  | xmlDecl => exact ⟨hph, rfl⟩
  | doctype => exact absurd rfl hph
  | root => exact absurd rfl hph
  | _ => exact ⟨PPhase.noConfusion, rfl⟩

theorem plainFrom_noDoctype {L : Lang} : ∀ (es : List XEvent) (ph : PPhase), ph ≠ .prolog → plainFrom L ph es = true →
    es.all (fun e => !isDoctypeEv e) = true
  | [], _, _, _ => rfl
  | e :: es, ph, hph, h => by
    simp only [plainFrom] at h
    cases hps : plainStep L ph e with
    | none => rw [hps] at h; cases h
    | some ph' =>
      rw [hps] at h
      obtain ⟨h1, h2⟩ := (plainStep_view hps).not_prolog hph
      simp only [List.all_cons, h2, Bool.not_false, Bool.true_and]
      exact plainFrom_noDoctype es ph' h1 h

variable (main : List Lang) (input : Bytes) (sub : Bytes → Option (Except Nat Tree))

/-- No error at the end of a run means none on the way: an error is never cleared. -/
theorem xfold_error_none (es : List XEvent) (b : XBState)
    (h : (es.foldl (xbuildStep main input sub) b).error = none) : b.error = none := by
  cases hb : b.error with
  | none => rfl
  | some e =>
    have := List.foldlRecOn (motive := fun (b : XBState) => b.error.isSome = true) es (xbuildStep main input sub)
      (by rw [hb]; rfl) fun b hb e _ => step_error main input sub b e hb
    rw [h] at this; cases this

/-- The language, once set, is changed by a DOCTYPE event only. -/
theorem xfold_lang (es : List XEvent) (b : XBState) (hl : b.lang.isSome = true)
    (he : es.all (fun e => !isDoctypeEv e) = true) : (es.foldl (xbuildStep main input sub) b).lang = b.lang :=
  List.foldlRecOn (motive := fun x => x.lang = b.lang) es _ rfl fun x hx e hm =>
    (step_lang main input sub x e (hx ▸ hl) (by simpa using List.all_eq_true.mp he e hm)).trans hx

theorem sim_fold {L : Lang} : ∀ (es : List XEvent) (b : XBState) (s : St) (ps : List Nat) (ph : PPhase),
    Sim L b s ps ph → plainFrom L ph es = true →
    (es.foldl (xbuildStep main input sub) b).error = none →
    (ph = .prolog → (es.foldl (xbuildStep main input sub) b).lang = some L) →
    ∃ s', run s (histGo s.heap.length ps es) = .ok s' ∧ Inv s' ∧
      absTree s' = .ok { lang := s.lang, origCharset := s.charset,
                         root := (es.foldl (xbuildStep main input sub) b).root }
  | [], b, s, ps, ph, hS, hp, _, _ => by
    have := hS.abs (fun stk e => by subst e; simp [plainFrom] at hp)
    exact ⟨s, rfl, this.1, this.2⟩
  | e :: es, b, s, ps, ph, hS, hp, herr, hlang => by
    simp only [plainFrom] at hp
    cases hps : plainStep L ph e with
    | none => rw [hps] at hp; cases hp
    | some ph' =>
      rw [hps] at hp
      have hv := plainStep_view hps
      simp only [List.foldl_cons] at herr hlang ⊢
      have herr1 := xfold_error_none main input sub es _ herr
      -- the language selected at the root start tag is the final one
      have hlang1 : ph = .prolog → ph' ≠ .prolog → (xbuildStep main input sub b e).lang = some L := by
        intro e1 hne
        subst e1
        have hsome : (xbuildStep main input sub b e).lang.isSome = true := by
          cases hv with
          | root name attrs idx hat =>
            obtain ⟨L', e1⟩ := xstep_start_root main input sub hS.1.quiet hS.1.stack hS.1.broot name attrs idx herr1
            rw [e1]; rfl
          | pi => exact absurd rfl hne
          | xmlDecl => exact absurd rfl hne
          | doctype => exact absurd rfl hne
        rw [← xfold_lang main input sub es _ hsome (plainFrom_noDoctype es _ hne hp)]
        exact hlang rfl
      obtain ⟨s1, ps1, h1, hl1, hc1, hS1⟩ := sim_step main input sub hS hv herr1 hlang1
      obtain ⟨s', hr, hI, ha⟩ := sim_fold es _ s1 ps1 ph' hS1 hp herr (fun e1 => by
        subst e1
        refine hlang ?_
        cases hph : ph with
        | prolog => rfl
        | _ => exact absurd rfl ((hv.not_prolog (by rw [hph]; exact PPhase.noConfusion)).1))
      exact ⟨s', by rw [h1 es]; exact hr, hI, by rw [ha, hl1, hc1]⟩

/-- The events of `plainEvents`, run through the XML front end without error and through the API
    history on the empty tree of the language the front end selected: same tree. -/
theorem api_history_abs {L : Lang} (es : List XEvent) (cs : Nat) (hp : plainEvents L es = true)
    (herr : (es.foldl (xbuildStep main input sub) {}).error = none)
    (hlang : (es.foldl (xbuildStep main input sub) {}).lang = some L) :
    ∃ s', run { lang := some L, charset := cs } (apiHistoryOf es) = .ok s' ∧ Inv s' ∧
      absTree s' = .ok { lang := some L, origCharset := cs,
                         root := (es.foldl (xbuildStep main input sub) {}).root } :=
  sim_fold main input sub es {} { lang := some L, charset := cs } [] .prolog
    ⟨⟨rfl, rfl, rfl, rfl, rfl, ⟨rfl, rfl, rfl⟩⟩, rfl⟩ hp herr (fun _ => hlang)

end Wbxml.Model.TreeHeap
