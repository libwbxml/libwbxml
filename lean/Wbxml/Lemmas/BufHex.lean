/-
  C19 — the raw in-place loops of `hex_to_binary` (`nibLoop_spec`: digit values in place; `packLoop_spec`)
  and `binary_to_hex` (`hexLoop_spec`), the latter two stated against the original block.
-/
import Wbxml.Lemmas.BufCore
namespace Wbxml.Model
open Wbxml Wbxml.Spec.Seq

/-- The model adds 10 after subtracting the letter, the reference subtracts the letter less 10. -/
theorem nibble_eq (c : UInt8) : nibble c = hexVal8 c := by
  have h1 : c - 0x61 + 10 = c - 0x57 := by
    rw [← UInt8.toNat_inj]; simp [UInt8.toNat_add, UInt8.toNat_sub]; omega
  have h2 : c - 0x41 + 10 = c - 0x37 := by
    rw [← UInt8.toNat_inj]; simp [UInt8.toNat_add, UInt8.toNat_sub]; omega
  simp only [nibble, hexVal8, h1, h2]

theorem hexit_eq (u : Bool) (n : UInt8) : hexit u n = hexDigit8 u n := by
  cases u <;> rfl

/-- The mask of `(v >> 4) & 0xf` does nothing on an octet. -/
theorem shr4_and (x : UInt8) : (x / 16) &&& 0xf = x / 16 := by
  have h16 : (16 : UInt8).toNat = 16 := rfl
  have h15 : (0xf : UInt8).toNat = 2 ^ 4 - 1 := rfl
  rw [← UInt8.toNat_inj, UInt8.toNat_and, UInt8.toNat_div, h16, h15, Nat.and_two_pow_sub_one_eq_mod]
  have := x.toNat_lt
  omega

namespace Buf

theorem nibLoop_spec (xs : Bytes) : ∀ (pre post : Bytes),
    nibLoop xs.length pre.length (pre ++ xs ++ post) = .ok (pre ++ xs.map hexVal8 ++ post) := by
  induction xs with
  | nil => intro pre post; simp [nibLoop]
  | cons x xs ih =>
    intro pre post
    have hm : pre ++ x :: xs ++ post = pre ++ x :: (xs ++ post) := by simp
    simp only [List.length_cons, nibLoop]
    rw [hm]
    simp only [Mem.load_mid pre _ x _ rfl, Mem.store_mid pre _ x (nibble x) _ rfl]
    have := ih (pre ++ [nibble x]) post
    simp only [List.length_append, List.length_cons, List.length_nil, List.append_assoc,
      List.singleton_append, Nat.zero_add] at this
    have e : pre ++ nibble x :: (xs ++ post) = pre ++ (nibble x :: xs ++ post) := by simp
    rw [e, this, nibble_eq]
    simp

/-- What the packing loop computes from the not-yet-read bytes. -/
def packN : Nat → Bytes → Bytes
  | k + 1, a :: b :: rest => (a * 16 ||| b) :: packN k rest
  | _, _ => []

theorem packN_hex (c t : Bytes) : packN (c.length / 2) (c.map hexVal8 ++ t) = hexToBin c := by
  fun_induction hexToBin c with
  | case1 a b rest ih =>
    have : (a :: b :: rest).length / 2 = rest.length / 2 + 1 := by simp only [List.length_cons]; omega
    rw [this]
    simp only [List.map_cons, List.cons_append, packN, ih]
  | case2 c hc =>
    cases c with
    | nil => simp [packN]
    | cons a r =>
      cases r with
      | nil => simp [packN]
      | cons b r' => exact absurd rfl (hc a b r')


/-- After `|out|` rounds the block is `out` followed by the untouched rest of the original block `m0`:
    a round writes cell `|out|` and reads cells `2|out|` and `2|out| + 1`, which lie in that rest. -/
theorem packLoop_spec (m0 : Bytes) (k : Nat) : ∀ out : Bytes, 2 * (out.length + k) ≤ m0.length →
    packLoop k out.length (out ++ m0.drop out.length)
      = .ok (out ++ packN k (m0.drop (2 * out.length)) ++ m0.drop (out.length + k)) := by
  induction k with
  | zero => intro out _; simp [packLoop, packN]
  | succ k ih =>
    intro out hk
    have hget : ∀ t, out.length ≤ t → (out ++ m0.drop out.length)[t]? = m0[t]? := fun t ht => by
      rw [List.getElem?_append_right ht, List.getElem?_drop]; congr 1; omega
    -- the index bounds are handed to `m0[·]` explicitly: the default search for them is slow to check
    have hw : out.length < m0.length := by omega
    have h0 : out.length * 2 < m0.length := by omega
    have h1 : out.length * 2 + 1 < m0.length := by omega
    have hsrc : m0.drop (2 * out.length)
        = m0[out.length * 2]'h0 :: m0[out.length * 2 + 1]'h1 :: m0.drop (2 * (out.length + 1)) := by
      rw [Nat.mul_comm, List.drop_eq_getElem_cons h0, List.drop_eq_getElem_cons h1, Nat.mul_comm 2, Nat.add_mul]
    have hst := Mem.store_mid out (m0.drop (out.length + 1)) (m0[out.length]'hw)
      (m0[out.length * 2]'h0 * 16 ||| m0[out.length * 2 + 1]'h1) out.length rfl
    rw [← List.drop_eq_getElem_cons hw] at hst
    have := ih (out ++ [m0[out.length * 2]'h0 * 16 ||| m0[out.length * 2 + 1]'h1])
      (by rw [List.length_append, List.length_singleton]; omega)
    simp only [List.length_append, List.length_singleton, List.append_assoc, List.singleton_append] at this
    simp only [packLoop, Mem.load, hget _ (show out.length ≤ out.length * 2 by omega),
      hget _ (show out.length ≤ out.length * 2 + 1 by omega), List.getElem?_eq_getElem h0,
      List.getElem?_eq_getElem h1, hst, this, hsrc, packN, List.append_assoc, List.cons_append]
    rw [show out.length + 1 + k = out.length + (k + 1) by omega]

theorem hexToBin_length (c : Bytes) : (hexToBin c).length = c.length / 2 := by
  fun_induction hexToBin c with
  | case1 a b rest ih => simp only [List.length_cons, ih]; omega
  | case2 c hc =>
    match c, hc with
    | [], _ => rfl
    | [_], _ => simp
    | a :: b :: r, hc => exact absurd rfl (hc a b r)

theorem hexToBinary_spec {b : Buf} {c : Bytes} (h : Rep b c) :
    ∃ b', b.hexToBinary = .ok (b', true) ∧ Rep b' (hexToBin c) := by
  by_cases hc : c = []
  · subst hc
    exact ⟨b, by simp [hexToBinary, h.dyn, h.len], by simpa [hexToBin] using h⟩
  · rcases h.cases with ⟨_, hnil⟩ | ⟨j, rfl⟩
    · exact absurd hnil hc
    · have hl : c.length ≠ 0 := by simpa using hc
      have h1 := nibLoop_spec c [] (0 :: j)
      have h2 := packLoop_spec (c.map hexVal8 ++ 0 :: j) (c.length / 2) [] (by simp; omega)
      simp only [List.nil_append, List.length_nil, List.drop_zero, Nat.mul_zero, Nat.zero_add, packN_hex] at h1 h2
      obtain ⟨g', h3, hg'⟩ := Mem.store_tail (hexToBin c) ((c.map hexVal8 ++ 0 :: j).drop (c.length / 2)) 0
        (c.length / 2) (hexToBin_length c).symm (by simp; omega)
      simp only [List.length_drop, List.length_append, List.length_map, List.length_cons] at hg'
      refine ⟨canon (hexToBin c) g', ?_, rep_canon _ _⟩
      simp only [hexToBinary, canon, Bool.false_eq_true, if_false, hl, mem, h1, h2, h3]
      simp only [Except.ok.injEq, Prod.mk.injEq, Buf.mk.injEq, and_true, true_and, hexToBin_length]
      omega

theorem hexToBinary_static {b : Buf} (hs : b.isStatic = true) : b.hexToBinary = .ok (b, false) := by
  simp [hexToBinary, hs]

/-- Going down from round `i`, the block is the first `2i` cells of the original block `m` followed by the
    digits written so far: a round reads cell `i`, which is below the two cells `2i`, `2i + 1` it writes. -/
theorem hexLoop_spec (u : Bool) (m : Bytes) (i : Nat) : ∀ (done : Bytes), 2 * i ≤ m.length →
    hexLoop u i (m.take (2 * i) ++ done) = .ok (binToHex u (m.take i) ++ done) := by
  induction i with
  | zero => intro done _; simp [hexLoop, binToHex]
  | succ i ih =>
    intro done hi
    have hi0 : i < m.length := by omega
    have h0 : 2 * i < m.length := by omega
    have h1 : 2 * i + 1 < m.length := by omega
    have e1 : m.take (2 * (i + 1)) = m.take (2 * i + 1) ++ [m[2 * i + 1]'h1] := by
      rw [show 2 * (i + 1) = 2 * i + 1 + 1 by omega, List.take_succ_eq_append_getElem h1]
    have e0 : m.take (2 * i + 1) = m.take (2 * i) ++ [m[2 * i]'h0] := List.take_succ_eq_append_getElem h0
    have hload : ∀ (n : Nat) (t : Bytes), i < n → n ≤ m.length → Mem.load (m.take n ++ t) i = .ok (m[i]'hi0) :=
      fun n t hn hle => by
        rw [Mem.load, List.getElem?_append_left (by rw [List.length_take]; omega), List.getElem?_take_of_lt hn,
          List.getElem?_eq_getElem hi0]
    have hs1 := Mem.store_mid (m.take (2 * i + 1)) done (m[2 * i + 1]'h1) (hexit u (m[i]'hi0 % 16)) (i * 2 + 1)
      (by rw [List.length_take]; omega)
    have hs0 := Mem.store_mid (m.take (2 * i)) (hexit u (m[i]'hi0 % 16) :: done) (m[2 * i]'h0)
      (hexit u ((m[i]'hi0 / 16) &&& 0xf)) (i * 2) (by rw [List.length_take]; omega)
    have := ih (hexit u ((m[i]'hi0 / 16) &&& 0xf) :: hexit u (m[i]'hi0 % 16) :: done) (by omega)
    rw [hexLoop, hload _ _ (by omega) (by omega), e1, List.append_assoc, List.singleton_append]
    simp only [hs1]
    rw [hload _ _ (by omega) (by omega), e0, List.append_assoc, List.singleton_append]
    simp only [hs0, this]
    simp only [List.take_succ_eq_append_getElem hi0, binToHex, List.flatMap_append, List.flatMap_cons,
      List.flatMap_nil, List.append_nil, List.append_assoc, List.cons_append, List.nil_append, shr4_and, hexit_eq]

theorem binToHex_length (u : Bool) (c : Bytes) : (binToHex u c).length = c.length * 2 := by
  induction c with
  | nil => rfl
  | cons a r ih =>
    have : binToHex u (a :: r) = [hexDigit8 u (a / 16), hexDigit8 u (a % 16)] ++ binToHex u r := by
      simp [binToHex]
    rw [this, List.length_append, ih]; simp; omega

theorem binaryToHex_spec {b : Buf} {c : Bytes} (h : Rep b c) (u : Bool) :
    ∃ b', b.binaryToHex u = .ok (b', true) ∧ Rep b' (binToHex u c) := by
  by_cases hc : c = []
  · subst hc
    exact ⟨b, by simp [binaryToHex, h.dyn, h.len], by simpa [binToHex] using h⟩
  · have hl : c.length ≠ 0 := by simpa using hc
    obtain ⟨j', hg, hsz⟩ := growBuff_rep h (c.length * 2)
    have hblock := (List.take_append_drop (2 * c.length) (c ++ 0 :: j')).symm
    have hloop := hexLoop_spec u (c ++ 0 :: j') c.length ((c ++ 0 :: j').drop (2 * c.length)) (by simp; omega)
    rw [List.take_left' rfl] at hloop
    obtain ⟨done', hst, hd⟩ := Mem.store_tail (binToHex u c) ((c ++ 0 :: j').drop (2 * c.length)) 0 (c.length * 2)
      (binToHex_length u c).symm (by simp; omega)
    refine ⟨canon (binToHex u c) done', ?_, rep_canon _ _⟩
    simp only [binaryToHex, h.dyn, h.len, hl, Bool.false_eq_true, if_false, hg]
    simp only [canon, mem]
    rw [hblock]
    simp only [hloop, hst, Except.ok.injEq, Prod.mk.injEq, Buf.mk.injEq, and_true, true_and, binToHex_length]
    simp only [List.length_drop, List.length_append, List.length_cons] at hd
    omega

theorem binaryToHex_static {b : Buf} (hs : b.isStatic = true) (u : Bool) : b.binaryToHex u = .ok (b, false) := by
  simp [binaryToHex, hs]

end Buf
end Wbxml.Model
