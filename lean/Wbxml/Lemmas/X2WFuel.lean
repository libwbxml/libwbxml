/-
  C02: the fuel of the embedded-document recursion of `treeOfXml`. The result does not depend on the
  fuel once it exceeds the nesting rank of the document (`treeOfXml_fuel_irrelevant`), where a rank
  is any measure that decreases from a document to every embedded document the builder asks for.
  `queries … evs b` lists the embedded documents the builder asks `sub` for over the run of `evs` from `b`, in
  order and with multiplicity; a run depends on `sub` at these documents only (`fold_congr`), `Ranked` and the
  expanded sums `expSum` recurse over them.
-/
import Wbxml.Lemmas.X2WMain
namespace Wbxml.Lemmas.X2W
open Wbxml Wbxml.Model

variable (main : List Lang) (input : Bytes)

/-- A callback consults `sub` only at the document it asks for (`queryOf`). -/
theorem step_congr (sub sub' : Bytes → Option (Except Nat Tree))
    (b : XBState) (e : XEvent) (h : ∀ d, queryOf main input b e = some d → sub d = sub' d) :
    xbuildStep main input sub b e = xbuildStep main input sub' b e := by
  rw [xbuildStep_eq, xbuildStep_eq]
  split
  · rfl
  rename_i hneed
  cases e with
  | endElt name idx =>
    simp only [liveStep]
    unfold endTail
    cases hq : queryTail main input (decodeTop b) name idx with
    | none => rfl
    | some doc =>
      simp only
      rw [h doc (by simp only [queryOf, hneed]; exact hq)]
  | _ => rfl

/-- The embedded documents the builder asks `sub` for over a run, in order, with multiplicity. -/
def queries (main : List Lang) (input : Bytes) (sub : Bytes → Option (Except Nat Tree)) :
    List XEvent → XBState → List Bytes
  | [], _ => []
  | e :: evs, b =>
    (match queryOf main input b e with
     | some d => [d]
     | none => []) ++ queries main input sub evs (xbuildStep main input sub b e)

/-- A run depends on `sub` only at its `queries`. -/
theorem fold_congr (sub sub' : Bytes → Option (Except Nat Tree)) :
    ∀ (evs : List XEvent) (b : XBState), (∀ d ∈ queries main input sub evs b, sub d = sub' d) →
      evs.foldl (xbuildStep main input sub) b = evs.foldl (xbuildStep main input sub') b
  | [], _, _ => rfl
  | e :: evs, b, h => by
    have hs : xbuildStep main input sub b e = xbuildStep main input sub' b e := by
      apply step_congr
      intro d hd
      apply h
      simp [queries, hd]
    rw [List.foldl_cons, List.foldl_cons, ← hs]
    apply fold_congr sub sub' evs
    intro d hd
    apply h
    simp only [queries, List.mem_append]
    exact Or.inr hd

theorem need_mem_queries (sub : Bytes → Option (Except Nat Tree)) :
    ∀ (evs : List XEvent) (b : XBState), b.need = none →
      ∀ d, (evs.foldl (xbuildStep main input sub) b).need = some d → d ∈ queries main input sub evs b
  | [], b, hb, d, hd => by rw [List.foldl_nil, hb] at hd; cases hd
  | e :: evs, b, hb, d, hd => by
    simp only [List.foldl_cons] at hd
    simp only [queries, List.mem_append]
    rcases step_need_cases main input sub b e with e1 | ⟨d1, hq, _, e1⟩
    · exact Or.inr (need_mem_queries sub evs _ (e1.trans hb) d hd)
    · -- a recorded request stops the run
      rw [fold_fix main input sub evs _ fun _ _ => step_need (by rw [e1]; rfl), e1] at hd
      cases hd
      rw [hq]
      exact Or.inl (List.mem_singleton.mpr rfl)

/-- `rank` decreases from every document of `env` to every embedded document the builder asks for
    while processing it (whatever the embedded documents answered, i.e. for every remaining fuel). -/
def Ranked (main : List Lang) (env : List (Bytes × ExpatRun)) (rank : Bytes → Nat) : Prop :=
  ∀ (f : Nat) (d k : Bytes) (xr : ExpatRun), env.find? (fun p => p.1 == d) = some (k, xr) →
    ∀ d' ∈ queries main d (subOf main env f) xr.events {}, rank d' < rank d

theorem treeOfXml_fuel_step (main : List Lang) (env : List (Bytes × ExpatRun)) (rank : Bytes → Nat)
    (hr : Ranked main env rank) (xml : Bytes) (f g : Nat)
    (hall : ∀ d', rank d' < rank xml → treeOfXml main env f d' = treeOfXml main env g d') :
    treeOfXml main env (f + 1) xml = treeOfXml main env (g + 1) xml := by
  rw [treeOfXml_succ, treeOfXml_succ]
  split
  · rfl
  · cases hfind : env.find? (fun p => p.1 == xml) with
    | none => rfl
    | some p =>
      obtain ⟨k, xr⟩ := p
      simp only
      have hq := hr f xml k xr hfind
      have hsub : ∀ d ∈ queries main xml (subOf main env f) xr.events {}, subOf main env f d = subOf main env g d := by
        intro d hd
        unfold subOf
        rw [hall d (hq d hd)]
      have hfold := fold_congr main xml (subOf main env f) (subOf main env g) xr.events {} hsub
      rw [← hfold]
      cases hn : (xr.events.foldl (xbuildStep main xml (subOf main env f)) {}).need with
      | none => rfl
      | some d =>
        simp only
        have hd := need_mem_queries main xml (subOf main env f) xr.events {} rfl d hn
        rw [hall d (hq d hd)]

/-- **Fuel irrelevance**: under a rank, any two amounts of fuel above the rank of the document give the
    same tree / error / request — in particular the fuel clause (error 13) is not what answered. -/
theorem treeOfXml_fuel_irrelevant (main : List Lang) (env : List (Bytes × ExpatRun)) (rank : Bytes → Nat)
    (hr : Ranked main env rank) :
    ∀ (n : Nat) (xml : Bytes), rank xml ≤ n → ∀ f g, n < f → n < g →
      treeOfXml main env f xml = treeOfXml main env g xml := by
  intro n
  induction n with
  | zero =>
    intro xml hx f g hf hg
    obtain ⟨f', rfl⟩ : ∃ f', f = f' + 1 := ⟨f - 1, by omega⟩
    obtain ⟨g', rfl⟩ : ∃ g', g = g' + 1 := ⟨g - 1, by omega⟩
    exact treeOfXml_fuel_step main env rank hr xml f' g' (fun d' hd => by omega)
  | succ m ih =>
    intro xml hx f g hf hg
    obtain ⟨f', rfl⟩ : ∃ f', f = f' + 1 := ⟨f - 1, by omega⟩
    obtain ⟨g', rfl⟩ : ∃ g', g = g' + 1 := ⟨g - 1, by omega⟩
    exact treeOfXml_fuel_step main env rank hr xml f' g' (fun d' hd => ih d' (by omega) f' g' (by omega) (by omega))

/-- The fuel `xml2wbxml` supplies suffices when no chain of embedded documents from `xml` is longer than the
    number of documents in `env` (plus the document itself). -/
theorem treeOfXml_fuel_sufficient (main : List Lang) (env : List (Bytes × ExpatRun)) (rank : Bytes → Nat)
    (hr : Ranked main env rank) (xml : Bytes) (hb : rank xml ≤ env.length + 1) (k : Nat) :
    treeOfXml main env (env.length + 2 + k) xml = treeOfXml main env (env.length + 2) xml :=
  treeOfXml_fuel_irrelevant main env rank hr (env.length + 1) xml hb _ _ (by omega) (by omega)

end Wbxml.Lemmas.X2W
