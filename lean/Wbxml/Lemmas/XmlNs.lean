/-
  Namespace declarations of the XML printer model (`Model/EncXml.lean`, `xml_encode_tag` after fix
  3c27455), used by `Props/C05.lean`:
    * the scope `xmlNode` hands down (`childScope`) is the nearest token-element ancestor;
    * what `xmlTag` declares, as an exact equation;
    * the default namespace in scope at an element (`nsInScope`) is the one of its code page.
-/
import Wbxml.Lemmas.EncXmlToks
namespace Wbxml.Lemmas.XmlNs
open Wbxml Wbxml.Model Wbxml.Lemmas.XmlPrint

/-- The scope values `xmlNode` produces: nothing above with a code page, or a token element. -/
def isScope : Parent → Bool
  | .none => true
  | .elt (.token _) => true
  | _ => false

/-- The code page a scope stands for. -/
def scopePage : Parent → Option Nat
  | .elt (.token r) => some r.page
  | _ => none

/-- Explicit scope (page of the nearest token-element ancestor, `none` at the root) of the children
    of an element called `name` whose own scope is `s`. -/
def childPage (s : Option Nat) : Name → Option Nat
  | .token r => some r.page
  | .literal _ => s

/-- The last token name of a list of names (ancestors, root first). -/
def lastToken : List Name → Option TagRow
  | [] => none
  | n :: rest =>
    match lastToken rest with
    | some r => some r
    | none => (match n with | .token r => some r | .literal _ => none)

/-- Walk down a tree along `path` (child indices; through elements and CDATA nodes, not into
    embedded documents, which are printed as documents of their own) with an explicit scope: the
    node reached and the page of its nearest token-element ancestor. -/
def scopeAt : Option Nat → Node → List Nat → Option (Option Nat × Node)
  | s, n, [] => some (s, n)
  | s, n, i :: rest =>
    match n with
    | .elt name _ kids =>
      (match kids[i]? with
       | some k => scopeAt (childPage s name) k rest
       | none => none)
    | .cdata kids =>
      (match kids[i]? with
       | some k => scopeAt s k rest
       | none => none)
    | _ => none

/-- The same walk, scope-free: the names of the elements passed on the way (root first, the node
    reached not included, CDATA nodes are transparent) and the node reached. -/
def pathTo : Node → List Nat → Option (List Name × Node)
  | n, [] => some ([], n)
  | n, i :: rest =>
    match n with
    | .elt name _ kids =>
      (match kids[i]? with
       | some k => (pathTo k rest).map fun x => (name :: x.1, x.2)
       | none => none)
    | .cdata kids =>
      (match kids[i]? with
       | some k => pathTo k rest
       | none => none)
    | _ => none

theorem childScope_isScope (p : Parent) (name : Name) (h : isScope p = true) :
    isScope (childScope p name) = true := by
  cases name with
  | token r => rfl
  | literal s => exact h

theorem scopePage_childScope (p : Parent) (name : Name) :
    scopePage (childScope p name) = childPage (scopePage p) name := by
  cases name <;> rfl

theorem foldl_childScope_isScope (names : List Name) (p : Parent) (h : isScope p = true) :
    isScope (names.foldl childScope p) = true := by
  induction names generalizing p with
  | nil => exact h
  | cons n rest ih => exact ih _ (childScope_isScope p n h)

theorem scopePage_foldl (names : List Name) (p : Parent) :
    scopePage (names.foldl childScope p) = names.foldl childPage (scopePage p) := by
  induction names generalizing p with
  | nil => rfl
  | cons n rest ih => simp only [List.foldl_cons, ih, scopePage_childScope]

theorem foldl_childPage_last (names : List Name) (s : Option Nat) :
    names.foldl childPage s = (match lastToken names with | some r => some r.page | none => s) := by
  induction names generalizing s with
  | nil => rfl
  | cons n rest ih =>
    simp only [List.foldl_cons, ih, lastToken]
    cases lastToken rest with
    | some r => rfl
    | none => cases n <;> rfl

theorem foldl_childScope_last (names : List Name) (p : Parent) :
    names.foldl childScope p = (match lastToken names with | some r => .elt (.token r) | none => p) := by
  induction names generalizing p with
  | nil => rfl
  | cons n rest ih =>
    simp only [List.foldl_cons, ih, lastToken]
    cases lastToken rest with
    | some r => rfl
    | none => cases n <;> rfl

theorem lastToken_append_token (names : List Name) (r : TagRow) : lastToken (names ++ [.token r]) = some r := by
  induction names with
  | nil => rfl
  | cons n rest ih => simp only [List.cons_append, lastToken, ih]

theorem lastToken_append_literal (names : List Name) (s : Bytes) :
    lastToken (names ++ [.literal s]) = lastToken names := by
  induction names with
  | nil => rfl
  | cons n rest ih => simp only [List.cons_append, lastToken, ih]

theorem scopeAt_pathTo (path : List Nat) (s : Option Nat) (n : Node) :
    scopeAt s n path = (pathTo n path).map fun x => (x.1.foldl childPage s, x.2) := by
  induction path generalizing s n with
  | nil => rfl
  | cons i rest ih =>
    cases n with
    | elt name attrs kids =>
      simp only [scopeAt, pathTo]
      cases kids[i]? with
      | none => rfl
      | some k =>
        simp only [ih]
        cases pathTo k rest <;> rfl
    | cdata kids =>
      simp only [scopeAt, pathTo]
      cases kids[i]? with
      | none => rfl
      | some k => exact ih s k
    | text t => rfl
    | tree l cs r => rfl

theorem xmlNode_append (c : XCfg) (p : Parent) (f : Nat) (n : Node) (st st' : XSt)
    (h : xmlNode c p f n st = .ok st') : ∃ x, st'.out = st.out ++ x := by
  obtain ⟨r, _, rfl⟩ := xmlNode_ok_toks h; exact ⟨_, rfl⟩

theorem xmlEndTag_append (c : XCfg) (name : Name) (kids : List Node) (st : XSt) :
    ∃ x, (xmlEndTag c name kids st).out = st.out ++ x := by
  simp only [xmlEndTag_out, List.append_assoc]; exact ⟨_, rfl⟩

theorem xmlNodes_get (c : XCfg) (q : Parent) (kids : List Node) :
    ∀ (f : Nat) (s0 s1 : XSt) (i : Nat) (k : Node), xmlNodes c q f kids s0 = .ok s1 → kids[i]? = some k →
      ∃ g a b post, xmlNode c q g k a = .ok b ∧ s1.out = b.out ++ post := by
  induction kids with
  | nil => intro f s0 s1 i k _ hk; simp at hk
  | cons n rest ih =>
    intro f s0 s1 i k h hk
    cases f with
    | zero => rw [Flow.xmlNodes_zero] at h; cases h
    | succ f =>
      rw [Flow.xmlNodes_cons] at h
      obtain ⟨t, hn, h⟩ := Lemmas.bind_eq_ok h
      cases i with
      | zero =>
        simp only [List.getElem?_cons_zero, Option.some.injEq] at hk
        subst hk
        obtain ⟨r, _, rfl⟩ := xmlNodes_ok_toks h
        exact ⟨f, s0, t, _, hn, rfl⟩
      | succ j =>
        simp only [List.getElem?_cons_succ] at hk
        exact ih f t s1 j k h hk

/-- **The scope of a sub-node.** If `xmlNode` prints `n` under scope `p` and `path` leads from `n` to
    the node `m` past the elements `names`, then `m` is printed by a call of `xmlNode` whose scope is
    `names.foldl childScope p`, and what that call has written when it returns is an initial part of
    the whole output. -/
theorem xmlNode_sub (c : XCfg) (path : List Nat) :
    ∀ (p : Parent) (f : Nat) (n : Node) (st st' : XSt) (names : List Name) (m : Node),
      xmlNode c p f n st = .ok st' → pathTo n path = some (names, m) →
      ∃ g a b post, xmlNode c (names.foldl childScope p) g m a = .ok b ∧ st'.out = b.out ++ post := by
  induction path with
  | nil =>
    intro p f n st st' names m h hp
    simp only [pathTo, Option.some.injEq, Prod.mk.injEq] at hp
    obtain ⟨rfl, rfl⟩ := hp
    exact ⟨f, st, st', [], h, by simp⟩
  | cons i rest ih =>
    intro p f n st st' names m h hp
    cases f with
    | zero => rw [Flow.xmlNode_zero] at h; cases h
    | succ f =>
      cases n with
      | elt name attrs kids =>
        simp only [pathTo] at hp
        cases hk : kids[i]? with
        | none => rw [hk] at hp; cases hp
        | some k =>
          simp only [hk] at hp
          cases hpk : pathTo k rest with
          | none => rw [hpk] at hp; cases hp
          | some x =>
            rw [hpk] at hp
            simp only [Option.map_some, Option.some.injEq, Prod.mk.injEq] at hp
            obtain ⟨rfl, rfl⟩ := hp
            rw [Flow.xmlNode_elt] at h
            obtain ⟨s1, hl, h⟩ := Lemmas.bind_eq_ok h
            obtain ⟨g, a, b, post, hb, hs1⟩ := xmlNodes_get c _ kids f _ s1 i k hl hk
            obtain ⟨g', a', b', post', hb', hb1⟩ := ih (childScope p name) g k a b x.1 x.2 hb (by rw [hpk])
            simp only [Except.ok.injEq] at h
            subst h
            cases hke : kids.isEmpty with
            | true => exact ⟨g', a', b', post' ++ post, hb', by simp [hs1, hb1]⟩
            | false =>
              obtain ⟨x, hx⟩ := xmlEndTag_append c name kids s1
              exact ⟨g', a', b', post' ++ post ++ x, hb', by simp [hx, hs1, hb1]⟩
      | cdata kids =>
        simp only [pathTo] at hp
        cases hk : kids[i]? with
        | none => rw [hk] at hp; cases hp
        | some k =>
          rw [hk] at hp
          rw [Flow.xmlNode_cdata] at h
          obtain ⟨s1, hl, h⟩ := Lemmas.bind_eq_ok h
          obtain ⟨g, a, b, post, hb, hs1⟩ := xmlNodes_get c _ kids f _ s1 i k hl hk
          obtain ⟨g', a', b', post', hb', hb1⟩ := ih p g k a b names m hb hp
          refine ⟨g', a', b', post' ++ post ++ b!"]]>", hb', ?_⟩
          simp only [Except.ok.injEq] at h
          subst h
          simp [hs1, hb1]
      | text t => simp [pathTo] at hp
      | tree l cs r => simp [pathTo] at hp

theorem xmlNode_elt_tag (c : XCfg) (q : Parent) (g : Nat) (name : Name) (attrs : List Attr) (kids : List Node)
    (a b : XSt) (h : xmlNode c q g (.elt name attrs kids) a = .ok b) :
    ∃ x, b.out = (xmlTag c q name a).out ++ x := by
  obtain ⟨r, hr, rfl⟩ := xmlNode_ok_toks h
  cases g with
  | zero => rw [xtoks] at hr; cases hr
  | succ g =>
    rw [xtoks] at hr
    obtain ⟨rk, _, hr⟩ := Lemmas.bind_eq_ok hr
    cases hr
    -- written: the rendering of `openToks … ++ (children, end tag)`, which begins as `xmlTag` does
    show ∃ x, a.out ++ renderToks c (openToks c.lang q name attrs kids a.indent ++ rk.1 ++ _) = _
    rw [renderToks_append, renderToks_append, renderToks_openToks, xmlTag_out, nsDecl_eq_L]
    simp only [List.append_assoc]
    exact ⟨_, rfl⟩

/-- Does an element on page `page` have to declare its namespace under scope `p`: there is no token
    element above, or the nearest one lives on another page. -/
def scopeDiffers : Parent → Nat → Bool
  | .none, _ => true
  | .elt (.token pr), page => pr.page != page
  | _, _ => false

/-- The default namespace `xml_encode_tag` declares in the start tag of `name` under scope `p`. -/
def declaredNs (c : XCfg) (p : Parent) (name : Name) : Option Bytes :=
  match c.lang.ns, name with
  | some ns, .token r => if scopeDiffers p r.page then nsOfPageX ns r.page else none
  | _, _ => none

/-- ` xmlns="…"`, or nothing. -/
def declBytes : Option Bytes → Bytes
  | some n => b!" xmlns=\"" ++ n ++ [34]
  | none => []

theorem scopeDiffers_iff (p : Parent) (page : Nat) :
    scopeDiffers p page = true ↔ (p = .none ∨ ∃ pr, p = .elt (.token pr) ∧ pr.page ≠ page) := by
  cases p with
  | none => simp [scopeDiffers]
  | other => simp [scopeDiffers]
  | elt n =>
    cases n with
    | literal s => simp [scopeDiffers]
    | token pr =>
      simp only [scopeDiffers, bne_iff_ne, ne_eq, reduceCtorEq, Parent.elt.injEq, Name.token.injEq, false_or]
      constructor
      · intro h; exact ⟨pr, rfl, h⟩
      · rintro ⟨pr', rfl, h⟩; exact h

theorem nsDecl_eq (c : XCfg) (p : Parent) (name : Name) : nsDecl c p name = declBytes (declaredNs c p name) := by
  cases hns : c.lang.ns with
  | none => cases name <;> cases p <;> simp [nsDecl, declaredNs, declBytes, hns]
  | some ns =>
    cases name with
    | literal s => cases p <;> simp [nsDecl, declaredNs, declBytes, hns]
    | token r =>
      cases p with
      | none =>
        simp only [nsDecl, declaredNs, scopeDiffers, hns, ↓reduceIte]
        cases nsOfPageX ns r.page <;> rfl
      | other => simp [nsDecl, declaredNs, scopeDiffers, declBytes, hns]
      | elt pn =>
        cases pn with
        | literal s => simp [nsDecl, declaredNs, scopeDiffers, declBytes, hns]
        | token pr =>
          simp only [nsDecl, declaredNs, scopeDiffers, hns]
          by_cases hp : (pr.page != r.page) = true
          · simp only [hp, ↓reduceIte]
            cases nsOfPageX ns r.page <;> rfl
          · simp [hp, declBytes]

/-- `xmlTag` looks at its scope only through `isScope` and `scopePage`. -/
theorem declaredNs_congr (c : XCfg) (p q : Parent) (name : Name) (hp : isScope p = true) (hq : isScope q = true)
    (h : scopePage p = scopePage q) : declaredNs c p name = declaredNs c q name := by
  have hd : ∀ page, scopeDiffers p page = scopeDiffers q page := by
    intro page
    cases p with
    | other => cases hp
    | none =>
      cases q with
      | other => cases hq
      | none => rfl
      | elt qn => cases qn with
        | literal s => cases hq
        | token qr => cases h
    | elt pn =>
      cases pn with
      | literal s => cases hp
      | token pr =>
        cases q with
        | other => cases hq
        | none => cases h
        | elt qn => cases qn with
          | literal s => cases hq
          | token qr =>
            simp only [scopePage, Option.some.injEq] at h
            simp only [scopeDiffers, h]
  simp only [declaredNs, hd]

/-- The default namespace in scope inside an element `name` printed under scope `p`, when `cur` is in
    scope around it: what its start tag declares, else `cur`. -/
def nsAfter (c : XCfg) (p : Parent) (cur : Option Bytes) (name : Name) : Option Bytes :=
  match declaredNs c p name with
  | some n => some n
  | none => cur

/-- The default namespace a namespace-aware reader has in scope after the start tags of the
    elements `names` (outermost first), the first of them printed under scope `p` with `cur` in
    scope around it: every start tag is printed under the scope `xmlNode` hands down
    (`childScope`), and a declaration replaces the current value. -/
def nsInScope (c : XCfg) : Parent → Option Bytes → List Name → Option Bytes
  | _, cur, [] => cur
  | p, cur, name :: rest => nsInScope c (childScope p name) (nsAfter c p cur name) rest

theorem nsInScope_append (c : XCfg) (names : List Name) (p : Parent) (cur : Option Bytes) (name : Name) :
    nsInScope c p cur (names ++ [name]) =
      nsAfter c (names.foldl childScope p) (nsInScope c p cur names) name := by
  induction names generalizing p cur with
  | nil => rfl
  | cons n rest ih => simp only [List.cons_append, nsInScope, List.foldl_cons, ih]

/-- Every token name of the list lives on a page with a row in the namespace table. -/
def namesHaveRows (ns : List NsRow) (names : List Name) : Bool :=
  names.all fun n => match n with
    | .token r => (nsOfPageX ns r.page).isSome
    | .literal _ => true

mutual
/-- Every token element of the tree (embedded documents excluded: they are documents of their own,
    with their own language) lives on a page with a row in the namespace table. -/
def pagesHaveRows (ns : List NsRow) : Node → Bool
  | .elt name _ kids =>
    (match name with
     | .token r => (nsOfPageX ns r.page).isSome
     | .literal _ => true) && pagesHaveRowsL ns kids
  | .cdata kids => pagesHaveRowsL ns kids
  | _ => true
def pagesHaveRowsL (ns : List NsRow) : List Node → Bool
  | [] => true
  | n :: rest => pagesHaveRows ns n && pagesHaveRowsL ns rest
end

theorem pagesHaveRowsL_get (ns : List NsRow) (kids : List Node) (i : Nat) (k : Node)
    (h : pagesHaveRowsL ns kids = true) (hk : kids[i]? = some k) : pagesHaveRows ns k = true := by
  induction kids generalizing i with
  | nil => simp at hk
  | cons n rest ih =>
    simp only [pagesHaveRowsL, Bool.and_eq_true] at h
    cases i with
    | zero => simp only [List.getElem?_cons_zero, Option.some.injEq] at hk; exact hk ▸ h.1
    | succ j => simp only [List.getElem?_cons_succ] at hk; exact ih j h.2 hk

theorem pathTo_haveRows (ns : List NsRow) (path : List Nat) :
    ∀ (n : Node) (names : List Name) (m : Node), pagesHaveRows ns n = true → pathTo n path = some (names, m) →
      namesHaveRows ns names = true ∧ pagesHaveRows ns m = true := by
  induction path with
  | nil =>
    intro n names m h hp
    simp only [pathTo, Option.some.injEq, Prod.mk.injEq] at hp
    obtain ⟨rfl, rfl⟩ := hp
    exact ⟨rfl, h⟩
  | cons i rest ih =>
    intro n names m h hp
    cases n with
    | elt name attrs kids =>
      simp only [pathTo] at hp
      simp only [pagesHaveRows, Bool.and_eq_true] at h
      cases hk : kids[i]? with
      | none => rw [hk] at hp; cases hp
      | some k =>
        simp only [hk] at hp
        cases hpk : pathTo k rest with
        | none => rw [hpk] at hp; cases hp
        | some x =>
          rw [hpk] at hp
          simp only [Option.map_some, Option.some.injEq, Prod.mk.injEq] at hp
          obtain ⟨rfl, rfl⟩ := hp
          obtain ⟨h1, h2⟩ := ih k x.1 x.2 (pagesHaveRowsL_get ns kids i k h.2 hk) (by rw [hpk])
          refine ⟨?_, h2⟩
          simp only [namesHaveRows, List.all_cons, Bool.and_eq_true]
          exact ⟨h.1, h1⟩
    | cdata kids =>
      simp only [pathTo] at hp
      simp only [pagesHaveRows] at h
      cases hk : kids[i]? with
      | none => rw [hk] at hp; cases hp
      | some k =>
        rw [hk] at hp
        exact ih k names m (pagesHaveRowsL_get ns kids i k h hk) hp
    | text t => simp [pathTo] at hp
    | tree l cs r => simp [pathTo] at hp

/-- The invariant along a path: the namespace in scope is the one of the scope's page. -/
def ScopeNs (ns : List NsRow) (p : Parent) (cur : Option Bytes) : Prop :=
  isScope p = true ∧
  match scopePage p with
  | some page => cur = nsOfPageX ns page ∧ (nsOfPageX ns page).isSome = true
  | none => True

theorem scopeNs_step (c : XCfg) (ns : List NsRow) (hns : c.lang.ns = some ns) (p : Parent) (cur : Option Bytes)
    (name : Name) (h : ScopeNs ns p cur) (hrow : namesHaveRows ns [name] = true) :
    ScopeNs ns (childScope p name) (nsAfter c p cur name) := by
  obtain ⟨hs, hc⟩ := h
  cases name with
  | literal s =>
    refine ⟨hs, ?_⟩
    have : nsAfter c p cur (.literal s) = cur := by simp [nsAfter, declaredNs]
    rw [this]
    exact hc
  | token r =>
    refine ⟨rfl, ?_⟩
    simp only [namesHaveRows, List.all_cons, List.all_nil, Bool.and_true] at hrow
    show nsAfter c p cur (.token r) = nsOfPageX ns r.page ∧ _
    refine ⟨?_, hrow⟩
    obtain ⟨n, hn⟩ := Option.isSome_iff_exists.mp hrow
    cases p with
    | other => cases hs
    | none => simp [nsAfter, declaredNs, hns, scopeDiffers, hn]
    | elt pn =>
      cases pn with
      | literal s => cases hs
      | token pr =>
        simp only [scopePage] at hc
        by_cases hp : pr.page = r.page
        · have : scopeDiffers (.elt (.token pr)) r.page = false := by simp [scopeDiffers, hp]
          simp only [nsAfter, declaredNs, hns, this, Bool.false_eq_true, ↓reduceIte]
          rw [hc.1, hp]
        · have : scopeDiffers (.elt (.token pr)) r.page = true := by simp [scopeDiffers, hp]
          simp [nsAfter, declaredNs, hns, this, hn]

theorem scopeNs_path (c : XCfg) (ns : List NsRow) (hns : c.lang.ns = some ns) (names : List Name) :
    ∀ (p : Parent) (cur : Option Bytes), ScopeNs ns p cur → namesHaveRows ns names = true →
      ScopeNs ns (names.foldl childScope p) (nsInScope c p cur names) := by
  induction names with
  | nil => intro p cur h _; exact h
  | cons n rest ih =>
    intro p cur h hrow
    simp only [namesHaveRows, List.all_cons, Bool.and_eq_true] at hrow
    simp only [List.foldl_cons, nsInScope]
    refine ih _ _ (scopeNs_step c ns hns p cur n h ?_) ?_
    · simp only [namesHaveRows, List.all_cons, List.all_nil, Bool.and_true]; exact hrow.1
    · exact hrow.2

theorem nsInScope_path (c : XCfg) (ns : List NsRow) (hns : c.lang.ns = some ns) (names : List Name) (r : TagRow)
    (hrow : namesHaveRows ns (names ++ [.token r]) = true) :
    nsInScope c .none none (names ++ [.token r]) = nsOfPageX ns r.page := by
  have h := scopeNs_path c ns hns (names ++ [.token r]) .none none ⟨rfl, trivial⟩ hrow
  obtain ⟨_, h2⟩ := h
  rw [scopePage_foldl, foldl_childPage_last, lastToken_append_token] at h2
  exact h2.1

end Wbxml.Lemmas.XmlNs
