/-
  Parser safety, basics: the result predicates `Ok` / `OkE`, the cursor relation `Adv`, the leaf functions of
  `Model/Parser.lean` and the typed decoders, and the bodies of the parser's recursive functions in the forms the
  later proofs take them in: case tables over the class `itemOf s` of the input at the cursor, one round of
  `contentLoop`, head and tail of `parseElement`, `parseHeader` in three stages.

  `Ok P r` says: `r` is `.ok b` with `P b`, or `.error (.code c)` with `c ≠ 0` (0 is `WBXML_OK`). It is *false* for
  `.error (.ub _)`, `.error .fuel` and `.error (.crash _)`; so a proof of `Ok _ (f s)` is at the same
  time the no-UB statement, the fuel statement and the post-condition of a successful run.

  The file opens, in the namespace `W2X`, with the size constants of C01: `maxLen` / `optMax` (the longest entry of a
  table), `langM` (the longest thing a row of the language can deliver) and `strBound` (input left plus string
  table). They stand here because the `_ok` lemmas of the leaf readers and of `ParserSafeLoops` carry the bound on
  what is delivered as a conjunct next to `Adv`, so that C01 does not walk the readers a second time.
-/
import Wbxml.Lemmas.ExceptBasic
import Wbxml.Lemmas.Bytes
import Wbxml.Model.Parser
namespace Wbxml.Lemmas.W2X
open Wbxml Wbxml.Model

/-- The largest `f a` over the list. -/
def maxLen {α : Type} (f : α → Nat) : List α → Nat
  | [] => 0
  | a :: r => max (f a) (maxLen f r)

theorem le_maxLen {α : Type} (f : α → Nat) : ∀ {l : List α} {a : α}, a ∈ l → f a ≤ maxLen f l
  | b :: r, a, h => by
    simp only [maxLen]
    rcases List.mem_cons.1 h with h | h
    · subst h; omega
    · have := le_maxLen f h; omega

/-- `maxLen` over a table that may be absent. -/
def optMax {α : Type} (f : α → Nat) : Option (List α) → Nat
  | none => 0
  | some l => maxLen f l

/-- The longest thing a table row of the language can deliver: a tag name, an attribute name with its
    value prefix, an attribute-value name, an extension-value name. -/
def langM (l : Lang) : Nat :=
  max (optMax (fun r => r.name.length) l.tags)
    (max (optMax (fun r => r.name.length + (r.value.getD []).length) l.attrs)
      (max (optMax (fun r => r.name.length) l.values) (optMax (fun r => r.name.length) l.exts)))

theorem find_le_optMax {α : Type} (f : α → Nat) {t : Option (List α)} {l : List α} {r : α} {p : α → Bool}
    (ht : t = some l) (h : l.find? p = some r) : f r ≤ optMax f t := by
  rw [ht]; exact le_maxLen f (List.mem_of_find?_eq_some h)

/-- What a string-table reference can deliver at most. -/
def strBound (s : PState) : Nat :=
  match s.strtbl with
  | none => 5
  | some t => t.length - 1

end Wbxml.Lemmas.W2X

namespace Wbxml.Lemmas.ParserSafe
open Wbxml Wbxml.Model
open Wbxml.Spec (charsEv)
open Wbxml.Lemmas.W2X (strBound langM optMax find_le_optMax)

-- The error-code constants are literals (none of them is 0 = `WBXML_OK`).
attribute [simp] E.badDatetime E.internal E.langTableUndefined E.tagTableUndefined E.b64Enc
  E.wvDatetimeFormat E.noCharsetConv E.charsetStrLen E.charsetNotFound E.attrTableUndefined
  E.attrValueTableUndefined E.badOpaqueLength E.emptyWbxml E.endOfBuffer E.extValueTableUndefined
  E.invalidStrtblIndex E.nullStringTable E.stringExpected E.strtblLength E.unknownAttrValue
  E.unknownExtensionToken E.unknownPublicId E.unvalidMbUint32 E.wvIntegerOverflow E.invalidUnicode

def Ok {β : Type} (P : β → Prop) : Except Err β → Prop
  | .ok b => P b
  | .error (.code c) => c ≠ 0
  | .error _ => False

@[simp] theorem Ok_ok {β} {P : β → Prop} {b : β} : Ok P (.ok b) = P b := rfl
@[simp] theorem Ok_pure {β} {P : β → Prop} {b : β} : Ok P (pure b : Except Err β) = P b := rfl
@[simp] theorem Ok_code {β} {P : β → Prop} {c : Nat} : Ok P (.error (.code c) : Except Err β) = (c ≠ 0) := rfl
@[simp] theorem Ok_fuel {β} {P : β → Prop} : Ok P (.error .fuel : Except Err β) = False := rfl
@[simp] theorem Ok_ub {β} {P : β → Prop} {w : String} : Ok P (.error (.ub w) : Except Err β) = False := rfl
@[simp] theorem Ok_crash {β} {P : β → Prop} {w : String} : Ok P (.error (.crash w) : Except Err β) = False := rfl

theorem Ok.bind {β γ : Type} {P : β → Prop} {Q : γ → Prop} {m : Except Err β} {f : β → Except Err γ}
    (hm : Ok P m) (hf : ∀ b, P b → Ok Q (f b)) : Ok Q (m >>= f) := by
  cases m with
  | error e => cases e <;> first | exact hm | exact True.intro
  | ok b => exact hf b hm

theorem Ok.mono {β : Type} {P Q : β → Prop} {m : Except Err β} (hm : Ok P m) (h : ∀ b, P b → Q b) : Ok Q m := by
  cases m with
  | error e => cases e <;> first | exact hm | exact True.intro
  | ok b => exact h b hm

theorem Ok.of_ok {β : Type} {P : β → Prop} {m : Except Err β} {b : β} (hm : Ok P m) (h : m = .ok b) : P b := by
  subst h; exact hm

theorem Ok.not_ub {β : Type} {P : β → Prop} {m : Except Err β} (hm : Ok P m) (w : String) : m ≠ .error (.ub w) := by
  intro h; subst h; exact hm

theorem Ok.not_fuel {β : Type} {P : β → Prop} {m : Except Err β} (hm : Ok P m) : m ≠ .error .fuel := by
  intro h; subst h; exact hm

theorem Ok.not_crash {β : Type} {P : β → Prop} {m : Except Err β} (hm : Ok P m) (w : String) : m ≠ .error (.crash w) := by
  intro h; subst h; exact hm

theorem Ok.cases {β : Type} {P : β → Prop} {m : Except Err β} (hm : Ok P m) :
    (∃ b, m = .ok b ∧ P b) ∨ (∃ c, m = .error (.code c) ∧ c ≠ 0) := by
  cases m with
  | ok b => exact Or.inl ⟨b, rfl, hm⟩
  | error e =>
    cases e with
    | code c => exact Or.inr ⟨c, rfl, hm⟩
    | ub w => exact absurd hm (by simp)
    | fuel => exact absurd hm (by simp)
    | crash w => exact absurd hm (by simp)

abbrev Safe {β : Type} (m : Except Err β) : Prop := Ok (fun _ => True) m

/-! ### Partial correctness

`OkE P m` only speaks of a successful `m`; it needs none of the hypotheses (a language, enough fuel)
under which `Ok` holds. -/

def OkE {β : Type} (P : β → Prop) (m : Except Err β) : Prop := ∀ b, m = .ok b → P b

theorem OkE.bind {β γ : Type} {P : β → Prop} {Q : γ → Prop} {m : Except Err β} {k : β → Except Err γ}
    (hm : OkE P m) (hk : ∀ b, P b → OkE Q (k b)) : OkE Q (m >>= k) := by
  intro c hc
  obtain ⟨b, hb, hc⟩ := bind_eq_ok hc
  exact hk b (hm b hb) c hc

theorem OkE.pure {β : Type} {P : β → Prop} {b : β} (h : P b) : OkE P (pure b : Except Err β) := by
  intro b' hb; cases hb; exact h

theorem OkE.error {β : Type} {P : β → Prop} {e : Err} : OkE P (.error e : Except Err β) := by
  intro b hb; cases hb

theorem OkE.triv {β : Type} (m : Except Err β) : OkE (fun _ => True) m := fun _ _ => True.intro

theorem OkE.of_Ok {β : Type} {P : β → Prop} {m : Except Err β} (h : Ok P m) : OkE P m := fun _ hb => h.of_ok hb

theorem OkE.mono {β : Type} {P Q : β → Prop} {m : Except Err β} (h1 : OkE P m) (h : ∀ b, P b → Q b) : OkE Q m :=
  fun b hb => h b (h1 b hb)

theorem ok_and_of {β : Type} {P Q : β → Prop} {m : Except Err β} (h : Ok P m) (hq : OkE Q m) :
    Ok (fun b => P b ∧ Q b) m := by
  cases m with
  | ok b => exact ⟨h, hq b rfl⟩
  | error e => cases e <;> exact h

/-- `bind_ok h with p hp`: peel one `>>=` whose first action satisfies `h`, by `Ok.bind` or, for
    `h : OkE _ _`, by `OkE.bind`. -/
syntax "bind_ok " term " with " rintroPat ppSpace rintroPat : tactic
macro_rules
  | `(tactic| bind_ok $t with $p $h) =>
    `(tactic| ((first | refine Ok.bind $t ?_ | refine OkE.bind $t ?_); rintro $p $h; try dsimp only at *))

/-! ### The cursor relation

`Adv k s s'`: `s'` is `s` after at least `k` more bytes were consumed: the remaining input of `s'`
is a suffix of that of `s`, and language, string table and charset (the fields the safety argument
and the string functions read) are unchanged. -/

structure Adv (k : Nat) (s s' : PState) : Prop where
  lang : s'.lang = s.lang
  strtbl : s'.strtbl = s.strtbl
  charset : s'.charset = s.charset
  suffix : s'.rest <:+ s.rest
  len : s'.rest.length + k ≤ s.rest.length

theorem Adv.refl (s : PState) : Adv 0 s s := ⟨rfl, rfl, rfl, List.suffix_refl _, Nat.le_refl _⟩

theorem Adv.trans {k j m : Nat} {s s' s'' : PState} (h1 : Adv k s s') (h2 : Adv j s' s'')
    (hm : m ≤ k + j := by omega) : Adv m s s'' :=
  ⟨h2.lang.trans h1.lang, h2.strtbl.trans h1.strtbl, h2.charset.trans h1.charset,
   h2.suffix.trans h1.suffix, by have := h1.len; have := h2.len; omega⟩

theorem Adv.weaken {k m : Nat} {s s' : PState} (h : Adv k s s') (hm : m ≤ k := by omega) : Adv m s s' :=
  ⟨h.lang, h.strtbl, h.charset, h.suffix, by have := h.len; omega⟩

theorem Adv.of_rest_eq {k : Nat} {s s' s'' : PState} (h : Adv k s s') (hl : s''.lang = s'.lang)
    (ht : s''.strtbl = s'.strtbl) (hc : s''.charset = s'.charset) (hr : s''.rest = s'.rest) : Adv k s s'' :=
  ⟨hl.trans h.lang, ht.trans h.strtbl, hc.trans h.charset, hr ▸ h.suffix, hr ▸ h.len⟩

theorem Adv.lang_ne {k : Nat} {s s' : PState} (h : Adv k s s') (hl : s.lang ≠ none) : s'.lang ≠ none := by
  rw [h.lang]; exact hl

theorem Adv.strBound {k : Nat} {s s' : PState} (h : Adv k s s') : strBound s' = strBound s := by
  unfold W2X.strBound; rw [h.strtbl]

theorem isToken_iff {s : PState} {t : UInt8} : isToken s t = true ↔ ∃ r, s.rest = t :: r := by
  unfold isToken
  cases h : s.rest with
  | nil => simp
  | cons b r =>
    simp only [List.head?_cons, List.cons.injEq]
    constructor
    · intro hb
      have : b = t := by simpa using hb
      exact ⟨r, this, rfl⟩
    · rintro ⟨r', hb, _⟩
      simp [hb]

theorem isToken_ne_nil {s : PState} {t : UInt8} (h : isToken s t = true) : s.rest ≠ [] := by
  obtain ⟨r, hr⟩ := isToken_iff.1 h
  simp [hr]

theorem isToken_nil {s : PState} {t : UInt8} (h : s.rest = []) : isToken s t = false := by
  simp [isToken, h]

theorem peekAt_zero_none {s : PState} (h : peekAt s 0 = none) : s.rest = [] := by
  unfold peekAt at h
  cases hr : s.rest with
  | nil => rfl
  | cons b r => simp [hr] at h

theorem skip1_ok {what : String} {s : PState} (h : s.rest ≠ []) :
    Ok (fun s' => Adv 1 s s') (skip1 what s) := by
  unfold skip1
  cases hr : s.rest with
  | nil => exact absurd hr h
  | cons b r =>
    simp only [Ok_ok]
    exact ⟨rfl, rfl, rfl, by rw [hr]; exact List.suffix_cons _ _, by simp [hr]⟩

theorem skip1_tok {what : String} {s : PState} {t : UInt8} (h : isToken s t = true) :
    Ok (fun s' => Adv 1 s s') (skip1 what s) := skip1_ok (isToken_ne_nil h)

theorem parseU8_ok (s : PState) : Ok (fun p => Adv 1 s p.2) (parseU8 s) := by
  unfold parseU8
  cases hr : s.rest with
  | nil => simp [E.endOfBuffer]
  | cons b r =>
    simp only [Ok_ok]
    exact ⟨rfl, rfl, rfl, by rw [hr]; exact List.suffix_cons _ _, by simp [hr]⟩

theorem mbLoop_ok : ∀ (n acc : Nat) (bs : Bytes),
    Ok (fun p => p.2 <:+ bs ∧ p.2.length + 1 ≤ bs.length) (mbLoop n acc bs)
  | 0, _, _ => by simp [mbLoop]
  | n + 1, acc, [] => by simp [mbLoop]
  | n + 1, acc, b :: r => by
    simp only [mbLoop]
    split
    · simp
    · refine (mbLoop_ok n _ r).mono ?_
      rintro ⟨v, r'⟩ ⟨h1, h2⟩
      exact ⟨h1.trans (List.suffix_cons _ _), by simp at h2 ⊢; omega⟩

theorem parseMb_ok (s : PState) : Ok (fun p => Adv 1 s p.2) (parseMb s) := by
  unfold parseMb
  refine Ok.bind (mbLoop_ok 5 0 s.rest) ?_
  rintro ⟨v, r⟩ ⟨h1, h2⟩
  exact ⟨rfl, rfl, rfl, h1, h2⟩

theorem convTerm_safe (cs : Nat) (avail : Bytes) :
    Ok (fun p => p.1.length + 1 = p.2 ∧ p.2 ≤ avail.length) (convTerm cs avail) := by
  unfold convTerm
  split
  · split <;> simp
  · simp only
    split
    · simp
    · split
      · simp only [Ok_ok, List.length_take]; omega
      · simp

theorem parseTermstr_ok (s : PState) :
    Ok (fun p => Adv 1 s p.2 ∧ p.1.length + 1 + p.2.rest.length ≤ s.rest.length) (parseTermstr s) := by
  unfold parseTermstr
  refine Ok.bind (convTerm_safe s.charset s.rest) ?_
  rintro ⟨str, used⟩ ⟨h1, h2⟩
  have hd : (s.rest.drop used).length + used = s.rest.length := by rw [List.length_drop]; omega
  simp only [Ok_pure]
  exact ⟨⟨rfl, rfl, rfl, List.drop_suffix _ _, by dsimp only at h1 ⊢; omega⟩, by dsimp only at h1 ⊢; omega⟩

theorem strtblRef_ok (s : PState) (i : Nat) : Ok (fun str => str.length ≤ strBound s) (strtblRef s i) := by
  unfold strtblRef strBound
  cases hs : s.strtbl with
  | none =>
    dsimp only
    split
    · exact (by decide : b!"xmlns".length ≤ 5)
    · simp
  | some tbl =>
    dsimp only
    split
    · simp
    · refine Ok.bind (convTerm_safe _ _) ?_
      rintro ⟨str, used⟩ ⟨h1, h2⟩
      simp only [Ok_pure]
      dsimp only at h1 h2
      rw [List.length_drop] at h2
      omega

/-! `Model.entityLoop` / `Model.entityBytes` here are the parser's copy (`Model/Parser.lean`) of the C loop that
    `Codec.entityLoop` / `Codec.entityBytes` (`Model/Codec/Entity.lean`) also model; `ParserBridge.entityBytes_eq` bridges them. -/

theorem entityLoop_len : ∀ (f code idx : Nat) (acc : Bytes), (entityLoop f code idx acc).length ≤ acc.length + f + 1
  | 0, _, _, _ => by simp [entityLoop]
  | f + 1, code, idx, acc => by
    simp only [entityLoop]
    split
    · have := entityLoop_len f (code >>> 6) (idx - 1) (UInt8.ofNat (0x80 ||| (code &&& 0x3F)) :: acc)
      simp only [List.length_cons] at this; omega
    · simp only [List.length_cons]; omega

theorem entityBytes_safe (code : Nat) : Ok (fun b => b.length ≤ 7) (entityBytes code) := by
  unfold entityBytes
  split
  · simp
  · split
    · split <;> simp
    · have := entityLoop_len 6 code 5 []
      simp only [Ok_ok, List.length_take, List.length_nil] at this ⊢
      omega

theorem decodeBase64Value_safe (d : Bytes) : Safe (decodeBase64Value d) := by
  unfold decodeBase64Value; split <;> simp

theorem decodeDatetime_safe (d : Bytes) : Safe (decodeDatetime d) := by
  unfold decodeDatetime
  extract_lets h len
  split
  · exact (by decide : E.badDatetime ≠ 0)
  · exact True.intro

theorem wvIntLoop_safe : ∀ (d : Bytes) (acc : Nat), Safe (wvIntLoop d acc)
  | [], _ => by simp [wvIntLoop]
  | b :: r, acc => by
    simp only [wvIntLoop]
    split
    · simp
    · exact wvIntLoop_safe r _

theorem decodeWvInteger_safe (d : Bytes) : Safe (decodeWvInteger d) := by
  unfold decodeWvInteger
  refine Ok.bind (wvIntLoop_safe d 0) ?_
  intro v _; simp

theorem decodeWvDatetime_safe (d : Bytes) : Safe (decodeWvDatetime d) := by
  unfold decodeWvDatetime
  split
  · extract_lets
    split
    · exact True.intro
    · split <;> exact True.intro
  · exact (by decide : E.wvDatetimeFormat ≠ 0)

theorem decodeOpaqueContent_cases (l : Nat) (cur : Option TagRow) (d : Bytes) :
    decodeOpaqueContent l cur d = .ok d ∨ decodeOpaqueContent l cur d = decodeWvInteger d ∨
    decodeOpaqueContent l cur d = decodeWvDatetime d ∨ decodeOpaqueContent l cur d = decodeBase64Value d := by
  unfold decodeOpaqueContent
  split
  · split
    · exact .inl rfl
    · split
      · exact .inr (.inl rfl)
      · exact .inr (.inr (.inl rfl))
      · exact .inl rfl
  · split
    · split
      · split
        · exact .inr (.inr (.inr rfl))
        · exact .inl rfl
      · exact .inl rfl
    · split
      · split
        · split
          · exact .inr (.inr (.inr rfl))
          · exact .inl rfl
        · exact .inl rfl
      · exact .inl rfl

theorem decodeOpaqueContent_safe (l : Nat) (cur : Option TagRow) (d : Bytes) :
    Safe (decodeOpaqueContent l cur d) := by
  rcases decodeOpaqueContent_cases l cur d with h | h | h | h <;> rw [h]
  · exact True.intro
  · exact decodeWvInteger_safe d
  · exact decodeWvDatetime_safe d
  · exact decodeBase64Value_safe d

theorem decodeOpaqueAttrValue_safe (l : Nat) (d : Bytes) : Safe (decodeOpaqueAttrValue l d) := by
  unfold decodeOpaqueAttrValue
  split
  · exact decodeBase64Value_safe d
  · simp

/-- A property of both branches, each under its condition, is a property of the `if`. -/
theorem ite_ind {α : Type} {P : α → Prop} {c : Prop} [Decidable c] {a b : α} (ha : c → P a) (hb : ¬c → P b) :
    P (if c then a else b) := by
  split
  · exact ha ‹_›
  · exact hb ‹_›

/-- WML variable reference `$(v:suffix)`, `v` an inline string or a string-table string. -/
def extWml (suf : Bytes) (inline : Bool) (s : PState) : PRes(Option Bytes) :=
  if inline then do
    let (v, s) ← parseTermstr s
    pure (some (b!"$(" ++ v ++ suf ++ b!")"), s)
  else do
    let (idx, s) ← parseMb s
    let v ← strtblRef s idx
    pure (some (b!"$(" ++ v ++ suf ++ b!")"), s)

/-- Wireless-Village `EXT_T_0`: an extension-value name of the table. -/
def extWv (lang : Lang) (s : PState) : PRes(Option Bytes) := do
  let (v, s) ← parseMb s
  match lang.exts with
  | none => .error (.code E.extValueTableUndefined)
  | some exts =>
    match exts.find? (fun r => r.token == v) with
    | none => pure (none, s)
    | some r => pure (some r.name, s)

/-- `parse_extension` once the token and the language are known. -/
def extBody (lang : Lang) (tok : UInt8) (s : PState) : PRes(Option Bytes) :=
  if isWml lang.id then
    if tok == 0xC0 || tok == 0xC1 || tok == 0xC2 then pure (none, s)
    else
      let suffix : Option Bytes :=
        if tok == 0x40 || tok == 0x80 then some (b!":escape")
        else if tok == 0x41 || tok == 0x81 then some (b!":unesc")
        else if tok == 0x42 || tok == 0x82 then some (b!":noesc")
        else none
      match suffix with
      | none => .error (.code E.unknownExtensionToken)
      | some suf => extWml suf (tok == 0x40 || tok == 0x41 || tok == 0x42) s
  else if isWv lang.id then
    if tok != 0x80 then pure (none, s) else extWv lang s
  else pure (none, s)

theorem parseExtension_eq (ts : Bool) (s : PState) :
    parseExtension ts s = (do
      let s ← if isToken s 0x00 then parseSwitchPage ts s else pure s
      let (tok, s) ← parseU8 s
      match s.lang with
      | none => .error (.code E.langTableUndefined)
      | some lang => extBody lang tok s) := rfl

theorem extBody_cases (lang : Lang) (tok : UInt8) :
    (∀ s, extBody lang tok s = .error (.code E.unknownExtensionToken)) ∨
    (∀ s, extBody lang tok s = pure (none, s)) ∨
    (∃ suf : Bytes, suf.length ≤ 7 ∧
      ∀ s, extBody lang tok s = extWml suf (tok == 0x40 || tok == 0x41 || tok == 0x42) s) ∨
    (∀ s, extBody lang tok s = extWv lang s) := by
  -- the choice depends on the language and the token only: decide the tests first, then each
  -- equation is the unfolding of `extBody` under them
  by_cases hw : isWml lang.id = true
  · by_cases hc : (tok == 0xC0 || tok == 0xC1 || tok == 0xC2) = true
    · exact .inr (.inl fun _ => by simp only [extBody, hw, hc, if_true])
    · by_cases h1 : (tok == 0x40 || tok == 0x80) = true
      · exact .inr (.inr (.inl ⟨b!":escape", by decide, fun _ => by
          simp only [extBody, hw, hc, h1, Bool.false_eq_true, if_true, if_false]⟩))
      · by_cases h2 : (tok == 0x41 || tok == 0x81) = true
        · exact .inr (.inr (.inl ⟨b!":unesc", by decide, fun _ => by
            simp only [extBody, hw, hc, h1, h2, Bool.false_eq_true, if_true, if_false]⟩))
        · by_cases h3 : (tok == 0x42 || tok == 0x82) = true
          · exact .inr (.inr (.inl ⟨b!":noesc", by decide, fun _ => by
              simp only [extBody, hw, hc, h1, h2, h3, Bool.false_eq_true, if_true, if_false]⟩))
          · exact .inl fun _ => by simp only [extBody, hw, hc, h1, h2, h3, Bool.false_eq_true, if_true, if_false]
  · by_cases hv : isWv lang.id = true
    · by_cases ht : (tok != 0x80) = true
      · exact .inr (.inl fun _ => by simp only [extBody, hw, hv, ht, Bool.false_eq_true, if_true, if_false])
      · exact .inr (.inr (.inr fun _ => by simp only [extBody, hw, hv, ht, Bool.false_eq_true, if_true, if_false]))
    · exact .inr (.inl fun _ => by simp only [extBody, hw, hv, Bool.false_eq_true, if_false])

/-- What `parse_attribute` does with the assembled value: a non-empty value of an SI `created` / `si-expires`
    or EMN `timestamp` attribute is decoded as `%Datetime`. -/
def attrTyped (lang : Option Lang) (name : AName) (v : Bytes) : Except Err Bytes :=
  if !v.isEmpty then
    match name, lang with
    | .token r, some lang =>
      if lang.id == 1301 && r.page == 0 && (r.token == 0x0a || r.token == 0x10) then decodeDatetime v
      else if lang.id == 1701 && r.page == 0 && r.token == 0x05 then decodeDatetime v
      else .ok v
    | .token _, none => .error (.ub "langTable NULL in parse_attribute")
    | _, _ => .ok v
  else .ok v

theorem parseAttribute_eq (s : PState) :
    parseAttribute s = (do
      let ((name, prefix?), s) ← parseAttrStart s
      let (v, s) ← attrValueLoop (s.rest.length + 1) (prefix?.getD []) s
      let v ← attrTyped s.lang name v
      let v := if v.isEmpty then v else v ++ [0]
      pure ({ name := name, value := v }, s)) := rfl

theorem attrTyped_cases (lang : Option Lang) (name : AName) (v : Bytes) :
    attrTyped lang name v = .ok v ∨ attrTyped lang name v = decodeDatetime v ∨
      (lang = none ∧ ∃ w, attrTyped lang name v = .error (.ub w)) := by
  unfold attrTyped
  split
  · split
    · split
      · exact .inr (.inl rfl)
      · split
        · exact .inr (.inl rfl)
        · exact .inl rfl
    · exact .inr (.inr ⟨rfl, _, rfl⟩)
    · exact .inl rfl
  · exact .inl rfl

/-! ### The dispatch of `parse_content` and `parse_attr_value`

Both test the input at the cursor in the same order. `itemOf` names the outcome. `parse_attr_value` is the case
table `attrValueStep` over it (`parseAttrValue_eq`); one round of `parse_content` is `contentLoop_round`: end,
end of input, an element, or an item that `leafStep` reads. The safety, stability, size and event-shape proofs
(`ParserSafe*`, `ParserRun`, `W2XSize`) go by cases on `itemOf s` over these two and do not look at the cascade of
tests. -/

inductive ItemKind where
  | end_ | eof | ext | entity | str | opaq | pi | switch | elem

def itemOf (s : PState) : ItemKind :=
  if isToken s 0x01 then .end_
  else match peekAt s 0 with
    | none => .eof
    | some _ =>
      if isExtension s then .ext
      else if isToken s 0x02 then .entity
      else if isString s then .str
      else if isToken s 0xC3 then .opaq
      else if isToken s 0x43 then .pi
      else if isToken s 0x00 then .switch
      else .elem

/-- The token that selects the class, where it is a single one. -/
def ItemKind.token : ItemKind → Option UInt8
  | .end_ => some 0x01
  | .entity => some 0x02
  | .opaq => some 0xC3
  | .pi => some 0x43
  | .switch => some 0x00
  | _ => none

theorem itemOf_token {s : PState} {i : ItemKind} {t : UInt8} (hi : itemOf s = i) (ht : i.token = some t) :
    isToken s t = true := by
  -- `P` asks for the token test where the class has a single token and is `True` at the other classes, so it can
  -- be carried through the cascade: each `isToken` branch hands over its own test (`id`), the others are trivial
  let P : ItemKind → Prop := fun i => match i.token with | some t => isToken s t = true | none => True
  have : P (itemOf s) := by
    unfold itemOf
    refine ite_ind (P := P) id fun _ => ?_
    cases peekAt s 0 with
    | none => exact True.intro
    | some _ =>
      exact ite_ind (P := P) (fun _ => True.intro) fun _ => ite_ind (P := P) id fun _ =>
        ite_ind (P := P) (fun _ => True.intro) fun _ => ite_ind (P := P) id fun _ =>
        ite_ind (P := P) id fun _ => ite_ind (P := P) id fun _ => True.intro
  simp only [P, hi, ht] at this
  exact this

/-- `parse_element` records a tokenised tag as the current one (typed opaque content looks at it). -/
def curTagSet (name : Name) (s : PState) : PState :=
  match name with
  | .token r => { s with curTag := some r }
  | .literal _ => s

theorem curTagSet_adv (name : Name) (s : PState) : Adv 0 s (curTagSet name s) := by
  cases name <;> exact ⟨rfl, rfl, rfl, List.suffix_refl _, Nat.le_refl _⟩

/-- The attribute list of an element with its closing `END`, if the tag's attribute bit is set. -/
def elemAttrs (tag : UInt8) (s : PState) : PRes(List Attr) :=
  if tag.toNat &&& 0x80 != 0 then do
    let (as, s) ← attrsLoop (s.rest.length + 1) [] s
    let s ← skip1 "END of attributes" s
    pure (as, s)
  else pure ([], s)

/-- `parseAttrValue` on input of class `i`; everything that is not an extension, an entity, a string
    or an opaque is taken for an attribute-value token. -/
def attrValueStep (s : PState) : ItemKind → PRes(Option Bytes)
  | .ext => parseExtension false s
  | .entity => do
    let (b, s) ← parseEntity s
    pure (some b, s)
  | .str => do
    let (b, s) ← parseString s
    pure (some b, s)
  | .opaq => do
    let (d, s) ← parseOpaque s
    match s.lang with
    | none => .error (.ub "langTable NULL in decode_opaque_attr_value")
    | some lang =>
      let d ← decodeOpaqueAttrValue lang.id d
      pure (some d, s)
  | _ => do
    let s ← if isToken s 0x00 then parseSwitchPage false s else pure s
    let (tag, s) ← parseU8 s
    match s.lang with
    | none => .error (.code E.langTableUndefined)
    | some lang =>
      match lang.values with
      | none => .error (.code E.attrValueTableUndefined)
      | some vals =>
        match vals.find? (fun r => r.token == tag.toNat && r.page == s.attrPage) with
        | none => .error (.code E.unknownAttrValue)
        | some r => pure (some r.name, s)

theorem attrValue_tests_false {s : PState} (h : s.rest = [] ∨ ∃ r, s.rest = 0x01 :: r) :
    isExtension s = false ∧ isToken s 0x02 = false ∧ isString s = false ∧ isToken s 0xC3 = false := by
  rcases h with h | ⟨r, h⟩ <;> simp [isExtension, isString, isToken, peekAt, h] <;> decide

theorem parseAttrValue_eq (s : PState) : parseAttrValue s = attrValueStep s (itemOf s) := by
  rw [parseAttrValue, itemOf]
  by_cases h1 : isToken s 0x01 = true
  · obtain ⟨h2, h3, h4, h5⟩ := attrValue_tests_false (Or.inr (isToken_iff.1 h1))
    rw [h2, h3, h4, h5, if_pos h1]; rfl
  · rw [if_neg h1]
    cases hp : peekAt s 0 with
    | none =>
      obtain ⟨h2, h3, h4, h5⟩ := attrValue_tests_false (Or.inl (peekAt_zero_none hp))
      rw [h2, h3, h4, h5]; rfl
    | some _ =>
      simp only [apply_ite (attrValueStep s)]
      refine ite_congr rfl (fun _ => rfl) fun _ => ite_congr rfl (fun _ => rfl) fun _ =>
        ite_congr rfl (fun _ => rfl) fun _ => ite_congr rfl (fun _ => rfl) fun _ => ?_
      -- the three classes after `opaque` share the last branch
      rw [show attrValueStep s .pi = attrValueStep s .elem from rfl,
        show attrValueStep s .switch = attrValueStep s .elem from rfl, ite_self, ite_self]
      rfl

/-- What one non-element item of content reports, and the state after it. -/
def leafStep (s : PState) : ItemKind → PRes(List Event)
  | .ext => do
    let (r, s) ← parseExtension true s
    pure (charsEv (r.getD []), s)
  | .entity => do
    let (b, s) ← parseEntity s
    pure (charsEv b, s)
  | .str => do
    let (b, s) ← parseString s
    pure (charsEv b, s)
  | .opaq => do
    let (d, s) ← parseOpaque s
    match s.lang with
    | none => .error (.ub "langTable NULL in decode_opaque_content")
    | some lang =>
      let d ← decodeOpaqueContent lang.id s.curTag d
      pure (charsEv d, s)
  | .pi => do
    let (e, s) ← parsePi s
    pure ([e], s)
  | .switch => do
    let s ← parseSwitchPage true s
    pure ([], s)
  | _ => .error (.code E.endOfBuffer)

theorem append_charsEv (ev : List Event) (b : Bytes) :
    ev ++ charsEv b = if b.isEmpty = true then ev else ev ++ [Event.chars b] := by
  unfold charsEv; split <;> simp

theorem contentLoop_round (f : Nat) (ev : List Event) (s : PState) :
    contentLoop (f + 1) ev s =
      match itemOf s with
      | .end_ => pure (ev, s)
      | .eof => .error (.code E.endOfBuffer)
      | .elem => parseElement f ev s >>= fun p => contentLoop f p.1 p.2
      | k => leafStep s k >>= fun p => contentLoop f (ev ++ p.1) p.2 := by
  rw [contentLoop, itemOf]
  let R : ItemKind → PRes(List Event) := fun k => match k with
    | .end_ => pure (ev, s)
    | .eof => .error (.code E.endOfBuffer)
    | .elem => parseElement f ev s >>= fun p => contentLoop f p.1 p.2
    | k => leafStep s k >>= fun p => contentLoop f (ev ++ p.1) p.2
  show _ = R _
  -- the table `R` is pushed through the cascade of `itemOf`; the branches agree by computation but for two
  cases peekAt s 0 <;> simp only [apply_ite R] <;>
    simp only [R, leafStep, bind_assoc, pure_bind, append_charsEv, List.append_nil]
  refine ite_congr rfl (fun _ => rfl) fun _ => ite_congr rfl (fun _ => ?_) fun _ => ite_congr rfl (fun _ => rfl) fun _ =>
    ite_congr rfl (fun _ => rfl) fun _ => ite_congr rfl (fun _ => ?_) fun _ => rfl
  · -- an ignored extension (`none`) reports nothing
    refine bind_congr fun p => ?_
    cases p.1 <;> simp
  · refine bind_congr fun p => ?_
    cases p.2.lang with
    | none => rfl
    | some l => simp only [bind_assoc, pure_bind, append_charsEv]

/-- Start tag and attributes; the tag read is recorded as the current one in between. -/
def elemHead1 (s : PState) : PRes(UInt8 × Name × List Attr) := do
  let ((tag, name), s) ← parseStag s
  let (attrs, s) ← elemAttrs tag (curTagSet name s)
  pure ((tag, name, attrs), s)

/-- The head of an element: optional page switch, start tag, attributes. -/
def elemHead (s : PState) : PRes(UInt8 × Name × List Attr) :=
  if isToken s 0x00 then parseSwitchPage true s >>= elemHead1 else elemHead1 s

/-- What follows the head `p`: with the content bit the content and its `END` between the two element events,
    else the two events alone. -/
def elemTail (f : Nat) (ev : List Event) (p : (UInt8 × Name × List Attr) × PState) : PRes(List Event) :=
  if p.1.1.toNat &&& 0x40 != 0 then do
    let (ev, s) ← contentLoop f (ev ++ [.startElt p.1.2.1 p.1.2.2]) p.2
    let s ← skip1 "END of element" s
    pure (ev ++ [.endElt p.1.2.1], { s with curTag := none })
  else pure (ev ++ [.startElt p.1.2.1 p.1.2.2] ++ [.endElt p.1.2.1], { p.2 with curTag := none })

theorem parseElement_head (f : Nat) (ev : List Event) (s : PState) :
    parseElement (f + 1) ev s = elemHead s >>= elemTail f ev := by
  have tail : ∀ s1 : PState, (do
      let ((tag, name), s) ← parseStag s1
      let (attrs, s) ← elemAttrs tag (curTagSet name s)
      let (ev, s) ← (if tag.toNat &&& 0x40 != 0 then do
          let (ev, s) ← contentLoop f (ev ++ [.startElt name attrs]) s
          let s ← skip1 "END of element" s
          pure (ev, s)
        else pure (ev ++ [.startElt name attrs], s))
      pure (ev ++ [.endElt name], { s with curTag := none })) = elemHead1 s1 >>= elemTail f ev := by
    intro s1
    unfold elemHead1
    cases parseStag s1 with
    | error e => rfl
    | ok p =>
      obtain ⟨⟨tag, name⟩, s2⟩ := p
      cases h : elemAttrs tag (curTagSet name s2) with
      | error e => simp only [bind, Except.bind, h]
      | ok q =>
        obtain ⟨attrs, s4⟩ := q
        simp only [bind, Except.bind, h, pure, Except.pure, elemTail]
        by_cases ht : (tag.toNat &&& 0x40 != 0) = true
        · simp only [ht, if_true]
          cases contentLoop f (ev ++ [Event.startElt name attrs]) s4 with
          | error e => rfl
          | ok v => dsimp only; cases skip1 "END of element" v.2 <;> rfl
        · simp only [ht, Bool.false_eq_true, if_false]
  rw [parseElement, elemHead]
  split
  · cases parseSwitchPage true s with
    | error e => rfl
    | ok s1 => exact tail s1
  · exact tail s

/-- The part of `parseHeader` before the string table: version, public id, charset. -/
def headerPre (cfg : PCfg) (wbxml : Bytes) : Except Err (Nat × Option Nat × PState) := do
    let s : PState := { rest := wbxml }
    let (ver, s) ← parseU8 s
    let s := { s with version := ver.toNat }
    let (pubId, pubIdx, s) ← (match s.rest with
      | [] => .error (.code E.endOfBuffer)
      | b :: r =>
        if b == 0 then do
          let (i, s) ← parseMb { s with rest := r }
          pure (1, if i == 4294967295 then none else some i, s)
        else do
          let (p, s) ← parseMb s
          pure (p, none, s) : Except Err (Nat × Option Nat × PState))
    let pubId := if cfg.langForced != 0 then publicIdOfLang cfg.main cfg.langForced else pubId
    let s ← (if s.version != 0 then do
        let (cs, s) ← parseMb s
        let cs := if cs == 0 then (if cfg.metaCharset != 0 then cfg.metaCharset else 106) else cs
        if cfg.charsets.contains cs then pure { s with charset := cs }
        else .error (.code E.charsetNotFound)
      else pure s : Except Err PState)
    let s := if s.charset == 0 then
        { s with charset := if cfg.metaCharset != 0 then cfg.metaCharset else 106 } else s
    pure (pubId, pubIdx, s)

theorem parseStrtbl_of_error (s : PState) {e : Err} (hmb : mbLoop 5 0 s.rest = .error e) :
    parseStrtbl s = .error (.code E.endOfBuffer) := by
  unfold parseStrtbl; rw [hmb]

theorem parseStrtbl_of_len (s : PState) (len : Nat) (r : Bytes) (hmb : mbLoop 5 0 s.rest = .ok (len, r)) :
    parseStrtbl s =
      if len = 0 then .ok { s with rest := r }
      else if len > r.length then .error (.code E.strtblLength)
      else .ok { s with rest := r.drop len,
                        strtbl := some (if (r.take len).getLast? = some 0 then r.take len
                                        else r.take len ++ [0, 0, 0, 0]) } := by
  unfold parseStrtbl
  rw [hmb]
  by_cases h0 : len = 0
  · simp [h0]
  · by_cases h1 : len > r.length
    · simp [h0, h1, E.strtblLength]
    · by_cases h2 : (r.take len).getLast? = some 0 <;> simp [h0, h1, h2]

theorem parseHeader_eq (cfg : PCfg) (bs : Bytes) :
    parseHeader cfg bs =
      (if bs.isEmpty then .error (.code E.emptyWbxml)
      else do
        let (pubId, pubIdx, s) ← headerPre cfg bs
        let s ← parseStrtbl s
        match checkPublicId cfg s pubId pubIdx with
        | none => .error (.code E.unknownPublicId)
        | some lang => pure ({ s with lang := some lang }, lang)) := by
  unfold parseHeader headerPre
  split
  · rfl
  · simp only [bind_assoc, pure_bind]
    rfl

end Wbxml.Lemmas.ParserSafe
