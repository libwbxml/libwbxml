/-
  What one call-back of the WBXML tree builder (`Model.buildStep`) can do. Every step is built from four
  operations on the builder state: `fail`, `push` (open a frame), `pop` (close the innermost frame and
  attach it below) and `BState.attach`; `BState.leaveCdata` is `pop` or nothing (`leaveCdata_cases`). `Step`
  lists the combinations `buildStep` uses, each exact in every field and under the condition it occurs in;
  `buildStep_step` is the one place that unfolds `buildStep`. An invariant of the builder is proved for the
  four operations and read off `Step`. The tree stage `Model.treeOfWbxml` is inverted once (`treeOfWbxml_ok`);
  `embOf` names the reader of embedded documents it hands the call-backs. `Rt.addKid_cases` says what `addKid`
  does to a list of children; `syncml_normal_elt`, `syncml_normal_cdata`: `syncmlDataType` under an element not called `Data`.
-/
import Wbxml.Model.EncXml
namespace Wbxml.Lemmas.TreeBuild
open Wbxml Wbxml.Model

def fail (b : BState) : BState := { b with error := some E.internal }
def push (b : BState) (k : FrameKind) : BState := { b with stack := { kind := k, kids := [] } :: b.stack }
/-- Close the innermost frame and attach it below. -/
def pop (b : BState) : BState :=
  match b.stack with
  | f :: rest => ({ b with stack := rest } : BState).attach f.close
  | [] => b

theorem leaveCdata_cases (b : BState) :
    b.leaveCdata = b ∨ ∃ f g rest, b.stack = f :: g :: rest ∧ f.kind = .cdata ∧ b.leaveCdata = pop b := by
  unfold BState.leaveCdata
  split
  · rename_i f g rest hs
    split
    · rename_i hk
      exact .inr ⟨f, g, rest, hs, hk, by simp only [pop, hs, BState.attach]⟩
    · exact .inl rfl
  · exact .inl rfl

/-- `add_node` refuses a second root; an end tag needs an open element. -/
def Refused (b : BState) : Event → Prop
  | .startElt _ _ => b.stack = [] ∧ b.root ≠ none
  | .endElt _ => b.stack = [] ∨ ∃ f, b.stack = [f] ∧ f.kind = .cdata
  | _ => False

/-- Character data of the `text/clear` and vObject types on a frame that is not a CDATA frame opens one. -/
def OpensCdata (b : BState) : Prop :=
  (syncmlDataType b.stack).isCdata = true ∧ ∃ f rest, b.stack = f :: rest ∧ f.kind ≠ .cdata

/-- The node character data becomes: the embedded document it parses as (type `wbxml`), or a text node. -/
def IsCharsNode (emb : Nat → Bytes → Option Tree) (b : BState) (s : Bytes) (n : Node) : Prop :=
  (n = .text s ∧ (syncmlDataType b.stack = .wbxml → emb b.charset s = none)) ∨
  (syncmlDataType b.stack = .wbxml ∧ ∃ t, emb b.charset s = some t ∧ n = .tree t.lang t.origCharset t.root)

/-- The premises exclude one another, so in a known situation `cases` leaves the one equation that applies. -/
inductive Step (main : List Lang) (emb : Nat → Bytes → Option Tree) (b : BState) : Event → BState → Prop
  | stay (e : Event) : (b.error ≠ none ∨ e = .endDoc ∨ ∃ t d, e = .pi t d) → Step main emb b e b
  | fail (e : Event) : b.error = none → Refused b e → Step main emb b e (fail b)
  | doc (cs l : Nat) : b.error = none →
      Step main emb b (.startDoc cs l) { b with charset := cs, lang := main.find? (fun x => x.id == l) }
  | start (n : Name) (a : List Attr) : b.error = none → ¬ Refused b (.startElt n a) →
      Step main emb b (.startElt n a) (push b.leaveCdata (.elt n a))
  | end_ (n : Name) : b.error = none → ¬ Refused b (.endElt n) → Step main emb b (.endElt n) (pop b.leaveCdata)
  | chars (s : Bytes) (n : Node) : b.error = none → ¬ OpensCdata b → IsCharsNode emb b s n →
      Step main emb b (.chars s) (b.attach n)
  | cdata (s : Bytes) : b.error = none → OpensCdata b → Step main emb b (.chars s) ((push b .cdata).attach (.text s))

theorem buildStep_step (main : List Lang) (emb : Nat → Bytes → Option Tree) (b : BState) (e : Event) :
    Step main emb b e (buildStep main emb b e) := by
  unfold buildStep
  split
  · rename_i he
    exact .stay e (.inl fun h => by rw [h] at he; cases he)
  · rename_i he
    have herr : b.error = none := by cases h : b.error <;> simp [h] at he ⊢
    cases e with
    | startDoc cs l => exact .doc cs l herr
    | endDoc => exact .stay _ (.inr (.inl rfl))
    | pi t d => exact .stay _ (.inr (.inr ⟨t, d, rfl⟩))
    | startElt n a =>
      dsimp only
      -- `leaveCdata` leaves the root alone, and a stack it leaves empty was empty
      have hl : b.leaveCdata.root = b.root ∧ (b.leaveCdata.stack = [] ↔ b.stack = []) := by
        rcases leaveCdata_cases b with h | ⟨f, g, rest, hst, hk, h⟩
        · rw [h]; exact ⟨rfl, Iff.rfl⟩
        · rw [h, pop, hst]; simp [BState.attach]
      split
      · rename_i hs hr
        have hs' := hl.2.1 hs
        have : b.leaveCdata = b := by unfold BState.leaveCdata; rw [hs']
        rw [this]
        exact .fail _ herr ⟨hs', by rw [← hl.1, hr]; simp⟩
      · rename_i hne
        refine .start n a herr ?_
        rintro ⟨hs, hr⟩
        cases hroot : b.root with
        | none => exact hr hroot
        | some r => exact hne r (hl.2.2 hs) (by rw [hl.1, hroot])
    | endElt n =>
      dsimp only
      split
      · rename_i hs
        exact .fail _ herr (.inl hs)
      · rename_i f rest hs
        split
        · rename_i hk
          split
          · rename_i g rest'
            have e1 : b.leaveCdata = { b with stack := { g with kids := addKid g.kids f.close } :: rest' } := by
              unfold BState.leaveCdata; simp only [hs, hk]
            have := Step.end_ (main := main) (emb := emb) (b := b) n herr (by simp [Refused, hs])
            rw [e1] at this
            exact this
          · exact .fail _ herr (.inr ⟨f, hs, hk⟩)
        · rename_i hk
          have e1 : b.leaveCdata = b := by
            rcases leaveCdata_cases b with h | ⟨f', g, rest', hst, hk', h⟩
            · exact h
            · rw [hs] at hst; cases hst; rw [hk] at hk'; cases hk'
          have := Step.end_ (main := main) (emb := emb) (b := b) n herr (by
            rintro (h | ⟨f', h, hk'⟩)
            · rw [hs] at h; cases h
            · rw [hs] at h; cases h; rw [hk] at hk'; cases hk')
          rw [e1] at this
          simpa only [pop, hs] using this
    | chars s =>
      have text : ¬ OpensCdata b → (syncmlDataType b.stack = .wbxml → emb b.charset s = none) →
          Step main emb b (.chars s) (b.attach (.text s)) := fun h1 h2 => .chars s _ herr h1 (.inl ⟨rfl, h2⟩)
      have cd : (syncmlDataType b.stack).isCdata = true → syncmlDataType b.stack ≠ .wbxml →
          Step main emb b (.chars s) (match b.stack with
          | f :: _ =>
            (match f.kind with
             | .cdata => b.attach (.text s)
             | _ => ({ b with stack := { kind := .cdata, kids := [] } :: b.stack } : BState).attach (.text s))
          | [] => b.attach (.text s)) := by
        intro hty hw
        split
        · rename_i f rest hs
          split
          · rename_i hk
            refine text ?_ (fun h => absurd h hw)
            rintro ⟨_, f', rest', hs', hk'⟩
            rw [hs] at hs'; cases hs'; exact hk' hk
          · rename_i hk
            exact .cdata s herr ⟨hty, f, rest, hs, hk⟩
        · rename_i hs
          refine text ?_ (fun h => absurd h hw)
          rintro ⟨_, f', rest', hs', _⟩
          rw [hs] at hs'; cases hs'
      cases hty : syncmlDataType b.stack with
      | normal => exact text (fun h => by rw [OpensCdata, hty] at h; cases h.1) (fun h => by rw [hty] at h; cases h)
      | wbxml =>
        dsimp only
        have hno : ¬ OpensCdata b := fun h => by rw [OpensCdata, hty] at h; cases h.1
        split
        · rename_i t ht
          exact .chars s _ herr hno (.inr ⟨hty, t, ht, rfl⟩)
        · rename_i hn
          exact text hno (fun _ => hn)
      | clear => exact cd (by rw [hty]; rfl) (fun h => by rw [hty] at h; cases h)
      | vobject => exact cd (by rw [hty]; rfl) (fun h => by rw [hty] at h; cases h)

theorem buildStep_startElt (main : List Lang) (emb : Nat → Bytes → Option Tree) {b : BState} (herr : b.error = none)
    {n : Name} {a : List Attr} (hr : ¬ Refused b (.startElt n a)) :
    buildStep main emb b (.startElt n a) = push b.leaveCdata (.elt n a) := by
  have hs := buildStep_step main emb b (.startElt n a)
  generalize buildStep main emb b (.startElt n a) = b' at hs ⊢
  cases hs with
  | stay _ h => rcases h with h | h | ⟨_, _, h⟩ <;> first | exact absurd herr h | cases h
  | fail _ _ h => exact absurd h hr
  | start => rfl

theorem buildStep_endElt (main : List Lang) (emb : Nat → Bytes → Option Tree) {b : BState} (herr : b.error = none)
    {n : Name} (hr : ¬ Refused b (.endElt n)) : buildStep main emb b (.endElt n) = pop b.leaveCdata := by
  have hs := buildStep_step main emb b (.endElt n)
  generalize buildStep main emb b (.endElt n) = b' at hs ⊢
  cases hs with
  | stay _ h => rcases h with h | h | ⟨_, _, h⟩ <;> first | exact absurd herr h | cases h
  | fail _ _ h => exact absurd h hr
  | end_ => rfl

/-- `syncmlDataType` answers `normal` unless the innermost open element is called `Data`. -/
theorem syncml_normal_elt {f : Frame} {rest : List Frame} {n : Name} {a : List Attr} (hk : f.kind = .elt n a)
    (hn : (n.xmlName == b!"Data") = false) : syncmlDataType (f :: rest) = .normal := by
  unfold syncmlDataType
  simp only [hk]
  cases rest with
  | nil => rfl
  | cons g rest' =>
    simp only [materialize, materialize.materializeAux, Frame.close, hk, Node.eltName?]
    have : (some n.xmlName == some b!"Data") = false := by
      have : (some n.xmlName == some b!"Data") = (n.xmlName == b!"Data") := rfl
      rw [this, hn]
    simp only [this, Bool.false_eq_true, ↓reduceIte]

/-- The same below a CDATA frame, which stands for the element it is in. -/
theorem syncml_normal_cdata {f g : Frame} {rest : List Frame} {n : Name} {a : List Attr} (hf : f.kind = .cdata)
    (hk : g.kind = .elt n a) (hn : (n.xmlName == b!"Data") = false) :
    syncmlDataType (f :: g :: rest) = .normal := by
  have h := syncml_normal_elt (rest := rest) hk hn
  unfold syncmlDataType at h ⊢
  simp only [hf]
  simp only [hk] at h
  exact h

/-! ### Language and character set change only at the start of the document -/

theorem attach_lang (b : BState) (n : Node) : (b.attach n).lang = b.lang ∧ (b.attach n).charset = b.charset := by
  -- the three outcomes update `stack`, `root` or `error` and no other field
  unfold BState.attach
  split
  · exact ⟨rfl, rfl⟩
  · split <;> exact ⟨rfl, rfl⟩

theorem pop_lang (b : BState) : (pop b).lang = b.lang ∧ (pop b).charset = b.charset := by
  unfold pop
  split
  · exact attach_lang _ _
  · exact ⟨rfl, rfl⟩

theorem leaveCdata_lang (b : BState) : b.leaveCdata.lang = b.lang ∧ b.leaveCdata.charset = b.charset := by
  rcases leaveCdata_cases b with h | ⟨_, _, _, _, _, h⟩ <;> rw [h]
  · exact ⟨rfl, rfl⟩
  · exact pop_lang b

theorem buildStep_lang_cases (main : List Lang) (emb : Nat → Bytes → Option Tree) (b : BState) (e : Event) :
    ((buildStep main emb b e).lang = b.lang ∧ (buildStep main emb b e).charset = b.charset) ∨
    ∃ cs l, e = .startDoc cs l ∧ (buildStep main emb b e).lang = main.find? (fun x => x.id == l) ∧
      (buildStep main emb b e).charset = cs := by
  have hs := buildStep_step main emb b e
  generalize buildStep main emb b e = b' at hs ⊢
  cases hs with
  | stay | fail => exact .inl ⟨rfl, rfl⟩
  | doc cs l => exact .inr ⟨cs, l, rfl, rfl, rfl⟩
  | start => exact .inl (leaveCdata_lang b)
  | end_ =>
    exact .inl ⟨(pop_lang _).1.trans (leaveCdata_lang b).1, (pop_lang _).2.trans (leaveCdata_lang b).2⟩
  | chars | cdata => exact .inl (attach_lang _ _)

/-- The embedded-document reader the tree stage hands its call-backs at fuel `f + 1`. -/
def embOf (main : List Lang) (f : Nat) (cs : Nat) (bs : Bytes) : Option Tree :=
  match treeOfWbxml main f 0 cs bs with
  | .ok t => some t
  | .error _ => none

theorem embOf_some {main : List Lang} {f cs : Nat} {bs : Bytes} {t : Tree} (h : embOf main f cs bs = some t) :
    treeOfWbxml main f 0 cs bs = .ok t := by
  unfold embOf at h
  split at h
  · cases h; assumption
  · cases h

/-- A delivered tree: the parser accepted, the builder ended without error, and the tree is its state. -/
theorem treeOfWbxml_ok {main : List Lang} {f lang cs : Nat} {bs : Bytes} {t : Tree}
    (h : treeOfWbxml main f lang cs bs = .ok t) :
    ∃ f' b, f = f' + 1 ∧ (parse { main := main, langForced := lang, metaCharset := cs } bs).result = .ok () ∧
      (parse { main := main, langForced := lang, metaCharset := cs } bs).events.foldl
          (buildStep main (embOf main f')) {} = b ∧
      b.error = none ∧ t = { lang := b.lang, origCharset := b.charset, root := b.root } := by
  cases f with
  | zero => simp [treeOfWbxml] at h
  | succ f =>
    rw [treeOfWbxml] at h
    split at h
    · cases h
    · rename_i hres
      split at h
      · cases h
      · rename_i herr
        cases h
        exact ⟨f, _, rfl, hres, rfl, herr, rfl⟩

end Wbxml.Lemmas.TreeBuild

namespace Wbxml.Lemmas.Rt
open Wbxml Wbxml.Model

/-! ### `wbxml_tree_add_node` on a list of children: append, or merge text into text -/

def isText : Node → Bool
  | .text _ => true
  | _ => false

def lastText (l : List Node) : Bool :=
  match l.getLast? with
  | some k => isText k
  | none => false

theorem addKid_not_text (kids : List Node) (n : Node) (h : isText n = false) : addKid kids n = kids ++ [n] := by
  unfold addKid
  cases n with
  | text s => cases h
  | _ => rfl

theorem addKid_text_after (kids : List Node) (s : Bytes) (h : lastText kids = false) :
    addKid kids (.text s) = kids ++ [.text s] := by
  unfold addKid
  unfold lastText at h
  cases hl : kids.getLast? with
  | none => rfl
  | some k =>
    rw [hl] at h
    cases k with
    | text t => cases h
    | _ => rfl

theorem addKid_text_merge (pre : List Node) (t s : Bytes) :
    addKid (pre ++ [.text t]) (.text s) = pre ++ [.text (t ++ s)] := by
  unfold addKid
  simp only [List.getLast?_append, List.getLast?_singleton, Option.some_or, List.dropLast_concat]

theorem lastText_snoc (l : List Node) (k : Node) : lastText (l ++ [k]) = isText k := by
  unfold lastText
  simp only [List.getLast?_append, List.getLast?_singleton, Option.some_or]

theorem lastText_split (l : List Node) (h : lastText l = true) : ∃ pre t, l = pre ++ [.text t] := by
  unfold lastText at h
  cases hl : l.getLast? with
  | none => rw [hl] at h; cases h
  | some k =>
    rw [hl] at h
    obtain ⟨pre, rfl⟩ := List.getLast?_eq_some_iff.1 hl
    cases k with
    | text t => exact ⟨pre, t, rfl⟩
    | _ => cases h

/-- `wbxml_tree_add_node` either appends the node, or — a text node behind a text node — merges it
    into the last child. -/
theorem addKid_cases (acc : List Node) (n : Node) :
    ((lastText acc && isText n) = false ∧ addKid acc n = acc ++ [n]) ∨
    ∃ pre t s, acc = pre ++ [.text t] ∧ n = .text s ∧ addKid acc n = pre ++ [.text (t ++ s)] := by
  cases hn : isText n with
  | false => exact Or.inl ⟨Bool.and_false _, addKid_not_text acc n hn⟩
  | true =>
    obtain ⟨s, rfl⟩ : ∃ s, n = .text s := by
      cases n with
      | text s => exact ⟨s, rfl⟩
      | _ => cases hn
    cases hl : lastText acc with
    | false => exact Or.inl ⟨rfl, addKid_text_after acc s hl⟩
    | true =>
      obtain ⟨pre, t, rfl⟩ := lastText_split acc hl
      exact Or.inr ⟨pre, t, s, rfl, rfl, addKid_text_merge pre t s⟩

theorem addKid_all {P : Node → Prop} (acc : List Node) (n : Node) (ht : ∀ s, P (.text s))
    (ha : ∀ k ∈ acc, P k) (hn : P n) : ∀ k ∈ addKid acc n, P k := by
  rcases addKid_cases acc n with ⟨_, e⟩ | ⟨pre, t, s, rfl, rfl, e⟩ <;> rw [e] <;> intro k hk <;>
    rcases List.mem_append.mp hk with hk | hk
  · exact ha k hk
  · rw [List.mem_singleton.mp hk]; exact hn
  · exact ha k (List.mem_append_left _ hk)
  · rw [List.mem_singleton.mp hk]; exact ht _

end Wbxml.Lemmas.Rt
