/-
  Round trip (C03), second trip for languages WITH a namespace table (SyncML family, ActiveSync).

  * Reading model: `ReadsNs` / `ReadsDocNs` / `ReadsBackNs` — what a conforming NAMESPACE-AWARE
    reader (Expat created with the separator `|`) reports for the printer's output: unprefixed
    element names qualified with the default namespace in scope inside their start tag (`uri|local`;
    the scope is the one `xml_encode_tag` creates: `XmlNs.nsAfter`, C05), `xmlns` attributes not
    reported, character data as printed. `ReadsBackNs` is the assumption about Expat.
  * The XML-side builder over such a reading, with `Data` elements (`syncmlDataType` answering
    `normal`: `dataOkX`): for a tree whose elements are resolved token elements (`nsReadable`: the
    page has a namespace that leads back to the page, `selfFind`, not binary-flagged, no attributes)
    it builds `readX` — the SAME rows, character data as printed (`xrun_doc_ns`,
    `treeOfXml_readsBackNs`).
-/
import Wbxml.Lemmas.RtXRun
import Wbxml.Lemmas.XmlNs
namespace Wbxml.Lemmas.Rt
open Wbxml Wbxml.Model Wbxml.Spec Wbxml.Lemmas.EncW Wbxml.Lemmas.X2W Wbxml.Lemmas.XmlNs Wbxml.Model.Flow

/-- Expat's name for an unprefixed element with the default namespace `sc` in scope (separator `|`);
    an empty declaration un-declares. -/
def qual (sc : Option Bytes) (nm : Bytes) : Bytes :=
  match sc with
  | some u => if u.isEmpty then nm else u ++ 124 :: nm
  | none => nm

/-- `ReadsNs c p cur kids evs`: `evs` is what a conforming namespace-aware reader may report for the
    child list `kids` printed under the printer scope `p` (`xmlNode`'s argument) with the default
    namespace `cur` in scope: element names are qualified with the namespace in scope inside their
    start tag (`XmlNs.nsAfter`: what the tag declares, else `cur`), `xmlns` attributes are not
    reported, everything else as in `Reads`. -/
inductive ReadsNs (c : XCfg) : Parent → Option Bytes → List Node → List XEvent → Prop
  | nil (p : Parent) (cur : Option Bytes) : ReadsNs c p cur [] []
  | elt (p : Parent) (cur : Option Bytes) (name : Name) (attrs : List Attr) (kids rest : List Node)
      (body es : List XEvent) (i j : Nat) :
      ReadsNs c (childScope p name) (nsAfter c p cur name) kids body → ReadsNs c p cur rest es →
      ReadsNs c p cur (.elt name attrs kids :: rest)
        (.startElt (qual (nsAfter c p cur name) name.xmlName) (xmlAttrsOf c attrs) i ::
          (body ++ .endElt (qual (nsAfter c p cur name) name.xmlName) j :: es))
  | text (p : Parent) (cur : Option Bytes) (s : Bytes) (rest : List Node) (pieces : List Bytes) (es : List XEvent) :
      pieces.flatten = printedText c s → (∀ q ∈ pieces, q ≠ []) → ReadsNs c p cur rest es →
      ReadsNs c p cur (.text s :: rest) (pieces.map XEvent.chars ++ es)

/-- A conforming namespace-aware reading of the printed tree (compact or canonical generation). -/
def ReadsDocNs (c : XCfg) (t : Tree) (evs : List XEvent) : Prop :=
  c.gen ≠ 1 ∧ ∃ r body, t.root = some r ∧ ReadsNs c .none none [r] body ∧ evs = xmlDeclEv :: docTypeOf c.lang :: body

/-- **The assumption about Expat, namespace languages**: the recorded run for `xml` succeeded and is
    a conforming namespace-aware reading of the printed tree. -/
def ReadsBackNs (env : List (Bytes × ExpatRun)) (xml : Bytes) (c : XCfg) (t : Tree) : Prop :=
  ∃ k run, env.find? (fun p => p.1 == xml) = some (k, run) ∧ run.ok = true ∧ ReadsDocNs c t run.events

mutual
/-- The canonical namespace-aware reading of a plain node printed under scope `p` with default namespace `cur`:
    names qualified as Expat reports them (`qual`), each non-empty printed text as one piece, offsets 0. -/
def xmlEventsNs (c : XCfg) (p : Parent) (cur : Option Bytes) : Node → List XEvent
  | .elt name attrs kids =>
    .startElt (qual (nsAfter c p cur name) name.xmlName) (xmlAttrsOf c attrs) 0 ::
      (xmlEventsNsL c (childScope p name) (nsAfter c p cur name) kids ++
        [.endElt (qual (nsAfter c p cur name) name.xmlName) 0])
  | .text s => if (printedText c s).isEmpty then [] else [.chars (printedText c s)]
  | .cdata _ => []
  | .tree _ _ _ => []
def xmlEventsNsL (c : XCfg) (p : Parent) (cur : Option Bytes) : List Node → List XEvent
  | [] => []
  | k :: r => xmlEventsNs c p cur k ++ xmlEventsNsL c p cur r
end

mutual
theorem readsNs_canonical_node (c : XCfg) : ∀ (k : Node) (p : Parent) (cur : Option Bytes) (rest : List Node) (es : List XEvent),
    plainNode k = true → ReadsNs c p cur rest es → ReadsNs c p cur (k :: rest) (xmlEventsNs c p cur k ++ es)
  | .elt name attrs kids, p, cur, rest, es, hp, hr => by
    rw [plainNode] at hp
    rw [xmlEventsNs]
    have hk := readsNs_canonical_nodes c kids (childScope p name) (nsAfter c p cur name) hp
    have := ReadsNs.elt p cur name attrs kids rest _ es 0 0 hk hr
    simpa using this
  | .text s, p, cur, rest, es, _, hr => by
    rw [xmlEventsNs]
    split
    · rename_i he
      have := ReadsNs.text (c := c) p cur s rest [] es (by simp [List.isEmpty_iff.mp he]) (by intro q hq; cases hq) hr
      simpa using this
    · rename_i he
      have := ReadsNs.text (c := c) p cur s rest [printedText c s] es (by simp)
        (by intro q hq; simp only [List.mem_singleton] at hq; subst hq; intro h; rw [h] at he; exact he rfl) hr
      simpa using this
  | .cdata _, _, _, _, _, hp, _ => by rw [plainNode] at hp; cases hp
  | .tree _ _ _, _, _, _, _, hp, _ => by rw [plainNode] at hp; cases hp
theorem readsNs_canonical_nodes (c : XCfg) : ∀ (ks : List Node) (p : Parent) (cur : Option Bytes), plainNodes ks = true →
    ReadsNs c p cur ks (xmlEventsNsL c p cur ks)
  | [], p, cur, _ => by rw [xmlEventsNsL]; exact ReadsNs.nil p cur
  | k :: r, p, cur, hp => by
    rw [plainNodes, Bool.and_eq_true] at hp
    rw [xmlEventsNsL]
    exact readsNs_canonical_node c k p cur r _ hp.1 (readsNs_canonical_nodes c r p cur hp.2)
end

/-- `ReadsBackNs` is satisfiable for every plain tree: by the run that reports the canonical reading. -/
theorem readsBackNs_canonical (xml : Bytes) (c : XCfg) (t : Tree) (r : Node) (hr : t.root = some r)
    (hp : plainNode r = true) (hg : c.gen ≠ 1) :
    ReadsBackNs [(xml, { ok := true, events := xmlDeclEv :: docTypeOf c.lang :: xmlEventsNs c .none none r })] xml c t := by
  refine ⟨xml, { ok := true, events := xmlDeclEv :: docTypeOf c.lang :: xmlEventsNs c .none none r },
    by simp [List.find?], rfl, hg, r, xmlEventsNs c .none none r, hr, ?_, rfl⟩
  have := readsNs_canonical_node c r .none none [] [] hp (ReadsNs.nil _ _)
  simpa using this

theorem xmlElt_token (lang : Lang) (ns : List NsRow) (tags : List TagRow) (hns : lang.ns = some ns)
    (ht : lang.tags = some tags) (d : TagRow) (u : Bytes) (hpage : pageOfNs ns u = d.page)
    (hfind : encTag tags (some d.page) d.name = some d) (hbar : (124 : UInt8) ∉ d.name) :
    xmlElt lang (u ++ 124 :: d.name) [] = ({ kind := .elt (.token d) [], kids := [] }, d.page) := by
  rw [xmlElt_closed]
  simp only [xeTag, nsPart, localName, lastIndexOf_qual u d.name hbar, take_qual, drop_qual, hns, hpage, ht, hfind,
    List.map_nil]

mutual
/-- Names and attributes as they are, character data as printed. -/
def readX (c : XCfg) : Node → Node
  | .elt name attrs kids => .elt name attrs (readXKids c kids [])
  | .text s => .text (printedText c s)
  | .cdata k => .cdata k
  | .tree l cs r => .tree l cs r
def readXKids (c : XCfg) : List Node → List Node → List Node
  | [], acc => acc
  | k :: rest, acc => readXKids c rest (addN acc (readX c k))
end

theorem readX_elt (c name attrs kids) : readX c (.elt name attrs kids) = .elt name attrs (readXKids c kids []) := by rw [readX]
theorem readX_text (c s) : readX c (.text s) = .text (printedText c s) := by rw [readX]
theorem readXKids_nil (c acc) : readXKids c [] acc = acc := by rw [readXKids]
theorem readXKids_cons (c k rest acc) : readXKids c (k :: rest) acc = readXKids c rest (addN acc (readX c k)) := by
  rw [readXKids]

/-- A token element the XML-side callbacks resolve to the same row again: its code page has a
    namespace, that namespace leads back to the page, the name is found from its own page
    (`selfFind`), has no `|`, is not binary-flagged, and the qualified name is not one of the two
    that start an embedded document. -/
def tokOk (lang : Lang) (d : TagRow) : Bool :=
  match lang.ns, lang.tags with
  | some ns, some tags =>
    (match nsOfPageX ns d.page with
     | some u => !u.isEmpty && pageOfNs ns u == d.page &&
         !(u ++ 124 :: d.name == devinfName || u ++ 124 :: d.name == mgmtName)
     | none => false) &&
    encTag tags (some d.page) d.name == some d && !d.name.contains 124 && !isBinaryName (.token d)
  | _, _ => false

mutual
/-- Token elements only (`tokOk`), no attributes, elements and text only. -/
def nsReadable (lang : Lang) : Node → Bool
  | .elt name attrs kids =>
    (match name with
     | .token d => tokOk lang d
     | .literal _ => false) && attrs.isEmpty && nsReadableL lang kids
  | .text _ => true
  | .cdata _ => false
  | .tree _ _ _ => false
def nsReadableL (lang : Lang) : List Node → Bool
  | [] => true
  | k :: r => nsReadable lang k && nsReadableL lang r
end

mutual
/-- At every non-empty printed text the XML-side builder meets `normal` (the frames hold the
    children read so far). -/
def dataOkX (c : XCfg) (below : List Frame) : Node → Bool
  | .elt name attrs kids => dataOkXL c (.elt name attrs) below kids []
  | .text s => (printedText c s).isEmpty || normalAt below
  | .cdata _ => true
  | .tree _ _ _ => true
def dataOkXL (c : XCfg) (k : FrameKind) (below : List Frame) : List Node → List Node → Bool
  | [], _ => true
  | n :: rest, acc => dataOkX c ({ kind := k, kids := acc } :: below) n && dataOkXL c k below rest (addN acc (readX c n))
end

theorem tokOk_spec (lang : Lang) (d : TagRow) (h : tokOk lang d = true) :
    ∃ ns tags u, lang.ns = some ns ∧ lang.tags = some tags ∧ nsOfPageX ns d.page = some u ∧ u.isEmpty = false ∧
      pageOfNs ns u = d.page ∧ (u ++ 124 :: d.name == devinfName || u ++ 124 :: d.name == mgmtName) = false ∧
      encTag tags (some d.page) d.name = some d ∧ (124 : UInt8) ∉ d.name ∧ isBinaryName (.token d) = false := by
  unfold tokOk at h
  cases hns : lang.ns with
  | none => simp [hns] at h
  | some ns =>
    cases ht : lang.tags with
    | none => simp [hns, ht] at h
    | some tags =>
      simp only [hns, ht, Bool.and_eq_true, Bool.not_eq_true', beq_iff_eq] at h
      obtain ⟨⟨⟨h1, h2⟩, h3⟩, h4⟩ := h
      cases hu : nsOfPageX ns d.page with
      | none => rw [hu] at h1; cases h1
      | some u =>
        rw [hu] at h1
        simp only [Bool.and_eq_true, Bool.not_eq_true', beq_iff_eq] at h1
        refine ⟨ns, tags, u, rfl, rfl, hu, h1.1.1, h1.1.2, h1.2, h2, ?_, h4⟩
        intro hm
        have := List.contains_iff_mem.mpr hm
        rw [this] at h3; cases h3

theorem qual_some (u nm : Bytes) (h : u.isEmpty = false) : qual (some u) nm = u ++ 124 :: nm := by
  simp only [qual, h, Bool.false_eq_true, if_false]

theorem xmlAttrsOf_nil (c : XCfg) : xmlAttrsOf c [] = [] := by
  unfold xmlAttrsOf; split <;> rfl

variable (main : List Lang) (input : Bytes) (sub : Bytes → Option (Except Nat Tree))

/-- The start tag of a resolved token element opens the frame of the same row (`xmlElt_token`: the
    name is reported qualified with the namespace of the row's page), and its body is read in the
    scope the tag creates. -/
theorem opens_ns {lang : Lang} {c : XCfg} (hc : c.lang = lang) (ns : List NsRow) (hns : lang.ns = some ns)
    {p : Parent} {cur : Option Bytes} (hsc : ScopeNs ns p cur) (d : TagRow) (hname : tokOk lang d = true) (i : Nat) :
    Opens main input sub lang (.startElt (qual (nsAfter c p cur (.token d)) (Name.token d).xmlName) (xmlAttrsOf c []) i)
      { kind := .elt (.token d) [], kids := [] } ∧
    ScopeNs ns (childScope p (.token d)) (nsAfter c p cur (.token d)) := by
  obtain ⟨ns', tags, u, hns', ht, hu, hue, hpage, hskip, hfind, hbar, hbin⟩ := tokOk_spec lang d hname
  rw [hns] at hns'; injection hns' with hns'; subst hns'
  have hsc' := scopeNs_step c ns (by rw [hc]; exact hns) p cur (.token d) hsc
    (by simp only [namesHaveRows, List.all_cons, List.all_nil, Bool.and_true, hu, Option.isSome_some])
  have hafter : nsAfter c p cur (.token d) = some u := by
    have h2 := hsc'.2
    have : scopePage (childScope p (.token d)) = some d.page := rfl
    rw [this] at h2
    rw [h2.1, hu]
  refine ⟨fun b h hroot => ⟨d.page, ?_⟩, hsc'⟩
  rw [hafter, qual_some u _ hue, xmlAttrsOf_nil, show (Name.token d).xmlName = d.name from rfl,
    xstep_start_known main input sub h.quiet h.lang hroot _ _ _ hskip, xmlElt_token lang ns tags hns ht d u hpage hfind hbar]

theorem tokOk_frameOkD {lang : Lang} {d : TagRow} (h : tokOk lang d = true) :
    FrameOkD { kind := .elt (.token d) [], kids := [] } := by
  obtain ⟨_, _, _, _, _, _, _, _, _, _, _, hbin⟩ := tokOk_spec lang d h
  exact ⟨⟨_, _, rfl, hbin⟩, rfl⟩

theorem xrun_kids_ns {lang : Lang} {c : XCfg} (hc : c.lang = lang) (ns : List NsRow) (hns : lang.ns = some ns)
    {p : Parent} {cur : Option Bytes} {ks : List Node} {evs : List XEvent} (hr : ReadsNs c p cur ks evs) :
    ScopeNs ns p cur → nsReadableL lang ks = true → ∀ (f : XFrame) (rest : List XFrame),
      FrameOkD f → dataOkXL c f.kind (xStackFrames rest) ks f.kids = true →
      Fills main input sub lang evs f rest (readXKids c ks f.kids) := by
  induction hr with
  | nil p cur => intro _ _ f rest _ _; rw [readXKids_nil]; exact Fills.nil main input sub lang f rest
  | elt p cur name attrs kids more body es i j _ _ ihb ihe =>
    intro hsc hrd f rest hf hd
    rw [nsReadableL, Bool.and_eq_true] at hrd
    obtain ⟨hrd1, hmore⟩ := hrd
    unfold nsReadable at hrd1
    simp only [Bool.and_eq_true] at hrd1
    obtain ⟨⟨hname, hattrs⟩, hkids⟩ := hrd1
    rw [dataOkXL, Bool.and_eq_true, dataOkX] at hd
    cases name with
    | literal s => cases hname
    | token d =>
      have hattrs' : attrs = [] := List.isEmpty_iff.mp hattrs
      subst hattrs'
      obtain ⟨ho, hsc'⟩ := opens_ns main input sub hc ns hns hsc d hname i
      have hF := tokOk_frameOkD hname
      rw [readXKids_cons, readX_elt]
      exact Fills.elt main input sub ho hF (ihb hsc' hkids _ (f :: rest) hF hd.1) _ j
        (ihe hsc hmore _ rest ⟨hf.kind, hf.content⟩ hd.2)
  | text p cur s more pieces es hflat hne _ ihe =>
    intro hsc hrd f rest hf hd
    rw [nsReadableL, Bool.and_eq_true] at hrd
    rw [dataOkXL, Bool.and_eq_true, dataOkX] at hd
    rw [readXKids_cons, readX_text, addN_text, ← hflat]
    exact Fills.append main input sub
      (Fills.text main input sub pieces hf hne (by rw [hflat]; exact hd.1))
      (ihe hsc hrd.2 _ rest ⟨hf.kind, hf.content⟩ (by rw [hflat]; exact hd.2))

/-- **The XML-side builder over a conforming namespace-aware reading of the printed tree** builds
    `readX` of its root — the same element rows, character data as printed. -/
theorem xrun_doc_ns {lang : Lang} {c : XCfg} (hc : c.lang = lang) (ns : List NsRow) (hns : lang.ns = some ns)
    (hdt : docTypeFinds main lang = true) (t : Tree) (r : Node) (hroot : t.root = some r)
    (hre : nsReadable lang r = true) (helt : isElt r = true) (hd : dataOkX c [] r = true) (evs : List XEvent)
    (hr : ReadsDocNs c t evs) :
    ∃ cp, evs.foldl (xbuildStep main input sub) {} =
      { lang := some lang, root := some (readX c r), curPage := cp } := by
  obtain ⟨_, r0, body, hr0, hreads, hevs⟩ := hr
  rw [hroot] at hr0; injection hr0 with hr0; subst hr0
  subst hevs
  cases hreads with
  | text p cur s rest pieces es _ _ _ => cases helt
  | elt p cur name attrs kids rest body' es i j hk hrest =>
    cases hrest
    unfold nsReadable at hre
    simp only [Bool.and_eq_true] at hre
    obtain ⟨⟨hname, hattrs⟩, hkids⟩ := hre
    rw [dataOkX] at hd
    cases name with
    | literal s => cases hname
    | token d =>
      have hattrs' : attrs = [] := List.isEmpty_iff.mp hattrs
      subst hattrs'
      obtain ⟨ho, hsc'⟩ := opens_ns main input sub hc ns hns (p := .none) (cur := none) ⟨rfl, trivial⟩ d hname i
      have hF := tokOk_frameOkD hname
      rw [hc, readX_elt]
      exact xrun_root main input sub hdt ho hF (xrun_kids_ns main input sub hc ns hns hk hsc' hkids _ [] hF hd) _ j

theorem treeOfXml_readsBackNs {lang : Lang} {c : XCfg} (main : List Lang) (hc : c.lang = lang) (ns : List NsRow)
    (hns : lang.ns = some ns) (hdt : docTypeFinds main lang = true) (t : Tree) (r : Node) (hroot : t.root = some r)
    (hre : nsReadable lang r = true) (helt : isElt r = true) (hd : dataOkX c [] r = true)
    (env : List (Bytes × ExpatRun)) (xml : Bytes)
    (hne : xml ≠ []) (hrb : ReadsBackNs env xml c t) (f : Nat) :
    treeOfXml main env (f + 1) xml = .ok { lang := some lang, origCharset := 0, root := some (readX c r) } := by
  obtain ⟨k, run, hfind, hok, hrd⟩ := hrb
  exact treeOfXml_of_run main env xml k run f hne hfind hok lang _
    (fun sub => xrun_doc_ns main xml sub hc ns hns hdt t r hroot hre helt hd run.events hrd)

end Wbxml.Lemmas.Rt
