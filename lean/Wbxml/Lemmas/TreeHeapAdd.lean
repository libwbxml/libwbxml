/-
  C18 lemmas: `wbxml_tree_add_node`.  Under a parent its four pointer paths (first child, behind the last
  child, in the place of the last text child as first child or behind a sibling) leave one final view, `Hung`:
  the chain `A ⧺ S` below the parent has become `A ⧺ [n; C]`.  Each path is its writes followed by that view
  (`*_hung`, `addNode_hung`); the invariant, the payload frame and "adjacent text siblings stay merged" are read
  off `Hung` once.  `addNode_under` is the statement the callers use (beside the context facts of `AddCtx`):
  the invariant, the action on the abstract children (`Model.addKid`), the payload frame, the new chain when
  nothing is merged, and "adjacent text siblings stay merged".  At the end the call without a parent,
  `addNode_root`.
-/
import Wbxml.Lemmas.TreeHeapForest
import Wbxml.Lemmas.TreeBuildBasic
namespace Wbxml.Model.TreeHeap
open Wbxml Wbxml.Model

theorem Pay.isBranch_of_isText {p : Pay} (h : p.isText = true) : p.isBranch = false := by
  cases p <;> first | rfl | cases h

theorem addKid_empty (n : Node) : addKid [] n = [n] :=
  (Lemmas.Rt.addKid_cases [] n).elim (·.2) fun ⟨_, _, _, h, _⟩ => absurd h (by simp)

theorem addKid_concat (ks : List Node) (pl pn : Pay) (x y : List Node) :
    addKid (ks ++ [mkNode pl x]) (mkNode pn y) =
      if (pn.isText && pl.isText) = true then ks ++ [.text (pl.textOf ++ pn.textOf)]
      else ks ++ [mkNode pl x, mkNode pn y] := by
  unfold addKid
  cases pn with
  | text s => cases pl <;> simp [mkNode, Pay.isText, Pay.textOf]
  | _ => simp [mkNode, Pay.isText]

/-- The situation in which `wbxml_tree_add_node(tree, P, n)` is called by the histories of C18: `n` is a
    detached top with the sub-tree `C` (the ghost's top level is `T ⧺ [n; C] ⧺ T'`), not the root; `P` is a
    live branch node elsewhere in the forest, hence neither `n` nor below it. -/
structure AddCtx (s : St) (T C T' : BT) (P n : Nat) (cP cn : Cell) : Prop where
  hF : Forest s (T.snoc (.node n C T'))
  hroot : s.root ≠ some n
  hP : P ∈ (T.snoc T').ids
  hcP : s.cellAt P = some cP
  hbr : cP.pay.isBranch = true
  hcn : s.cellAt n = some cn

/-- `AddCtx` as the proofs use it, in terms of the children chain `K = kidsOf P (T ⧺ T')`: `K` is what `P` points
    to, is linked as the shape says and has no address twice; `P` is not in `K`, is not `n` and is not in the
    sub-tree `C` of `n`; `K` lies in the forest without `n`, which has nothing of `n` or `C`. -/
structure AddCtx.Kids (s : St) (T C T' : BT) (P n : Nat) (cP : Cell) : Prop where
  first : cP.first = (BT.kidsOf P (T.snoc T')).rid
  chain : Match s.cellAt (some P) none (BT.kidsOf P (T.snoc T'))
  nodup : (BT.kidsOf P (T.snoc T')).ids.Nodup
  notP : P ∉ (BT.kidsOf P (T.snoc T')).ids
  ne : P ≠ n
  notC : P ∉ C.ids
  sub : ∀ j, j ∈ (BT.kidsOf P (T.snoc T')).ids → j ∈ (T.snoc T').ids
  apart : ∀ j, j ∈ (T.snoc T').ids → j ≠ n ∧ j ∉ C.ids
  fresh : n ∉ C.ids

namespace AddCtx
variable {s : St} {T C T' : BT} {P n : Nat} {cP cn : Cell}

theorem cn_facts (c : AddCtx s T C T' P n cP cn) :
    cn.parent = none ∧ cn.prev = none ∧ cn.next = none ∧ cn.first = C.rid ∧
    (cn.pay.isBranch = true ∨ C = .nil) ∧ Match s.cellAt (some n) none C := by
  obtain ⟨c', hc', h⟩ := Loc.top_at c.hF.m
  cases c.hcn.symm.trans hc'
  exact h

/-- The forest without `n`: repetition-free, disjoint from `n` and its sub-tree, and `P` has the same children
    chain in it as in the whole forest. -/
theorem rest_facts (c : AddCtx s T C T' P n cP cn) :
    (T.snoc T').ids.Nodup ∧ (∀ j, j ∈ (T.snoc T').ids → j ≠ n ∧ j ∉ C.ids) ∧ n ∉ C.ids ∧
    P ∈ (T.snoc (.node n C T')).ids ∧ BT.kidsOf P (T.snoc (.node n C T')) = BT.kidsOf P (T.snoc T') := by
  obtain ⟨dT, _, dT', nT, nC, nT', dTC, dCT'⟩ := BT.nodup_split c.hF.nodup
  have hdis : ∀ j, j ∈ (T.snoc T').ids → j ≠ n ∧ j ∉ C.ids := by
    intro j hj
    rcases (BT.snoc_ids _ _ j).mp hj with h | h
    · exact ⟨fun e => nT (e ▸ h), (dTC j h).1⟩
    · exact ⟨fun e => nT' (e ▸ h), fun hc => dCT' j hc h⟩
  refine ⟨BT.snoc_nodup T T' dT dT' (fun a ha => (dTC a ha).2), hdis, nC, ?_, ?_⟩
  · exact (BT.snoc_ids _ _ P).mpr (((BT.snoc_ids _ _ P).mp c.hP).imp_right
      (fun h => BT.mem_node.mpr (Or.inr (Or.inr h))))
  · have e1 : ¬ n = P := fun e => (hdis P c.hP).1 e.symm
    rw [BT.kidsOf_snoc_eq, BT.kidsOf_snoc_eq]
    simp only [BT.kidsOf, e1, (hdis P c.hP).2, if_false]

theorem kids_after (c : AddCtx s T C T' P n cP cn) (K' : BT) :
    P ∈ (BT.setKids P K' (T.snoc T')).ids ∧ BT.kidsOf P (BT.setKids P K' (T.snoc T')) = K' := by
  obtain ⟨hG0, _⟩ := c.rest_facts
  exact ⟨(BT.mem_setKids P K' _ P hG0).mpr (Or.inl ⟨c.hP, (BT.kidsOf_nodup P _ hG0).2⟩),
    BT.kidsOf_setKids P K' _ c.hP hG0⟩

theorem kids_facts (c : AddCtx s T C T' P n cP cn) : Kids s T C T' P n cP := by
  obtain ⟨hG0, hdis, nC, hPG, hKeq⟩ := c.rest_facts
  obtain ⟨c', hc', h1, _, h3⟩ := c.hF.cell_kids hPG
  cases c.hcP.symm.trans hc'
  rw [hKeq] at h1 h3
  have hnd := BT.kidsOf_nodup P _ hG0
  have hsub := fun j hj => BT.kidsOf_mem P (T.snoc T') j hj
  exact ⟨h1, h3, hnd.1, hnd.2, (hdis P c.hP).1, (hdis P c.hP).2, hsub, hdis, nC⟩

end AddCtx

/-- The final view of `wbxml_tree_add_node(tree, P, n)`, whichever of its four pointer paths was taken:
    below `P` the chain `A ⧺ S` has become `A ⧺ [n; C]`.  `S` (nothing, or the last text child) is dead, `n`
    hangs behind `A.last` — or is `P`'s first child when `A` is empty — and carries the payload `X`; no other
    cell has changed. -/
structure Hung (s s' : St) (P n : Nat) (cP cn : Cell) (A S : BT) (X : Pay) : Prop where
  sameMeta : SameMeta s s'
  other : ∀ i, i ≠ P → i ≠ n → i ∉ S.ids → some i ≠ A.last → s'.cellAt i = s.cellAt i
  dead : ∀ i, i ∈ S.ids → s'.cellAt i = none
  new : s'.cellAt n = some { cn with parent := some P, prev := A.last, pay := X }
  first : A.last = none → s'.cellAt P = some { cP with first := some n }
  behind : ∀ q, A.last = some q → s'.cellAt P = some cP ∧
    ∀ cq, s.cellAt q = some cq → s'.cellAt q = some { cq with next := some n }

namespace Hung
variable {s s' : St} {T C T' : BT} {P n : Nat} {cP cn : Cell} {A S : BT} {X : Pay}

theorem forest (h : Hung s s' P n cP cn A S X) (c : AddCtx s T C T' P n cP cn)
    (hK : BT.kidsOf P (T.snoc T') = BT.snoc A S) (hX : X.isBranch = true ∨ C = .nil) :
    Forest s' (BT.setKids P (BT.snoc A (.node n C .nil)) (T.snoc T')) := by
  obtain ⟨hp0, hv0, hn0, hf0, hb0, hm0⟩ := c.cn_facts
  obtain ⟨k1, k2, k3, kP, hPn, hPC, k6, k7, nC⟩ := c.kids_facts
  rw [hK] at k1 k2 k3 kP k6
  have hAK : ∀ j, j ∈ A.ids → j ∈ (A.snoc S).ids := fun j hj => (BT.snoc_ids _ _ j).mpr (Or.inl hj)
  have hSK : ∀ j, j ∈ S.ids → j ∈ (A.snoc S).ids := fun j hj => (BT.snoc_ids _ _ j).mpr (Or.inr hj)
  rw [BT.snoc_ids_eq] at k3
  have hAS : ∀ j, j ∈ A.ids → j ∉ S.ids := fun j hj hs => (List.nodup_append.mp k3).2.2 j hj j hs rfl
  have hqA : ∀ q, A.last = some q → q ∈ A.ids := fun q hq => BT.tops_sub _ _ (BT.last_mem A q hq)
  apply Forest.rebuild c.hF _ S.ids c.hroot c.hP h.sameMeta.1
  · -- outside the chain of `P` no cell changes
    intro i hi hiP hik
    rw [hK] at hik
    exact h.other i hiP (k7 i hi).1 (fun hs => hik (hSK i hs)) (fun e => hik (hAK i (hqA i e.symm)))
  · -- `P->children` is the head of the new chain
    refine ⟨cP, c.hcP, c.hbr, ?_⟩
    rw [BT.rid_snoc]
    cases hq : A.last with
    | none => rw [BT.last_none A hq]; exact h.first hq
    | some q =>
      have : A.rid.or (BT.node n C .nil).rid = cP.first := by
        rw [k1, BT.rid_snoc]
        cases A with
        | nil => simp [BT.last] at hq
        | node i ch nx => simp
      rw [this]; exact (h.behind q hq).1
  · -- the new chain: `A` as it was but for its last cell, then `n` with its sub-tree as it was
    apply Match.resuffix (v := s.cellAt) (some P) n C A S none (List.nodup_append.mp k3).1 _ _ _ _ k2
    · intro j hj hjl
      exact h.other j (fun e => kP (e ▸ hAK j hj)) (k7 j (k6 j (hAK j hj))).1 (hAS j hj) hjl
    · intro q cq hq hcq
      exact (h.behind q hq).2 cq hcq
    · exact ⟨_, h.new, rfl, by rw [Option.or_none], hf0, hn0, hX.imp_right (fun e => by rw [e]; rfl)⟩
    · apply Match.frame _ _ _ _ hm0
      intro j hj
      have hjK : j ∉ (A.snoc S).ids := fun hk => (k7 j (k6 j hk)).2 hj
      exact h.other j (fun e => hPC (e ▸ hj)) (fun e => nC (e ▸ hj)) (fun hs => hjK (hSK j hs))
        (fun e => hjK (hAK j (hqA j e.symm)))
  · -- the cells of `S` and the new chain are those of the old chain and of `n` with its sub-tree
    rw [hK]
    simp only [BT.snoc_ids_eq, BT.ids_node, BT.ids_nil, List.append_nil, List.append_assoc]
    exact List.perm_append_comm_assoc _ _ _
  · -- no cell has come to life, and those of `S` are dead
    intro i ci hci
    have hiS : i ∉ S.ids := fun hs => by rw [h.dead i hs] at hci; cases hci
    refine ⟨?_, hiS⟩
    by_cases hiP : i = P
    · exact ⟨cP, hiP ▸ c.hcP⟩
    · by_cases hin : i = n
      · exact ⟨cn, hin ▸ c.hcn⟩
      · by_cases hiq : some i = A.last
        · exact Match.live _ _ _ k2 i (hAK i (hqA i hiq.symm))
        · rw [h.other i hiP hin hiS hiq] at hci; exact ⟨ci, hci⟩

theorem pay (h : Hung s s' P n cP cn A S X) (hcP : s.cellAt P = some cP)
    (hA : ∀ q, A.last = some q → ∃ cq, s.cellAt q = some cq) :
    payOf s'.cellAt n = X ∧ ∀ j, j ≠ n → j ∉ S.ids → payOf s'.cellAt j = payOf s.cellAt j := by
  refine ⟨by simp [payOf, h.new], fun j hjn hjS => ?_⟩
  by_cases hq : some j = A.last
  · obtain ⟨cq, hcq⟩ := hA j hq.symm
    simp only [payOf, (h.behind j hq.symm).2 cq hcq, hcq]
  · by_cases hjP : j = P
    · subst hjP
      cases hl : A.last with
      | none => simp only [payOf, h.first hl, hcP]
      | some q => simp only [payOf, (h.behind q hl).1, hcP]
    · simp only [payOf, h.other j hjP hjn hjS hq]

/-- "Adjacent text siblings have been merged" survives, given that the one new sibling edge — from `A.last` to
    `n` — does not join two text nodes: every other edge and every text node was there before. -/
theorem noAdj (h : Hung s s' P n cP cn A S X) (hcP : s.cellAt P = some cP) (hcn : s.cellAt n = some cn)
    (hA : ∀ q, A.last = some q → ∃ cq, s.cellAt q = some cq) (hnx : cn.next = none)
    (hX : X.isText = true → cn.pay.isText = true)
    (hnew : ∀ q cq, A.last = some q → s.cellAt q = some cq → ¬ (cq.pay.isText = true ∧ X.isText = true))
    (hN : NoAdjText s) : NoAdjText s' := by
  have tm : ∀ j c', s'.cellAt j = some c' → c'.pay.isText = true → ∃ c, s.cellAt j = some c ∧ c.pay.isText = true := by
    intro j c' hc' ht
    by_cases hjn : j = n
    · subst hjn
      rw [h.new] at hc'; cases hc'
      exact ⟨cn, hcn, hX ht⟩
    · by_cases hjS : j ∈ S.ids
      · rw [h.dead j hjS] at hc'; cases hc'
      · have := (h.pay hcP hA).2 j hjn hjS
        simp only [payOf, hc'] at this
        cases hv : s.cellAt j with
        | none => rw [hv] at this; simp only at this; rw [this] at ht; cases ht
        | some c0 => rw [hv] at this; simp only at this; exact ⟨c0, rfl, by rw [← this]; exact ht⟩
  intro i j ci cj hci hij hcj ⟨t1, t2⟩
  by_cases hq : some i = A.last
  · obtain ⟨cq, hcq⟩ := hA i hq.symm
    rw [(h.behind i hq.symm).2 cq hcq] at hci; cases hci
    cases hij
    rw [h.new] at hcj; cases hcj
    exact hnew i cq hq.symm hcq ⟨t1, t2⟩
  · have hold : ∃ c, s.cellAt i = some c ∧ c.next = some j := by
      by_cases hiS : i ∈ S.ids
      · rw [h.dead i hiS] at hci; cases hci
      · by_cases hin : i = n
        · subst hin; rw [h.new] at hci; cases hci; rw [hnx] at hij; cases hij
        · by_cases hiP : i = P
          · subst hiP
            cases hl : A.last with
            | none => rw [h.first hl] at hci; cases hci; exact ⟨cP, hcP, hij⟩
            | some q => rw [(h.behind q hl).1] at hci; cases hci; exact ⟨cP, hcP, hij⟩
          · rw [h.other i hiP hin hiS hq] at hci; exact ⟨ci, hci, hij⟩
    obtain ⟨c, hc, hcj'⟩ := hold
    obtain ⟨c0, hc0, ht0⟩ := tm i ci hci t1
    cases hc.symm.trans hc0
    obtain ⟨cj0, hcj0, htj0⟩ := tm j cj hcj t2
    exact hN i j c cj0 hc hcj' hcj0 ⟨ht0, htj0⟩

end Hung

/-- What `wbxml_tree_add_node` has read when it reaches the decision "merge or append". -/
theorem addNode_walk {s : St} {T C T' : BT} {P n : Nat} {cP cn : Cell} (c : AddCtx s T C T' P n cP cn)
    {fc l : Nat} {cl : Cell} (hf : cP.first = some fc) (hl : (BT.kidsOf P (T.snoc T')).last = some l)
    (hcl : s.cellAt l = some cl) :
    ∃ s1, s.upd n (fun c => { c with parent := some P }) = .ok s1 ∧
      s1.cellAt = vset s.cellAt n { cn with parent := some P } ∧ SameMeta s s1 ∧
      s1.deref P = .ok cP ∧ s1.lastSib s1.heap.length fc = .ok l ∧
      s1.deref l = .ok cl ∧ s1.deref n = .ok { cn with parent := some P } ∧
      l ≠ n ∧ l ≠ P := by
  have k := c.kids_facts
  obtain ⟨s1, e1, v1, m1⟩ := upd_step c.hcn (fun c => { c with parent := some P }) (fun _ => rfl)
  have hP1 : s1.cellAt P = some cP := by rw [v1, vset_ne _ _ k.ne]; exact c.hcP
  have hlK : l ∈ (BT.kidsOf P (T.snoc T')).ids := BT.tops_sub _ _ (BT.last_mem _ _ hl)
  have hln : l ≠ n := (k.apart l (k.sub l hlK)).1
  have hlP : l ≠ P := fun e => k.notP (e ▸ hlK)
  have hm1 : Match s1.cellAt (some P) none (BT.kidsOf P (T.snoc T')) := by
    apply Match.frame _ _ _ _ k.chain
    intro j hj
    rw [v1, vset_ne _ _ (k.apart j (k.sub j hj)).1]
  have hfuel : (BT.kidsOf P (T.snoc T')).tops.length ≤ s1.heap.length := by
    have h1 := BT.tops_length_le (BT.kidsOf P (T.snoc T'))
    have h2 := k.nodup.length_le_of_subset (l₂ := (T.snoc (.node n C T')).ids) (fun j hj => by
      rcases (BT.snoc_ids _ _ j).mp (k.sub j hj) with h | h
      · exact (BT.snoc_ids _ _ j).mpr (Or.inl h)
      · exact (BT.snoc_ids _ _ j).mpr (Or.inr (BT.mem_node.mpr (Or.inr (Or.inr h)))))
    have h3 := c.hF.size_le
    have h4 := m1.2.2.2.2
    omega
  have hwalk := lastSib_spec (s := s1) (some P) (BT.kidsOf P (T.snoc T')) none fc l s1.heap.length hm1
    (by rw [← k.first]; exact hf) hl hfuel
  refine ⟨s1, e1, v1, m1, deref_of_cellAt hP1, hwalk, ?_, ?_, hln, hlP⟩
  · apply deref_of_cellAt; rw [v1, vset_ne _ _ hln]; exact hcl
  · apply deref_of_cellAt; rw [v1]; simp

/-- `parent->children` is NULL: `parent->children = node`. -/
theorem addNode_first_hung {s : St} {T C T' : BT} {P n : Nat} {cP cn : Cell} (c : AddCtx s T C T' P n cP cn)
    (hf : cP.first = none) :
    ∃ s', addNode s (some P) n = .ok (true, s') ∧ Hung s s' P n cP cn .nil .nil cn.pay := by
  obtain ⟨hp0, hv0, hn0, hf0, hb0, hm0⟩ := c.cn_facts
  have hPn := c.kids_facts.ne
  obtain ⟨s1, e1, v1, m1⟩ := upd_step c.hcn (fun c => { c with parent := some P }) (fun _ => rfl)
  have hP1 : s1.cellAt P = some cP := by rw [v1, vset_ne _ _ hPn]; exact c.hcP
  obtain ⟨s2, e2, v2, m2⟩ := upd_step hP1 (fun c => { c with first := some n }) (fun _ => rfl)
  refine ⟨s2, ?_, m1.trans m2, ?_, (fun i hi => by simp at hi), ?_, (fun _ => by rw [v2]; simp),
    (fun q hq => by simp [BT.last] at hq)⟩
  · simp only [addNode, e1, bind, Except.bind, deref_of_cellAt hP1, hf, e2, pure, Except.pure]
  · intro i hiP hin _ _
    rw [v2, vset_ne _ _ hiP, v1, vset_ne _ _ hin]
  · rw [v2, vset_ne _ _ hPn.symm, v1]; simp [BT.last, hv0]

/-- The normal case after the walk: `node->prev = tmp; tmp->next = node;`. -/
theorem addNode_append_hung {s : St} {T C T' : BT} {P n : Nat} {cP cn : Cell} (c : AddCtx s T C T' P n cP cn)
    {fc l : Nat} {cl : Cell} (hf : cP.first = some fc) (hl : (BT.kidsOf P (T.snoc T')).last = some l)
    (hcl : s.cellAt l = some cl) (hcond : (cn.pay.isText && cl.pay.isText) = false) :
    ∃ s', addNode s (some P) n = .ok (true, s') ∧
      Hung s s' P n cP cn (BT.kidsOf P (T.snoc T')) .nil cn.pay := by
  obtain ⟨s1, e1, v1, m1, dP, hw, dl, dn, hln, hlP⟩ := addNode_walk c hf hl hcl
  have hPn := c.kids_facts.ne
  have hn1 : s1.cellAt n = some { cn with parent := some P } := by rw [v1]; simp
  obtain ⟨s2, e2, v2, m2⟩ := upd_step hn1 (fun c => { c with prev := some l }) (fun _ => rfl)
  have hl2 : s2.cellAt l = some cl := by rw [v2, vset_ne _ _ hln, v1, vset_ne _ _ hln]; exact hcl
  obtain ⟨s3, e3, v3, m3⟩ := upd_step hl2 (fun c => { c with next := some n }) (fun _ => rfl)
  refine ⟨s3, ?_, (m1.trans m2).trans m3, ?_, (fun i hi => by simp at hi), ?_,
    (fun h0 => by rw [hl] at h0; cases h0), ?_⟩
  · simp only [addNode, e1, bind, Except.bind, dP, hf, hw, dl, dn, hcond, linkAppend, e2, e3, pure, Except.pure,
      Bool.false_eq_true, if_false]
  · intro i _ hin _ hil
    rw [hl] at hil
    rw [v3, vset_ne _ _ (fun e => hil (by rw [e])), v2, vset_ne _ _ hin, v1, vset_ne _ _ hin]
  · rw [v3, vset_ne _ _ hln.symm, v2, hl]; simp
  · intro q hq
    cases hl.symm.trans hq
    refine ⟨by rw [v3, vset_ne _ _ hlP.symm, v2, vset_ne _ _ hPn, v1, vset_ne _ _ hPn]; exact c.hcP, fun cq hcq => ?_⟩
    cases hcl.symm.trans hcq
    rw [v3]; simp

/-- The text-merge case: `n` takes the place of the last child `l` — as first child of `P`, or behind the
    previous sibling of `l` —, gets the joined content, and `l` is destroyed. -/
theorem addNode_merge_hung {s : St} {T C T' : BT} {P n : Nat} {cP cn : Cell} (c : AddCtx s T C T' P n cP cn)
    {fc l : Nat} {cl : Cell} {A : BT} (hf : cP.first = some fc)
    (hK : BT.kidsOf P (T.snoc T') = BT.snoc A (.node l .nil .nil))
    (hcl : s.cellAt l = some cl) (htn : cn.pay.isText = true) (htl : cl.pay.isText = true) :
    ∃ s', addNode s (some P) n = .ok (true, s') ∧
      Hung s s' P n cP cn A (.node l .nil .nil) (.text (cl.pay.textOf ++ cn.pay.textOf)) := by
  obtain ⟨hp0, hv0, hn0, hf0, hb0, hm0⟩ := c.cn_facts
  have k := c.kids_facts
  have hl : (BT.kidsOf P (T.snoc T')).last = some l := by rw [hK, BT.last_snoc]; simp [BT.last]
  obtain ⟨s1, e1, v1, m1, dP, hw, dl, dn, hln, hlP⟩ := addNode_walk c hf hl hcl
  have hcond : (cn.pay.isText && cl.pay.isText) = true := by rw [htn, htl]; rfl
  have hn1 : s1.cellAt n = some { cn with parent := some P } := by rw [v1]; simp
  have hP1 : s1.cellAt P = some cP := by rw [v1, vset_ne _ _ k.ne]; exact c.hcP
  have hl1 : s1.cellAt l = some cl := by rw [v1, vset_ne _ _ hln]; exact hcl
  obtain ⟨cl', hcl', hpv, _⟩ := Match.at_top (hK ▸ k.chain)
  cases hcl.symm.trans hcl'
  rw [Option.or_none] at hpv
  have hlA : l ∉ A.ids := (BT.nodup_split (hK ▸ k.nodup)).2.2.2.1
  have hdead : ∀ (v : View) i, i ∈ (BT.node l .nil .nil).ids → vdel v l i = none := by
    intro v i hi
    have : i = l := by simpa using hi
    rw [this]; simp
  cases hq : cl.prev with
  | none =>
    -- tmp is the first child: parent->children = node
    obtain ⟨s2, e2, v2, m2⟩ := upd_step hP1 (fun c => { c with first := some n }) (fun _ => rfl)
    have hn2 : s2.cellAt n = some { cn with parent := some P } := by
      rw [v2, vset_ne _ _ k.ne.symm]; exact hn1
    obtain ⟨s3, e3, v3, m3⟩ := upd_step hn2
      (fun c => { c with pay := .text (cl.pay.textOf ++ ({ cn with parent := some P } : Cell).pay.textOf) }) (fun _ => rfl)
    have hl3 : s3.cellAt l = some cl := by
      rw [v3, vset_ne _ _ hln, v2, vset_ne _ _ hlP]; exact hl1
    obtain ⟨s4, e4, v4, m4⟩ := free_step hl3
    refine ⟨s4, ?_, ((m1.trans m2).trans m3).trans m4, ?_, (fun i hi => by rw [v4]; exact hdead _ i hi), ?_, ?_,
      (fun q h0 => by rw [← hpv, hq] at h0; cases h0)⟩
    · simp only [addNode, e1, bind, Except.bind, dP, hf, hw, dl, dn, hcond, linkMerge, hq, e2, e3, e4, pure,
        Except.pure, if_true]
    · intro i hiP hin hil _
      have hil' : i ≠ l := fun e => hil (by simp [e])
      rw [v4, vdel_ne _ hil', v3, vset_ne _ _ hin, v2, vset_ne _ _ hiP, v1, vset_ne _ _ hin]
    · rw [v4, vdel_ne _ hln.symm, v3, ← hpv, hq]; simp [hv0]
    · intro _
      rw [v4, vdel_ne _ hlP.symm, v3, vset_ne _ _ k.ne, v2]; simp
  | some q =>
    -- tmp->prev->next = node; node->prev = tmp->prev
    have hqA : q ∈ A.ids := BT.tops_sub _ _ (BT.last_mem A q (by rw [← hpv]; exact hq))
    have hqK : q ∈ (BT.kidsOf P (T.snoc T')).ids := by rw [hK]; exact (BT.snoc_ids _ _ q).mpr (Or.inl hqA)
    have hqn : q ≠ n := (k.apart q (k.sub q hqK)).1
    have hqP : q ≠ P := fun e => k.notP (e ▸ hqK)
    have hql : q ≠ l := fun e => hlA (e ▸ hqA)
    obtain ⟨cq, hcq⟩ := Match.live _ _ _ k.chain q hqK
    have hq1 : s1.cellAt q = some cq := by rw [v1, vset_ne _ _ hqn]; exact hcq
    obtain ⟨s2, e2, v2, m2⟩ := upd_step hq1 (fun c => { c with next := some n }) (fun _ => rfl)
    have hn2 : s2.cellAt n = some { cn with parent := some P } := by
      rw [v2, vset_ne _ _ hqn.symm]; exact hn1
    obtain ⟨s3, e3, v3, m3⟩ := upd_step hn2 (fun c => { c with prev := some q }) (fun _ => rfl)
    have hn3 : s3.cellAt n = some { cn with parent := some P, prev := some q } := by rw [v3]; simp
    obtain ⟨s4, e4, v4, m4⟩ := upd_step hn3
      (fun c => { c with pay := .text (cl.pay.textOf ++ ({ cn with parent := some P } : Cell).pay.textOf) }) (fun _ => rfl)
    have hl4 : s4.cellAt l = some cl := by
      rw [v4, vset_ne _ _ hln, v3, vset_ne _ _ hln, v2, vset_ne _ _ hql.symm]; exact hl1
    obtain ⟨s5, e5, v5, m5⟩ := free_step hl4
    refine ⟨s5, ?_, (((m1.trans m2).trans m3).trans m4).trans m5, ?_, (fun i hi => by rw [v5]; exact hdead _ i hi),
      ?_, (fun h0 => by rw [← hpv, hq] at h0; cases h0), ?_⟩
    · simp only [addNode, e1, bind, Except.bind, dP, hf, hw, dl, dn, hcond, linkMerge, hq, e2, e3, e4, e5, pure,
        Except.pure, if_true]
    · intro i hiP hin hil hiq
      have hil' : i ≠ l := fun e => hil (by simp [e])
      have hiq' : i ≠ q := fun e => hiq (by rw [← hpv, hq, e])
      rw [v5, vdel_ne _ hil', v4, vset_ne _ _ hin, v3, vset_ne _ _ hin, v2, vset_ne _ _ hiq', v1, vset_ne _ _ hin]
    · rw [v5, vdel_ne _ hln.symm, v4, ← hpv, hq]; simp
    · intro q' hq'
      cases (hpv.symm.trans hq).symm.trans hq'
      refine ⟨?_, fun cq' hcq' => ?_⟩
      · rw [v5, vdel_ne _ hlP.symm, v4, vset_ne _ _ k.ne, v3, vset_ne _ _ k.ne, v2, vset_ne _ _ hqP.symm]
        exact hP1
      · cases hcq.symm.trans hcq'
        rw [v5, vdel_ne _ hql, v4, vset_ne _ _ hqn, v3, vset_ne _ _ hqn, v2]; simp

/-- Which of the paths `wbxml_tree_add_node(tree, P, n)` takes, and the final view it leaves: nothing is
    discarded and `n` keeps its payload — taken when `n` and the last child are not both text —, or the last
    child `l`, a text node like `n`, is discarded and `n` carries the joined text. -/
theorem addNode_hung {s : St} {T C T' : BT} {P n : Nat} {cP cn : Cell} (c : AddCtx s T C T' P n cP cn) :
    ∃ s' A S X, BT.kidsOf P (T.snoc T') = BT.snoc A S ∧ addNode s (some P) n = .ok (true, s') ∧
      Hung s s' P n cP cn A S X ∧
      ((S = .nil ∧ X = cn.pay ∧
          ∀ l cl, A.last = some l → s.cellAt l = some cl → (cn.pay.isText && cl.pay.isText) = false) ∨
       ∃ l cl, S = .node l .nil .nil ∧ s.cellAt l = some cl ∧ cn.pay.isText = true ∧ cl.pay.isText = true ∧
          X = .text (cl.pay.textOf ++ cn.pay.textOf)) := by
  obtain ⟨k1, k2, k3, kP, hPn, hPC, k6, k7, nC⟩ := c.kids_facts
  cases hf : cP.first with
  | none =>
    obtain ⟨s', e, h⟩ := addNode_first_hung c hf
    exact ⟨s', .nil, .nil, _, BT.rid_none (by rw [← k1]; exact hf), e, h,
      Or.inl ⟨rfl, rfl, fun l cl hl => by simp [BT.last] at hl⟩⟩
  | some fc =>
    have hKne : BT.kidsOf P (T.snoc T') ≠ .nil := by
      intro h0; rw [h0] at k1; rw [hf] at k1; cases k1
    obtain ⟨A, l, x, hK⟩ := BT.split_last _ hKne
    have hl : (BT.kidsOf P (T.snoc T')).last = some l := by rw [hK, BT.last_snoc]; simp [BT.last]
    obtain ⟨cl, hcl⟩ := Match.live _ _ _ k2 l (BT.tops_sub _ _ (BT.last_mem _ _ hl))
    by_cases hm : (cn.pay.isText && cl.pay.isText) = true
    · obtain ⟨htn, htl⟩ := Bool.and_eq_true_iff.mp hm
      obtain ⟨cl', hcl', _, _, _, hb, _⟩ := Match.at_top (hK ▸ k2)
      cases hcl.symm.trans hcl'
      have hx : x = .nil := hb.resolve_left (by rw [Pay.isBranch_of_isText htl]; simp)
      subst hx
      obtain ⟨s', e, h⟩ := addNode_merge_hung c hf hK hcl htn htl
      exact ⟨s', A, _, _, hK, e, h, Or.inr ⟨l, cl, rfl, hcl, htn, htl, rfl⟩⟩
    · obtain ⟨s', e, h⟩ := addNode_append_hung c hf hl hcl (Bool.eq_false_iff.mpr hm)
      refine ⟨s', _, .nil, _, (BT.snoc_nil _).symm, e, h, Or.inl ⟨rfl, rfl, fun l' cl' hl' hcl' => ?_⟩⟩
      cases hl.symm.trans hl'
      cases hcl.symm.trans hcl'
      exact Bool.eq_false_iff.mpr hm

/-- What `wbxml_tree_add_node(tree, P, n)` has done, whichever path it took: the chain `K'` it leaves below `P`
    ends in `n`; abstractly `K'` is `Model.addKid` of the old children and the sub-tree of `n`; payloads
    outside the old chain are kept; when no merge is possible (`plain`) `K'` is the old chain with `n` appended
    and every payload is kept; no new pair of adjacent text siblings arises. -/
structure Inserted (s : St) (T C T' : BT) (P n : Nat) (cn : Cell) (s' : St) (K' : BT) : Prop where
  ok : addNode s (some P) n = .ok (true, s')
  sameMeta : SameMeta s s'
  forest : Forest s' (BT.setKids P K' (T.snoc T'))
  last : K'.last = some n
  cell : ∃ c', s'.cellAt n = some c' ∧ c'.pay.isBranch = cn.pay.isBranch
  abs : absBT s'.cellAt K' = addKid (absBT s.cellAt (BT.kidsOf P (T.snoc T'))) (mkNode cn.pay (absBT s.cellAt C))
  frame : ∀ j, j ≠ n → j ∉ (BT.kidsOf P (T.snoc T')).ids → payOf s'.cellAt j = payOf s.cellAt j
  plain : (∀ A l x, BT.kidsOf P (T.snoc T') = BT.snoc A (.node l x .nil) →
      (cn.pay.isText && (payOf s.cellAt l).isText) = false) →
    K' = BT.snoc (BT.kidsOf P (T.snoc T')) (.node n C .nil) ∧ payOf s'.cellAt n = cn.pay ∧
    ∀ j, j ≠ n → payOf s'.cellAt j = payOf s.cellAt j
  noAdj : NoAdjText s → NoAdjText s'

/-- `wbxml_tree_add_node(tree, P, n)` links `n` as the only child, or after the last child `l`, or — when
    `l` and `n` are both text — in the place of `l`. -/
theorem addNode_under {s : St} {T C T' : BT} {P n : Nat} {cP cn : Cell} (c : AddCtx s T C T' P n cP cn) :
    ∃ s' K', Inserted s T C T' P n cn s' K' := by
  obtain ⟨k1, k2, k3, kP, hPn, hPC, k6, k7, nC⟩ := c.kids_facts
  obtain ⟨hp0, hv0, hn0, hf0, hb0, hm0⟩ := c.cn_facts
  obtain ⟨s', A, S, X, hK, e, h, hcase⟩ := addNode_hung c
  have hAK : ∀ j, j ∈ A.ids → j ∈ (BT.kidsOf P (T.snoc T')).ids := fun j hj => by
    rw [hK]; exact (BT.snoc_ids _ _ j).mpr (Or.inl hj)
  have hSK : ∀ j, j ∈ S.ids → j ∈ (BT.kidsOf P (T.snoc T')).ids := fun j hj => by
    rw [hK]; exact (BT.snoc_ids _ _ j).mpr (Or.inr hj)
  have hA : ∀ q, A.last = some q → ∃ cq, s.cellAt q = some cq := fun q hq =>
    Match.live _ _ _ k2 q (hAK q (BT.tops_sub _ _ (BT.last_mem A q hq)))
  obtain ⟨hpn, hpo⟩ := h.pay c.hcP hA
  have hAS : ∀ j, j ∈ A.ids → j ∉ S.ids := by
    rw [hK, BT.snoc_ids_eq] at k3
    exact fun j hj hs => (List.nodup_append.mp k3).2.2 j hj j hs rfl
  have eC : absBT s'.cellAt C = absBT s.cellAt C := absBT_frame _ (fun j hj =>
    hpo j (fun e0 => nC (e0 ▸ hj)) (fun hs => (k7 j (k6 j (hSK j hs))).2 hj))
  have eA : absBT s'.cellAt A = absBT s.cellAt A := absBT_frame _ (fun j hj =>
    hpo j (k7 j (k6 j (hAK j hj))).1 (hAS j hj))
  have hXb : X.isBranch = cn.pay.isBranch ∧ X.isText = cn.pay.isText := by
    rcases hcase with ⟨_, rfl, _⟩ | ⟨l, cl, _, _, htn, _, rfl⟩
    · exact ⟨rfl, rfl⟩
    · exact ⟨by rw [Pay.isBranch_of_isText htn]; rfl, by rw [htn]; rfl⟩
  refine ⟨s', _, e, h.sameMeta, h.forest c hK (by rw [hXb.1]; exact hb0), by rw [BT.last_snoc]; simp [BT.last],
    ⟨_, h.new, hXb.1⟩, ?_, fun j hj hjK => hpo j hj (fun hs => hjK (hSK j hs)), ?_, ?_⟩
  · -- the new chain denotes `A ⧺ [n; C]` with the payload `X`; `addKid` of the old children says the same
    rw [absBT_snoc, hK]
    simp only [absBT, eA, eC, hpn]
    rcases hcase with ⟨rfl, rfl, hno⟩ | ⟨l, cl, rfl, hcl, htn, htl, rfl⟩
    · rw [BT.snoc_nil]
      by_cases hAn : A = .nil
      · subst hAn; simp only [absBT]; rw [addKid_empty]; rfl
      · obtain ⟨A0, l, x, hA0⟩ := BT.split_last A hAn
        have hl : A.last = some l := by rw [hA0, BT.last_snoc]; simp [BT.last]
        obtain ⟨cl, hcl⟩ := hA l hl
        have hpl : payOf s.cellAt l = cl.pay := by simp [payOf, hcl]
        rw [hA0]
        simp only [absBT_snoc, absBT, addKid_concat, hpl, hno l cl hl hcl, Bool.false_eq_true, if_false,
          List.append_assoc, List.cons_append, List.nil_append]
    · have hpl : payOf s.cellAt l = cl.pay := by simp [payOf, hcl]
      simp only [absBT_snoc, absBT, addKid_concat, hpl, htn, htl, Bool.and_self, if_true]
      rfl
  · intro hnm
    rcases hcase with ⟨rfl, rfl, _⟩ | ⟨l, cl, rfl, hcl, htn, htl, _⟩
    · rw [BT.snoc_nil] at hK
      exact ⟨by rw [hK], hpn, fun j hj => hpo j hj (by simp)⟩
    · have := hnm A l _ hK
      simp [payOf, hcl, htn, htl] at this
  · intro hN
    refine h.noAdj c.hcP c.hcn hA hn0 (fun ht => by rw [← hXb.2]; exact ht) (fun q cq hq hcq ⟨tq, tX⟩ => ?_) hN
    rcases hcase with ⟨_, _, hno⟩ | ⟨l, cl, hS, hcl, htn, htl, _⟩
    · have := hno q cq hq hcq
      simp [← hXb.2, tX, tq] at this
    · -- `q` was followed by the text node `l`: it is not text
      rw [hK, hS] at k2
      obtain ⟨_, _, _, _, _, _, _, _, hql⟩ := Match.at_top k2
      obtain ⟨cq', hcq', hqn, _⟩ := hql q hq
      cases hcq.symm.trans hcq'
      exact hN q l cq cl hcq hqn hcl ⟨tq, htl⟩

/-! ### Without a parent -/

theorem cell_eta_parent (c : Cell) (h : c.parent = none) : ({ c with parent := none } : Cell) = c := by
  cases c; simp_all

/-- `wbxml_tree_add_node(tree, NULL, n)` for a detached top `n`: it becomes the root when there is none, and
    is refused otherwise; no cell changes. -/
theorem addNode_root {s : St} {G : BT} (hF : Forest s G) {n : Nat} {cn : Cell} (hcn : s.cellAt n = some cn)
    (hp : cn.parent = none) :
    ∃ b s', addNode s none n = .ok (b, s') ∧ Forest s' G ∧ s'.cellAt = s.cellAt ∧ s'.lang = s.lang ∧
      s'.charset = s.charset ∧ s'.heap.length = s.heap.length ∧
      (b = true → s.root = none ∧ s'.root = some n) ∧ (b = false → s'.root = s.root ∧ s.root ≠ none) := by
  have hn : n ∈ G.tops := by
    obtain ⟨T, k, T', hG⟩ := hF.split_detached hcn hp
    rw [hG, BT.tops_snoc_eq]; simp [BT.tops]
  obtain ⟨s1, e1, hv, m1⟩ := upd_same hcn (fun c => { c with parent := none }) (fun _ => rfl)
    (cell_eta_parent cn hp)
  cases hr : s.root with
  | some r =>
    have hr1 : s1.root = some r := by rw [m1.1, hr]
    refine ⟨false, s1, ?_, ?_, hv, m1.2.1, m1.2.2.1, m1.2.2.2.2, ?_, ?_⟩
    · simp only [addNode, e1, bind, Except.bind, hr1, pure, Except.pure]
    · exact hF.of_view_eq hv (by intro r' h; rw [m1.1] at h; exact hF.root r' h)
    · intro h; cases h
    · intro _; exact ⟨hr1, by simp⟩
  | none =>
    have hr1 : s1.root = none := by rw [m1.1, hr]
    refine ⟨true, { s1 with root := some n }, ?_, ?_, hv, m1.2.1, m1.2.2.1, m1.2.2.2.2, ?_, ?_⟩
    · simp only [addNode, e1, bind, Except.bind, hr1, pure, Except.pure]
    · exact hF.of_view_eq (s' := { s1 with root := some n }) hv (by
        intro r' h
        have h' : some n = some r' := h
        injection h' with h'
        rw [← h']; exact hn)
    · intro _; exact ⟨rfl, rfl⟩
    · intro h; cases h

end Wbxml.Model.TreeHeap
