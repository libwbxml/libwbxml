/-
  The Expat callbacks (`xbuildStep`) taken apart: past the guard on a pending request each callback
  is a composition of a few small stages (`liveStep`). Every property of a step is proved stage by
  stage, never by unfolding `xbuildStep` itself (`step_live` opens the guard). `liveStep` restates the body of the model's
  `xbuildStep` behind its guard and has to follow it when the model changes; `xbuildStep_eq` is the
  check that it does. Then: the frame of a start tag in closed form (`xmlElt_closed`); the three kinds of
  state a run goes through — stopped with a request or an error (`Failed`: it stays so, `step_failed`, `fold_failed`; with an error stored a step returns at once, `step_of_error`), not
  stopped (`NF`), and quiet (`XQuiet`: not stopped and nothing being skipped; the equations the simulations
  use) —; and `treeOfXml`'s answers read off the final state of the callbacks (`TreeRes`, `treeOfXml_view`).
-/
import Wbxml.Model.TreeOfXml
namespace Wbxml.Lemmas.X2W
open Wbxml Wbxml.Model

theorem attach_cons {b : XBState} {f : XFrame} {rest : List XFrame} (hs : b.stack = f :: rest) (n : Node) :
    b.attach n = { b with stack := { f with kids := addKid f.kids n } :: rest } := by
  unfold XBState.attach; rw [hs]

theorem attach_root {b : XBState} (hs : b.stack = []) (hr : b.root = none) (n : Node) :
    b.attach n = { b with root := some n } := by
  unfold XBState.attach; rw [hs]; simp only; rw [hr]

theorem attach_cases (b : XBState) (n : Node) :
    (∃ f rest, b.stack = f :: rest ∧ b.attach n = { b with stack := { f with kids := addKid f.kids n } :: rest }) ∨
    (b.stack = [] ∧ b.root = none ∧ b.attach n = { b with root := some n }) ∨
    (b.stack = [] ∧ b.root.isSome = true ∧ b.attach n = { b with error := some E.internal }) := by
  cases hs : b.stack with
  | cons f rest => exact Or.inl ⟨f, rest, rfl, attach_cons hs n⟩
  | nil =>
    unfold XBState.attach
    rw [hs]
    cases hr : b.root with
    | none => exact Or.inr (Or.inl ⟨rfl, rfl, rfl⟩)
    | some r => exact Or.inr (Or.inr ⟨rfl, rfl, rfl⟩)

theorem attach_need (b : XBState) (n : Node) : (b.attach n).need = b.need := by
  rcases attach_cases b n with ⟨_, _, _, e⟩ | ⟨_, _, e⟩ | ⟨_, _, e⟩ <;> rw [e]

theorem attach_lang (b : XBState) (n : Node) : (b.attach n).lang = b.lang := by
  rcases attach_cases b n with ⟨_, _, _, e⟩ | ⟨_, _, e⟩ | ⟨_, _, e⟩ <;> rw [e]

theorem attach_error (b : XBState) (n : Node) (h : b.error.isSome = true) : (b.attach n).error.isSome = true := by
  rcases attach_cases b n with ⟨_, _, _, e⟩ | ⟨_, _, e⟩ | ⟨_, _, e⟩ <;> rw [e]
  · exact h
  · exact h
  · rfl

theorem xPop_cases (b : XBState) :
    (b.stack = [] ∧ xPop b = { b with error := some E.internal }) ∨
    (∃ f rest, b.stack = f :: rest ∧ xPop b = ({ b with stack := rest } : XBState).attach f.close) ∨
    (∃ f g rest, b.stack = f :: g :: rest ∧ f.kind = .cdata ∧
      xPop b = ({ b with stack := rest } : XBState).attach ({ g with kids := addKid g.kids f.close } : XFrame).close) ∨
    (∃ f, b.stack = [f] ∧ xPop b = { b with error := some E.internal }) := by
  unfold xPop
  cases hs : b.stack with
  | nil => exact Or.inl ⟨rfl, rfl⟩
  | cons f rest =>
    cases hk : f.kind with
    | elt n a => exact Or.inr (Or.inl ⟨f, rest, rfl, by simp only [hk]⟩)
    | cdata =>
      cases rest with
      | nil => exact Or.inr (Or.inr (Or.inr ⟨f, rfl, by simp only [hk]⟩))
      | cons g rest' => exact Or.inr (Or.inr (Or.inl ⟨f, g, rest', rfl, hk, by simp only [hk]⟩))

theorem xPop_need (b : XBState) : (xPop b).need = b.need := by
  rcases xPop_cases b with ⟨_, e⟩ | ⟨_, _, _, e⟩ | ⟨_, _, _, _, _, e⟩ | ⟨_, _, e⟩ <;> rw [e] <;>
    first | rfl | exact attach_need _ _

theorem xPop_lang (b : XBState) : (xPop b).lang = b.lang := by
  rcases xPop_cases b with ⟨_, e⟩ | ⟨_, _, _, e⟩ | ⟨_, _, _, _, _, e⟩ | ⟨_, _, e⟩ <;> rw [e] <;>
    first | rfl | exact attach_lang _ _

/-- The local part of an element name as the XML callbacks split it (behind the last `|`). -/
def localName (name : Bytes) : Bytes :=
  match lastIndexOf 124 name with
  | some i => name.drop (i + 1)
  | none => name

/-- The namespace part (before the last `|`; empty without one). -/
def nsPart (name : Bytes) : Bytes :=
  match lastIndexOf 124 name with
  | some i => name.take i
  | none => []

/-- The element name the front end stores and the code page it selects: the row found for the local
    name from the page of the namespace, else the local name as a literal. -/
def xeTag (lang : Lang) (name : Bytes) : Name × Nat :=
  let page := match lang.ns with
    | some ns => pageOfNs ns (nsPart name)
    | none => 0
  match lang.tags with
  | some tags => (match encTag tags (some page) (localName name) with
    | some r => (Name.token r, r.page)
    | none => (Name.literal (localName name), page))
  | none => (Name.literal (localName name), page)

/-- The reader's spelling of the `xml:` prefix (the XML namespace URI) undone. -/
def unXml (n : Bytes) : Bytes := if xmlNsUri.isPrefixOf n then b!"xml:" ++ n.drop xmlNsUri.length else n

def xeAttr (lang : Lang) (nv : Bytes × Bytes) : Attr :=
  { name := (match lang.attrs with
      | some t => (match encAttr t (unXml nv.1) nv.2 with
        | some (r, _) => AName.token r
        | none => AName.literal (unXml nv.1))
      | none => AName.literal (unXml nv.1)),
    value := nv.2 }

/-- **`wbxml_tree_add_xml_elt_with_attrs` in closed form**; what is known of the frame is known of
    `xeTag` and, attribute by attribute, of `xeAttr` (`Lemmas/XmlElt.lean`). -/
theorem xmlElt_closed (lang : Lang) (name : Bytes) (attrs : List (Bytes × Bytes)) :
    xmlElt lang name attrs =
      ({ kind := .elt (xeTag lang name).1 (attrs.map (xeAttr lang)), kids := [] }, (xeTag lang name).2) := by
  unfold xmlElt xeTag nsPart localName
  cases lastIndexOf 124 name with
  | none =>
    cases lang.tags with
    | none => rfl
    | some tags => simp only; cases encTag tags _ name <;> rfl
  | some i =>
    cases lang.tags with
    | none => rfl
    | some tags => simp only; cases encTag tags _ (name.drop (i + 1)) <;> rfl

/-- First stage of `wbxml_tree_clb_xml_end_element`: a binary-flagged element's cached base64 text is
    decoded and attached. -/
def decodeTop (b : XBState) : XBState :=
  match b.stack with
  | f :: rest =>
    (match f.kind, f.content with
     | .elt n _, some c =>
       if isBinaryName n then
         let txt := base64NoSpaces c
         let dec := Codec.b64Decode txt
         (match dec with
          | none => { b with error := some 19, stack := { f with content := none } :: rest }
          | some d => ({ b with stack := { f with content := none } :: rest } : XBState).attach (.text d))
       else b
     | _, _ => b)
  | [] => b

theorem decodeTop_cases (b : XBState) :
    decodeTop b = b ∨
    ∃ f rest n a c, b.stack = f :: rest ∧ f.kind = .elt n a ∧ f.content = some c ∧
      ((Codec.b64Decode (base64NoSpaces c) = none ∧
        decodeTop b = { b with error := some 19, stack := { f with content := none } :: rest }) ∨
       (∃ d, Codec.b64Decode (base64NoSpaces c) = some d ∧
        decodeTop b = ({ b with stack := { f with content := none } :: rest } : XBState).attach (.text d))) := by
  unfold decodeTop
  split
  · rename_i f rest hs
    split
    · rename_i n a c hk hc
      split
      · refine Or.inr ⟨f, rest, n, a, c, hs, hk, hc, ?_⟩
        simp only
        split
        · rename_i hd; exact Or.inl ⟨hd, rfl⟩
        · rename_i d hd; exact Or.inr ⟨d, hd, rfl⟩
      · exact Or.inl rfl
    · exact Or.inl rfl
  · exact Or.inl rfl

theorem decodeTop_need (b : XBState) : (decodeTop b).need = b.need := by
  rcases decodeTop_cases b with e | ⟨_, _, _, _, _, _, _, _, ⟨_, e⟩ | ⟨_, _, e⟩⟩ <;> rw [e]
  exact attach_need _ _

theorem decodeTop_lang (b : XBState) : (decodeTop b).lang = b.lang := by
  rcases decodeTop_cases b with e | ⟨_, _, _, _, _, _, _, _, ⟨_, e⟩ | ⟨_, _, e⟩⟩ <;> rw [e]
  exact attach_lang _ _

theorem decodeTop_error (b : XBState) (h : b.error.isSome = true) : (decodeTop b).error.isSome = true := by
  rcases decodeTop_cases b with e | ⟨_, _, _, _, _, _, _, _, ⟨_, e⟩ | ⟨_, _, e⟩⟩ <;> rw [e]
  · exact h
  · rfl
  · exact attach_error _ _ h

theorem decodeTop_plain {b : XBState} {f : XFrame} {rest : List XFrame} (hs : b.stack = f :: rest)
    (hc : f.content = none) : decodeTop b = b := by
  rcases decodeTop_cases b with e | ⟨f', _, _, _, _, hs', _, hc', _⟩
  · exact e
  · rw [hs] at hs'
    rw [(List.cons.inj hs').1, hc'] at hc
    cases hc

theorem decodeTop_cdata {b : XBState} {C : XFrame} {tl : List XFrame} (hst : b.stack = C :: tl)
    (hC : C.kind = .cdata) : decodeTop b = b := by
  rcases decodeTop_cases b with e | ⟨f', _, _, _, _, hs', hk', _⟩
  · exact e
  · rw [hst] at hs'
    rw [(List.cons.inj hs').1, hk'] at hC
    cases hC

/-- The embedded document the second stage of the end-element callback asks `sub` for, if any. -/
def queryTail (main : List Lang) (input : Bytes) (b : XBState) (name : Bytes) (idx : Nat) : Option Bytes :=
  if b.error.isSome then none
  else if b.skipLvl > 1 then none
  else if b.skipLvl == 1 then
    if name == devinfName || name == mgmtName then
      let isMgmt := name == mgmtName
      match b.lang with
      | none => none
      | some outer =>
        if isMgmt && outer.id != 2201 then none
        else
          let subId : Option Nat :=
            if outer.id == 2001 then some 2002 else if outer.id == 2101 then some 2102
            else if outer.id == 2201 then (if isMgmt then some 2204 else some 2202) else none
          match subId with
          | none => none
          | some sid =>
            match main.find? (fun (l : Lang) => l.id == sid) with
            | none => none
            | some sl => some (embeddedDoc input b.skipStart idx isMgmt sl)
    else none
  else none

/-- Second stage when no embedded document is asked for: skipping bookkeeping, a refused embedded
    document, or leaving the element. -/
def endTailNQ (b : XBState) (name : Bytes) : XBState :=
  if b.error.isSome then b
  else if b.skipLvl > 1 then { b with skipLvl := b.skipLvl - 1 }
  else if b.skipLvl == 1 then
    if name == devinfName || name == mgmtName then { b with error := some 101 }
    else b
  else xPop b

/-- Second stage when `doc` is asked for: the request is recorded, the error passed on, or the
    tree attached in place of the skipped element. -/
def answer (b : XBState) (doc : Bytes) : Option (Except Nat Tree) → XBState
  | none => { b with need := some doc }
  | some (.error e) => { b with error := some e }
  | some (.ok t) => ({ b with skipLvl := 0 } : XBState).attach (.tree t.lang t.origCharset t.root)

def endTail (main : List Lang) (input : Bytes) (sub : Bytes → Option (Except Nat Tree))
    (b : XBState) (name : Bytes) (idx : Nat) : XBState :=
  match queryTail main input b name idx with
  | some doc => answer b doc (sub doc)
  | none => endTailNQ b name

theorem queryTail_some {main : List Lang} {input : Bytes} {b : XBState} {name : Bytes} {idx : Nat} {doc : Bytes}
    (h : queryTail main input b name idx = some doc) :
    b.error = none ∧ b.skipLvl = 1 ∧ (name == devinfName || name == mgmtName) = true := by
  unfold queryTail at h
  by_cases h1 : b.error.isSome = true
  · rw [if_pos h1] at h; cases h
  rw [if_neg h1] at h
  by_cases h2 : b.skipLvl > 1
  · rw [if_pos h2] at h; cases h
  rw [if_neg h2] at h
  by_cases h3 : (b.skipLvl == 1) = true
  · rw [if_pos h3] at h
    by_cases h4 : (name == devinfName || name == mgmtName) = true
    · refine ⟨?_, by simpa using h3, h4⟩
      cases he : b.error with
      | none => rfl
      | some e => rw [he] at h1; exact absurd rfl h1
    · rw [if_neg h4] at h; cases h
  · rw [if_neg h3] at h; cases h

variable (main : List Lang) (input : Bytes) (sub : Bytes → Option (Except Nat Tree))

variable {main input sub} in
theorem endTail_error {b : XBState} {name : Bytes} {idx : Nat} (h : b.error.isSome = true) :
    endTail main input sub b name idx = b := by
  unfold endTail queryTail endTailNQ
  rw [if_pos h, if_pos h]

variable {main input sub} in
theorem endTail_noQuery {b : XBState} {name : Bytes} {idx : Nat} (h : b.skipLvl ≠ 1) :
    endTail main input sub b name idx = endTailNQ b name := by
  unfold endTail
  cases hq : queryTail main input b name idx with
  | none => rfl
  | some doc => exact absurd (queryTail_some hq).2.1 h

theorem endTailNQ_cases (b : XBState) (name : Bytes) :
    endTailNQ b name = b ∨ endTailNQ b name = { b with skipLvl := b.skipLvl - 1 } ∨
      endTailNQ b name = { b with error := some 101 } ∨ endTailNQ b name = xPop b := by
  unfold endTailNQ
  by_cases h1 : b.error.isSome = true
  · rw [if_pos h1]; exact Or.inl rfl
  rw [if_neg h1]
  by_cases h2 : b.skipLvl > 1
  · rw [if_pos h2]; exact Or.inr (Or.inl rfl)
  rw [if_neg h2]
  by_cases h3 : (b.skipLvl == 1) = true
  · rw [if_pos h3]
    by_cases h4 : (name == devinfName || name == mgmtName) = true
    · rw [if_pos h4]; exact Or.inr (Or.inr (Or.inl rfl))
    · rw [if_neg h4]; exact Or.inl rfl
  · rw [if_neg h3]; exact Or.inr (Or.inr (Or.inr rfl))

theorem endTailNQ_need (b : XBState) (name : Bytes) : (endTailNQ b name).need = b.need := by
  rcases endTailNQ_cases b name with e | e | e | e <;> rw [e]
  exact xPop_need b

theorem endTail_lang (b : XBState) (name : Bytes) (idx : Nat) : (endTail main input sub b name idx).lang = b.lang := by
  unfold endTail
  split
  · unfold answer
    split
    · rfl
    · rfl
    · exact attach_lang _ _
  · rcases endTailNQ_cases b name with e | e | e | e <;> rw [e]
    exact xPop_lang b

/-- First stage of `wbxml_tree_clb_xml_characters`: SyncML `text/clear` / vObject data gets a CDATA node. -/
def charsPrep (b : XBState) : XBState :=
  if (syncmlDataType (xStackFrames b.stack)).isCdata then
    (match b.stack with
     | f :: _ =>
       let firstIsCdata := match f.kids.head? with | some (.cdata _) => true | _ => false
       (match f.kind with
        | .cdata => b
        | _ => if firstIsCdata then b else { b with stack := { kind := .cdata, kids := [] } :: b.stack })
     | [] => b)
  else b

/-- Second stage: the text is cached (binary-flagged element) or attached. -/
def charsTail (b : XBState) (s : Bytes) : XBState :=
  match b.stack with
  | f :: rest =>
    (match f.kind with
     | .elt n _ =>
       if isBinaryName n then
         { b with stack := { f with content := some ((f.content.getD []) ++ s) } :: rest }
       else b.attach (.text s)
     | .cdata => b.attach (.text s))
  | [] => { b with error := some E.internal }

/-- vObject types turn a lone LF into CRLF. -/
def charsText (b : XBState) (s : Bytes) : Bytes :=
  if syncmlDataType (xStackFrames b.stack) == .vobject && s == [10] then [13, 10] else s

theorem charsPrep_cases (b : XBState) :
    charsPrep b = b ∨
    ∃ f rest n a, b.stack = f :: rest ∧ f.kind = .elt n a ∧
      charsPrep b = { b with stack := { kind := .cdata, kids := [] } :: b.stack } := by
  unfold charsPrep
  split
  · cases hs : b.stack with
    | nil => exact Or.inl rfl
    | cons f rest =>
      simp only
      cases hk : f.kind with
      | cdata => exact Or.inl rfl
      | elt n a =>
        simp only
        split
        · exact Or.inl rfl
        · exact Or.inr ⟨f, rest, n, a, rfl, hk, rfl⟩
  · exact Or.inl rfl

theorem charsTail_cases (b : XBState) (s : Bytes) :
    (b.stack = [] ∧ charsTail b s = { b with error := some E.internal }) ∨
    (∃ f rest, b.stack = f :: rest ∧
      ((∃ n a, f.kind = .elt n a ∧ isBinaryName n = true ∧
         charsTail b s = { b with stack := { f with content := some ((f.content.getD []) ++ s) } :: rest }) ∨
       charsTail b s = { b with stack := { f with kids := addKid f.kids (.text s) } :: rest })) := by
  unfold charsTail
  cases hs : b.stack with
  | nil => exact Or.inl ⟨rfl, rfl⟩
  | cons f rest =>
    refine Or.inr ⟨f, rest, rfl, ?_⟩
    simp only
    rw [attach_cons hs]
    split
    · rename_i n a hk
      split
      · rename_i hb; exact Or.inl ⟨n, a, hk, hb, rfl⟩
      · exact Or.inr rfl
    · exact Or.inr rfl

/-- First stage of `wbxml_tree_clb_xml_start_element` at the root element: a language no DOCTYPE has
    fixed is looked up by the root's name. -/
def startLang (main : List Lang) (b : XBState) (name : Bytes) : XBState :=
  if (b.stack.isEmpty && b.root.isNone) && b.lang.isNone then
    (match searchTable main none none (some name) with
     | some l => { b with lang := some l }
     | none => { b with error := some 101 })
  else b

/-- Second stage: an embedded document starts being skipped, or an element frame is pushed. -/
def startTail (b : XBState) (isRoot : Bool) (name : Bytes) (attrs : List (Bytes × Bytes)) (idx : Nat) : XBState :=
  if b.error.isSome then b
  else if (name == devinfName || name == mgmtName) && !isRoot then { b with skipStart := idx, skipLvl := 1 }
  else
    match b.lang with
    | none => { b with error := some 15 }
    | some lang =>
      match b.stack, b.root with
      | [], some _ => { b with error := some 15 }
      | _, _ => { b with stack := (xmlElt lang name attrs).1 :: b.stack, curPage := (xmlElt lang name attrs).2 }

theorem startLang_cases (main : List Lang) (b : XBState) (name : Bytes) :
    startLang main b name = b ∨
    (b.stack = [] ∧ b.root = none ∧ b.lang = none ∧
      ((∃ l, searchTable main none none (some name) = some l ∧ startLang main b name = { b with lang := some l }) ∨
       startLang main b name = { b with error := some 101 })) := by
  unfold startLang
  split
  · rename_i h
    simp only [Bool.and_eq_true, List.isEmpty_iff, Option.isNone_iff_eq_none] at h
    refine Or.inr ⟨h.1.1, h.1.2, h.2, ?_⟩
    cases searchTable main none none (some name) with
    | none => exact Or.inr rfl
    | some l => exact Or.inl ⟨l, rfl, rfl⟩
  · exact Or.inl rfl

theorem startTail_cases (b : XBState) (isRoot : Bool) (name : Bytes) (attrs : List (Bytes × Bytes)) (idx : Nat) :
    (b.error.isSome = true ∧ startTail b isRoot name attrs idx = b) ∨
    startTail b isRoot name attrs idx = { b with error := some 15 } ∨
    (b.error = none ∧ (name == devinfName || name == mgmtName) = true ∧ isRoot = false ∧
      startTail b isRoot name attrs idx = { b with skipStart := idx, skipLvl := 1 }) ∨
    (∃ lang, b.error = none ∧ b.lang = some lang ∧ ((name == devinfName || name == mgmtName) && !isRoot) = false ∧
      startTail b isRoot name attrs idx =
        { b with stack := (xmlElt lang name attrs).1 :: b.stack, curPage := (xmlElt lang name attrs).2 }) := by
  unfold startTail
  by_cases he : b.error.isSome = true
  · rw [if_pos he]; exact Or.inl ⟨he, rfl⟩
  · rw [if_neg he]
    have he' : b.error = none := by simpa using he
    by_cases hsk : ((name == devinfName || name == mgmtName) && !isRoot) = true
    · rw [if_pos hsk]
      simp only [Bool.and_eq_true, Bool.not_eq_true'] at hsk
      exact Or.inr (Or.inr (Or.inl ⟨he', hsk.1, hsk.2, rfl⟩))
    · rw [if_neg hsk]
      split
      · exact Or.inr (Or.inl rfl)
      · rename_i lang hl
        split
        · exact Or.inr (Or.inl rfl)
        · exact Or.inr (Or.inr (Or.inr ⟨lang, he', hl, by simpa using hsk, rfl⟩))

/-- What a callback does when no request for an embedded document is pending. -/
def liveStep (main : List Lang) (input : Bytes) (sub : Bytes → Option (Except Nat Tree)) (b : XBState) :
    XEvent → XBState
  | .xmlDecl version encoding =>
    (match version, encoding with
     | some _, some enc => (match charsetMib enc with
       | some m => { b with charset := m }
       | none => b)
     | _, _ => b)
  | .doctype sysid pubid =>
    (match searchTable main pubid sysid none with
     | some l => { b with lang := some l }
     | none => b)
  | .startElt name attrs idx =>
    if b.error.isSome then b
    else if b.skipLvl > 0 then { b with skipLvl := b.skipLvl + 1 }
    else startTail (startLang main b name) (b.stack.isEmpty && b.root.isNone) name attrs idx
  | .endElt name idx => endTail main input sub (decodeTop b) name idx
  | .startCdata =>
    if b.error.isSome || b.skipLvl > 0 then b
    else { b with stack := { kind := .cdata, kids := [] } :: b.stack }
  | .endCdata =>
    if b.error.isSome || b.skipLvl > 0 then b
    else
      match b.stack with
      | [] => { b with error := some E.internal }
      | f :: rest => ({ b with stack := rest } : XBState).attach f.close
  | .chars s =>
    if b.error.isSome || b.skipLvl > 0 then b
    else charsTail (charsPrep b) (charsText b s)
  | .pi => b

theorem live_xmlDecl (b : XBState)
    (v enc : Option Bytes) : ∃ cs, liveStep main input sub b (.xmlDecl v enc) = { b with charset := cs } := by
  simp only [liveStep]
  split
  · split
    · exact ⟨_, rfl⟩
    · exact ⟨b.charset, rfl⟩
  · exact ⟨b.charset, rfl⟩

theorem live_doctype (b : XBState)
    (sysid pubid : Option Bytes) :
    (searchTable main pubid sysid none = none ∧ liveStep main input sub b (.doctype sysid pubid) = b) ∨
    ∃ l, searchTable main pubid sysid none = some l ∧
      liveStep main input sub b (.doctype sysid pubid) = { b with lang := some l } := by
  simp only [liveStep]
  cases searchTable main pubid sysid none with
  | none => exact Or.inl ⟨rfl, rfl⟩
  | some l => exact Or.inr ⟨l, rfl, rfl⟩

def isEndElt : XEvent → Bool
  | .endElt _ _ => true
  | _ => false

def isDoctypeEv : XEvent → Bool
  | .doctype _ _ => true
  | _ => false

theorem live_need (b : XBState)
    (e : XEvent) (he : isEndElt e = false) : (liveStep main input sub b e).need = b.need := by
  cases e with
  | endElt name idx => cases he
  | xmlDecl v enc => obtain ⟨cs, e⟩ := live_xmlDecl main input sub b v enc; rw [e]
  | doctype sysid pubid => rcases live_doctype main input sub b sysid pubid with ⟨_, e⟩ | ⟨l, _, e⟩ <;> rw [e]
  | pi => rfl
  | startCdata => simp only [liveStep]; split <;> rfl
  | endCdata =>
    simp only [liveStep]
    split
    · rfl
    · split
      · rfl
      · exact attach_need _ _
  | chars s =>
    simp only [liveStep]
    split
    · rfl
    · have h1 : (charsPrep b).need = b.need := by
        rcases charsPrep_cases b with e | ⟨_, _, _, _, _, _, e⟩ <;> rw [e]
      rw [← h1]
      generalize charsPrep b = b1
      rcases charsTail_cases b1 (charsText b s) with ⟨_, e⟩ | ⟨_, _, _, ⟨_, _, _, _, e⟩ | e⟩ <;> rw [e]
  | startElt name attrs idx =>
    simp only [liveStep]
    split
    · rfl
    · split
      · rfl
      · have h1 : (startLang main b name).need = b.need := by
          rcases startLang_cases main b name with e | ⟨_, _, _, ⟨_, _, e⟩ | e⟩ <;> rw [e]
        rw [← h1]
        generalize startLang main b name = b1
        rcases startTail_cases b1 (b.stack.isEmpty && b.root.isNone) name attrs idx with
          ⟨_, e⟩ | e | ⟨_, _, _, e⟩ | ⟨_, _, _, _, e⟩ <;> rw [e]

/-- The language changes only to an answer of `searchTable`: for a DOCTYPE, or for the root's name
    while no language is set. -/
theorem live_lang_cases (b : XBState)
    (e : XEvent) :
    (liveStep main input sub b e).lang = b.lang ∨
    (∃ sysid pubid l, e = .doctype sysid pubid ∧ searchTable main pubid sysid none = some l ∧
      (liveStep main input sub b e).lang = some l) ∨
    (∃ name attrs idx l, e = .startElt name attrs idx ∧ b.lang = none ∧
      searchTable main none none (some name) = some l ∧ (liveStep main input sub b e).lang = some l) := by
  cases e with
  | doctype sysid pubid =>
    rcases live_doctype main input sub b sysid pubid with ⟨_, e⟩ | ⟨l, hl, e⟩ <;> rw [e]
    · exact Or.inl rfl
    · exact Or.inr (Or.inl ⟨sysid, pubid, l, rfl, hl, rfl⟩)
  | endElt name idx => exact Or.inl ((endTail_lang main input sub _ name idx).trans (decodeTop_lang b))
  | xmlDecl v enc => obtain ⟨cs, e⟩ := live_xmlDecl main input sub b v enc; rw [e]; exact Or.inl rfl
  | pi => exact Or.inl rfl
  | startCdata => left; simp only [liveStep]; split <;> rfl
  | endCdata =>
    left
    simp only [liveStep]
    split
    · rfl
    · split
      · rfl
      · exact attach_lang _ _
  | chars s =>
    left
    simp only [liveStep]
    split
    · rfl
    · have h1 : (charsPrep b).lang = b.lang := by
        rcases charsPrep_cases b with e | ⟨_, _, _, _, _, _, e⟩ <;> rw [e]
      rw [← h1]
      generalize charsPrep b = b1
      rcases charsTail_cases b1 (charsText b s) with ⟨_, e⟩ | ⟨_, _, _, ⟨_, _, _, _, e⟩ | e⟩ <;> rw [e]
  | startElt name attrs idx =>
    simp only [liveStep]
    split
    · exact Or.inl rfl
    · split
      · exact Or.inl rfl
      · have h2 : (startTail (startLang main b name) (b.stack.isEmpty && b.root.isNone) name attrs idx).lang =
            (startLang main b name).lang := by
          rcases startTail_cases (startLang main b name) (b.stack.isEmpty && b.root.isNone) name attrs idx with
            ⟨_, e⟩ | e | ⟨_, _, _, e⟩ | ⟨_, _, _, _, e⟩ <;> rw [e]
        rw [h2]
        rcases startLang_cases main b name with e | ⟨_, _, hn, ⟨l, hl, e⟩ | e⟩ <;> rw [e]
        · exact Or.inl rfl
        · exact Or.inr (Or.inr ⟨name, attrs, idx, l, rfl, hn, hl, rfl⟩)
        · exact Or.inl rfl

variable {main input sub} in
theorem step_need {b : XBState} {e : XEvent} (h : b.need.isSome = true) : xbuildStep main input sub b e = b := by
  unfold xbuildStep
  exact if_pos h

theorem step_endElt (b : XBState) (name : Bytes) (idx : Nat) (h : ¬ b.need.isSome = true) :
    xbuildStep main input sub b (.endElt name idx) = endTail main input sub (decodeTop b) name idx := by
  unfold xbuildStep
  rw [if_neg h]
  simp (config := { zeta := false }) only []
  extract_lets +onlyGivenNames b2
  have hb2 : decodeTop b = b2 := rfl
  rw [hb2]
  clear_value b2
  unfold endTail queryTail endTailNQ
  -- the model's cascade of tests on the left, the same cascade (in `queryTail` and `endTailNQ`) on the
  -- right: every leaf but the last is `rfl` once the tests are decided; the last is `answer`
  by_cases h1 : b2.error.isSome = true
  · simp only [h1, ↓reduceIte]
  simp only [h1, Bool.false_eq_true, ↓reduceIte]
  by_cases h2 : b2.skipLvl > 1
  · simp only [h2, ↓reduceIte]
  simp only [h2, ↓reduceIte]
  by_cases h3 : (b2.skipLvl == 1) = true
  · simp only [h3, ↓reduceIte]
    by_cases h4 : (name == devinfName || name == mgmtName) = true
    · simp only [h4, ↓reduceIte]
      cases hl : b2.lang with
      | none => rfl
      | some outer =>
        by_cases h5 : (name == mgmtName && outer.id != 2201) = true
        · simp only [h5, ↓reduceIte]
        · simp only [h5, Bool.false_eq_true, ↓reduceIte]
          split
          · rename_i hq; simp only [hq]
          · rename_i sid hq
            simp only [hq]
            split
            · rename_i hf; simp only [hf]
            · rename_i sl hf
              simp only [hf, answer]
              split <;> simp_all
    · simp only [h4, Bool.false_eq_true, ↓reduceIte]
  · simp only [h3, Bool.false_eq_true, ↓reduceIte]

theorem xbuildStep_eq (b : XBState) (e : XEvent) :
    xbuildStep main input sub b e = if b.need.isSome then b else liveStep main input sub b e := by
  by_cases h : b.need.isSome = true
  · rw [step_need h, if_pos h]
  · rw [if_neg h]
    cases e with
    | endElt name idx => exact step_endElt main input sub b name idx h
    | _ => unfold xbuildStep; rw [if_neg h]; rfl

theorem step_pi (b : XBState) :
    xbuildStep main input sub b .pi = b := by
  rw [xbuildStep_eq]
  exact ite_self b

theorem step_xmlDecl (b : XBState)
    (v enc : Option Bytes) : ∃ cs, xbuildStep main input sub b (.xmlDecl v enc) = { b with charset := cs } := by
  rw [xbuildStep_eq]
  split
  · exact ⟨b.charset, rfl⟩
  · exact live_xmlDecl main input sub b v enc

theorem step_doctype (b : XBState)
    (sysid pubid : Option Bytes) : ∃ l, xbuildStep main input sub b (.doctype sysid pubid) = { b with lang := l } := by
  rw [xbuildStep_eq]
  split
  · exact ⟨b.lang, rfl⟩
  · rcases live_doctype main input sub b sysid pubid with ⟨_, e⟩ | ⟨l, _, e⟩
    · exact ⟨b.lang, e⟩
    · exact ⟨some l, e⟩

/-- With an error stored every callback returns at once: the end-element callback after `decodeTop`, the
    others with the stack, the error and the request as they were. -/
theorem step_of_error (b : XBState) (e : XEvent) (h : b.error.isSome = true) :
    xbuildStep main input sub b e = decodeTop b ∨
      ((xbuildStep main input sub b e).error = b.error ∧ (xbuildStep main input sub b e).stack = b.stack ∧
        (xbuildStep main input sub b e).need = b.need) := by
  rw [xbuildStep_eq]
  split
  · exact Or.inr ⟨rfl, rfl, rfl⟩
  cases e with
  | endElt name idx => exact Or.inl (endTail_error (decodeTop_error b h))
  | xmlDecl v enc =>
    obtain ⟨cs, e⟩ := live_xmlDecl main input sub b v enc
    rw [e]; exact Or.inr ⟨rfl, rfl, rfl⟩
  | doctype sysid pubid =>
    rcases live_doctype main input sub b sysid pubid with ⟨_, e⟩ | ⟨l, _, e⟩ <;> rw [e] <;> exact Or.inr ⟨rfl, rfl, rfl⟩
  | pi => exact Or.inr ⟨rfl, rfl, rfl⟩
  | startCdata => simp only [liveStep]; rw [h, Bool.true_or, if_pos rfl]; exact Or.inr ⟨rfl, rfl, rfl⟩
  | endCdata => simp only [liveStep]; rw [h, Bool.true_or, if_pos rfl]; exact Or.inr ⟨rfl, rfl, rfl⟩
  | chars s => simp only [liveStep]; rw [h, Bool.true_or, if_pos rfl]; exact Or.inr ⟨rfl, rfl, rfl⟩
  | startElt name attrs idx => simp only [liveStep]; rw [if_pos h]; exact Or.inr ⟨rfl, rfl, rfl⟩

theorem step_error (b : XBState) (e : XEvent) (h : b.error.isSome = true) :
    (xbuildStep main input sub b e).error.isSome = true := by
  rcases step_of_error main input sub b e h with e1 | ⟨e1, _⟩ <;> rw [e1]
  · exact decodeTop_error b h
  · exact h

theorem step_lang (b : XBState) (e : XEvent) (hl : b.lang.isSome = true) (he : isDoctypeEv e = false) :
    (xbuildStep main input sub b e).lang = b.lang := by
  rw [xbuildStep_eq]
  split
  · rfl
  · rcases live_lang_cases main input sub b e with h | ⟨_, _, _, rfl, _⟩ | ⟨_, _, _, _, _, hn, _⟩
    · exact h
    · cases he
    · rw [hn] at hl; cases hl

/-- The document one callback asks `sub` for. -/
def queryOf (main : List Lang) (input : Bytes) (b : XBState) : XEvent → Option Bytes
  | .endElt name idx => if b.need.isSome then none else queryTail main input (decodeTop b) name idx
  | _ => none

/-- A callback leaves the pending request alone, or records the document it asked for and got no answer
    about. -/
theorem step_need_cases (b : XBState) (e : XEvent) :
    (xbuildStep main input sub b e).need = b.need ∨
      ∃ d, queryOf main input b e = some d ∧ sub d = none ∧ (xbuildStep main input sub b e).need = some d := by
  rw [xbuildStep_eq]
  split
  · exact Or.inl rfl
  rename_i hneed
  cases e with
  | endElt name idx =>
    simp only [liveStep, queryOf, hneed, Bool.false_eq_true, ↓reduceIte]
    rw [← decodeTop_need b]
    generalize decodeTop b = b2
    unfold endTail
    cases hq : queryTail main input b2 name idx with
    | none => exact Or.inl (endTailNQ_need b2 name)
    | some doc =>
      simp only
      cases hs : sub doc with
      | none => exact Or.inr ⟨doc, rfl, hs, rfl⟩
      | some r =>
        left
        cases r with
        | error e => rfl
        | ok t => exact attach_need _ _
  | _ => exact Or.inl (live_need main input sub b _ rfl)

/-- With no request pending the guard is open. -/
theorem step_live {b : XBState} (h : b.need = none) (e : XEvent) :
    xbuildStep main input sub b e = liveStep main input sub b e := by
  rw [xbuildStep_eq, h]
  rfl

/-- The state in which a callback does its ordinary work: no error, no request pending, not inside a skipped
    region. -/
structure XQuiet (b : XBState) : Prop where
  err : b.error = none
  skip : b.skipLvl = 0
  need : b.need = none

theorem XQuiet.congr {b b' : XBState} (q : XQuiet b) (he : b'.error = b.error) (hs : b'.skipLvl = b.skipLvl)
    (hn : b'.need = b.need) : XQuiet b' := ⟨he.trans q.err, hs.trans q.skip, hn.trans q.need⟩

/-- The builder has stopped: it asks for an embedded document, or holds an error. -/
def Failed (b : XBState) : Prop := b.need.isSome = true ∨ b.error.isSome = true

/-- The builder has not stopped. -/
def NF (b : XBState) : Prop := b.need = none ∧ b.error = none

theorem nf_or_failed (b : XBState) : NF b ∨ Failed b := by
  unfold NF Failed
  cases b.need <;> cases b.error <;> simp

theorem NF.quiet {b : XBState} (h : NF b) (hs : b.skipLvl = 0) : XQuiet b := ⟨h.2, hs, h.1⟩

theorem step_failed (b : XBState) (e : XEvent) (h : Failed b) : Failed (xbuildStep main input sub b e) := by
  rcases h with h | h
  · rw [step_need h]; exact Or.inl h
  · exact Or.inr (step_error main input sub b e h)

theorem fold_failed (evs : List XEvent) (b : XBState) (h : Failed b) :
    Failed (evs.foldl (xbuildStep main input sub) b) :=
  List.foldlRecOn evs _ h fun b hb e _ => step_failed main input sub b e hb

/-- A state that every event of the list leaves alone is the result of the run. -/
theorem fold_fix (evs : List XEvent) (b : XBState) (h : ∀ e ∈ evs, xbuildStep main input sub b e = b) :
    evs.foldl (xbuildStep main input sub) b = b :=
  List.foldlRecOn (motive := fun x => x = b) evs _ rfl fun _ hx e hm => hx ▸ h e hm

theorem xstep_start_root {b : XBState} (q : XQuiet b) (hs : b.stack = []) (hr : b.root = none)
    (name : Bytes) (attrs : List (Bytes × Bytes)) (idx : Nat)
    (he : (xbuildStep main input sub b (.startElt name attrs idx)).error = none) :
    ∃ L, xbuildStep main input sub b (.startElt name attrs idx) =
      { b with lang := some L, stack := [(xmlElt L name attrs).1], curPage := (xmlElt L name attrs).2 } := by
  have e0 : xbuildStep main input sub b (.startElt name attrs idx) =
      startTail (startLang main b name) true name attrs idx := by
    rw [step_live _ _ _ q.need]
    simp [liveStep, q.err, q.skip, hs, hr]
  rw [e0] at he ⊢
  rcases startTail_cases (startLang main b name) true name attrs idx with
    ⟨h1, e⟩ | e | ⟨_, _, h, _⟩ | ⟨L, herr, hL, _, e⟩
  · rw [e] at he; rw [he] at h1; cases h1
  · rw [e] at he; cases he
  · cases h
  · refine ⟨L, ?_⟩
    rw [e]
    rcases startLang_cases main b name with e1 | ⟨_, _, _, ⟨l, _, e1⟩ | e1⟩ <;> rw [e1] at hL herr ⊢
    · simp only [hs, hL]
    · cases hL
      simp only [hs]
    · cases herr

/-- A start tag with the language known: inside the root element, or at the root after a DOCTYPE. -/
theorem xstep_start_known {b : XBState} (q : XQuiet b) {L : Lang} (hl : b.lang = some L)
    (hroot : b.stack = [] → b.root = none) (name : Bytes) (attrs : List (Bytes × Bytes)) (idx : Nat)
    (hne : (name == devinfName || name == mgmtName) = false) :
    xbuildStep main input sub b (.startElt name attrs idx) =
      { b with stack := (xmlElt L name attrs).1 :: b.stack, curPage := (xmlElt L name attrs).2 } := by
  rw [step_live _ _ _ q.need]
  cases hst : b.stack with
  | cons f rest =>
    simp only [liveStep, startLang, startTail, q.err, q.skip, hst, hl, hne, Option.isSome_none, Bool.false_eq_true, if_false,
      Nat.lt_irrefl, gt_iff_lt, List.isEmpty_cons, Bool.false_and, Option.isNone_some, Bool.and_false]
  | nil =>
    simp only [liveStep, startLang, startTail, q.err, q.skip, hst, hroot hst, hl, hne, Option.isSome_none,
      Bool.false_eq_true, if_false, Nat.lt_irrefl, gt_iff_lt, List.isEmpty_nil, Option.isNone_none, Option.isNone_some,
      Bool.and_false, Bool.and_self, Bool.false_and]

theorem xstep_xmlDecl {b : XBState} (q : XQuiet b) (v : Bytes) :
    xbuildStep main input sub b (.xmlDecl (some v) none) = b := by
  rw [step_live _ _ _ q.need]; rfl

theorem xstep_doctype {b : XBState} (q : XQuiet b) (sysid pubid : Option Bytes) (l : Lang)
    (hl : searchTable main pubid sysid none = some l) :
    xbuildStep main input sub b (.doctype sysid pubid) = { b with lang := some l } := by
  rw [step_live _ _ _ q.need]
  rcases live_doctype main input sub b sysid pubid with ⟨h, _⟩ | ⟨l', h, e⟩ <;> rw [hl] at h
  · cases h
  · rw [e, Option.some.inj h]

theorem xstep_end_elt {b : XBState} (q : XQuiet b) {f : XFrame} {rest : List XFrame} (hs : b.stack = f :: rest)
    (hc : f.content = none) {n : Name} {a : List Attr} (hk : f.kind = .elt n a) (name : Bytes) (idx : Nat) :
    xbuildStep main input sub b (.endElt name idx) = ({ b with stack := rest } : XBState).attach f.close := by
  rw [step_live _ _ _ q.need]
  simp only [liveStep]
  rw [decodeTop_plain hs hc, endTail_noQuery (by rw [q.skip]; decide)]
  unfold endTailNQ
  simp only [q.err, q.skip, Option.isSome_none, Bool.false_eq_true, if_false, gt_iff_lt, Nat.not_lt_zero]
  have h01 : ((0 : Nat) == 1) = false := rfl
  simp only [h01, Bool.false_eq_true, if_false]
  unfold xPop
  rw [hs]
  simp only [hk, q.err, q.skip]

theorem xstep_startCdata {b : XBState} (q : XQuiet b) :
    xbuildStep main input sub b .startCdata = { b with stack := { kind := .cdata, kids := [] } :: b.stack } := by
  rw [step_live _ _ _ q.need]
  simp only [liveStep, q.err, q.skip, Option.isSome_none, gt_iff_lt, Nat.lt_irrefl, decide_false, Bool.or_self,
    Bool.false_eq_true, if_false]

theorem xstep_endCdata {b : XBState} (q : XQuiet b) {f : XFrame} {rest : List XFrame} (hs : b.stack = f :: rest) :
    xbuildStep main input sub b .endCdata = ({ b with stack := rest } : XBState).attach f.close := by
  rw [step_live _ _ _ q.need]
  simp only [liveStep, q.err, q.skip, hs, Option.isSome_none, gt_iff_lt, Nat.lt_irrefl, decide_false, Bool.or_self,
    Bool.false_eq_true, if_false]

theorem xstep_chars_plain {b : XBState} (q : XQuiet b) {f : XFrame} {rest : List XFrame} (hs : b.stack = f :: rest)
    (hty : syncmlDataType (xStackFrames b.stack) = .normal)
    (hbin : ∀ n a, f.kind = .elt n a → isBinaryName n = false) (s : Bytes) :
    xbuildStep main input sub b (.chars s) = { b with stack := { f with kids := addKid f.kids (.text s) } :: rest } := by
  have hprep : charsPrep b = b := by
    unfold charsPrep
    rw [hty]
    rfl
  have htext : charsText b s = s := by
    unfold charsText
    rw [hty]
    rfl
  rw [step_live _ _ _ q.need]
  simp only [liveStep, q.err, q.skip, Option.isSome_none, gt_iff_lt, Nat.lt_irrefl, decide_false, Bool.or_self,
    Bool.false_eq_true, if_false, hprep, htext]
  rcases charsTail_cases b s with ⟨hnil, _⟩ | ⟨f', rest', hs', h⟩
  · rw [hs] at hnil; cases hnil
  · rw [hs] at hs'
    obtain ⟨rfl, rfl⟩ := List.cons.inj hs'
    rcases h with ⟨n, a, hk, hb, _⟩ | e
    · rw [hbin n a hk] at hb; cases hb
    · simp only [q.err, q.skip] at e
      exact e

/-- How `treeOfXml` answers the builder's requests for embedded documents (fuel `f` left). -/
def subOf (main : List Lang) (env : List (Bytes × ExpatRun)) (f : Nat) : Bytes → Option (Except Nat Tree) :=
  fun doc =>
    match treeOfXml main env f doc with
    | .ok t => some (Except.ok t)
    | .err e => some (Except.error e)
    | .need _ => none

theorem subOf_ok {main : List Lang} {env : List (Bytes × ExpatRun)} {f : Nat} {doc : Bytes} {t : Tree}
    (h : subOf main env f doc = some (.ok t)) : treeOfXml main env f doc = .ok t := by
  unfold subOf at h
  split at h
  · cases h; assumption
  · cases h
  · cases h

theorem subOf_error {main : List Lang} {env : List (Bytes × ExpatRun)} {f : Nat} {doc : Bytes} {e : Nat}
    (h : subOf main env f doc = some (.error e)) : treeOfXml main env f doc = .err e := by
  unfold subOf at h
  split at h
  · cases h
  · cases h; assumption
  · cases h

theorem treeOfXml_succ (main : List Lang) (env : List (Bytes × ExpatRun)) (f : Nat) (xml : Bytes) :
    treeOfXml main env (f + 1) xml =
      (if xml.isEmpty then .err 12 else
        match env.find? (fun p => p.1 == xml) with
        | none => .need xml
        | some (_, run) =>
          let b := run.events.foldl (xbuildStep main xml (subOf main env f)) {}
          match b.need with
          | some d =>
            (match treeOfXml main env f d with
             | .need d' => .need d'
             | _ => .need d)
          | none =>
            if !run.ok then .err 104
            else match b.error with
              | some e => .err e
              | none => .ok { lang := b.lang, origCharset := b.charset, root := b.root }) := by
  rw [treeOfXml]
  rfl

/-- How `treeOfXml main env (f + 1) xml` answers, by the state of the callbacks after the run. -/
inductive TreeRes (main : List Lang) (env : List (Bytes × ExpatRun)) (f : Nat) (xml : Bytes) : X2TRes → Prop
  | empty : xml.isEmpty = true → TreeRes main env f xml (.err 12)
  | missing : env.find? (fun p => p.1 == xml) = none → TreeRes main env f xml (.need xml)
  | pending {k run d d'} : env.find? (fun p => p.1 == xml) = some (k, run) →
      (run.events.foldl (xbuildStep main xml (subOf main env f)) {}).need = some d →
      (treeOfXml main env f d = .need d' ∨ ((∀ x, treeOfXml main env f d ≠ .need x) ∧ d' = d)) →
      TreeRes main env f xml (.need d')
  | refused {k run} : env.find? (fun p => p.1 == xml) = some (k, run) →
      (run.events.foldl (xbuildStep main xml (subOf main env f)) {}).need = none → run.ok = false →
      TreeRes main env f xml (.err 104)
  | failed {k run e} : env.find? (fun p => p.1 == xml) = some (k, run) →
      (run.events.foldl (xbuildStep main xml (subOf main env f)) {}).need = none → run.ok = true →
      (run.events.foldl (xbuildStep main xml (subOf main env f)) {}).error = some e →
      TreeRes main env f xml (.err e)
  | ok {k run b} : env.find? (fun p => p.1 == xml) = some (k, run) →
      b = run.events.foldl (xbuildStep main xml (subOf main env f)) {} →
      b.need = none → run.ok = true → b.error = none →
      TreeRes main env f xml (.ok { lang := b.lang, origCharset := b.charset, root := b.root })

theorem treeOfXml_view (main : List Lang) (env : List (Bytes × ExpatRun)) (f : Nat) (xml : Bytes) :
    TreeRes main env f xml (treeOfXml main env (f + 1) xml) := by
  rw [treeOfXml_succ]
  split
  · exact .empty ‹_›
  · split
    · exact .missing ‹_›
    · rename_i k run hfind
      simp only
      split
      · rename_i d hd
        split
        · rename_i d' hd'; exact .pending hfind hd (Or.inl hd')
        · rename_i hd'; exact .pending hfind hd (Or.inr ⟨hd', rfl⟩)
      · rename_i hneed
        split
        · rename_i hok; exact .refused hfind hneed (by simpa using hok)
        · rename_i hok
          split
          · rename_i e herr; exact .failed hfind hneed (by simpa using hok) herr
          · rename_i herr; exact .ok hfind rfl hneed (by simpa using hok) herr

theorem treeOfXml_ok_run {main : List Lang} {env : List (Bytes × ExpatRun)} {f : Nat} {xml : Bytes} {t : Tree}
    (h : treeOfXml main env f xml = .ok t) :
    ∃ f' k run b, f = f' + 1 ∧ env.find? (fun p => p.1 == xml) = some (k, run) ∧ run.ok = true ∧
      b = run.events.foldl (xbuildStep main xml (subOf main env f')) {} ∧
      b.need = none ∧ b.error = none ∧ t = { lang := b.lang, origCharset := b.charset, root := b.root } := by
  cases f with
  | zero => rw [treeOfXml] at h; cases h
  | succ f' =>
    have v := treeOfXml_view main env f' xml
    rw [h] at v
    cases v with
    | ok hfind hb hneed hok herr => exact ⟨f', _, _, _, rfl, hfind, hok, hb, hneed, herr, rfl⟩

end Wbxml.Lemmas.X2W
