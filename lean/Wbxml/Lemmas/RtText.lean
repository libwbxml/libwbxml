/-
  Round trip (C03): character data as the encoder's text handling sees it — `Trim`, `Solid` / `SolidS`
  (text that `normText` leaves alone), the SyncML media-type rewriting, C strings with their trailing NUL.
-/
import Wbxml.Lemmas.EncWText
namespace Wbxml.Lemmas.Rt
open Wbxml Wbxml.Model Wbxml.Spec Wbxml.Lemmas.EncW

theorem cstrOf_withNul (v : Bytes) (h : nulFree v = true) : cstrOf (withNul v) = v := by
  unfold withNul
  split
  · exact cstrOf_of_nulFree v h
  · exact cstrOf_append_nul v h

/-- Neither end of the string is a blank. -/
def Trim (t : Bytes) : Prop :=
  (∀ x, t.head? = some x → isSpaceC x = false) ∧ (∀ x, t.getLast? = some x → isSpaceC x = false)

theorem dropWhile_head {p : UInt8 → Bool} (l : Bytes) (x : UInt8) (h : (l.dropWhile p).head? = some x) : p x = false := by
  have := List.head?_dropWhile_not p l
  rwa [h] at this

theorem dropWhile_getLast {p : UInt8 → Bool} : ∀ (l : Bytes) (x : UInt8),
    (l.dropWhile p).getLast? = some x → l.getLast? = some x
  | [], x, h => by cases h
  | a :: l, x, h => by
    by_cases ha : p a = true
    · rw [List.dropWhile_cons_of_pos ha] at h
      have ih := dropWhile_getLast l x h
      cases l with
      | nil => cases ih
      | cons b l => rw [List.getLast?_cons_cons]; exact ih
    · rw [List.dropWhile_cons_of_neg ha] at h; exact h

theorem trim_strip (s : Bytes) : Trim (stripBlanks s) := by
  unfold stripBlanks
  constructor
  · intro x hx
    rw [List.head?_reverse] at hx
    have h1 := dropWhile_getLast _ x hx
    rw [List.getLast?_reverse] at h1
    exact dropWhile_head s x h1
  · intro x hx
    rw [List.getLast?_reverse] at hx
    exact dropWhile_head _ x hx

theorem dropWhile_of_head {p : UInt8 → Bool} (l : Bytes) (h : ∀ x, l.head? = some x → p x = false) :
    l.dropWhile p = l := by
  cases l with
  | nil => rfl
  | cons a l => exact List.dropWhile_cons_of_neg (by rw [h a rfl]; simp)

theorem strip_of_trim (t : Bytes) (h : Trim t) : stripBlanks t = t := by
  unfold stripBlanks
  rw [dropWhile_of_head t h.1, dropWhile_of_head t.reverse (by rw [List.head?_reverse]; exact h.2), List.reverse_reverse]

theorem all_false_of_head (t : Bytes) (x : UInt8) (hx : t.head? = some x) (hs : isSpaceC x = false) :
    t.all isSpaceC = false := by
  cases t with
  | nil => cases hx
  | cons a t =>
    simp only [List.head?_cons, Option.some.injEq] at hx
    subst hx
    simp [hs]

theorem trim_append {a b : Bytes} (ha : Trim a) (hb : Trim b) (hna : a ≠ []) (hnb : b ≠ []) : Trim (a ++ b) := by
  constructor
  · intro x hx
    cases a with
    | nil => exact absurd rfl hna
    | cons y a => exact ha.1 x (by simpa using hx)
  · intro x hx
    rw [List.getLast?_append] at hx
    cases hl : b.getLast? with
    | none => rw [List.getLast?_eq_none_iff] at hl; exact absurd hl hnb
    | some y => rw [hl] at hx; simp only [Option.some_or] at hx; exact hb.2 x (by rw [hl, hx])

/-- Character data that the encoder's text handling leaves alone: non-empty, NUL-free, no blank at
    either end when blanks are removed, not blank when blank text is ignored. -/
structure Solid (c : WCfg) (t : Bytes) : Prop where
  ne : t ≠ []
  nf : nulFree t = true
  trim : c.removeBlanks = true → Trim t
  nb : c.ignoreEmpty = true → t.all isSpaceC = false

theorem syncmlTypeText_of_not (id : Nat) (s : Bytes) (h : isSyncml id = false) : syncmlTypeText id s = s := by
  unfold syncmlTypeText; rw [h]; rfl

theorem Solid.append {c : WCfg} {a b : Bytes} (ha : Solid c a) (hb : Solid c b) : Solid c (a ++ b) :=
  ⟨by intro h; exact ha.ne (List.append_eq_nil_iff.mp h).1,
   by rw [nulFree_append, ha.nf, hb.nf]; rfl,
   fun h => trim_append (ha.trim h) (hb.trim h) ha.ne hb.ne,
   fun h => by rw [List.all_append, ha.nb h]; rfl⟩

theorem syncmlTypeText_other (id : Nat) (t : Bytes) (h1 : caseEq t b!"application/vnd.syncml-devinf+xml" = false)
    (h2 : caseEq t b!"application/vnd.syncml.dmtnds+xml" = false) : syncmlTypeText id t = t := by
  unfold syncmlTypeText
  simp only [h1, h2, Bool.false_eq_true, ↓reduceIte, ite_self]

theorem normText_nil (c : WCfg) : normText c [] = [] := by
  unfold normText
  split
  · rfl
  · have : (if c.removeBlanks = true then stripBlanks ([] : Bytes) else []) = [] := by split <;> rfl
    rw [this]
    exact syncmlTypeText_nil _

def mimeA : Bytes := b!"application/vnd.syncml-devinf+xml"
def mimeA' : Bytes := b!"application/vnd.syncml-devinf+wbxml"
def mimeB : Bytes := b!"application/vnd.syncml.dmtnds+xml"
def mimeB' : Bytes := b!"application/vnd.syncml.dmtnds+wbxml"

theorem syncmlTypeText_cases (id : Nat) (s : Bytes) :
    syncmlTypeText id s = s ∨ syncmlTypeText id s = mimeA' ∨ syncmlTypeText id s = mimeB' := by
  unfold syncmlTypeText
  split
  · simp only
    split
    · exact Or.inr (Or.inr rfl)
    · split
      · exact Or.inr (Or.inl rfl)
      · exact Or.inl rfl
  · exact Or.inl rfl

theorem syncmlTypeText_idem (id : Nat) (s : Bytes) : syncmlTypeText id (syncmlTypeText id s) = syncmlTypeText id s := by
  rcases syncmlTypeText_cases id s with e | e | e <;> rw [e]
  · exact e
  · exact syncmlTypeText_other id mimeA' (by decide) (by decide)
  · exact syncmlTypeText_other id mimeB' (by decide) (by decide)

theorem solid_of_checks (c : WCfg) (t : Bytes) (h1 : t.isEmpty = false) (h2 : nulFree t = true)
    (h3 : stripBlanks t = t) (h4 : t.all isSpaceC = false) : Solid c t :=
  ⟨(by intro h; rw [h] at h1; cases h1), h2, fun _ => h3 ▸ trim_strip t, fun _ => h4⟩

theorem syncmlTypeText_solid (c : WCfg) (t : Bytes) (h : Solid c t) : Solid c (syncmlTypeText c.lang.id t) := by
  rcases syncmlTypeText_cases c.lang.id t with e | e | e
  · rw [e]; exact h
  · rw [e]; exact solid_of_checks c mimeA' (by decide) (by decide) (by decide) (by decide)
  · rw [e]; exact solid_of_checks c mimeB' (by decide) (by decide) (by decide) (by decide)

/-- Solid, and a fixed point of the media-type rewriting. -/
structure SolidS (c : WCfg) (t : Bytes) : Prop where
  sol : Solid c t
  syn : syncmlTypeText c.lang.id t = t

theorem Solid.toS {c : WCfg} {t : Bytes} (hs : isSyncml c.lang.id = false) (h : Solid c t) : SolidS c t :=
  ⟨h, syncmlTypeText_of_not _ _ hs⟩

theorem normText_of_solidS (c : WCfg) (t : Bytes) (h : SolidS c t) : normText c t = t := by
  unfold normText
  have h1 : (c.ignoreEmpty && t.all isSpaceC) = false := by
    cases hi : c.ignoreEmpty with
    | false => rfl
    | true => rw [h.sol.nb hi]; rfl
  rw [h1]
  simp only [Bool.false_eq_true, ↓reduceIte]
  have h2 : (if c.removeBlanks = true then stripBlanks t else t) = t := by
    split
    · rename_i hr; exact strip_of_trim t (h.sol.trim hr)
    · rfl
  rw [h2, cstrOf_of_nulFree t h.sol.nf, h.syn]

theorem strip_allSpace (s : Bytes) (h : s.all isSpaceC = true) : stripBlanks s = [] := by
  unfold stripBlanks
  have : s.dropWhile isSpaceC = [] := by
    rw [dropWhile_eq_nil_iff]
    exact List.all_eq_true.mp h
  rw [this]; rfl

theorem strip_all (s : Bytes) : (stripBlanks s).all isSpaceC = s.all isSpaceC := by
  cases hs : s.all isSpaceC with
  | true => rw [strip_allSpace s hs]; rfl
  | false =>
    cases hh : (stripBlanks s).head? with
    | some x => exact all_false_of_head _ x hh ((trim_strip s).1 x hh)
    | none =>
      -- an empty result: every octet behind the leading blanks is a blank, and the first of them is none
      exfalso
      rw [List.head?_eq_none_iff] at hh
      unfold stripBlanks at hh
      rw [List.reverse_eq_nil_iff, dropWhile_eq_nil_iff] at hh
      have hA : ∀ x ∈ s.dropWhile isSpaceC, isSpaceC x = true := fun x hx => hh x (List.mem_reverse.mpr hx)
      cases hd : s.dropWhile isSpaceC with
      | nil =>
        rw [dropWhile_eq_nil_iff] at hd
        rw [List.all_eq_true.mpr hd] at hs; cases hs
      | cons a l =>
        have h1 := dropWhile_head s a (by rw [hd]; rfl)
        have h2 := hA a (by rw [hd]; simp)
        rw [h1] at h2; cases h2

theorem normText_solidS (c : WCfg) (s : Bytes) (hn : nulFree s = true) :
    normText c s = [] ∨ SolidS c (normText c s) := by
  unfold normText
  split
  · exact Or.inl rfl
  · rename_i hskip
    have hnf : nulFree (if c.removeBlanks = true then stripBlanks s else s) = true := by
      split
      · exact nulFree_strip s hn
      · exact hn
    rw [cstrOf_of_nulFree _ hnf]
    by_cases he : (if c.removeBlanks = true then stripBlanks s else s) = []
    · rw [he]; exact Or.inl (syncmlTypeText_nil _)
    · have hsol : Solid c (if c.removeBlanks = true then stripBlanks s else s) := by
        refine ⟨he, hnf, ?_, ?_⟩
        · intro hr; simp only [hr, ↓reduceIte]; exact trim_strip s
        · intro hi
          have hsp : s.all isSpaceC = false := by
            cases hsp : s.all isSpaceC with
            | false => rfl
            | true => rw [hi, hsp] at hskip; exact absurd rfl hskip
          by_cases hr : c.removeBlanks = true
          · simp only [hr, ↓reduceIte]; exact (strip_all s).trans hsp
          · simp only [hr, Bool.false_eq_true, ↓reduceIte]; exact hsp
      exact Or.inr ⟨syncmlTypeText_solid c _ hsol, syncmlTypeText_idem _ _⟩

theorem normText_of_solid (c : WCfg) (t : Bytes) (hs : isSyncml c.lang.id = false) (h : Solid c t) :
    normText c t = t := normText_of_solidS c t (h.toS hs)

end Wbxml.Lemmas.Rt
