/-
  C16 — the parser main loop on the ledger, the whole document: the content loops of the open
  elements (`parse_element` → `parse_content` → `parse_element` …), `parse_body`, `parse_strtbl`,
  `check_public_id`, `wbxml_parser_parse`, `wbxml_parser_destroy` and the glue of
  `wbxml_tree_from_wbxml`.
-/
import Wbxml.Lemmas.AllocParseItem
namespace Wbxml.Model.Alloc
open Wbxml

def Item.wf : Item → Prop
  | .elem t attrs _ => t.wf ∧ ∀ a ∈ attrs, a.start.wf
  | .pi a => a.start.wf
  | _ => True

/-- The rest of the body.  `X`: the tags held by the open `parse_element` frames; `R`: the parser,
    read at the head of every iteration. -/
abbrev LoopSpec (R X : List Nat) (c : TCtx) (p : Prog (Nat × TCtx)) : Prop :=
  Spec R (X ++ c.owned) p (fun r => r.2.owned) (fun r => CbRel c r.2) (fun r => r.1 ≠ OK ∨ r.2.error ≠ OK)

/-- The rest of the loop after a step that left the context `c1`: the flag is "the context holds an
    error code", which the rest never clears. -/
theorem LoopSpec.then {R X1 : List Nat} {c c1 : TCtx} {p : Prog (Nat × TCtx)} {F : Prop} (r1 : CbRel c c1)
    (h : LoopSpec R X1 c1 p) (hF : F → c1.error ≠ OK) :
    Tri R (X1 ++ c1.owned) F p (fun r B => B = r.2.owned ∧ CbRel c r.2) (fun r => r.1 ≠ OK ∨ r.2.error ≠ OK) :=
  (h.raise fun _ _ ⟨_, r2⟩ f => .inr (r2.2.2 (hF f))).mono id (fun _ B ⟨e, r2⟩ => ⟨B, .refl _, e, r1.trans r2⟩) fun _ _ _ => id

/-- The error exit: every open frame destroys its tag and passes the code on. -/
theorem LoopSpec.abort {R O : List Nat} {c c1 : TCtx} {F : Prop} (st1 : List AName) (code : Nat) (r1 : CbRel c c1)
    (hO : O.Perm (stackOwned st1 ++ c1.owned)) (hF : F → code ≠ OK ∨ c1.error ≠ OK) :
    Tri R O F (Prog.bind (unwind st1) (fun _ => Prog.ret (code, c1))) (fun r B => B = r.2.owned ∧ CbRel c r.2)
      (fun r => r.1 ≠ OK ∨ r.2.error ≠ OK) :=
  .release (unwind_frees st1) (hO.trans List.perm_append_comm) (.ret (.refl _) ⟨rfl, r1⟩ hF)

/-- The reads of `parser->wbxml` at the head of an iteration, the parser being held or borrowed. -/
theorem Tri.touch {β : Type} {p : APars} {k : Unit → Prog β} {R O : List Nat} {F : Prop} {Q : β → List Nat → Prop}
    {E : β → Prop} (hp : ∀ i ∈ p.owned, i ∈ O ∨ i ∈ R) (hpw : p.wbxml.isSome) (hk : Tri R O F (k ()) Q E) :
    Tri R O F (Prog.bind (Alloc.touch p) k) Q E := fun s wf own hR => by
  obtain ⟨w, hw⟩ := Option.isSome_iff_exists.1 hpw
  have live : ∀ i ∈ p.owned, i ∈ s.live := fun i hi => (hp i hi).elim (own.2 i) fun x => (hR i x).1
  refine Good.bind_read ?_ fun _ => hk s wf own hR
  unfold Alloc.touch
  rw [hw]
  exact Good.deref (live _ (by simp [APars.owned])) (deref_spec w.hdr s (live _ (by simp [APars.owned, hw, ownedBufOpt, ABuf.owned])))

/-- `while (is_token(parser, WBXML_PI)) parse_pi(parser)` after the root. -/
theorem trailingPis_tri (c : TCtx) (items : List Item) (hw : ∀ it ∈ items, it.wf) (hok : c.ok) :
    LoopSpec [] [] c (trailingPis c items) := by
  have hdone : LoopSpec [] [] c (Prog.ret (OK, c)) := .ret (.refl _) ⟨rfl, .refl hok⟩ nofun
  induction items with
  | nil => exact hdone
  | cons it rest ih =>
    cases it with
    | pi a =>
      simp only [trailingPis]
      refine (parsePi_tri a (hw (.pi a) List.mem_cons_self)).make nofun fun ret _ => ?_
      exact .if_ne_ok (fun hret => .ret (.of_eq (List.append_nil _)) ⟨rfl, .refl hok⟩ fun _ => .inl hret) fun hret =>
        ((ih fun x hx => hw x (List.mem_cons_of_mem _ hx)).lower fun f => f.elim id fun f => f hret).perm (.of_eq (List.append_nil _))
    | _ => exact hdone

/-- `parse_element` below the open elements `st` (none for the root): tag, attributes and the
    `start_element` call-back, then the content loop of the new element or, for an empty element, its
    end.  `hcont`: the rest of the body from the state a step leaves. -/
theorem elemStep_tri (p : APars) (rest : List Item) (st : List AName) (c : TCtx) (t : TagShape) (htw : t.wf)
    (attrs : List AttrShape) (haw : ∀ a ∈ attrs, a.start.wf) (hc : Bool) (hok : c.ok)
    (hcont : ∀ (st1 : List AName) (c1 : TCtx), c1.ok → LoopSpec p.owned (stackOwned st1) c1 (parseLoop p st1 c1 rest)) :
    LoopSpec p.owned (stackOwned st) c (Prog.bind (startElement c t attrs) fun r =>
      match r.2.1 with
      | none => Prog.bind (unwind st) fun _ => Prog.ret (r.1, r.2.2)
      | some x =>
        if hc = true then parseLoop p (x :: st) r.2.2 rest
        else Prog.bind (closeElement r.2.2 x) fun c => parseLoop p st c rest) := by
  refine (startElement_tri c t htw attrs haw hok).after (stackOwned st) (.refl _) nofun
    fun ⟨ret, elt, c1⟩ ⟨r1, hnone, hsome⟩ => ?_
  cases elt with
  | none =>
    obtain ⟨hne, rfl⟩ := hnone rfl
    exact LoopSpec.abort st ret r1 (.refl _) fun _ => .inl hne
  | some x =>
    have hF : False ∨ ((ret, some x, c1) : Nat × Option AName × TCtx).1 ≠ OK ∨ c1.error ≠ OK → c1.error ≠ OK :=
      fun f => (f.resolve_left id).resolve_left fun h => h (hsome rfl)
    cases hc with
    | true =>
      exact (LoopSpec.then r1 (hcont (x :: st) c1 r1.2.1) hF).perm
        (by rw [stackOwned_cons x, List.append_assoc]; exact List.perm_append_comm_assoc _ _ _)
    | false =>
      refine (closeElement_tri c1 x r1.2.1).after (stackOwned st) (.refl _) nofun fun c2 r2 => ?_
      -- a failure before the close is kept in the context, one during the close is put there
      exact LoopSpec.then (r1.trans r2) (hcont st c2 r2.2.1) fun f => f.elim (fun g => r2.2.2 (hF g)) id

theorem parseLoop_nil (p : APars) (c : TCtx) (items : List Item) : parseLoop p [] c items = trailingPis c items := by
  cases items <;> simp only [parseLoop]

theorem parseLoop_tri (p : APars) (hpw : p.wbxml.isSome) (items : List Item) (hw : ∀ it ∈ items, it.wf)
    (st : List AName) (c : TCtx) (hok : c.ok) : LoopSpec p.owned (stackOwned st) c (parseLoop p st c items) := by
  induction items generalizing st c with
  | nil =>
    cases st with
    | nil => exact parseLoop_nil p c [] ▸ (trailingPis_tri c [] hw hok).borrow nofun
    | cons e st' =>
      simp only [parseLoop]
      exact .touch (fun _ => .inr) hpw (LoopSpec.abort (e :: st') EEOB (.refl hok) (.refl _) nofun)
  | cons it rest ih =>
    have ih := ih fun x hx => hw x (List.mem_cons_of_mem _ hx)
    cases st with
    | nil => exact parseLoop_nil p c (it :: rest) ▸ (trailingPis_tri c (it :: rest) hw hok).borrow nofun
    | cons e st' =>
      simp only [parseLoop]
      refine .touch (fun _ => .inr) hpw ?_
      cases it with
      | stop =>
        refine (closeElement_tri c e hok).after (stackOwned st')
          (by rw [stackOwned_cons, List.append_assoc]; exact List.perm_append_comm_assoc _ _ _) nofun fun c1 r1 => ?_
        exact LoopSpec.then r1 (ih st' c1 r1.2.1) (·.resolve_left id)
      | elem t attrs hc =>
        obtain ⟨htw, haw⟩ : t.wf ∧ ∀ a ∈ attrs, a.start.wf := hw (.elem t attrs hc) List.mem_cons_self
        exact elemStep_tri p rest (e :: st') c t htw attrs haw hc hok ih
      | content ci cd =>
        refine (parseContent_tri ci).make nofun fun ⟨ret, content⟩ e1 => ?_
        refine .if_ne_ok (fun hret => ?_) (fun hret => ?_)
        · cases e1 hret
          exact LoopSpec.abort (e :: st') ret (.refl hok) (.of_eq (List.append_nil _)) fun _ => .inl hret
        · refine (deliverChars_tri c content cd hok).at _ (ownedBufOpt content)
            (.of_eq (List.append_assoc ..)) (fun _ hi => .inr (.inr (hdr_mem_ownedBufOpt hi))) fun c2 r2 => ?_
          exact .release (bufDestroy_frees content) (.of_eq (List.append_assoc ..).symm)
            (LoopSpec.then r2 (ih (e :: st') c2 r2.2.1) fun f => f.resolve_left fun g => (g.resolve_left id) hret)
      | pi a =>
        refine (parsePi_tri a (hw (.pi a) List.mem_cons_self)).make nofun fun ret _ => ?_
        refine .if_ne_ok (fun hret => ?_) (fun hret => ?_)
        · exact LoopSpec.abort (e :: st') ret (.refl hok) (.of_eq (List.append_nil _)) fun _ => .inl hret
        · exact ((ih (e :: st') c hok).lower fun f => f.elim id fun f => f hret).perm (.of_eq (List.append_nil _))
      | skip => exact ih (e :: st') c hok
      | err code => exact LoopSpec.abort (e :: st') code (.refl hok) (.refl _) nofun

def RootShape.wf : RootShape → Prop
  | .elem t attrs _ => t.wf ∧ ∀ a ∈ attrs, a.start.wf
  | .err _ => True

/-- A document shape is well formed when the error outcomes of its tag / attribute starts carry a
    real error code. -/
def Doc.wf (d : Doc) : Prop := (∀ a ∈ d.pre, a.start.wf) ∧ d.root.wf ∧ ∀ it ∈ d.body, it.wf

theorem parseBody_tri (p : APars) (hpw : p.wbxml.isSome) (c : TCtx) (d : Doc) (hd : d.wf) (hok : c.ok) :
    LoopSpec p.owned [] c (parseBody p c d) := by
  obtain ⟨hpre, hroot, hbody⟩ := hd
  unfold parseBody
  refine (parsePis_tri d.pre hpre).make nofun fun ret0 _ => ?_
  refine .if_ne_ok (fun hret0 => .ret (.of_eq (List.append_nil _)) ⟨rfl, .refl hok⟩ fun _ => .inl hret0) fun hret0 => ?_
  have hF : False ∨ ret0 ≠ OK → False := fun f => f.elim id fun f => f hret0
  cases hr : d.root with
  | err code => exact .ret (.of_eq (List.append_nil _)) ⟨rfl, .refl hok⟩ fun f => (hF f).elim
  | elem t attrs hc =>
    rw [hr] at hroot
    -- the root is an element below no open element
    exact .touch (fun _ => .inr) hpw (((elemStep_tri p d.body [] c t hroot.1 attrs hroot.2 hc hok fun st1 c1 ok1 =>
      parseLoop_tri p hpw d.body hbody st1 c1 ok1).lower hF).perm (.of_eq (List.append_nil _)))

theorem appendNuls_tri (n : Nat) (t : ABuf) (hok : t.ok) :
    Spec [] t.owned (appendNuls n t) (fun r => r.2.owned) (fun _ => True) (fun r => r.1 ≠ OK) := by
  induction n generalizing t with
  | zero => exact .ret (.refl _) ⟨rfl, trivial⟩ nofun
  | succ n ih =>
    unfold appendNuls
    refine (bufAppendChar_tri t 0 hok).step (.refl _) nofun fun ⟨t1, ok⟩ ⟨_, _, k1⟩ => ?_
    cases ok with
    | false => exact .ret (.refl _) ⟨rfl, trivial⟩ fun _ => ENOMEM_ne_OK
    | true => exact (ih t1 (k1 hok)).lower (by simp)

theorem parseStrtbl_tri (sh : StrtblShape) :
    Spec [] [] (parseStrtbl sh) (fun r => ownedBufOpt r.2) (fun _ => True) (fun r => r.1 ≠ OK) := by
  have hnone : ∀ ret : Nat, Spec [] [] (Prog.ret (ret, (none : Option ABuf))) (fun r => ownedBufOpt r.2) (fun _ => True)
      (fun r => r.1 ≠ OK) := fun _ => .ret (.refl _) ⟨rfl, trivial⟩ nofun
  cases sh with
  | none => exact hnone OK
  | err c => exact hnone c
  | tbl bytes =>
    simp only [parseStrtbl]
    refine .ite (fun _ => ?_) fun _ => ?_
    · exact hnone OK
    · refine (bufCreate_tri (some bytes) STRTBL_BLOCK).step (.refl _) nofun fun t k1 => ?_
      cases t with
      | none => exact .ret (.refl _) ⟨rfl, trivial⟩ fun _ => ENOMEM_ne_OK
      | some t =>
        refine .deref (.inl List.mem_cons_self) (.ite (fun _ => ?_) fun _ => ?_)
        · exact .ret (.refl _) ⟨rfl, trivial⟩ (by simp)
        · exact (appendNuls_tri 4 t (k1 t rfl)).step (.refl _) nofun fun r _ => .ret (.refl _) ⟨rfl, trivial⟩ (by simp)

/-- `check_public_id` returns `WB_BOOL`: a failed request means "not found". -/
theorem checkPublicId_tri (sh : PubidShape) :
    Spec [] [] (checkPublicId sh) (fun _ => []) (fun _ => True) (fun r => r = false) := by
  cases sh with
  | known => exact .ret (.refl _) ⟨rfl, trivial⟩ nofun
  | unknown => exact .ret (.refl _) ⟨rfl, trivial⟩ fun _ => rfl
  | strRef p found =>
    refine (parseAttrValue_tri p).step (.refl _) nofun fun ⟨ret, b⟩ e1 => ?_
    cases b with
    | none => exact .ret (.refl _) ⟨rfl, trivial⟩ fun _ => rfl
    | some x =>
      obtain rfl : ret = OK := Decidable.byContradiction fun h => nomatch e1 h
      exact .deref (.inl List.mem_cons_self) (.release (bufDestroy_frees (some x)) (.refl _)
        (.ret (.refl _) ⟨rfl, trivial⟩ (by simp)))

theorem clbStartDocument_spec (c : TCtx) (s : Ledger) (hl : c.tree ∈ s.live) :
    Good (clbStartDocument c) s (fun c' s' => s' = s ∧ c' = c) := by
  unfold clbStartDocument
  split
  · exact good_ret.2 ⟨rfl, rfl⟩
  · exact Good.deref hl (good_ret.2 ⟨rfl, rfl⟩)

/-- The parser struct, the context and the parser's two buffers in the order they are allocated. -/
theorem pars_perm (hdr : Nat) (w t : Option ABuf) (C : List Nat) :
    ((([hdr] ++ C) ++ ownedBufOpt w) ++ ownedBufOpt t).Perm ((⟨hdr, w, t⟩ : APars).owned ++ C) := by
  simp only [APars.owned]
  perm_count

theorem parserParse_tri (hdr : Nat) (c : TCtx) (d : Doc) (hd : d.wf) (hok : c.ok) :
    Spec [] ([hdr] ++ c.owned) (parserParse hdr c d) (fun r => r.2.1.owned ++ r.2.2.owned)
      (fun r => CbRel c r.2.2) (fun r => r.1 ≠ OK ∨ r.2.2.error ≠ OK) := by
  unfold parserParse
  refine .deref (.inl List.mem_cons_self) (.ite (fun _ => ?_) fun _ => ?_)
  · exact .ret (.refl _) ⟨rfl, .refl hok⟩ nofun
  · refine (bufCreate_tri (some d.wbxml) PARSER_BLOCK).make nofun fun w _ => ?_
    cases w with
    | none => exact .ret (.of_eq (List.append_nil _)) ⟨rfl, .refl hok⟩ fun _ => .inl ENOMEM_ne_OK
    | some w =>
      refine .ite (fun _ => ?_) fun _ => ?_
      · exact .ret ((List.Perm.of_eq (List.append_nil _).symm).trans (pars_perm hdr (some w) none c.owned)) ⟨rfl, .refl hok⟩ (by simp)
      · refine (parseStrtbl_tri d.strtbl).make nofun fun ⟨ret2, t⟩ _ => ?_
        have hP := pars_perm hdr (some w) t c.owned
        refine .if_ne_ok (fun hret2 => .ret hP ⟨rfl, .refl hok⟩ fun _ => .inl hret2) fun hret2 => ?_
        refine (checkPublicId_tri d.pubid).make nofun fun found _ => ?_
        cases found with
        | false => exact .ret ((List.Perm.of_eq (List.append_nil _)).trans hP) ⟨rfl, .refl hok⟩ fun _ => .inl EPUBID_ne_OK
        | true =>
          refine .read (a := c.tree) (.inl (by simp [tree_mem_owned])) (clbStartDocument_spec c) fun c' (ec : c' = c) => ?_
          subst ec
          refine (parseBody_tri ⟨hdr, some w, t⟩ rfl c' d hd hok).after _ ((List.Perm.of_eq (List.append_nil _)).trans hP)
            (fun _ => .inr) fun ⟨ret4, c4⟩ r4 => ?_
          exact .ret (.refl _) ⟨rfl, r4⟩ fun f => f.resolve_left (by simpa using hret2)

theorem parserDestroy_frees (p : APars) : Frees (parserDestroy p) p.owned :=
  .deref (by simp [APars.owned]) (((bufDestroy_frees p.wbxml).seq ((bufDestroy_frees p.strtbl).seq (.free (some p.hdr)))).perm
    (by simp only [APars.owned]; perm_count))

theorem treeFromWbxml_tri (d : Doc) (hd : d.wf) : TreeMade [] (treeFromWbxml d) := by
  unfold treeFromWbxml
  simp only [bind_eq, pure_eq]
  refine .malloc (.ret (.refl _) ⟨rfl, fun _ => rfl, fun _ h => nomatch h⟩ fun _ => ENOMEM_ne_OK) fun h => ?_
  refine treeCreate_tri.make nofun fun c0 hshape => ?_
  cases c0 with
  | none =>
    exact .release (parserDestroy_frees ⟨h, none, none⟩) (.of_eq (List.append_nil _))
      (.ret (.refl _) ⟨rfl, fun _ => rfl, fun _ h => nomatch h⟩ fun _ => ENOMEM_ne_OK)
  | some c0 =>
    obtain ⟨t, rfl⟩ := hshape c0 rfl
    refine (parserParse_tri h _ d hd (TCtx.ok_new t)).step (.refl _) nofun fun ⟨ret, p, c⟩ r3 => ?_
    by_cases hbad : (ret != OK || c.error != OK) = true
    · rw [if_pos hbad]
      refine .release (treeDestroy_frees c) (.refl _) (.release (parserDestroy_frees p) (.refl _)
        (.ret (.refl _) ⟨rfl, fun _ => rfl, fun _ h => nomatch h⟩ fun _ => ?_))
      by_cases hret : ret = OK
      · subst hret
        simpa using hbad
      · rw [if_pos (by simpa using hret)]
        exact hret
    · rw [if_neg hbad]
      have hgood : ret = OK ∧ c.error = OK := by
        simpa only [Bool.or_eq_true, bne_iff_ne, ne_eq, not_or, Decidable.not_not] using hbad
      exact .release (parserDestroy_frees p) List.perm_append_comm (TreeMade.done c r3.2.1 hgood.2 fun f =>
        ((f.resolve_left (by simp)).resolve_left fun h => h hgood.1))

end Wbxml.Model.Alloc
