/-
  WBXML encoder proofs: the typed encoders (`Model/Typed/*`) write OPAQUE / STR_I items of the
  grammar. Their length prefix is written by a copy of the multi-byte writer that has no 32-bit
  truncation, so the payload must be shorter than 2^32 octets (it always is: WB_ULONG lengths).
  Then: which tags the parser decodes by a typed rule (`typedRow`), the normal forms of typed text, and
  the source hypotheses of C06. What the parser's typed decoders compute, and that they agree with the
  typed codecs, is in the codec modules (`Lemmas/Typed*.lean`, `Lemmas/CodecBase64.lean`). At the end: what `typedLangOk` says
  of single rows (`typedLangOk_icon/_binary`, `iconRow_*`, `kvPar_*`, `typedOpt_binary`, `decodeOpaqueContent_kv`).
-/
import Wbxml.Lemmas.EncWWf
import Wbxml.Lemmas.TypedBinary
import Wbxml.Lemmas.CodecBase64
import Wbxml.Lemmas.TypedWvInt
import Wbxml.Lemmas.TypedDatetime
import Wbxml.Lemmas.CodecMb
namespace Wbxml.Lemmas.EncW
open Wbxml Wbxml.Model Wbxml.Spec
open Wbxml.Model.Codec (mbEncode mbEncodeLoop b64DecodeE b64DecodeLoop b64Scan b64Decode)
open Wbxml.Model.Typed

theorem opaqueItem_eq (p : Bytes) (h : p.length < 2 ^ 32) : opaqueItem p = serOpaque p := by
  unfold opaqueItem serOpaque mb
  rw [Codec.mbEnc_eq _ h]

theorem strItem_eq (s : Bytes) : strItem s = serStr (.inl s) := rfl

theorem encodeWvInt_shape (s : Bytes) (item : Bytes) (h : encodeWvInt s = .ok (some item)) :
    ∃ p, item = serOpaque p ∧ p.length ≤ 4 := by
  unfold encodeWvInt at h
  split at h
  · cases h
  · split at h
    · cases h
    · injection h with h; injection h with h
      rename_i v _ _
      have := (Lemmas.Typed.wvIntOctets_minimal v (by omega)).1
      refine ⟨wvIntOctets v, ?_, this⟩
      rw [← h, opaqueItem_eq]
      omega

theorem wvPack_length (y mo d h mi s : Nat) (z : UInt8) : (wvPack y mo d h mi s z).length = 6 := by
  simp [wvPack, wvOctets]

theorem wvDateOpaque_shape (s : Bytes) (item : WvItem) (h : wvDateOpaque s = .ok item) :
    item = .inline s ∨ ∃ p, item = .opaque p ∧ p.length = 6 := by
  -- the exits in order: length, 'T', zone letter, digits (errors); year (inline / opaque)
  unfold wvDateOpaque at h
  extract_lets _ tmp len zr at h
  clear_value zr
  split at h
  · cases h
  split at h
  · cases h
  split at h
  · cases h
  extract_lets t2 at h
  split at h
  · cases h
  split at h
  · injection h with h; exact Or.inl h.symm
  · injection h with h; exact Or.inr ⟨_, h.symm, wvPack_length ..⟩

theorem encodeWvDate_shape (s : Bytes) (item : WvItem) (h : encodeWvDate s = .ok item) :
    item.bytes = serStr (.inl s) ∨ ∃ p, item.bytes = serOpaque p ∧ p.length = 6 := by
  unfold encodeWvDate at h
  split at h
  · cases h
  · split at h
    · injection h with h; subst h; exact Or.inl rfl
    · rcases wvDateOpaque_shape s item h with rfl | ⟨p, rfl, hp⟩
      · exact Or.inl rfl
      · refine Or.inr ⟨p, ?_, hp⟩
        simp only [WvItem.bytes]
        rw [opaqueItem_eq]; omega

theorem dtFilter_length (s d : Bytes) (h : dtFilter s = .ok d) : d.length ≤ s.length := by
  induction s generalizing d with
  | nil => simp only [dtFilter] at h; injection h with h; subst h; simp
  | cons c cs ih =>
    simp only [dtFilter] at h
    split at h
    · cases hr : dtFilter cs with
      | error e => rw [hr] at h; cases h
      | ok d' =>
        rw [hr] at h
        injection h with h; subst h
        have := ih d' hr
        simp only [List.length_cons]; omega
    · split at h
      · have := ih d h
        simp only [List.length_cons]; omega
      · cases h

theorem hexPairs_length : ∀ (d : Bytes), (hexPairs d).length ≤ d.length
  | [] => by simp [hexPairs]
  | [_] => by simp [hexPairs]
  | _ :: _ :: rest => by
    have := hexPairs_length rest
    simp only [hexPairs, List.length_cons]; omega

theorem stripZeros_length (bs : Bytes) : (stripZeros bs).length ≤ bs.length := by
  unfold stripZeros
  rw [List.length_reverse]
  have := (List.dropWhile_sublist (fun x : UInt8 => x == 0) (l := bs.reverse)).length_le
  rw [List.length_reverse] at this
  exact this

theorem encodeDatetime_shape (s item : Bytes) (hs : s.length < 2 ^ 32) (h : encodeDatetime s = .ok item) :
    ∃ p, item = serOpaque p ∧ datetimePayload s = .ok p ∧ p.length < 2 ^ 32 := by
  unfold encodeDatetime at h
  cases hp : datetimePayload s with
  | error e => rw [hp] at h; cases h
  | ok p =>
    rw [hp] at h
    injection h with h
    have hlen : p.length < 2 ^ 32 := by
      unfold datetimePayload at hp
      cases hd : dtFilter s with
      | error e => rw [hd] at hp; cases hp
      | ok d =>
        rw [hd] at hp
        injection hp with hp
        have h1 := dtFilter_length s d hd
        have h2 := hexPairs_length d
        have h3 := stripZeros_length (hexPairs d)
        rw [← hp]
        show (stripZeros (hexPairs d)).length < _
        omega
    refine ⟨p, ?_, rfl, hlen⟩
    rw [← h]
    show opaqueItem p = _
    rw [opaqueItem_eq _ hlen]

theorem isSpaceC_eq_typed (c : UInt8) : isSpaceC c = Typed.isSpace c := by
  simp [isSpaceC, Typed.isSpace, UInt8.le_iff_toNat_le]

theorem b64TextW_eq (s : Bytes) : b64TextW s = s.filter (fun c => !Typed.isSpace c) := by
  simp only [b64TextW, isSpaceC_eq_typed]

theorem opaqueW_eq_opaqueItem (d : Bytes) (h : d.length < 2 ^ 32) : opaqueW d = opaqueItem d := by
  unfold opaqueW opaqueItem; rw [Codec.mbEnc_eq _ h]

theorem b64DecodeE_textW_len (s d : Bytes) (h : b64DecodeE (b64TextW s) = .ok d) : d.length ≤ s.length := by
  rw [b64TextW_eq, Wbxml.Lemmas.Codec.b64DecodeE_eq] at h
  injection h with h
  have h1 := Codec.b64DecodeLoop_length (b64Scan (s.filter (fun c => !Typed.isSpace c)))
  have h2 : (b64Scan (s.filter (fun c => !Typed.isSpace c))).length ≤ (s.filter (fun c => !Typed.isSpace c)).length :=
    (List.takeWhile_sublist _).length_le
  have h3 := List.length_filter_le (fun c => !Typed.isSpace c) s
  rw [← h]; omega

/-- What `drmrelContentW` / `otaIconW` emit for the C string `s` is the item `base64ToOpaqueStrip s`
    the C12 theorems (`base64_strip_roundtrip` …) speak about. -/
theorem b64Opaque_typed (s : Bytes) (hs : s.length < 2 ^ 32) :
    ∃ d, b64DecodeE (b64TextW s) = .ok d ∧ opaqueW d = base64ToOpaqueStrip s := by
  have hlen := b64DecodeE_textW_len s _ (by rw [b64TextW_eq, Wbxml.Lemmas.Codec.b64DecodeE_eq])
  rw [b64TextW_eq, Wbxml.Lemmas.Codec.b64DecodeE_eq]
  refine ⟨_, rfl, ?_⟩
  rw [opaqueW_eq_opaqueItem _ (by omega)]
  unfold base64ToOpaqueStrip b64Decode
  rw [Wbxml.Lemmas.Codec.b64DecodeE_eq]
  cases b64DecodeLoop (b64Scan (s.filter (fun c => !Typed.isSpace c))) <;> rfl

theorem drmrelContentW_typed (r : TagRow) (hr : (r.page == 0 && r.token == 0x0C) = true) (s : Bytes)
    (hs : s.length < 2 ^ 32) (st : WSt) :
    drmrelContentW (some (.token r)) s st = .ok (some (st.emit (base64ToOpaqueStrip s))) := by
  obtain ⟨d, hd, ho⟩ := b64Opaque_typed s hs
  simp only [drmrelContentW, hr, if_true, hd, ← ho]
  rfl

theorem otaIconW_typed (attrs : List Attr) (s : Bytes) (hs : s.length < 2 ^ 32) (st : WSt)
    (ht : st.curTag.isSome = true)
    (hi : attrs.any (fun a => a.name.cName == b!"NAME" && cstrOf a.value == b!"ICON") = true) :
    otaIconW (some attrs) s st = .ok (some (st.emit (base64ToOpaqueStrip s))) := by
  obtain ⟨d, hd, ho⟩ := b64Opaque_typed s hs
  cases hc : st.curTag with
  | none => rw [hc] at ht; cases ht
  | some t =>
    simp only [otaIconW, hc, hi, if_true, hd, ← ho]
    rfl

/-- The tags whose opaque content the parser decodes by a typed rule (`decode_opaque_content`):
    Wireless Village integer / date-time elements, DRMREL `ds:KeyValue`, SyncML `NextNonce`. The
    rule depends on the language, the code page and the token only. -/
def typedRow (langId : Nat) (r : TagRow) : Bool :=
  (isWv langId && (wvDataType r.page r.token != WvType.string)) ||
  (langId == 1801 && r.page == 0 && r.token == 0x0C) ||
  (isSyncml langId && r.page == 1 && r.token == 0x10)

def typedOpt (langId : Nat) : Option TagRow → Bool
  | some r => typedRow langId r
  | none => false

theorem typedRow_congr (id : Nat) (r r' : TagRow) (hp : r'.page = r.page) (ht : r'.token = r.token) :
    typedRow id r' = typedRow id r := by
  simp only [typedRow, hp, ht]

theorem untyped_opt_content (id : Nat) (o : Option TagRow) (d : Bytes) (h : typedOpt id o = false) :
    decodeOpaqueContent id o d = .ok d := by
  unfold decodeOpaqueContent
  cases o with
  | none => simp only; split <;> (try split) <;> (try split) <;> rfl
  | some t =>
    simp only [typedOpt, typedRow, Bool.or_eq_false_iff, Bool.and_eq_false_iff] at h
    obtain ⟨⟨h1, h2⟩, h3⟩ := h
    by_cases hw : isWv id = true
    · simp only [hw, ↓reduceIte]
      rcases h1 with h1 | h1
      · rw [hw] at h1; cases h1
      · have : wvDataType t.page t.token = .string := by simpa using h1
        rw [this]
    · simp only [hw, Bool.false_eq_true, ↓reduceIte]
      by_cases hd : (id == 1801) = true
      · simp only [hd, ↓reduceIte]
        split
        · rename_i hh; simp_all
        · rfl
      · simp only [hd, Bool.false_eq_true, ↓reduceIte]
        by_cases hs : isSyncml id = true
        · simp only [hs, ↓reduceIte]
          split
          · rename_i hh; simp_all
          · rfl
        · simp only [hs, Bool.false_eq_true, ↓reduceIte]

theorem opaqueText_untyped (ctx : Ctx) (o : Option TagRow) (d : Bytes) (h : typedOpt ctx.lang.id o = false) :
    opaqueText ctx o d = some d := by
  simp only [opaqueText, untyped_opt_content _ o d h]

/-- The two `switch` ladders agree where the encoder types content: what `wbxml_encode_wv_content`
    sends as an integer / a date-time, `decode_wv_content` reads as one (the parser additionally
    knows the integers of code page 5, which the encoder sends as strings). -/
theorem wvKind_compat (p t : Nat) :
    (wvEncKind p t = .integer → wvDataType p t = .integer) ∧
    (wvEncKind p t = .dateTime → wvDataType p t = .datetime) := by
  unfold wvEncKind wvDataType
  split <;> simp only [List.mem_cons, List.mem_nil_iff, or_false, beq_iff_eq, Bool.or_eq_true] <;>
    (repeat' split) <;> simp_all <;> omega

/-! ### Normal forms of typed text ("by value")

  What comes back for a typed text is not the text but its normal form: `0200` ↦ `200`; base64 text
  re-encoded canonically (no white space, no line wrapping); a date-time in the canonical form of
  the instant. Each normal form is idempotent. -/

/-- Wireless Village integer: the decimal numeral of the number the text denotes (decimal or `0x…`),
    when it is one below 2^32; other text is carried as a string, unchanged. -/
def wvIntNorm (s : Bytes) : Bytes :=
  match wvIntNumeral s with
  | some v => if v < 4294967296 then decNat v else s
  | none => s

theorem wvIntNorm_idem (s : Bytes) : wvIntNorm (wvIntNorm s) = wvIntNorm s := by
  unfold wvIntNorm
  cases hn : wvIntNumeral s with
  | none => simp only [hn]
  | some v =>
    by_cases hv : v < 4294967296
    · simp only [hv, ↓reduceIte]
      rw [Lemmas.Typed.wvIntNumeral_digits _ (Lemmas.Typed.decNat_ne_nil v) (Lemmas.Typed.all_isDigit_decNat v),
        Lemmas.Typed.decVal_decNat]
      simp only [hv, ↓reduceIte]
    · simp only [hv, ↓reduceIte, hn]

/-- base64-carried text: the RFC 4648 encoding of the octets the text denotes (white space removed,
    decoding stops at the first foreign character — `wbxml_base64_decode`). -/
def b64Norm (s : Bytes) : Bytes :=
  match b64DecodeE (b64TextW s) with
  | .ok d => Codec.b64Encode d
  | .error _ => s

theorem b64TextW_encode (d : Bytes) : b64TextW (Codec.b64Encode d) = Codec.b64Encode d := by
  rw [b64TextW_eq]; exact Lemmas.Typed.b64Encode_filter d

theorem b64DecodeE_encode (d : Bytes) : b64DecodeE (Codec.b64Encode d) = .ok d := by
  cases d with
  | nil => rw [Wbxml.Lemmas.Codec.b64DecodeE_eq]; rfl
  | cons a t =>
    have h := Wbxml.Lemmas.Codec.b64Decode_b64Encode (a :: t) (by simp)
    unfold Codec.b64Decode at h
    rw [Wbxml.Lemmas.Codec.b64DecodeE_eq] at h ⊢
    split at h
    · cases h
    · injection h with h; rename_i d' heq; injection heq with heq; rw [heq, h]
    · cases h

theorem b64Norm_idem (s : Bytes) : b64Norm (b64Norm s) = b64Norm s := by
  have h1 : b64Norm s = Codec.b64Encode (b64DecodeLoop (b64Scan (b64TextW s))) := by
    unfold b64Norm; rw [Wbxml.Lemmas.Codec.b64DecodeE_eq]
  rw [h1]
  unfold b64Norm
  rw [b64TextW_encode, b64DecodeE_encode]

/-- `%Datetime` text: what `decode_datetime` makes of the octets `wbxml_encode_datetime` writes. -/
def datetimeNorm (s : Bytes) : Bytes :=
  match datetimePayload s with
  | .ok p => (match Model.decodeDatetime p with | .ok t => t | .error _ => s)
  | .error _ => s

/-- For every valid calendar date-time the normal form of the canonical text `YYYY-MM-DDThh:mm:ssZ`
    is that text (C12 `datetime_roundtrip`), so the normal form is idempotent on valid date-times. -/
theorem datetimeNorm_canon (d : Spec.Calendar.DateTime) (h : d.Valid) :
    datetimeNorm (Spec.Calendar.canon d) = Spec.Calendar.canon d := by
  have hp := Lemmas.Typed.datetimePayload_canon d h
  unfold datetimeNorm
  rw [hp]
  simp only
  rw [decodeDatetime_eq_typed, Lemmas.Typed.decodeDatetime_take d h _ (Lemmas.Typed.keptOctets_range d),
    Lemmas.Typed.truncTo_kept]

/-! ### Source side: the decidable hypotheses under which every typed opaque is well-formed

  Each stands for a recorded finding (`known_findings.json`, or D5 of DESIGN_NOTES/EncWbxml.md);
  all are `true` for every tree of a language without typed content. -/

/-- Finding `invalid-datetime-attribute-accepted`: the text of an SI `created` / `si-expires` or EMN
    `timestamp` value is a date-time, i.e. its digits form four to seven BCD octets once trailing zero
    octets are dropped (or nothing at all) — what `decode_datetime` accepts. Text the encoder itself
    refuses (`dtFilter` error 11) needs no condition. -/
def validDatetimeText (v : Bytes) : Bool :=
  match datetimePayload v with
  | .ok p => p.isEmpty || (decide (4 ≤ p.length) && decide (p.length ≤ 7))
  | .error _ => true

/-- D5 (`empty opaque for text that is not base64`): the text decodes to at least one octet. -/
def b64NonEmpty (s : Bytes) : Bool :=
  match b64DecodeE (b64TextW s) with
  | .ok d => !d.isEmpty
  | .error _ => true

/-- The C string `parse_text` hands to the value encoder outside CDATA. -/
def textArg (c : WCfg) (s : Bytes) : Bytes := cstrOf (if c.removeBlanks then stripBlanks s else s)

/-- Text that produces no output at all outside CDATA (ignorable white space, empty C string). -/
def textSilent (c : WCfg) (s : Bytes) : Bool := (c.ignoreEmpty && s.all isSpaceC) || (textArg c s).isEmpty

/-- DRMREL `ds:KeyValue` (token element). -/
def isKvRow (langId : Nat) (r : TagRow) : Bool := langId == 1801 && r.page == 0 && r.token == 0x0C

def kvPar (l : Lang) : Option Name → Bool
  | some (.token r) => isKvRow l.id r
  | _ => false

def dtAttrName (l : Lang) (nm : Bytes) : Bool :=
  (l.attrs.getD []).any (fun r => dtRow l.id r && r.name == nm)

/-- OTA settings: the attribute start whose value may be an icon (`VALUE`, page 0 token 0x11). -/
def iconRow (langId : Nat) (r : AttrRow) : Bool := langId == 1901 && r.page == 0 && r.token == 0x11

def iconValName (l : Lang) (nm : Bytes) : Bool := (l.attrs.getD []).any (fun r => iconRow l.id r && r.name == nm)

/-- `NAME="ICON"` among the attributes of the current node. -/
def iconCtx (na : Option (List Attr)) : Bool :=
  match na with
  | some attrs => attrs.any (fun a => a.name.cName == b!"NAME" && cstrOf a.value == b!"ICON")
  | none => false

def dtAttrOk (l : Lang) (a : Attr) : Bool := !(dtAttrName l a.name.cName) || validDatetimeText (cstrOf a.value)

/-- Per attribute: an OTA icon value decodes to at least one octet (D5). -/
def iconAttrOk (l : Lang) (na : Option (List Attr)) (a : Attr) : Bool :=
  !(iconCtx na && iconValName l a.name.cName) || (cstrOf a.value).isEmpty || b64NonEmpty (cstrOf a.value)

/-- Whether the children of an element called `nm` may find a typed tag in the reader's
    `current_tag` slot or as their own tag: a token name by its row; a literal name inherits the flag
    (the slot is kept across a literal tag) or may be resolved to a typed row of that name. -/
def kidsTy (l : Lang) (ty : Bool) : Name → Bool
  | .token r => typedRow l.id r
  | .literal s => ty || (l.tags.getD []).any (fun r => r.name == cstrOf s && typedRow l.id r)

mutual
/-- Finding `cdata-in-typed-element`: no CDATA section and no embedded document where the reader
    applies a typed-content rule (`ty`). -/
def noCdataInTyped (l : Lang) (ty : Bool) : Node → Bool
  | .elt nm _ kids => noCdataInTypedL l (kidsTy l ty nm) kids
  | .text _ => true
  | .cdata kids => !ty && noCdataInTypedL l ty kids
  | .tree _ _ _ => !ty
def noCdataInTypedL (l : Lang) (ty : Bool) : List Node → Bool
  | [] => true
  | n :: rest => noCdataInTyped l ty n && noCdataInTypedL l ty rest
end

theorem noCdataInTypedL_iff (l : Lang) (ty : Bool) : ∀ (L : List Node),
    noCdataInTypedL l ty L = true ↔ ∀ k ∈ L, noCdataInTyped l ty k = true
  | [] => by rw [noCdataInTypedL]; simp
  | k :: r => by rw [noCdataInTypedL, Bool.and_eq_true, noCdataInTypedL_iff l ty r]; simp

mutual
/-- Finding `invalid-datetime-attribute-accepted`, for every attribute of the tree. -/
def validDatetimeAttrs (l : Lang) : Node → Bool
  | .elt _ attrs kids => attrs.all (dtAttrOk l) && validDatetimeAttrsL l kids
  | .text _ => true
  | .cdata kids => validDatetimeAttrsL l kids
  | .tree _ _ _ => true
def validDatetimeAttrsL (l : Lang) : List Node → Bool
  | [] => true
  | n :: rest => validDatetimeAttrs l n && validDatetimeAttrsL l rest
end

theorem validDatetimeAttrsL_iff (l : Lang) : ∀ (L : List Node),
    validDatetimeAttrsL l L = true ↔ ∀ k ∈ L, validDatetimeAttrs l k = true
  | [] => by rw [validDatetimeAttrsL]; simp
  | k :: r => by rw [validDatetimeAttrsL, Bool.and_eq_true, validDatetimeAttrsL_iff l r]; simp

mutual
/-- D5: every text the encoder sends as base64-decoded OPAQUE (text under DRMREL `ds:KeyValue`, the
    `VALUE` of an OTA `PARM NAME="ICON"`) decodes to at least one octet. `parent` = name of the
    enclosing element. -/
def b64TextDecodes (c : WCfg) (parent : Option Name) : Node → Bool
  | .elt nm attrs kids => attrs.all (iconAttrOk c.lang (some attrs)) && b64TextDecodesL c (some nm) kids
  | .text s => !(kvPar c.lang parent) || textSilent c s || b64NonEmpty (textArg c s)
  | .cdata kids => b64TextDecodesL c none kids
  | .tree _ _ _ => true
def b64TextDecodesL (c : WCfg) (parent : Option Name) : List Node → Bool
  | [] => true
  | n :: rest => b64TextDecodes c parent n && b64TextDecodesL c parent rest
end

theorem b64TextDecodesL_iff (c : WCfg) (parent : Option Name) : ∀ (L : List Node),
    b64TextDecodesL c parent L = true ↔ ∀ k ∈ L, b64TextDecodes c parent k = true
  | [] => by rw [b64TextDecodesL]; simp
  | k :: r => by rw [b64TextDecodesL, Bool.and_eq_true, b64TextDecodesL_iff c parent r]; simp

def isTextN : Node → Bool
  | .text _ => true
  | _ => false

mutual
/-- Text of a DRMREL `ds:KeyValue` element precedes its child elements (`pre` = only text nodes so
    far): the encoder types the text by its parent, the parser by its `current_tag` slot, which an
    element end clears. -/
def keyValueTextFirst (c : WCfg) (parent : Option Name) (pre : Bool) : Node → Bool
  | .elt nm _ kids => keyValueTextFirstL c (some nm) true kids
  | .text s => !(kvPar c.lang parent) || pre || textSilent c s
  | .cdata kids => keyValueTextFirstL c none pre kids
  | .tree _ _ _ => true
def keyValueTextFirstL (c : WCfg) (parent : Option Name) (pre : Bool) : List Node → Bool
  | [] => true
  | n :: rest => keyValueTextFirst c parent pre n && keyValueTextFirstL c parent (pre && isTextN n) rest
end

/-- Table facts of the typed forms: no binary-flagged tag has a typed-content rule, and the OTA icon
    attribute start carries no value prefix. -/
def typedLangOk (l : Lang) : Bool :=
  (l.tags.getD []).all (fun r => r.opts &&& 1 == 0 || !typedRow l.id r) &&
  (l.attrs.getD []).all (fun r => !iconRow l.id r || (r.value.getD []).isEmpty)

theorem typedLangOk_icon {l : Lang} (h : typedLangOk l = true) {t} (ht : l.attrs = some t) {r} (hr : r ∈ t)
    (hi : iconRow l.id r = true) : r.value.getD [] = [] := by
  simp only [typedLangOk, ht, Option.getD_some, Bool.and_eq_true, List.all_eq_true] at h
  have := h.2 r hr
  simpa [hi] using this

theorem typedLangOk_binary {l : Lang} (h : typedLangOk l = true) {t} (ht : l.tags = some t) {r} (hr : r ∈ t)
    (hb : isBinaryTag (some r) = true) : typedRow l.id r = false := by
  simp only [typedLangOk, ht, Option.getD_some, Bool.and_eq_true, List.all_eq_true] at h
  have := h.1 r hr
  simp only [isBinaryTag, bne_iff_ne, ne_eq] at hb
  simp only [Bool.or_eq_true, beq_iff_eq, Bool.not_eq_true'] at this
  rcases this with h0 | h0
  · exact absurd h0 hb
  · exact h0

theorem iconRow_id (id : Nat) (r : AttrRow) (h : iconRow id r = true) : (id == 1901) = true := by
  simp only [iconRow, Bool.and_eq_true] at h; exact h.1.1

theorem iconRow_not_dt (id : Nat) (r r' : AttrRow) (h : iconRow id r = true) : dtRow id r' = false := by
  simp only [iconRow, Bool.and_eq_true, beq_iff_eq] at h
  simp [dtRow, h.1.1]

theorem kvPar_token (l : Lang) (parent : Option Name) (h : kvPar l parent = true) :
    ∃ r, parent = some (.token r) ∧ isKvRow l.id r = true := by
  cases parent with
  | none => cases h
  | some nm =>
    cases nm with
    | literal x => cases h
    | token r => exact ⟨r, rfl, h⟩

theorem kvPar_id (l : Lang) (parent : Option Name) (h : kvPar l parent = true) : l.id = 1801 := by
  obtain ⟨r, _, hr⟩ := kvPar_token l parent h
  simp only [isKvRow, Bool.and_eq_true, beq_iff_eq] at hr
  exact hr.1.1

/-- A binary-flagged `current_tag` has no typed-content rule, at any row with its page and token. -/
theorem typedOpt_binary {l : Lang} (h : typedLangOk l = true) {t} (ht : l.tags = some t) {r r' : TagRow} (hr : r ∈ t)
    (hb : isBinaryTag (some r) = true) (hp : r'.page = r.page) (hk : r'.token = r.token) :
    typedOpt l.id (some r') = false :=
  (typedRow_congr _ r r' hp hk).trans (typedLangOk_binary h ht hr hb)

/-- At a `ds:KeyValue` row the reader's typed-content rule is `decode_base64_value`. -/
theorem decodeOpaqueContent_kv (id : Nat) (r r' : TagRow) (h : isKvRow id r = true) (hp : r'.page = r.page)
    (hk : r'.token = r.token) (p : Bytes) : decodeOpaqueContent id (some r') p = decodeBase64Value p := by
  simp only [isKvRow, Bool.and_eq_true, beq_iff_eq] at h
  simp only [decodeOpaqueContent, h.1.1, isWv, Nat.reduceBEq, Bool.or_self, Bool.false_eq_true, ↓reduceIte,
    beq_self_eq_true, hp, hk, h.1.2, h.2, Bool.and_self]

end Wbxml.Lemmas.EncW
