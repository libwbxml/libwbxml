/-
  Round trip (C03): the WBXML tree builder over the events the specification assigns to an
  element (`Spec.evElem`) reconstructs the tree that can be read off the element by structural
  recursion (`nodeOfElem`): one element node per element, one text node per maximal run of
  non-empty character data (`addKid` merges adjacent character data), processing instructions
  dropped — provided `syncmlDataType` answers `normal` at every non-empty character-data event,
  with the frames as the builder has them at that moment (`dataOk*`, `run_*_d`). "No element is
  called `Data`" (`noDataEvents`) is a sufficient decidable condition (`dataOk_of_noData_*`,
  `run_doc`); the condition as a predicate on the tree being built is in `RtData.lean`.
-/
import Wbxml.Lemmas.RtExact
import Wbxml.Lemmas.ParserSafeBuild
import Wbxml.Lemmas.TreeBuildBasic
namespace Wbxml.Lemmas.Rt
open Wbxml Wbxml.Model Wbxml.Spec Wbxml.Lemmas.ParserSafe Wbxml.Lemmas.ParseSer

/-! ### `syncmlDataType` answers `normal` unless the innermost open element is called `Data` -/

def dataName : Bytes := b!"Data"

def noDataEvent : Event → Bool
  | .startElt n _ => !(n.xmlName == dataName)
  | _ => true

/-- "No element is called `Data`" in four forms. The builder compares the XML names of the open frames, so
    `build_reconstructs` needs it of the events (`noDataEvents`, XML names); `noDataToks` (`RtNf`) is the same
    on the view `toks`. `rt_preserves_partial` assumes it of the SOURCE tree (`noDataNode`, `cName`: the name
    the encoder writes, which the reader reports as XML name) and gets here through `noData_srcToks` and
    `noDataEvents_toks`. `noDataX` (`RtData`, XML names) is for a tree as read off a document:
    `dataIsNormal_of_noData`. -/
def noDataEvents (es : List Event) : Bool := es.all noDataEvent

theorem noDataEvents_cons (e : Event) (es : List Event) :
    noDataEvents (e :: es) = (noDataEvent e && noDataEvents es) := by simp [noDataEvents]
theorem noDataEvents_append (a b : List Event) : noDataEvents (a ++ b) = (noDataEvents a && noDataEvents b) := by
  simp [noDataEvents]

/-- Character data under this stack of open frames (innermost first) becomes an ordinary text
    node. -/
def normalAt (stack : List Frame) : Bool := syncmlDataType stack == .normal

theorem normalAt_iff (stack : List Frame) : normalAt stack = true ↔ syncmlDataType stack = .normal := by
  unfold normalAt; exact beq_iff_eq

mutual
/-- At every non-empty character-data event of the element, with the frames as the builder has
    them at that moment (`below` = the open frames under the element), `syncmlDataType` answers
    `normal`. -/
def dataOkElem (c : Ctx) (pg : Pages) (below : List Frame) : Elem → Bool
  | .mk sw tag attrs content =>
    dataOkContent c (tagName c (swPage sw pg.tag) tag).2 ⟨swPage sw pg.tag, (evAttrs c pg.attr attrs).2⟩
      (.elt (tagName c (swPage sw pg.tag) tag).1 (evAttrs c pg.attr attrs).1) below content []
def dataOkContent (c : Ctx) (own : Option TagRow) (pg : Pages) (k : FrameKind) (below : List Frame) :
    Option (List Item) → List Node → Bool
  | none, _ => true
  | some items, acc => dataOkItems c own pg k below items acc
def dataOkItems (c : Ctx) (own : Option TagRow) (pg : Pages) (k : FrameKind) (below : List Frame) :
    List Item → List Node → Bool
  | [], _ => true
  | it :: rest, acc =>
    dataOkItem c own pg k below it acc &&
      dataOkItems c own (evItem c own pg it).2 k below rest (kidOfItem c own pg it acc)
def dataOkItem (c : Ctx) (own : Option TagRow) (pg : Pages) (k : FrameKind) (below : List Frame) :
    Item → List Node → Bool
  | .elem e, acc => dataOkElem c pg ({ kind := k, kids := acc } :: below) e
  | .str s, acc => (strText c s).isEmpty || normalAt ({ kind := k, kids := acc } :: below)
  | .entity code, acc => (entityText code).isEmpty || normalAt ({ kind := k, kids := acc } :: below)
  | .opaque d, acc => ((opaqueText c own d).getD []).isEmpty || normalAt ({ kind := k, kids := acc } :: below)
  | .ext _ x, acc => ((extText c x).getD []).isEmpty || normalAt ({ kind := k, kids := acc } :: below)
  | .pi _, _ => true
end

theorem dataOkElem_mk (c : Ctx) (pg : Pages) (below) (sw tag attrs content) :
    dataOkElem c pg below (.mk sw tag attrs content) =
      dataOkContent c (tagName c (swPage sw pg.tag) tag).2 ⟨swPage sw pg.tag, (evAttrs c pg.attr attrs).2⟩
        (.elt (tagName c (swPage sw pg.tag) tag).1 (evAttrs c pg.attr attrs).1) below content [] := by
  rw [dataOkElem]
theorem dataOkContent_none (c own pg k below acc) : dataOkContent c own pg k below none acc = true := by
  rw [dataOkContent]
theorem dataOkContent_some (c own pg k below items acc) :
    dataOkContent c own pg k below (some items) acc = dataOkItems c own pg k below items acc := by rw [dataOkContent]
theorem dataOkItems_nil (c own pg k below acc) : dataOkItems c own pg k below [] acc = true := by rw [dataOkItems]
theorem dataOkItems_cons (c own pg k below it rest acc) : dataOkItems c own pg k below (it :: rest) acc =
    (dataOkItem c own pg k below it acc &&
      dataOkItems c own (evItem c own pg it).2 k below rest (kidOfItem c own pg it acc)) := by rw [dataOkItems]
theorem dataOkItem_elem (c own pg k below e acc) :
    dataOkItem c own pg k below (.elem e) acc = dataOkElem c pg ({ kind := k, kids := acc } :: below) e := by
  rw [dataOkItem]
theorem dataOkItem_str (c own pg k below s acc) : dataOkItem c own pg k below (.str s) acc =
    ((strText c s).isEmpty || normalAt ({ kind := k, kids := acc } :: below)) := by rw [dataOkItem]
theorem dataOkItem_entity (c own pg k below code acc) : dataOkItem c own pg k below (.entity code) acc =
    ((entityText code).isEmpty || normalAt ({ kind := k, kids := acc } :: below)) := by rw [dataOkItem]
theorem dataOkItem_opaque (c own pg k below d acc) : dataOkItem c own pg k below (.opaque d) acc =
    (((opaqueText c own d).getD []).isEmpty || normalAt ({ kind := k, kids := acc } :: below)) := by rw [dataOkItem]
theorem dataOkItem_ext (c own pg k below sw x acc) : dataOkItem c own pg k below (.ext sw x) acc =
    (((extText c x).getD []).isEmpty || normalAt ({ kind := k, kids := acc } :: below)) := by rw [dataOkItem]

/-- A leaf item (string, entity, opaque data, extension) is one run of character data `t`: its
    events, the child it adds and the condition it has to meet. -/
theorem leafItem_view (c : Ctx) (own : Option TagRow) (pg : Pages) (k : FrameKind) (below : List Frame) (it : Item)
    (h : leafItem it = true) (acc : List Node) :
    ∃ t, (evItem c own pg it).1 = charsEv t ∧ kidOfItem c own pg it acc = addChars acc t ∧
      dataOkItem c own pg k below it acc = (t.isEmpty || normalAt ({ kind := k, kids := acc } :: below)) := by
  cases it with
  | elem e => cases h
  | pi a => cases h
  | str s => exact ⟨_, by rw [evItem_str], kidOfItem_str .., dataOkItem_str ..⟩
  | entity code => exact ⟨_, by rw [evItem_entity], kidOfItem_entity .., dataOkItem_entity ..⟩
  | «opaque» x => exact ⟨_, by rw [evItem_opaque], kidOfItem_opaque .., dataOkItem_opaque ..⟩
  | ext sw x => exact ⟨_, by rw [evItem_ext], kidOfItem_ext .., dataOkItem_ext ..⟩

variable (main : List Lang) (emb : Nat → Bytes → Option Tree)

theorem step_start_top {b : BState} (herr : b.error = none) (hroot : b.stack = [] → b.root = none)
    (htop : ∀ f rest, b.stack = f :: rest → IsElt f) (n : Name) (a : List Attr) :
    buildStep main emb b (.startElt n a) = { b with stack := { kind := .elt n a, kids := [] } :: b.stack } := by
  have hl : b.leaveCdata = b := by
    cases hs : b.stack with
    | nil => unfold BState.leaveCdata; rw [hs]
    | cons f rest => exact leaveCdata_elt hs (htop f rest hs)
  rw [TreeBuild.buildStep_startElt main emb herr (fun hr => absurd (hroot hr.1) hr.2), hl]
  rfl

theorem setTop_self {b : BState} {f : Frame} {rest : List Frame} (hs : b.stack = f :: rest) :
    ({ b with stack := { f with kids := f.kids } :: rest } : BState) = b := by
  cases b; simp only at hs; subst hs; rfl

theorem step_chars_normal {b : BState} {f : Frame} {rest : List Frame}
    (herr : b.error = none) (hs : b.stack = f :: rest) (hty : syncmlDataType b.stack = .normal) (s : Bytes) :
    buildStep main emb b (.chars s) = { b with stack := { f with kids := addKid f.kids (.text s) } :: rest } := by
  have hstep := TreeBuild.buildStep_step main emb b (.chars s)
  generalize buildStep main emb b (.chars s) = b' at hstep
  cases hstep with
  | stay _ h => rcases h with h | h | ⟨_, _, h⟩ <;> first | exact absurd herr h | cases h
  | fail _ _ hr => exact hr.elim
  | chars _ n _ _ hn =>
    rcases hn with ⟨rfl, _⟩ | ⟨hw, _⟩
    · exact attach_cons hs _
    · rw [hty] at hw; cases hw
  | cdata _ _ ho => rw [TreeBuild.OpensCdata, hty] at ho; cases ho.1

theorem step_charsEv_d {b : BState} {f : Frame} {rest : List Frame}
    (herr : b.error = none) (hs : b.stack = f :: rest) (s : Bytes)
    (hN : (s.isEmpty || normalAt (f :: rest)) = true) :
    (charsEv s).foldl (buildStep main emb) b = { b with stack := { f with kids := addChars f.kids s } :: rest } := by
  unfold charsEv addChars
  split
  · rw [List.foldl_nil]; exact (setTop_self hs).symm
  · rename_i hne
    have hn : normalAt (f :: rest) = true := by
      cases he : s.isEmpty with
      | true => exact absurd he hne
      | false => rw [he] at hN; simpa using hN
    rw [List.foldl_cons, List.foldl_nil,
      step_chars_normal main emb herr hs (by rw [hs]; exact (normalAt_iff _).mp hn)]

mutual
theorem run_elem_d (c : Ctx) : ∀ (e : Elem) (pg : Pages) (b : BState), b.error = none →
    (b.stack = [] → b.root = none) → (∀ f rest, b.stack = f :: rest → IsElt f) →
    dataOkElem c pg b.stack e = true →
    (evElem c pg e).1.foldl (buildStep main emb) b = b.attach (nodeOfElem c pg e)
  | .mk sw tag attrs content, pg, b, herr, hroot, htop, hd => by
    rw [dataOkElem_mk] at hd
    rw [evElem_mk, nodeOfElem_mk]
    rw [List.foldl_cons, List.foldl_append, step_start_top main emb herr hroot htop,
      run_content_d c content _ _
        ({ b with stack := { kind := .elt (tagName c (swPage sw pg.tag) tag).1 (evAttrs c pg.attr attrs).1,
                             kids := [] } :: b.stack } : BState)
        _ b.stack herr rfl ⟨_, _, rfl⟩ hd, List.foldl_cons, List.foldl_nil,
      step_endElt_elt main emb (b := { b with stack := _ :: b.stack }) herr rfl ⟨_, _, rfl⟩]
    rfl
theorem run_content_d (c : Ctx) : ∀ (content : Option (List Item)) (own : Option TagRow) (pg : Pages)
    (b : BState) (f : Frame) (rest : List Frame), b.error = none → b.stack = f :: rest → IsElt f →
    dataOkContent c own pg f.kind rest content f.kids = true →
    (evContent c own pg content).1.foldl (buildStep main emb) b =
      { b with stack := { f with kids := kidsOfContent c own pg content f.kids } :: rest }
  | none, own, pg, b, f, rest, herr, hs, hk, hd => by
    rw [evContent_none, kidsOfContent_none, List.foldl_nil, setTop_self hs]
  | some items, own, pg, b, f, rest, herr, hs, hk, hd => by
    rw [dataOkContent_some] at hd
    rw [evContent_some, kidsOfContent_some]
    exact run_items_d c items own pg b f rest herr hs hk hd
theorem run_items_d (c : Ctx) : ∀ (items : List Item) (own : Option TagRow) (pg : Pages)
    (b : BState) (f : Frame) (rest : List Frame), b.error = none → b.stack = f :: rest → IsElt f →
    dataOkItems c own pg f.kind rest items f.kids = true →
    (evItems c own pg items).1.foldl (buildStep main emb) b =
      { b with stack := { f with kids := kidsOfItems c own pg items f.kids } :: rest }
  | [], own, pg, b, f, rest, herr, hs, hk, hd => by
    rw [evItems_nil, kidsOfItems_nil, List.foldl_nil, setTop_self hs]
  | it :: more, own, pg, b, f, rest, herr, hs, hk, hd => by
    rw [dataOkItems_cons, Bool.and_eq_true] at hd
    rw [evItems_cons]
    rw [List.foldl_append, run_item_d c it own pg b f rest herr hs hk hd.1,
      run_items_d c more own _
        ({ b with stack := { f with kids := kidOfItem c own pg it f.kids } :: rest } : BState)
        { f with kids := kidOfItem c own pg it f.kids } rest herr rfl hk hd.2,
      kidsOfItems_cons]
theorem run_item_d (c : Ctx) : ∀ (it : Item) (own : Option TagRow) (pg : Pages)
    (b : BState) (f : Frame) (rest : List Frame), b.error = none → b.stack = f :: rest → IsElt f →
    dataOkItem c own pg f.kind rest it f.kids = true →
    (evItem c own pg it).1.foldl (buildStep main emb) b =
      { b with stack := { f with kids := kidOfItem c own pg it f.kids } :: rest }
  | it, own, pg, b, f, rest, herr, hs, hk, hd => by
    by_cases hl : leafItem it = true
    · obtain ⟨t, he, hkid, hd'⟩ := leafItem_view c own pg f.kind rest it hl f.kids
      rw [hd'] at hd
      rw [he, hkid]
      exact step_charsEv_d main emb herr hs _ hd
    · cases it with
      | elem e =>
        rw [dataOkItem_elem] at hd
        rw [evItem_elem, kidOfItem_elem, run_elem_d c e pg b herr (fun h => by rw [hs] at h; cases h)
          (fun f' rest' h => by rw [hs] at h; cases h; exact hk) (by rw [hs]; exact hd), attach_cons hs]
      | pi p =>
        rw [evItem_pi, kidOfItem_pi]
        simp only [List.foldl_cons, List.foldl_nil]
        unfold evPi
        rw [step_pi, setTop_self hs]
      | _ => exact absurd rfl hl
end

mutual
theorem dataOk_of_noData_elem (c : Ctx) : ∀ (e : Elem) (pg : Pages) (below : List Frame),
    noDataEvents (evElem c pg e).1 = true → dataOkElem c pg below e = true
  | .mk sw tag attrs content, pg, below, hnd => by
    rw [evElem_mk] at hnd
    simp only [noDataEvents_cons, noDataEvents_append, Bool.and_eq_true, noDataEvent, Bool.not_eq_true'] at hnd
    rw [dataOkElem_mk]
    exact dataOk_of_noData_content c content _ _ _ _ below [] hnd.1 hnd.2.1
theorem dataOk_of_noData_content (c : Ctx) : ∀ (content : Option (List Item)) (own : Option TagRow) (pg : Pages)
    (n : Name) (a : List Attr) (below : List Frame) (acc : List Node), (n.xmlName == dataName) = false →
    noDataEvents (evContent c own pg content).1 = true → dataOkContent c own pg (.elt n a) below content acc = true
  | none, own, pg, n, a, below, acc, _, _ => dataOkContent_none ..
  | some items, own, pg, n, a, below, acc, hn, hnd => by
    rw [evContent_some] at hnd
    rw [dataOkContent_some]
    exact dataOk_of_noData_items c items own pg n a below acc hn hnd
theorem dataOk_of_noData_items (c : Ctx) : ∀ (items : List Item) (own : Option TagRow) (pg : Pages)
    (n : Name) (a : List Attr) (below : List Frame) (acc : List Node), (n.xmlName == dataName) = false →
    noDataEvents (evItems c own pg items).1 = true → dataOkItems c own pg (.elt n a) below items acc = true
  | [], own, pg, n, a, below, acc, _, _ => dataOkItems_nil ..
  | it :: more, own, pg, n, a, below, acc, hn, hnd => by
    rw [evItems_cons] at hnd
    simp only [noDataEvents_append, Bool.and_eq_true] at hnd
    rw [dataOkItems_cons, Bool.and_eq_true]
    exact ⟨dataOk_of_noData_item c it own pg n a below acc hn hnd.1,
      dataOk_of_noData_items c more own _ n a below _ hn hnd.2⟩
theorem dataOk_of_noData_item (c : Ctx) : ∀ (it : Item) (own : Option TagRow) (pg : Pages)
    (n : Name) (a : List Attr) (below : List Frame) (acc : List Node), (n.xmlName == dataName) = false →
    noDataEvents (evItem c own pg it).1 = true → dataOkItem c own pg (.elt n a) below it acc = true
  | it, own, pg, n, a, below, acc, hn, hnd => by
    by_cases hl : leafItem it = true
    · obtain ⟨t, _, _, hd⟩ := leafItem_view c own pg (.elt n a) below it hl acc
      rw [hd, (normalAt_iff _).mpr (TreeBuild.syncml_normal_elt rfl hn), Bool.or_true]
    · cases it with
      | elem e =>
        rw [evItem_elem] at hnd
        rw [dataOkItem_elem]
        exact dataOk_of_noData_elem c e pg _ hnd
      | pi p => rw [dataOkItem]
      | _ => exact absurd rfl hl
end

theorem run_content (c : Ctx) : ∀ (content : Option (List Item)) (own : Option TagRow) (pg : Pages)
    (b : BState) (f : Frame) (rest : List Frame) (n : Name) (a : List Attr), b.error = none → b.stack = f :: rest →
    f.kind = .elt n a → (n.xmlName == dataName) = false → noDataEvents (evContent c own pg content).1 = true →
    (evContent c own pg content).1.foldl (buildStep main emb) b =
      { b with stack := { f with kids := kidsOfContent c own pg content f.kids } :: rest } :=
  fun content own pg b f rest n a herr hs hk hn hnd => run_content_d main emb c content own pg b f rest herr hs ⟨n, a, hk⟩
    (by rw [hk]; exact dataOk_of_noData_content c content own pg n a rest f.kids hn hnd)

theorem run_items (c : Ctx) : ∀ (items : List Item) (own : Option TagRow) (pg : Pages)
    (b : BState) (f : Frame) (rest : List Frame) (n : Name) (a : List Attr), b.error = none → b.stack = f :: rest →
    f.kind = .elt n a → (n.xmlName == dataName) = false → noDataEvents (evItems c own pg items).1 = true →
    (evItems c own pg items).1.foldl (buildStep main emb) b =
      { b with stack := { f with kids := kidsOfItems c own pg items f.kids } :: rest } :=
  fun items own pg b f rest n a herr hs hk hn hnd => run_items_d main emb c items own pg b f rest herr hs ⟨n, a, hk⟩
    (by rw [hk]; exact dataOk_of_noData_items c items own pg n a rest f.kids hn hnd)

theorem run_item (c : Ctx) : ∀ (it : Item) (own : Option TagRow) (pg : Pages)
    (b : BState) (f : Frame) (rest : List Frame) (n : Name) (a : List Attr), b.error = none → b.stack = f :: rest →
    f.kind = .elt n a → (n.xmlName == dataName) = false → noDataEvents (evItem c own pg it).1 = true →
    (evItem c own pg it).1.foldl (buildStep main emb) b =
      { b with stack := { f with kids := kidOfItem c own pg it f.kids } :: rest } :=
  fun it own pg b f rest n a herr hs hk hn hnd => run_item_d main emb c it own pg b f rest herr hs ⟨n, a, hk⟩
    (by rw [hk]; exact dataOk_of_noData_item c it own pg n a rest f.kids hn hnd)

theorem evPis_onlyPi (c : Ctx) : ∀ (ps : List Attribute) (ap : Nat), ∀ e ∈ (evPis c ap ps).1, ∃ t d, e = Event.pi t d
  | [], ap, e, he => by simp [evPis] at he
  | p :: ps, ap, e, he => by
    simp only [evPis, List.mem_cons] at he
    rcases he with he | he
    · exact ⟨_, _, by rw [he]; rfl⟩
    · exact evPis_onlyPi c ps _ e he

theorem step_endDoc (b : BState) : buildStep main emb b .endDoc = b := by
  have hstep := TreeBuild.buildStep_step main emb b .endDoc
  generalize buildStep main emb b .endDoc = b' at hstep
  cases hstep with
  | stay => rfl
  | fail _ _ hr => exact hr.elim

/-- The root node the specification's reading of a document stands for. -/
def rootOfDoc (cfg : PCfg) (d : Doc) (l : Lang) : Node :=
  nodeOfElem (headerCtx cfg d.hdr l) ⟨0, (evPis (headerCtx cfg d.hdr l) 0 d.pre).2⟩ d.root

/-- The tree read off a document of the grammar by structural recursion (`none` when the header
    selects no language: the specification assigns no events then). -/
def treeOfEventsSpec (main : List Lang) (cfg : PCfg) (d : Doc) : Option Tree :=
  match headerLang cfg d.hdr with
  | none => none
  | some l => some { lang := main.find? (fun x => x.id == l.id), origCharset := headerCharset cfg d.hdr,
                     root := some (rootOfDoc cfg d l) }

def dataOkDoc (cfg : PCfg) (d : Doc) : Bool :=
  match headerLang cfg d.hdr with
  | some l => dataOkElem (headerCtx cfg d.hdr l) ⟨0, (evPis (headerCtx cfg d.hdr l) 0 d.pre).2⟩ [] d.root
  | none => true

theorem run_doc_d (cfg : PCfg) (d : Doc) (l : Lang) (hl : headerLang cfg d.hdr = some l)
    (hd : dataOkDoc cfg d = true) :
    (Spec.events cfg d).foldl (buildStep main emb) {} =
      { stack := [], root := some (rootOfDoc cfg d l), lang := main.find? (fun x => x.id == l.id),
        charset := headerCharset cfg d.hdr, error := none } := by
  unfold dataOkDoc at hd
  rw [hl] at hd
  unfold Spec.events
  rw [hl]
  have e0 : buildStep main emb {} (Event.startDoc (headerCtx cfg d.hdr l).charset l.id) =
      { charset := headerCharset cfg d.hdr, lang := main.find? (fun x => x.id == l.id) } := rfl
  rw [List.foldl_cons, e0, List.foldl_append, run_onlyPi main emb (evPis_onlyPi _ _ _), List.foldl_append,
    run_elem_d main emb _ d.root _ _ rfl (fun _ => rfl) (fun f rest h => by cases h) hd,
    List.foldl_append, run_onlyPi main emb (evPis_onlyPi _ _ _), List.foldl_cons, List.foldl_nil, step_endDoc]
  rfl

theorem run_doc (cfg : PCfg) (d : Doc) (l : Lang) (hl : headerLang cfg d.hdr = some l)
    (hnd : noDataEvents (Spec.events cfg d) = true) :
    (Spec.events cfg d).foldl (buildStep main emb) {} =
      { stack := [], root := some (rootOfDoc cfg d l), lang := main.find? (fun x => x.id == l.id),
        charset := headerCharset cfg d.hdr, error := none } := by
  refine run_doc_d main emb cfg d l hl ?_
  unfold Spec.events at hnd
  unfold dataOkDoc
  rw [hl] at hnd ⊢
  simp only [noDataEvents_cons, noDataEvents_append, Bool.and_eq_true] at hnd
  exact dataOk_of_noData_elem _ d.root _ [] hnd.2.2.1

end Wbxml.Lemmas.Rt
