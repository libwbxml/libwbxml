/-
  Parser safety: the tree stage and the XML generation stage of `wbxml2xml` (`Model/EncXml.lean`) as far as
  totality is concerned.

  * Tree stage: the only error the builder ever sets is `E.internal` (`buildStep_error`, `run_error`), so `treeOfWbxml` ends in a
    tree or a non-zero code (`treeOfWbxml_safe`).
  * The printer's fuel test `okNode`: monotone in the fuel (`ok_mono`); it holds at the structural budget
    `n.xmlFuel` of every node whose embedded documents with a language have a root (`rootedN`;
    `okNode_xmlFuel`), and it holds at no fuel of any other node (`rooted_of_ok`). So `∃ f, okNode f n` and
    `rootedN n` say the same (`exists_ok_iff_rooted`).
  * XML stage: on a rooted node the printer fails with a non-zero code or, where `okNode` refuses, for want of
    fuel (`xmlNode_rooted_error`, `treeToXml_rooted_error`); with `okNode` it is total (`treeToXml_safe`).
  * `wbxml2xml_anatomy`: error 12 on empty input, else the tree stage's code, else the XML stage on its tree.
-/
import Wbxml.Lemmas.ParserSafeLoops
import Wbxml.Lemmas.EncXmlToks
import Wbxml.Lemmas.TreeBuildBasic
namespace Wbxml.Lemmas.ParserSafe
open Wbxml Wbxml.Model Wbxml.Lemmas.TreeBuild

/-! The tree builder's only error code is 13 (`WBXML_ERROR_INTERNAL`): `buildStep_error`, `run_error`. -/

theorem attach_error (b : BState) (n : Node) :
    (b.attach n).error = b.error ∨ (b.attach n).error = some E.internal := by
  unfold BState.attach
  split
  · exact .inl rfl        -- a frame is open: the node goes to its kids
  · split
    · exact .inl rfl      -- the root slot is empty
    · exact .inr rfl      -- a second root

theorem leaveCdata_root (b : BState) : b.leaveCdata.root = b.root := by
  unfold BState.leaveCdata
  repeat' split
  all_goals rfl

theorem pop_error (b : BState) : (pop b).error = b.error ∨ (pop b).error = some E.internal := by
  unfold pop; split
  · exact attach_error _ _
  · exact .inl rfl

theorem leaveCdata_error (b : BState) : b.leaveCdata.error = b.error := by
  rcases leaveCdata_cases b with h | ⟨f, g, rest, hs, _, h⟩ <;> rw [h]
  simp only [pop, hs, BState.attach]

theorem buildStep_error (main : List Lang) (emb : Nat → Bytes → Option Tree) (b : BState) (e : Event) :
    (buildStep main emb b e).error = b.error ∨ (buildStep main emb b e).error = some E.internal := by
  have hs := buildStep_step main emb b e
  generalize buildStep main emb b e = b' at hs ⊢
  cases hs with
  | stay | doc => exact .inl rfl
  | start => exact .inl (leaveCdata_error b)
  | fail => exact .inr rfl
  | end_ => rw [← leaveCdata_error b]; exact pop_error _
  | chars | cdata => exact attach_error _ _

theorem run_error (main : List Lang) (emb : Nat → Bytes → Option Tree) (es : List Event) (b : BState)
    (h : b.error = none ∨ b.error = some E.internal) :
    (es.foldl (buildStep main emb) b).error = none ∨ (es.foldl (buildStep main emb) b).error = some E.internal :=
  List.foldlRecOn (motive := fun b' => b'.error = none ∨ b'.error = some E.internal) es _ h fun b hb e _ =>
    (buildStep_error main emb b e).elim (fun h1 => h1 ▸ hb) .inr

/-- `wbxml_tree_from_wbxml` with at least one unit of fuel returns a tree or an error code: the
    verdict is the parser's, or the tree builder's error code. -/
theorem treeOfWbxml_safe (main : List Lang) (f lang cs : Nat) (bs : Bytes) :
    Safe (treeOfWbxml main (f + 1) lang cs bs) := by
  rw [treeOfWbxml]
  have hp := parse_result_ok { main := main, langForced := lang, metaCharset := cs } bs
  split
  · rename_i e he
    rw [he] at hp
    cases e <;> first | exact hp | exact True.intro
  · split
    · rename_i e he
      rcases run_error main _ _ {} (Or.inl rfl) with h | h
      · rw [h] at he; cases he
      · rw [h] at he; cases he; simp
    · simp

theorem treeOfWbxml_of_parse_error (main : List Lang) (f lang cs : Nat) (bs : Bytes) (e : Err)
    (h : (parse { main := main, langForced := lang, metaCharset := cs } bs).result = .error e) :
    treeOfWbxml main (f + 1) lang cs bs = .error e := by
  rw [treeOfWbxml]
  simp only [h]

theorem ok_mono : ∀ (f : Nat),
    (∀ (n : Node) (f' : Nat), f ≤ f' → okNode f n = true → okNode f' n = true) ∧
    (∀ (ns : List Node) (f' : Nat), f ≤ f' → okList f ns = true → okList f' ns = true)
  | 0 => ⟨fun _ _ _ h => by simp [okNode] at h, fun _ _ _ h => by simp [okList] at h⟩
  | f + 1 => by
    obtain ⟨ihN, ihL⟩ := ok_mono f
    constructor
    · intro n f' hf h
      cases f' with
      | zero => omega
      | succ f' =>
        have hf' : f ≤ f' := by omega
        cases n with
        | elt name attrs kids => simp only [okNode] at h ⊢; exact ihL kids f' hf' h
        | text s => rfl
        | cdata kids => simp only [okNode] at h ⊢; exact ihL kids f' hf' h
        | tree lang cs root =>
          cases lang with
          | none => rfl
          | some l =>
            cases root with
            | none => simp [okNode] at h
            | some r => simp only [okNode] at h ⊢; exact ihN r f' hf' h
    · intro ns f' hf h
      cases f' with
      | zero => omega
      | succ f' =>
        have hf' : f ≤ f' := by omega
        cases ns with
        | nil => rfl
        | cons n rest =>
          simp only [okList, Bool.and_eq_true] at h ⊢
          exact ⟨ihN n f' hf' h.1, ihL rest f' hf' h.2⟩

/-! The structural budget `Node.xmlFuel` (`Model/EncXml.lean`) is exactly what `okNode` asks for: the
    only way `okNode n.xmlFuel n` can fail is the shape defect (an embedded document with a language
    and no root), which no amount of fuel repairs. -/
mutual
/-- **The structural budget suffices**: for every node without the shape defect, `okNode` holds at
    `n.xmlFuel`. -/
theorem okNode_xmlFuel : ∀ (n : Node), rootedN n = true → okNode n.xmlFuel n = true
  | .elt _ _ kids, h => by
    simp only [rootedN] at h; simp only [Node.xmlFuel, okNode]; exact okList_xmlFuelL kids h
  | .text _, _ => rfl
  | .cdata kids, h => by
    simp only [rootedN] at h; simp only [Node.xmlFuel, okNode]; exact okList_xmlFuelL kids h
  | .tree none _ none, _ => rfl
  | .tree none _ (some _), _ => by simp only [Node.xmlFuel, okNode]
  | .tree (some _) _ none, h => by simp [rootedN] at h
  | .tree (some _) _ (some r), h => by
    simp only [rootedN] at h; simp only [Node.xmlFuel, okNode]; exact okNode_xmlFuel r h
theorem okList_xmlFuelL : ∀ (ns : List Node), rootedL ns = true → okList (Node.xmlFuelL ns) ns = true
  | [], _ => rfl
  | n :: rest, h => by
    simp only [rootedL, Bool.and_eq_true] at h
    simp only [Node.xmlFuelL, okList, Bool.and_eq_true]
    exact ⟨(ok_mono _).1 n _ (Nat.le_max_left _ _) (okNode_xmlFuel n h.1),
           (ok_mono _).2 rest _ (Nat.le_max_right _ _) (okList_xmlFuelL rest h.2)⟩
end

theorem rooted_of_ok : ∀ (f : Nat),
    (∀ (n : Node), okNode f n = true → rootedN n = true) ∧
    (∀ (ns : List Node), okList f ns = true → rootedL ns = true)
  | 0 => ⟨fun _ h => by simp [okNode] at h, fun _ h => by simp [okList] at h⟩
  | f + 1 => by
    obtain ⟨ihN, ihL⟩ := rooted_of_ok f
    constructor
    · intro n h
      cases n with
      | elt name attrs kids => simp only [okNode] at h; simp only [rootedN]; exact ihL kids h
      | text s => rfl
      | cdata kids => simp only [okNode] at h; simp only [rootedN]; exact ihL kids h
      | tree lang cs root =>
        cases lang with
        | none => simp only [rootedN]
        | some l =>
          cases root with
          | none => simp [okNode] at h
          | some r => simp only [okNode] at h; simp only [rootedN]; exact ihN r h
    · intro ns h
      cases ns with
      | nil => rfl
      | cons n rest =>
        simp only [okList, Bool.and_eq_true] at h
        simp only [rootedL, Bool.and_eq_true]
        exact ⟨ihN n h.1, ihL rest h.2⟩

theorem okNode_xmlFuel_of_ok {f : Nat} {n : Node} (h : okNode f n = true) : okNode n.xmlFuel n = true :=
  okNode_xmlFuel n ((rooted_of_ok f).1 n h)

theorem okList_xmlFuelL_of_ok {f : Nat} {ns : List Node} (h : okList f ns = true) :
    okList (Node.xmlFuelL ns) ns = true :=
  okList_xmlFuelL ns ((rooted_of_ok f).2 ns h)

theorem exists_ok_iff_rooted (n : Node) : (∃ f, okNode f n = true) ↔ rootedN n = true :=
  ⟨fun ⟨f, h⟩ => (rooted_of_ok f).1 n h, fun h => ⟨_, okNode_xmlFuel n h⟩⟩

/-- The printer on a node without the shape defect fails with a non-zero error code, or for want of fuel where
    `okNode` refuses (`xmlNode_error` without its `ub` case). -/
theorem xmlNode_rooted_error {c : XCfg} {p : Parent} {f : Nat} {n : Node} {st : XSt} {e : Err} (hr : rootedN n = true)
    (h : xmlNode c p f n st = .error e) : (e = .fuel ∧ okNode f n = false) ∨ ∃ k, k ≠ 0 ∧ e = .code k := by
  rcases xmlNode_error h with ⟨h1, h2, _⟩ | h1 | h1 | ⟨_, h2⟩
  · exact .inl ⟨h1, h2⟩
  · exact .inr ⟨_, by decide, h1⟩
  · exact .inr ⟨_, by decide, h1⟩
  · rw [hr] at h2; cases h2

/-- `wbxml_tree_to_xml` on a tree without language, or whose root is without the shape defect: error 12
    aside, it fails as the printer fails on the root. -/
theorem treeToXml_rooted_error {cfg : W2XCfg} {fuel : Nat} {t : Tree} {e : Err}
    (hg : t.lang = none ∨ ∃ r, t.root = some r ∧ rootedN r = true) (h : treeToXml cfg fuel t = .error e) :
    (e = .fuel ∧ ∃ lang r, t.lang = some lang ∧ t.root = some r ∧ okNode fuel r = false) ∨ ∃ k, k ≠ 0 ∧ e = .code k := by
  rw [treeToXml_toks] at h
  cases hl : t.lang with
  | none => rw [hl] at h; cases h; exact .inr ⟨12, by decide, rfl⟩
  | some lang =>
    obtain ⟨r, hr, hroot⟩ := hg.resolve_left (by rw [hl]; simp)
    rw [hl, hr] at h
    have hx : xmlNode (cfg.xcfg lang) .none fuel r {} = .error e := by
      rw [xmlNode_toks]
      show (xtoks (cfg.xcfg lang).tk .none fuel r 0 false false none).map _ = _
      rw [map_eq_error h]; rfl
    exact (xmlNode_rooted_error hroot hx).imp_left fun ⟨h1, h2⟩ => ⟨h1, lang, r, rfl, hr, h2⟩

/-- `wbxml_tree_to_xml`: total on a tree without language (error 12) and on a tree whose root
    satisfies the shape condition. -/
theorem treeToXml_safe (cfg : W2XCfg) (fuel : Nat) (t : Tree)
    (h : t.lang = none ∨ ∃ r, t.root = some r ∧ okNode fuel r = true) : Safe (treeToXml cfg fuel t) := by
  cases hx : treeToXml cfg fuel t with
  | ok _ => trivial
  | error e =>
    rcases treeToXml_rooted_error (h.imp_right fun ⟨r, hr, hok⟩ => ⟨r, hr, (rooted_of_ok fuel).1 r hok⟩) hx
      with ⟨_, lang, r, hl, hr, hno⟩ | ⟨k, hk, rfl⟩
    · rcases h with h | ⟨r', hr', hok⟩
      · rw [hl] at h; cases h
      · rw [hr] at hr'; cases hr'; rw [hok] at hno; cases hno
    · exact hk

/-- The anatomy of `wbxml2xml`: empty input is error 12; otherwise the tree stage yields an error
    code or a tree, and the result is that of the XML stage on this tree. -/
theorem wbxml2xml_anatomy (cfg : W2XCfg) (bs : Bytes) :
    (bs = [] ∧ wbxml2xml cfg bs = .error (.code 12)) ∨
    (∃ c, c ≠ 0 ∧ treeOfWbxml cfg.main (bs.length + 1) cfg.lang cfg.charset bs = .error (.code c) ∧
        wbxml2xml cfg bs = .error (.code c)) ∨
    (∃ t, treeOfWbxml cfg.main (bs.length + 1) cfg.lang cfg.charset bs = .ok t ∧
        wbxml2xml cfg bs = treeToXml cfg t.xmlFuel t) := by
  unfold wbxml2xml
  cases bs with
  | nil => exact Or.inl ⟨rfl, rfl⟩
  | cons b r =>
    refine Or.inr ?_
    rcases (treeOfWbxml_safe cfg.main (b :: r).length cfg.lang cfg.charset (b :: r)).cases with
      ⟨t, ht, _⟩ | ⟨c, hc, hc0⟩
    · exact Or.inr ⟨t, ht, by rw [ht]; rfl⟩
    · exact Or.inl ⟨c, hc0, hc, by rw [hc]; rfl⟩

end Wbxml.Lemmas.ParserSafe
