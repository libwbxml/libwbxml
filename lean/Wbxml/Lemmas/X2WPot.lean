/-
  C02, bounds, encoder half, the leaves: what the emission primitives, the value splitters and the
  typed-content codecs may add to the potential of an encoder state,
  `wpot st = |output| + declared string-table length + |CDATA buffer|`.
  For the splitters one round of `splitPass` is written as a function of the element visited (`cutAt`,
  `splitPass_succ`, `cutAt_spec`): totality and the potential need what a round removes and adds, which
  `EncW.splitPass_spec` (what the result denotes) does not say.
-/
import Wbxml.Lemmas.TreeMeasure
import Wbxml.Model.EncWbxml
import Wbxml.Lemmas.EncWSplit
import Wbxml.Lemmas.EncWTyped

namespace Wbxml.Lemmas.X2W
open Wbxml Wbxml.Model
open Wbxml.Model.Codec (mbEncode b64DecodeE)
open Wbxml.Model.Typed (encodeDatetime encodeWvInt encodeWvDate wvEncKind WvKind WvItem)

def wpot (st : WSt) : Nat := st.out.length + st.strtblLen + contentLen st.cdata

theorem opaqueW_length (d : Bytes) : (opaqueW d).length ≤ 6 + d.length := by
  have := Codec.mbEncode_length_le d.length
  simp only [opaqueW, List.length_cons, List.length_append]
  omega

theorem inlineW_length (s : Bytes) : (inlineW s).length = s.length + 2 := by
  simp [inlineW]

theorem tablerefW_length (o : Nat) : (tablerefW o).length ≤ 6 := by
  have := Codec.mbEncode_length_le o
  simp only [tablerefW, List.length_cons]
  omega

theorem extW_length (t : Nat) : (extW t).length ≤ 6 := by
  have := Codec.mbEncode_length_le (t % 256)
  simp only [extW, List.length_cons]
  omega

theorem wpot_emit (st : WSt) (bs : Bytes) : wpot (st.emit bs) = wpot st + bs.length := by
  simp only [wpot, WSt.emit, List.length_append]
  omega

theorem attrTokenW_pot (t p : Nat) (st : WSt) : wpot (attrTokenW t p st) ≤ wpot st + 3 := by
  unfold attrTokenW
  split
  · simp only [wpot, WSt.emit, List.length_append, List.length_cons, List.length_nil]; omega
  · simp only [wpot, WSt.emit, List.length_append, List.length_cons, List.length_nil]; omega

theorem tagTokenW_pot (t p : Nat) (st : WSt) : wpot (tagTokenW t p st) ≤ wpot st + 3 := by
  unfold tagTokenW
  split
  · simp only [wpot, WSt.emit, List.length_append, List.length_cons, List.length_nil]; omega
  · simp only [wpot, WSt.emit, List.length_append, List.length_cons, List.length_nil]; omega

theorem strtblAdd_pot (st : WSt) (s : Bytes) (a : Option Nat) :
    wpot (strtblAdd st s a).1 ≤ wpot st + s.length + 1 := by
  unfold strtblAdd
  split
  · simp only; omega
  · simp only [wpot]; omega

/-- What a value element may still cost: a string of `n` octets at most `8 n + 2` (each cut removes
    an octet and adds a token of ≤ 6 octets and a string frame of 2), a token at most 6. -/
def vpot : VElt → Nat
  | .str s => 8 * s.length + 2
  | _ => 6

def vpotL : List VElt → Nat
  | [] => 0
  | e :: r => vpot e + vpotL r

theorem vpot_str (s : Bytes) : vpot (.str s) = 8 * s.length + 2 := rfl

theorem vpotL_append : ∀ (a b : List VElt), vpotL (a ++ b) = vpotL a + vpotL b
  | [], b => by simp [vpotL]
  | e :: a, b => by simp only [List.cons_append, vpotL, vpotL_append a b]; omega

theorem emitVElt_pot (st : WSt) (e : VElt) : wpot (emitVElt st e) ≤ wpot st + vpot e := by
  cases e with
  | str s =>
    simp only [emitVElt, vpot]
    split
    · rw [wpot_emit, inlineW_length]; omega
    · omega
  | ref o =>
    simp only [emitVElt, vpot]
    rw [wpot_emit]
    have := tablerefW_length o
    omega
  | ext r =>
    simp only [emitVElt, vpot]
    rw [wpot_emit]
    have := extW_length r.token
    omega
  | tok r =>
    simp only [emitVElt, vpot]
    have := attrTokenW_pot r.token r.page st
    omega

theorem emitVElts_pot : ∀ (l : List VElt) (st : WSt), wpot (emitVElts st l) ≤ wpot st + vpotL l
  | [], st => by simp [emitVElts, vpotL]
  | e :: r, st => by
    have h1 := emitVElt_pot st e
    have h2 := emitVElts_pot r (emitVElt st e)
    unfold emitVElts at h2 ⊢
    simp only [List.foldl_cons, vpotL]
    omega

/-- One round of the loop of `splitPass` on the element `e`: a string holding the needle is cut into the
    part before it and `mk` (which join the part passed) and, when octets remain behind the occurrence, a
    string with them (which the loop visits next). -/
def cutAt (needle : Bytes) (mk : VElt) : VElt → Option (List VElt × List VElt)
  | .str s =>
    (findSub needle s 0).map fun idx =>
      ([.str (s.take idx), mk], if idx + needle.length < s.length then [.str (s.drop (idx + needle.length))] else [])
  | _ => none

/-- One round of `splitPass` is `cutAt` on the element visited (the pointer step behind an occurrence stays inside
    the string, so the round does not fail). -/
theorem splitPass_succ (needle : Bytes) (mk : VElt) (f : Nat) (done : List VElt) (e : VElt) (rest : List VElt) :
    splitPass needle mk (f + 1) done (e :: rest) =
      match cutAt needle mk e with
      | none => splitPass needle mk f (done ++ [e]) rest
      | some (d, back) => splitPass needle mk f (done ++ d) (back ++ rest) := by
  cases e with
  | str s =>
    simp only [splitPass, cutAt]
    cases findSub needle s 0 with
    | none => rfl
    | some idx =>
      simp only [Option.map_some]
      split
      · rename_i hlt
        simp [ptrAdd, Nat.le_of_lt hlt, bind, Except.bind]
      · rfl
  | _ => rfl

/-- A cut removes the needle: what goes back to the list is lighter by its length, and for a non-empty
    needle and a token of at most 6 the pieces may cost no more than the string. -/
theorem cutAt_spec {needle : Bytes} {mk e : VElt} {d back : List VElt} (h : cutAt needle mk e = some (d, back)) :
    (back.map VElt.weight).sum + needle.length ≤ e.weight ∧
      (1 ≤ needle.length → vpot mk ≤ 6 → vpotL d + vpotL back ≤ vpot e) := by
  cases e with
  | str s =>
    simp only [cutAt, Option.map_eq_some_iff, Prod.mk.injEq] at h
    obtain ⟨idx, hfind, rfl, rfl⟩ := h
    obtain ⟨k, hk, hkl, _⟩ := Wbxml.Lemmas.EncW.findSub_spec needle s 0 idx hfind
    have ht : (s.take idx).length = idx := by rw [List.length_take]; omega
    constructor
    · split <;> simp only [List.map_cons, List.map_nil, List.sum_cons, List.sum_nil, VElt.weight, List.length_drop] <;> omega
    · intro hn hmk
      split <;> simp only [vpotL, vpot_str, ht, List.length_drop] <;> omega
  | _ => cases h

theorem extPass_pot (r : ExtRow) : ∀ (l : List VElt), vpotL (extPass r l) ≤ vpotL l
  | [] => by simp [extPass, vpotL]
  | e :: rest => by
    have ih := extPass_pot r rest
    unfold extPass at ih ⊢
    simp only [List.flatMap_cons, vpotL_append, vpotL]
    cases e with
    | str s =>
      simp only
      split
      · rename_i hc
        simp only [Bool.and_eq_true, decide_eq_true_eq, beq_iff_eq] at hc
        rw [hc.2]
        simp only [vpotL, vpot, List.length_nil]
        omega
      · simp only [vpotL]; omega
    | ext _ => simp only [vpotL]; omega
    | tok _ => simp only [vpotL]; omega
    | ref _ => simp only [vpotL]; omega

theorem splitByExts_pot : ∀ (exts : List ExtRow) (l : List VElt), vpotL (splitByExts exts l) ≤ vpotL l
  | [], l => by simp [splitByExts]
  | r :: rs, l => by
    have h1 := extPass_pot r l
    have h2 := splitByExts_pot rs (extPass r l)
    unfold splitByExts at h2 ⊢
    simp only [List.foldl_cons]
    omega

theorem opaqueItem_length (p : Bytes) : (Typed.opaqueItem p).length ≤ 6 + p.length := by
  have e : ∀ k v acc, Typed.mbLoop k v acc = (Digits.digitsBE 128 k v).map (fun d => UInt8.ofNat (0x80 + d)) ++ acc :=
    Digits.loop_eq_digits (fun _ _ => rfl) (fun _ _ _ => rfl)
  have := Digits.digitsBE_length_le 128 4 (p.length / 128)
  simp only [Typed.opaqueItem, Typed.mbEnc, e, List.length_cons, List.length_append, List.length_map, List.length_nil]
  omega

/-- SI / EMN `%Datetime`: an OPAQUE of at most half the digits. -/
theorem encodeDatetime_length (s item : Bytes) (h : encodeDatetime s = .ok item) : item.length ≤ 6 + s.length := by
  unfold encodeDatetime Typed.datetimePayload at h
  cases hd : Typed.dtFilter s with
  | error e => rw [hd] at h; cases h
  | ok d =>
    rw [hd] at h
    simp only [Except.map] at h
    injection h with h
    subst h
    have h1 := EncW.dtFilter_length s d hd
    have h2 := EncW.hexPairs_length d
    have h3 := EncW.stripZeros_length (Typed.hexPairs d)
    have h4 := opaqueItem_length (Typed.stripZeros (Typed.hexPairs d))
    omega

/-- Wireless-Village integer: an OPAQUE of at most four octets. -/
theorem encodeWvInt_length (s item : Bytes) (h : encodeWvInt s = .ok (some item)) : item.length ≤ 10 := by
  unfold encodeWvInt at h
  split at h
  · cases h
  · rename_i v _
    split at h
    · cases h
    · injection h with h
      injection h with h
      subst h
      have h1 := Digits.digitsBE_length_le 256 4 v
      have h2 := opaqueItem_length (Typed.wvIntOctets v)
      rw [Typed.wvIntOctets, Lemmas.Typed.beLoop_eq, List.append_nil] at h2 ⊢
      rw [List.length_map] at h2
      omega

/-- Wireless-Village date-time: the text itself inline, or a six-octet OPAQUE. -/
theorem encodeWvDate_length (s : Bytes) (item : WvItem) (h : encodeWvDate s = .ok item) :
    item.bytes.length ≤ s.length + 12 := by
  unfold encodeWvDate at h
  split at h
  · cases h
  · have hshape : item = .inline s ∨ ∃ p, item = .opaque p ∧ p.length = 6 := by
      split at h
      · injection h with h; exact Or.inl h.symm
      · exact EncW.wvDateOpaque_shape s item h
    rcases hshape with rfl | ⟨p, rfl, hp⟩
    · simp [WvItem.bytes, Typed.strItem]
    · have := opaqueItem_length p
      simp only [WvItem.bytes]
      omega

theorem b64TextW_length (s : Bytes) : (b64TextW s).length ≤ s.length := by
  unfold b64TextW
  exact List.length_filter_le _ _

theorem caseEq_length (a b : Bytes) (h : caseEq a b = true) : a.length = b.length := by
  unfold caseEq at h
  have := congrArg List.length (eq_of_beq h)
  simpa using this

/-- The SyncML media-type relabelling adds two octets to a text of 33 octets. -/
theorem syncmlTypeText_pot (id : Nat) (s : Bytes) : 8 * (syncmlTypeText id s).length + 2 ≤ 9 * s.length + 9 := by
  unfold syncmlTypeText
  split
  · simp only
    split
    · rename_i h2
      have := caseEq_length _ _ h2
      have e1 : (b!"application/vnd.syncml.dmtnds+xml").length = 33 := by decide
      have e2 : (b!"application/vnd.syncml.dmtnds+wbxml").length = 35 := by decide
      rw [e2]
      rw [e1] at this
      omega
    · split
      · rename_i h1
        have := caseEq_length _ _ h1
        have e1 : (b!"application/vnd.syncml-devinf+xml").length = 33 := by decide
        have e2 : (b!"application/vnd.syncml-devinf+wbxml").length = 35 := by decide
        rw [e2]
        rw [e1] at this
        omega
      · omega
  · omega

end Wbxml.Lemmas.X2W
