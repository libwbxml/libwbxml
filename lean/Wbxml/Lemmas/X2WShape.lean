/-
  C02, tree-builder half: over the events of a document Expat accepted (`WfDoc`) the builder
  ends with a root element — unless it stopped with an error or asks for an embedded document.
  (This is what rules out the encoder's "tree without root" dereference.)
  The stack before and after a stretch of events is compared by `Mod` (only the top frame changed, same kind)
  and `Top` (`Mod`, or one CDATA frame opened above it); `run b evs` abbreviates the fold
  `evs.foldl (xbuildStep main input sub) b` (reducible: the lemmas about the fold apply to it). One lemma per
  kind of step in these terms, then `content_skip` (balanced content inside a skipped region) and `content_run`
  (balanced content below an open frame) by induction over `Content`, and `run_doc`.
-/
import Wbxml.Lemmas.X2WTree
namespace Wbxml.Lemmas.X2W
open Wbxml Wbxml.Model

def isCdataKind : FrameKind → Bool
  | .cdata => true
  | _ => false

/-- Only the top frame changed, and it kept its kind. -/
def Mod (S S' : List XFrame) : Prop :=
  S' = S ∨ ∃ T T' tl, S = T :: tl ∧ S' = T' :: tl ∧ T'.kind = T.kind

/-- `Mod`, or above the changed top frame (an element frame) one CDATA frame was opened (the SyncML payload rule). -/
def Top (S S' : List XFrame) : Prop :=
  Mod S S' ∨ ∃ T T' C tl, S = T :: tl ∧ S' = C :: T' :: tl ∧ T'.kind = T.kind ∧ isCdataKind T.kind = false ∧
    C.kind = .cdata

theorem Mod.refl (S : List XFrame) : Mod S S := Or.inl rfl

theorem Mod.cons_inv {F : XFrame} {S X : List XFrame} (h : Mod (F :: S) X) : ∃ F2, F2.kind = F.kind ∧ X = F2 :: S := by
  rcases h with e | ⟨T, T', tl, e1, e2, hk⟩
  · exact ⟨F, rfl, e⟩
  · cases e1; exact ⟨T', hk, e2⟩

theorem Mod.trans {S S' S'' : List XFrame} (h1 : Mod S S') (h2 : Mod S' S'') : Mod S S'' := by
  rcases h1 with rfl | ⟨T, T', tl, rfl, rfl, hk⟩
  · exact h2
  · obtain ⟨U, hk', rfl⟩ := h2.cons_inv
    exact Or.inr ⟨T, U, tl, rfl, rfl, hk'.trans hk⟩

theorem Mod.ne_nil {S S' : List XFrame} (h : Mod S S') (hS : S ≠ []) : S' ≠ [] := by
  rcases h with rfl | ⟨T, T', tl, rfl, rfl, _⟩
  · exact hS
  · simp

theorem Top.of_mod {S S' : List XFrame} (h : Mod S S') : Top S S' := Or.inl h

theorem Top.cons_inv {F : XFrame} {S X : List XFrame} (h : Top (F :: S) X) :
    ∃ F2, F2.kind = F.kind ∧
      (X = F2 :: S ∨ (isCdataKind F.kind = false ∧ ∃ C, C.kind = .cdata ∧ X = C :: F2 :: S)) := by
  rcases h with h | ⟨T, T', C, tl, e1, e2, hk, hT, hC⟩
  · obtain ⟨F2, hk, e⟩ := h.cons_inv
    exact ⟨F2, hk, Or.inl e⟩
  · cases e1; exact ⟨T', hk, Or.inr ⟨hT, C, hC, e2⟩⟩

theorem Top.trans {S S' S'' : List XFrame} (h1 : Top S S') (h2 : Top S' S'') : Top S S'' := by
  rcases h1 with h1 | ⟨T, T', C, tl, rfl, rfl, hk, hT, hC⟩
  · rcases h1 with rfl | ⟨T, T', tl, rfl, rfl, hk⟩
    · exact h2
    · obtain ⟨U, hk', e | ⟨hU, D, hD, e⟩⟩ := h2.cons_inv
      · exact Or.inl (Or.inr ⟨T, U, tl, rfl, e, hk'.trans hk⟩)
      · exact Or.inr ⟨T, U, D, tl, rfl, e, hk'.trans hk, by rw [← hk]; exact hU, hD⟩
  · obtain ⟨C', hk', e | ⟨hU, _⟩⟩ := h2.cons_inv
    · exact Or.inr ⟨T, T', C', tl, rfl, e, hk, hT, hk'.trans hC⟩
    · rw [hC] at hU; cases hU

theorem Top.ne_nil {S S' : List XFrame} (h : Top S S') (hS : S ≠ []) : S' ≠ [] := by
  rcases h with h | ⟨T, T', C, tl, rfl, rfl, _⟩
  · exact h.ne_nil hS
  · simp

variable (main : List Lang) (input : Bytes) (sub : Bytes → Option (Except Nat Tree))

theorem step_skip (b : XBState) (e : XEvent) (h : NF b) (hs : 0 < b.skipLvl)
    (he : e = .startCdata ∨ e = .endCdata ∨ ∃ s, e = .chars s) : xbuildStep main input sub b e = b := by
  rw [step_live _ _ _ h.1]
  rcases he with rfl | rfl | ⟨s, rfl⟩ <;> simp [liveStep, hs]

theorem step_startElt_skip (b : XBState) (name : Bytes) (attrs : List (Bytes × Bytes)) (idx : Nat) (h : NF b)
    (hs : 0 < b.skipLvl) :
    xbuildStep main input sub b (.startElt name attrs idx) = { b with skipLvl := b.skipLvl + 1 } := by
  rw [step_live _ _ _ h.1]
  simp [liveStep, h.2, hs]

/-- Character data on an open frame: the text goes to the top frame, possibly after one CDATA frame
    was opened over an element frame. Never stops the builder. -/
theorem step_chars (b : XBState) (s : Bytes) (h : NF b) (hs : b.skipLvl = 0) (hne : b.stack ≠ []) :
    let b' := xbuildStep main input sub b (.chars s)
    NF b' ∧ b'.skipLvl = 0 ∧ b'.root = b.root ∧ Top b.stack b'.stack := by
  intro b'
  have e : b' = charsTail (charsPrep b) (charsText b s) := by
    unfold b'
    rw [step_live _ _ _ h.1]
    simp [liveStep, h.2, hs]
  rw [e]
  generalize charsText b s = s'
  have h1 : NF (charsPrep b) ∧ (charsPrep b).skipLvl = 0 ∧ (charsPrep b).root = b.root ∧
      Top b.stack (charsPrep b).stack := by
    rcases charsPrep_cases b with e | ⟨f, rest, n, a, hst, hk, e⟩ <;> rw [e]
    · exact ⟨h, hs, rfl, Top.of_mod (Mod.refl _)⟩
    · exact ⟨h, hs, rfl, Or.inr ⟨f, f, _, rest, hst, by rw [hst], rfl, by rw [hk]; rfl, rfl⟩⟩
  obtain ⟨n1, s1, r1, t1⟩ := h1
  have ne1 := t1.ne_nil hne
  generalize charsPrep b = b1 at n1 s1 r1 t1 ne1 ⊢
  rcases charsTail_cases b1 s' with ⟨hnil, _⟩ | ⟨f, rest, hst, ⟨_, _, _, _, e⟩ | e⟩
  · exact absurd hnil ne1
  · rw [e]
    exact ⟨n1, s1, r1, t1.trans (Top.of_mod (Or.inr ⟨f, _, rest, hst, rfl, rfl⟩))⟩
  · rw [e]
    exact ⟨n1, s1, r1, t1.trans (Top.of_mod (Or.inr ⟨f, _, rest, hst, rfl, rfl⟩))⟩

theorem decodeTop_res (b : XBState) (h : NF b) :
    let b2 := decodeTop b
    b2.error.isSome = true ∨ (NF b2 ∧ b2.skipLvl = b.skipLvl ∧ b2.root = b.root ∧ Mod b.stack b2.stack) := by
  intro b2
  unfold b2
  rcases decodeTop_cases b with e | ⟨f, rest, _, _, _, hs, _, _, ⟨_, e⟩ | ⟨_, _, e⟩⟩ <;> rw [e]
  · exact Or.inr ⟨h, rfl, rfl, Mod.refl _⟩
  · exact Or.inl rfl
  · rw [attach_cons rfl]
    exact Or.inr ⟨h, rfl, rfl, Or.inr ⟨f, _, rest, hs, rfl, rfl⟩⟩

theorem xmlElt_kind (lang : Lang) (name : Bytes) (attrs : List (Bytes × Bytes)) :
    isCdataKind (xmlElt lang name attrs).1.kind = false := by rw [xmlElt_closed]; rfl

theorem step_startElt (b : XBState) (name : Bytes) (attrs : List (Bytes × Bytes)) (idx : Nat) (h : NF b)
    (hs : b.skipLvl = 0) (hne : b.stack ≠ []) :
    let b' := xbuildStep main input sub b (.startElt name attrs idx)
    Failed b' ∨ ((name == devinfName || name == mgmtName) = true ∧ b' = { b with skipStart := idx, skipLvl := 1 }) ∨
      (∃ f page, isCdataKind f.kind = false ∧ b' = { b with stack := f :: b.stack, curPage := page }) := by
  intro b'
  have hroot : (b.stack.isEmpty && b.root.isNone) = false := by
    cases hb : b.stack with
    | nil => exact absurd hb hne
    | cons _ _ => rfl
  have hl : startLang main b name = b := by
    rcases startLang_cases main b name with e | ⟨hnil, _⟩
    · exact e
    · exact absurd hnil hne
  have e : b' = startTail b false name attrs idx := by
    unfold b'
    rw [step_live _ _ _ h.1]
    simp [liveStep, h.2, hs, hl, hroot]
  rw [e]
  rcases startTail_cases b false name attrs idx with ⟨he, _⟩ | e | ⟨_, hn, _, e⟩ | ⟨lang, _, _, _, e⟩
  · rw [h.2] at he; cases he
  all_goals rw [e]
  · exact Or.inl (Or.inr rfl)
  · exact Or.inr (Or.inl ⟨hn, rfl⟩)
  · exact Or.inr (Or.inr ⟨_, _, xmlElt_kind _ _ _, rfl⟩)

theorem step_startRoot (b : XBState) (name : Bytes) (attrs : List (Bytes × Bytes)) (idx : Nat) (h : NF b)
    (hs : b.skipLvl = 0) (hst : b.stack = []) (hroot : b.root = none) :
    let b' := xbuildStep main input sub b (.startElt name attrs idx)
    Failed b' ∨ (NF b' ∧ b'.skipLvl = 0 ∧ b'.root = none ∧ ∃ f, isCdataKind f.kind = false ∧ b'.stack = [f]) := by
  intro b'
  cases he : b'.error with
  | some e => exact Or.inl (Or.inr (by rw [he]; rfl))
  | none =>
    obtain ⟨L, e⟩ := xstep_start_root main input sub (h.quiet hs) hst hroot name attrs idx he
    unfold b'
    rw [e]
    exact Or.inr ⟨h, hs, hroot, _, xmlElt_kind L name attrs, rfl⟩

theorem step_endElt_skip (b : XBState) (name : Bytes) (idx : Nat) (k : Nat) (h : NF b) (hs : b.skipLvl = k + 2) :
    let b' := xbuildStep main input sub b (.endElt name idx)
    Failed b' ∨ (NF b' ∧ b'.skipLvl = k + 1 ∧ b'.root = b.root ∧ Mod b.stack b'.stack) := by
  intro b'
  unfold b'
  rw [step_live _ _ _ h.1, liveStep]
  rcases decodeTop_res b h with hf | ⟨hnf, hs2, hr, hm⟩
  · rw [endTail_error hf]
    exact Or.inl (Or.inr hf)
  · rw [endTail_noQuery (by rw [hs2, hs]; omega)]
    unfold endTailNQ
    rw [if_neg (by simp [hnf.2]), if_pos (by rw [hs2, hs]; omega)]
    right
    exact ⟨hnf, by simp only; rw [hs2, hs]; rfl, hr, hm⟩

/-- The end tag that ends a skipped region: the embedded document is built (or requested, or
    refused) and attached as a tree node. -/
theorem step_endElt_embedded (b : XBState) (name : Bytes) (idx : Nat) (h : NF b) (hs : b.skipLvl = 1)
    (hname : (name == devinfName || name == mgmtName) = true) (hne : b.stack ≠ []) :
    let b' := xbuildStep main input sub b (.endElt name idx)
    Failed b' ∨ (NF b' ∧ b'.skipLvl = 0 ∧ b'.root = b.root ∧ Mod b.stack b'.stack) := by
  intro b'
  unfold b'
  rw [step_live _ _ _ h.1, liveStep]
  rcases decodeTop_res b h with hf | ⟨hnf, hs2, hr, hm⟩
  · rw [endTail_error hf]
    exact Or.inl (Or.inr hf)
  · unfold endTail
    split
    · rename_i doc _
      unfold answer
      split
      · exact Or.inl (Or.inl rfl)
      · exact Or.inl (Or.inr rfl)
      · obtain ⟨T, tl, hst⟩ := List.exists_cons_of_ne_nil (hm.ne_nil hne)
        rw [attach_cons (b := { decodeTop b with skipLvl := 0 }) hst]
        exact Or.inr ⟨hnf, rfl, hr, hm.trans (by rw [hst]; exact Or.inr ⟨T, _, tl, rfl, rfl, rfl⟩)⟩
    · -- a refused embedded document
      unfold endTailNQ
      rw [if_neg (by simp [hnf.2]), if_neg (by rw [hs2, hs]; omega), if_pos (by rw [hs2, hs]; rfl), if_pos hname]
      exact Or.inl (Or.inr rfl)

/-- An end tag that closes the element on top of the stack (below an optional CDATA frame):
    the element's node is attached one level down. -/
theorem step_endElt_pop (b : XBState) (name : Bytes) (idx : Nat) (h : NF b) (hs : b.skipLvl = 0)
    (f : XFrame) (S : List XFrame) (hf : isCdataKind f.kind = false) (ht : Top (f :: S) b.stack) :
    let b' := xbuildStep main input sub b (.endElt name idx)
    Failed b' ∨ ∃ b0 n, NF b0 ∧ b0.skipLvl = 0 ∧ b0.root = b.root ∧ b0.stack = S ∧ b' = b0.attach n := by
  intro b'
  unfold b'
  obtain ⟨F, hk, hFs⟩ := ht.cons_inv
  have hF : isCdataKind F.kind = false := by rw [hk]; exact hf
  rw [step_live _ _ _ h.1, liveStep]
  rcases hFs with hst | ⟨_, C, hC, hst⟩
  · rcases decodeTop_res b h with hf | ⟨hnf, hs2, hr, hm⟩
    · rw [endTail_error hf]
      exact Or.inl (Or.inr hf)
    · rw [endTail_noQuery (by rw [hs2, hs]; omega)]
      unfold endTailNQ
      rw [if_neg (by simp [hnf.2]), if_neg (by rw [hs2, hs]; omega), if_neg (by rw [hs2, hs]; decide)]
      rw [hst] at hm
      obtain ⟨F2, hF2, hst2⟩ := hm.cons_inv
      right
      refine ⟨{ decodeTop b with stack := S }, F2.close, hnf, by simp only; rw [hs2, hs], hr, rfl, ?_⟩
      unfold xPop
      rw [hst2]
      simp only
      cases hk : F2.kind with
      | cdata => rw [hF2] at hk; rw [hk] at hF; cases hF
      | elt n a => rfl
  · rw [decodeTop_cdata hst hC, endTail_noQuery (by rw [hs]; omega)]
    unfold endTailNQ
    rw [if_neg (by simp [h.2]), if_neg (by rw [hs]; omega), if_neg (by rw [hs]; decide)]
    right
    refine ⟨{ b with stack := S }, ({ F with kids := addKid F.kids C.close } : XFrame).close, h, hs, rfl, rfl, ?_⟩
    unfold xPop
    rw [hst]
    simp only [hC]

theorem attach_res (b0 : XBState) (n : Node) (h : NF b0) (hne : b0.stack ≠ []) :
    NF (b0.attach n) ∧ (b0.attach n).skipLvl = b0.skipLvl ∧
      (b0.attach n).root = b0.root ∧ Mod b0.stack (b0.attach n).stack := by
  obtain ⟨T, tl, hst⟩ := List.exists_cons_of_ne_nil hne
  rw [attach_cons hst]
  exact ⟨h, rfl, rfl, by rw [hst]; exact Or.inr ⟨T, _, tl, rfl, rfl, rfl⟩⟩

abbrev run (b : XBState) (evs : List XEvent) : XBState := evs.foldl (xbuildStep main input sub) b

theorem run_append (b : XBState) (a c : List XEvent) :
    run main input sub b (a ++ c) = run main input sub (run main input sub b a) c := List.foldl_append

theorem run_cons (b : XBState) (e : XEvent) (c : List XEvent) :
    run main input sub b (e :: c) = run main input sub (xbuildStep main input sub b e) c := rfl

theorem run_chars_skip (inner : List XEvent) (hin : inner.all isCharsEv = true) (b : XBState) (h : NF b)
    (hs : 0 < b.skipLvl) : run main input sub b inner = b :=
  fold_fix main input sub inner b fun e hm => by
    cases e with
    | chars s => exact step_skip main input sub b _ h hs (Or.inr (Or.inr ⟨s, rfl⟩))
    | _ => exact absurd (List.all_eq_true.mp hin _ hm) (by simp [isCharsEv])

theorem run_chars (inner : List XEvent) (hin : inner.all isCharsEv = true) (b : XBState) (h : NF b)
    (hs : b.skipLvl = 0) (hne : b.stack ≠ []) :
    NF (run main input sub b inner) ∧ (run main input sub b inner).skipLvl = 0 ∧
      (run main input sub b inner).root = b.root ∧ Top b.stack (run main input sub b inner).stack :=
  List.foldlRecOn (motive := fun (x : XBState) => NF x ∧ x.skipLvl = 0 ∧ x.root = b.root ∧ Top b.stack x.stack)
    inner (xbuildStep main input sub) ⟨h, hs, rfl, Top.of_mod (Mod.refl _)⟩
    fun x ⟨h1, hs1, hr1, ht1⟩ e hm => by
      cases e with
      | chars s =>
        obtain ⟨h2, hs2, hr2, ht2⟩ := step_chars main input sub x s h1 hs1 (ht1.ne_nil hne)
        exact ⟨h2, hs2, hr2.trans hr1, ht1.trans ht2⟩
      | _ => exact absurd (List.all_eq_true.mp hin _ hm) (by simp [isCharsEv])

/-- Balanced content inside a skipped region leaves the skipping depth where it was. -/
theorem content_skip {evs : List XEvent} (hc : Content evs) : ∀ (b : XBState) (k : Nat), NF b → b.skipLvl = k + 1 →
    Failed (run main input sub b evs) ∨
      (NF (run main input sub b evs) ∧ (run main input sub b evs).skipLvl = k + 1 ∧
       (run main input sub b evs).root = b.root ∧ Mod b.stack (run main input sub b evs).stack) := by
  induction hc with
  | nil => intro b k h hs; exact Or.inr ⟨h, hs, rfl, Mod.refl _⟩
  | chars s _ ih =>
    intro b k h hs
    rw [run_cons, step_skip main input sub b _ h (by omega) (Or.inr (Or.inr ⟨s, rfl⟩))]
    exact ih b k h hs
  | pi _ ih =>
    intro b k h hs
    rw [run_cons, step_pi]
    exact ih b k h hs
  | @cdata inner rest hin _ ih =>
    intro b k h hs
    rw [run_cons, step_skip main input sub b _ h (by omega) (Or.inl rfl), run_append,
      run_chars_skip main input sub inner hin b h (by omega), run_cons,
      step_skip main input sub b _ h (by omega) (Or.inr (Or.inl rfl))]
    exact ih b k h hs
  | @elt name attrs i j inner rest _ _ _ _ ih1 ih2 =>
    intro b k h hs
    rw [run_cons, step_startElt_skip main input sub b name attrs i h (by omega), run_append]
    rcases ih1 { b with skipLvl := b.skipLvl + 1 } (k + 1) h (by simp only; omega) with hf | ⟨h2, hs2, hr2, hm2⟩
    · exact Or.inl (fold_failed main input sub _ _ hf)
    · rw [run_cons]
      rcases step_endElt_skip main input sub _ name j k h2 hs2 with hf | ⟨h3, hs3, hr3, hm3⟩
      · exact Or.inl (fold_failed main input sub _ _ hf)
      · rcases ih2 _ k h3 hs3 with hf | ⟨h4, hs4, hr4, hm4⟩
        · exact Or.inl hf
        · exact Or.inr ⟨h4, hs4, hr4.trans (hr3.trans hr2), (hm2.trans hm3).trans hm4⟩

/-- Balanced content below an open frame: afterwards that frame is still the open one (possibly
    under one CDATA frame), with more children. -/
theorem content_run {evs : List XEvent} (hc : Content evs) : ∀ (b : XBState), NF b → b.skipLvl = 0 → b.stack ≠ [] →
    Failed (run main input sub b evs) ∨
      (NF (run main input sub b evs) ∧ (run main input sub b evs).skipLvl = 0 ∧
       (run main input sub b evs).root = b.root ∧ Top b.stack (run main input sub b evs).stack) := by
  induction hc with
  | nil => intro b h hs _; exact Or.inr ⟨h, hs, rfl, Top.of_mod (Mod.refl _)⟩
  | chars s _ ih =>
    intro b h hs hne
    rw [run_cons]
    obtain ⟨h1, hs1, hr1, ht1⟩ := step_chars main input sub b s h hs hne
    rcases ih _ h1 hs1 (ht1.ne_nil hne) with hf | ⟨h2, hs2, hr2, ht2⟩
    · exact Or.inl hf
    · exact Or.inr ⟨h2, hs2, hr2.trans hr1, ht1.trans ht2⟩
  | pi _ ih =>
    intro b h hs hne
    rw [run_cons, step_pi]
    exact ih b h hs hne
  | @cdata inner rest hin _ ih =>
    intro b h hs hne
    rw [run_cons, xstep_startCdata main input sub (h.quiet hs), run_append]
    obtain ⟨h2, hs2, hr2, ht2⟩ := run_chars main input sub inner hin
      ({ b with stack := { kind := .cdata, kids := [] } :: b.stack } : XBState) h hs (List.cons_ne_nil _ _)
    obtain ⟨C', hst2⟩ : ∃ C', (run main input sub _ inner).stack = C' :: b.stack := by
      obtain ⟨C', _, e | ⟨hF, _⟩⟩ := ht2.cons_inv
      · exact ⟨C', e⟩
      · cases hF
    rw [run_cons, xstep_endCdata main input sub (h2.quiet hs2) hst2]
    obtain ⟨h3, hs3, hr3, hm3⟩ := attach_res ({ run main input sub _ inner with stack := b.stack } : XBState)
      C'.close h2 hne
    rcases ih _ h3 (hs3.trans hs2) (hm3.ne_nil hne) with hf | ⟨h4, hs4, hr4, ht4⟩
    · exact Or.inl hf
    · exact Or.inr ⟨h4, hs4, hr4.trans (hr3.trans hr2), (Top.of_mod hm3).trans ht4⟩
  | @elt name attrs i j inner rest _ _ hci _ ih1 ih2 =>
    intro b h hs hne
    rw [run_cons]
    rcases step_startElt main input sub b name attrs i h hs hne with hf | ⟨hname, e1⟩ | ⟨f, page, hf, e1⟩
    · exact Or.inl (fold_failed main input sub _ _ hf)
    · -- an embedded document
      rw [e1, run_append]
      rcases content_skip main input sub hci ({ b with skipStart := i, skipLvl := 1 } : XBState) 0 h rfl
        with hf | ⟨h2, hs2, hr2, hm2⟩
      · exact Or.inl (fold_failed main input sub _ _ hf)
      · rw [run_cons]
        rcases step_endElt_embedded main input sub _ name j h2 hs2 hname (hm2.ne_nil hne) with hf | ⟨h3, hs3, hr3, hm3⟩
        · exact Or.inl (fold_failed main input sub _ _ hf)
        · rcases ih2 _ h3 hs3 ((hm2.trans hm3).ne_nil hne) with hf | ⟨h4, hs4, hr4, ht4⟩
          · exact Or.inl hf
          · exact Or.inr ⟨h4, hs4, hr4.trans (hr3.trans hr2), (Top.of_mod (hm2.trans hm3)).trans ht4⟩
    · -- an ordinary element
      rw [e1, run_append]
      rcases ih1 ({ b with stack := f :: b.stack, curPage := page } : XBState) h hs (by simp) with hf | ⟨h2, hs2, hr2, ht2⟩
      · exact Or.inl (fold_failed main input sub _ _ hf)
      · rw [run_cons]
        rcases step_endElt_pop main input sub _ name j h2 hs2 f b.stack hf ht2 with hf | ⟨b0, n, h0, hs0, hr0, hst0, e3⟩
        · exact Or.inl (fold_failed main input sub _ _ hf)
        · rw [e3]
          obtain ⟨h3, hs3, hr3, hm3⟩ := attach_res b0 n h0 (by rw [hst0]; exact hne)
          rw [hst0] at hm3
          rcases ih2 _ h3 (hs3.trans hs0) (hm3.ne_nil hne) with hf | ⟨h4, hs4, hr4, ht4⟩
          · exact Or.inl hf
          · exact Or.inr ⟨h4, hs4, hr4.trans (hr3.trans (hr0.trans hr2)), (Top.of_mod hm3).trans ht4⟩

theorem step_prolog (b : XBState) (e : XEvent) (he : isPrologEv e = true) :
    let b' := xbuildStep main input sub b e
    b'.need = b.need ∧ b'.error = b.error ∧ b'.skipLvl = b.skipLvl ∧ b'.stack = b.stack ∧ b'.root = b.root := by
  intro b'
  unfold b'
  cases e with
  | xmlDecl v enc => obtain ⟨cs, e⟩ := step_xmlDecl main input sub b v enc; rw [e]; exact ⟨rfl, rfl, rfl, rfl, rfl⟩
  | doctype sysid pubid => obtain ⟨l, e⟩ := step_doctype main input sub b sysid pubid; rw [e]; exact ⟨rfl, rfl, rfl, rfl, rfl⟩
  | pi => rw [step_pi]; exact ⟨rfl, rfl, rfl, rfl, rfl⟩
  | _ => cases he

theorem run_prolog (pro : List XEvent) (hp : pro.all isPrologEv = true) (b : XBState) :
    (run main input sub b pro).need = b.need ∧ (run main input sub b pro).error = b.error ∧
    (run main input sub b pro).skipLvl = b.skipLvl ∧ (run main input sub b pro).stack = b.stack ∧
    (run main input sub b pro).root = b.root :=
  List.foldlRecOn (motive := fun (x : XBState) => x.need = b.need ∧ x.error = b.error ∧ x.skipLvl = b.skipLvl ∧
      x.stack = b.stack ∧ x.root = b.root) pro (xbuildStep main input sub) ⟨rfl, rfl, rfl, rfl, rfl⟩
    fun x ⟨c1, c2, c3, c4, c5⟩ e hm => by
      obtain ⟨a1, a2, a3, a4, a5⟩ := step_prolog main input sub x e (List.all_eq_true.mp hp e hm)
      exact ⟨a1.trans c1, a2.trans c2, a3.trans c3, a4.trans c4, a5.trans c5⟩

theorem run_epilog (epi : List XEvent) (hp : epi.all isPiEv = true) (b : XBState) : run main input sub b epi = b :=
  fold_fix main input sub epi b fun e hm => by
    cases e with
    | pi => exact step_pi main input sub b
    | _ => exact absurd (List.all_eq_true.mp hp _ hm) (by simp [isPiEv])

/-- **Over the events of a document Expat accepted, the builder ends with a root element** — unless
    it stopped with an error code or asks for the events of an embedded document. -/
theorem run_doc {evs : List XEvent} (hw : WfDoc evs) :
    Failed (run main input sub {} evs) ∨ (run main input sub {} evs).root.isSome = true := by
  obtain ⟨pro, name, attrs, i, j, inner, epi, rfl, hp, _, _, hc, he⟩ := hw
  rw [run_append]
  obtain ⟨p1, p2, p3, p4, p5⟩ := run_prolog main input sub pro hp {}
  have hnf : NF (run main input sub {} pro) := ⟨p1, p2⟩
  rw [run_cons]
  rcases step_startRoot main input sub _ name attrs i hnf p3 p4 p5 with hf | ⟨h1, hs1, hr1, f, hf, hst1⟩
  · exact Or.inl (fold_failed main input sub _ _ hf)
  · rw [run_append]
    rcases content_run main input sub hc _ h1 hs1 (by rw [hst1]; simp) with hf | ⟨h2, hs2, hr2, ht2⟩
    · exact Or.inl (fold_failed main input sub _ _ hf)
    · rw [run_cons]
      rw [hst1] at ht2
      rcases step_endElt_pop main input sub _ name j h2 hs2 f [] hf ht2 with hf | ⟨b0, n, h0, hs0, hr0, hst0, e3⟩
      · exact Or.inl (fold_failed main input sub _ _ hf)
      · rw [e3, run_epilog main input sub epi he, attach_root hst0 (hr0.trans (hr2.trans hr1))]
        exact Or.inr rfl

end Wbxml.Lemmas.X2W
