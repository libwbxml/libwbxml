/-
  XML generation modes and the READER (C07): what `wbxml_tree_from_xml` builds from a
  conforming reading of the compact, the canonical and the indented rendering of one tree.

  * `readNode_congr`: the tree read back depends on the printer options only through the printed
    character data (`printedText`) and the attribute-value normalisation — so the canonical and the
    compact rendering read back to the SAME tree when white space is kept (`-k`) and no attribute
    value carries a literal TAB / LF.
  * `BlankRelL`: a child list that differs from the printed one only by blank (space / line feed)
    octets: blank-only text nodes inserted anywhere, blank octets at either end of a text — what a
    conforming reader reports for indented output, where the printer adds white space between
    markup (`C07.indent_adds_only_whitespace`). `blankRel_norm`: such a list has the same
    normalisation (`normKidsAcc`) under an encoder configuration that drops and trims white space.
-/
import Wbxml.Lemmas.RtReadNorm
namespace Wbxml.Lemmas.Rt
open Wbxml Wbxml.Model Wbxml.Spec Wbxml.Lemmas.EncW Wbxml.Lemmas.X2W

/-- Both printer configurations print every attribute value to the same thing, as a reader sees it
    (`sameRead`: the same for the character data and attributes of a whole node). -/
def sameAttrs (ca cb : XCfg) (attrs : List Attr) : Bool :=
  attrs.all (fun a => attrNormalize (ca.gen == 2) (cstrOf a.value) == attrNormalize (cb.gen == 2) (cstrOf a.value))

mutual
def sameRead (ca cb : XCfg) : Node → Bool
  | .elt _ attrs kids => sameAttrs ca cb attrs && sameReadL ca cb kids
  | .text s => printedText ca s == printedText cb s
  | .cdata _ => true
  | .tree _ _ _ => true
def sameReadL (ca cb : XCfg) : List Node → Bool
  | [] => true
  | k :: r => sameRead ca cb k && sameReadL ca cb r
end

theorem xmlAttrsOf_congr (ca cb : XCfg) (hl : ca.lang = cb.lang) (attrs : List Attr) (h : sameAttrs ca cb attrs = true) :
    xmlAttrsOf ca attrs = xmlAttrsOf cb attrs := by
  unfold xmlAttrsOf
  rw [hl]
  split
  · apply List.map_congr_left
    intro a ha
    simp only [sameAttrs, List.all_eq_true, beq_iff_eq] at h
    rw [h a ha]
  · rfl

mutual
theorem readNode_congr (lang : Lang) (ca cb : XCfg) (hl : ca.lang = cb.lang) :
    ∀ (n : Node), sameRead ca cb n = true → readNode lang ca n = readNode lang cb n
  | .elt name attrs kids, h => by
    rw [sameRead, Bool.and_eq_true] at h
    rw [readNode_elt, readNode_elt, xmlAttrsOf_congr ca cb hl attrs h.1, readKidsAcc_congr lang ca cb hl kids [] h.2]
  | .text s, h => by
    rw [sameRead, beq_iff_eq] at h
    rw [readNode_text, readNode_text, h]
  | .cdata _, _ => by rw [readNode, readNode]
  | .tree _ _ _, _ => by rw [readNode, readNode]
theorem readKidsAcc_congr (lang : Lang) (ca cb : XCfg) (hl : ca.lang = cb.lang) :
    ∀ (ks acc : List Node), sameReadL ca cb ks = true → readKidsAcc lang ca ks acc = readKidsAcc lang cb ks acc
  | [], acc, _ => by rw [readKidsAcc_nil, readKidsAcc_nil]
  | k :: r, acc, h => by
    rw [sameReadL, Bool.and_eq_true] at h
    rw [readKidsAcc_cons, readKidsAcc_cons, readNode_congr lang ca cb hl k h.1, readKidsAcc_congr lang ca cb hl r _ h.2]
end

theorem printedText_keep (c : XCfg) (hi : c.ignoreEmpty = false) (hr : c.removeBlanks = false) (s : Bytes) :
    printedText c s = s := by
  unfold printedText
  simp [hi, hr]

mutual
theorem sameRead_keep (ca cb : XCfg) (hia : ca.ignoreEmpty = false) (hra : ca.removeBlanks = false)
    (hib : cb.ignoreEmpty = false) (hrb : cb.removeBlanks = false) :
    ∀ (n : Node), attrsReadable ca n = true → attrsReadable cb n = true → sameRead ca cb n = true
  | .elt name attrs kids, ha, hb => by
    rw [attrsReadable, Bool.and_eq_true] at ha hb
    rw [sameRead, Bool.and_eq_true]
    refine ⟨?_, sameReadL_keep ca cb hia hra hib hrb kids ha.2 hb.2⟩
    simp only [sameAttrs, List.all_eq_true, beq_iff_eq]
    intro a hm
    have h1 := List.all_eq_true.mp ha.1 a hm
    have h2 := List.all_eq_true.mp hb.1 a hm
    simp only [attrReadable, Bool.and_eq_true] at h1 h2
    rw [attrNormalize_id _ _ h1.2, attrNormalize_id _ _ h2.2]
  | .text s, _, _ => by
    rw [sameRead, printedText_keep ca hia hra, printedText_keep cb hib hrb]
    exact beq_self_eq_true s
  | .cdata _, _, _ => by rw [sameRead]
  | .tree _ _ _, _, _ => by rw [sameRead]
theorem sameReadL_keep (ca cb : XCfg) (hia : ca.ignoreEmpty = false) (hra : ca.removeBlanks = false)
    (hib : cb.ignoreEmpty = false) (hrb : cb.removeBlanks = false) :
    ∀ (ks : List Node), attrsReadableL ca ks = true → attrsReadableL cb ks = true → sameReadL ca cb ks = true
  | [], _, _ => by rw [sameReadL]
  | k :: r, ha, hb => by
    rw [attrsReadableL, Bool.and_eq_true] at ha hb
    rw [sameReadL, sameRead_keep ca cb hia hra hib hrb k ha.1 hb.1, sameReadL_keep ca cb hia hra hib hrb r ha.2 hb.2]
    rfl
end

mutual
theorem attrsReadable_canonical (ca cb : XCfg) (hb : (cb.gen == 2) = true) :
    ∀ (n : Node), attrsReadable ca n = true → attrsReadable cb n = true
  | .elt name attrs kids, h => by
    rw [attrsReadable, Bool.and_eq_true] at h ⊢
    refine ⟨?_, attrsReadableL_canonical ca cb hb kids h.2⟩
    rw [List.all_eq_true] at h ⊢
    intro a hm
    have := h.1 a hm
    simp only [attrReadable, Bool.and_eq_true] at this ⊢
    exact ⟨this.1, by rw [hb]; rfl⟩
  | .text _, _ => by rw [attrsReadable]
  | .cdata _, _ => by rw [attrsReadable]
  | .tree _ _ _, _ => by rw [attrsReadable]
theorem attrsReadableL_canonical (ca cb : XCfg) (hb : (cb.gen == 2) = true) :
    ∀ (ks : List Node), attrsReadableL ca ks = true → attrsReadableL cb ks = true
  | [], _ => by rw [attrsReadableL]
  | k :: r, h => by
    rw [attrsReadableL, Bool.and_eq_true] at h
    rw [attrsReadableL, attrsReadable_canonical ca cb hb k h.1, attrsReadableL_canonical ca cb hb r h.2]
    rfl
end

/-- `ksW` is `ks` as printed under `c`, plus blank (space / line feed) octets: blank-only text nodes
    inserted anywhere in a child list, blank octets at either end of a printed text; a text that is
    printed as nothing may be absent. Elements keep name, attributes and order. -/
inductive BlankRelL (c : XCfg) : List Node → List Node → Prop
  | nil : BlankRelL c [] []
  | ins (w : Bytes) (ks ksW : List Node) : w.all isBlankB = true → BlankRelL c ks ksW →
      BlankRelL c ks (.text w :: ksW)
  | text (s b1 b2 : Bytes) (ks ksW : List Node) : b1.all isBlankB = true → b2.all isBlankB = true →
      BlankRelL c ks ksW → BlankRelL c (.text s :: ks) (.text (b1 ++ printedText c s ++ b2) :: ksW)
  | gone (s : Bytes) (ks ksW : List Node) : printedText c s = [] → BlankRelL c ks ksW →
      BlankRelL c (.text s :: ks) ksW
  | elt (name : Name) (attrs : List Attr) (kids kidsW ks ksW : List Node) : BlankRelL c kids kidsW →
      BlankRelL c ks ksW → BlankRelL c (.elt name attrs kids :: ks) (.elt name attrs kidsW :: ksW)

theorem blank_isSpace (w : Bytes) (h : w.all isBlankB = true) : w.all isSpaceC = true := by
  rw [List.all_eq_true] at h ⊢
  intro x hx
  have := h x hx
  simp only [isBlankB, Bool.or_eq_true, beq_iff_eq] at this
  rcases this with rfl | rfl <;> rfl

theorem strip_blank_left (b x : Bytes) (h : b.all isSpaceC = true) : stripBlanks (b ++ x) = stripBlanks x := by
  unfold stripBlanks
  rw [List.dropWhile_append_of_pos (List.all_eq_true.mp h)]

theorem strip_blank_right (x b : Bytes) (h : b.all isSpaceC = true) : stripBlanks (x ++ b) = stripBlanks x := by
  unfold stripBlanks
  by_cases hx : x.dropWhile isSpaceC = []
  · have hall : (x ++ b).all isSpaceC = true := by
      rw [List.all_append, Bool.and_eq_true]
      exact ⟨List.all_eq_true.mpr (dropWhile_eq_nil_iff.mp hx), h⟩
    have : (x ++ b).dropWhile isSpaceC = [] := dropWhile_eq_nil_iff.mpr (List.all_eq_true.mp hall)
    rw [this, hx]
  · rw [List.dropWhile_append, if_neg (by simpa using hx), List.reverse_append,
      List.dropWhile_append_of_pos (List.all_eq_true.mp (by rw [List.all_reverse]; exact h))]

theorem normText_blank (wc : WCfg) (hi : wc.ignoreEmpty = true) (w : Bytes) (h : w.all isBlankB = true) :
    normText wc w = [] := by
  unfold normText
  simp only [hi, blank_isSpace w h, Bool.and_self, ↓reduceIte]

theorem normText_blank_ext (wc : WCfg) (hr : wc.removeBlanks = true) (b1 p b2 : Bytes)
    (h1 : b1.all isBlankB = true) (h2 : b2.all isBlankB = true) : normText wc (b1 ++ p ++ b2) = normText wc p := by
  unfold normText
  have hall : (b1 ++ p ++ b2).all isSpaceC = p.all isSpaceC := by
    rw [List.all_append, List.all_append, blank_isSpace b1 h1, blank_isSpace b2 h2]
    simp
  rw [hall, hr]
  simp only [↓reduceIte]
  rw [strip_blank_right _ b2 (blank_isSpace b2 h2), strip_blank_left b1 p (blank_isSpace b1 h1)]

/-- **Blank octets between markup do not survive the encoder's normalisation** (white space dropped
    and trimmed, i.e. without `-k`; `flagsOk`: the printer removed nothing the encoder would keep). -/
theorem blankRel_norm (c : XCfg) (wc : WCfg) (hf : flagsOk c wc = true)
    (hi : wc.ignoreEmpty = true) (hr : wc.removeBlanks = true) {ks ksW : List Node} (h : BlankRelL c ks ksW) :
    ∀ acc, normKidsAcc wc ksW acc = normKidsAcc wc ks acc := by
  induction h with
  | nil => intro acc; rfl
  | ins w ks ksW hw _ ih =>
    intro acc
    rw [normKidsAcc_cons, normNode_text, normText_blank wc hi w hw, ih]
    rfl
  | text s b1 b2 ks ksW h1 h2 _ ih =>
    intro acc
    rw [normKidsAcc_cons, normKidsAcc_cons, normNode_text, normNode_text, normText_blank_ext wc hr _ _ _ h1 h2,
      normText_printed c wc hf, ih]
  | gone s ks ksW hp _ ih =>
    intro acc
    rw [normKidsAcc_cons, normNode_text, ← normText_printed c wc hf, hp, normText_nil wc, ih]
    rfl
  | elt name attrs kids kidsW ks ksW _ _ ihk ih =>
    intro acc
    rw [normKidsAcc_cons, normKidsAcc_cons, normNode_elt, normNode_elt, ihk, ih]

theorem blankRel_norm_node (c : XCfg) (wc : WCfg) (hf : flagsOk c wc = true)
    (hi : wc.ignoreEmpty = true) (hr : wc.removeBlanks = true) (name : Name) (attrs : List Attr) (kids kidsW : List Node)
    (h : BlankRelL c kids kidsW) : normNode wc (.elt name attrs kidsW) = normNode wc (.elt name attrs kids) := by
  rw [normNode_elt, normNode_elt, blankRel_norm c wc hf hi hr h]

/-- The options under which the blank-extended tree is read: as printed, nothing removed again. -/
def keepAll (c : XCfg) : XCfg := { c with gen := 0, ignoreEmpty := false, removeBlanks := false }

end Wbxml.Lemmas.Rt
