/-
  C16 — `wbxml_strtbl_initialize` as a whole.

  The function is cut in two (`strtblInitialize_eq`): `initPrefix` = everything up to and including
  the destruction of the first `one_ref` (list creation, `wbxml_strtbl_collect_strings`, first
  `wbxml_strtbl_check_references`, `wbxml_strtbl_collect_words`), `initSuffix` = the second
  `wbxml_strtbl_check_references` whose failure the code ignores on purpose.  The request numbers
  issued by `initSuffix` are exactly those above `(run (initPrefix e texts) s).2.next`.
-/
import Wbxml.Lemmas.AllocWords
import Wbxml.Lemmas.AllocReport
namespace Wbxml.Model.Alloc
open Wbxml

/-- `wbxml_strtbl_initialize` up to the point where the second `wbxml_strtbl_check_references` is
    called: `.inl (encoder, code)` — the function returns here with that code; `.inr (encoder, words)`
    — it goes on with the list of words. -/
def initPrefix (e : AEnc) (texts : List ABuf) : Prog (Sum (AEnc × Nat) (AEnc × AList ABuf)) := do
  let strings ← listCreate (ι := ABuf)
  match strings with
  | none => pure (.inl (e, ENOMEM))
  | some strings => do
    let strings ← collectStrings strings texts
    let (e, ret, strings, oneRef) ← checkReferences e strings true
    if ret != OK then do
      listDestroy strings (fun _ => pure ())
      pure (.inl (e, ret))
    else match oneRef with
      | none => ub "check_references returned OK without one_ref"
      | some oneRef => do
        let (ret, words) ← collectWords oneRef
        if ret != OK then do
          listDestroy (some oneRef) (fun x => strEltDestroy (some x))
          pure (.inl (e, ret))
        else do
          listDestroy (some oneRef) (fun x => strEltDestroy (some x))
          match words with
          | none => pure (.inl (e, OK))
          | some words => pure (.inr (e, words))

/-- The rest: the second `wbxml_strtbl_check_references` (words shared by several strings); its
    result code is ignored. -/
def initSuffix : Sum (AEnc × Nat) (AEnc × AList ABuf) → Prog (AEnc × Nat)
  | .inl r => pure r
  | .inr (e, words) => do
    let (e, ret2, words', oneRef2) ← checkReferences e words false
    if ret2 != OK then listDestroy words' (fun b => bufDestroy (some b))
    listDestroy oneRef2 (fun x => strEltDestroy (some x))
    pure (e, OK)

theorem strtblInitialize_eq (e : AEnc) (texts : List ABuf) :
    strtblInitialize e texts = Prog.bind (initPrefix e texts) initSuffix := by
  unfold strtblInitialize initPrefix
  simp only [bind_eq, pure_eq, Prog.bind_assoc]
  congr 1; funext strings
  cases strings with
  | none => rfl
  | some strings =>
    simp only [Prog.bind_assoc]
    congr 1; funext strings'
    congr 1; funext r
    obtain ⟨e1, ret, strs, oneRef⟩ := r
    split
    · simp only [Prog.bind_assoc]; rfl
    · cases oneRef with
      | none => rfl
      | some oneRef =>
        simp only [Prog.bind_assoc]
        congr 1; funext r2
        obtain ⟨ret4, words⟩ := r2
        split
        · simp only [Prog.bind_assoc]; rfl
        · simp only [Prog.bind_assoc]
          congr 1; funext _
          cases words with
          | none => rfl
          | some words => rfl

theorem strOi_true : strOi true = fun _ => ([] : List Nat) := by funext b; simp [strOi]
theorem strOi_false : strOi false = ABuf.owned := by funext b; simp [strOi]

theorem cellsOwned_nop {ι : Type} (cells : List (Nat × ι)) :
    cellsOwned (fun _ => ([] : List Nat)) cells = cells.map (·.1) := by
  induction cells with
  | nil => rfl
  | cons c r ih =>
    show c.1 :: ([] ++ cellsOwned (fun _ => ([] : List Nat)) r) = c.1 :: r.map (·.1)
    rw [List.nil_append, ih]

theorem mem_cellsOwned_hdr {cells : List (Nat × StrElt)} {x : StrElt} (hx : x ∈ cells.map (·.2)) :
    x.hdr ∈ cellsOwned StrElt.owned cells := by
  obtain ⟨c, hc, rfl⟩ := List.mem_map.1 hx
  exact List.mem_flatMap.2 ⟨c, hc, by simp [StrElt.owned]⟩

theorem listCreate_req {ι : Type} (s : Ledger) :
    Good (listCreate (ι := ι)) s (fun _ s' => s'.next = s.next + 1) := by
  unfold Good listCreate
  simp only [bind_eq, pure_eq, malloc, Prog.bind, run]
  by_cases hf : s.fails (s.next + 1) = true <;> simp [hf]

/-- The request numbers of the `wbxml_list_append` calls of `wbxml_strtbl_collect_strings`, when
    `wbxml_strtbl_initialize` starts in ledger `s`: one request for the list, then one per
    collectable text node. -/
def collectWindow (texts : List ABuf) (s : Ledger) (k : Nat) : Prop :=
  s.next + 1 < k ∧ k ≤ s.next + 1 + (texts.filter collectable).length

/-- The encoder `initPrefix` hands on, on either exit. -/
def prefEnc : Sum (AEnc × Nat) (AEnc × AList ABuf) → AEnc
  | .inl x => x.1
  | .inr x => x.1

/-- What it holds besides the encoder's blocks: the list of words, when it goes on. -/
def prefExtra : Sum (AEnc × Nat) (AEnc × AList ABuf) → List Nat
  | .inl _ => []
  | .inr x => bufListOwned (some x.2)

/-- Up to the second `wbxml_strtbl_check_references`: every failed request is reported by an error
    return, except the `wbxml_list_append` calls of `wbxml_strtbl_collect_strings`. -/
abbrev PrefixPost (e : AEnc) (texts : List ABuf) (s : Ledger) (r : Sum (AEnc × Nat) (AEnc × AList ABuf)) (s' : Ledger) : Prop :=
  Clean s s' e.owned ((prefEnc r).owned ++ prefExtra r) ∧
  Reported s s' (collectWindow texts s) (∃ x, r = .inl x ∧ x.2 ≠ OK) ∧ TblKept e (prefEnc r)

theorem initPrefix_spec (e : AEnc) (texts : List ABuf) (s : Ledger) (wf : s.WF) (own : Owns s e.owned)
    (htx : ∀ t ∈ texts, t.hdr ∈ s.live ∧ t.hdr ∉ e.owned) :
    Good (initPrefix e texts) s (PrefixPost e texts s) := by
  -- every exit: the flag implies the error return
  have hexit : ∀ {s' : Ledger} {P : List Nat} {F : Prop} (r : Sum (AEnc × Nat) (AEnc × AList ABuf)),
      Sofar s s' e.owned P (collectWindow texts s) F → P.Perm ((prefEnc r).owned ++ prefExtra r) →
      (F → ∃ x, r = .inl x ∧ x.2 ≠ OK) → TblKept e (prefEnc r) →
      Good (Prog.ret r) s' (PrefixPost e texts s) :=
    fun r sf hp hF hk => good_ret.2 ⟨(sf.perm hp hF).clean, (sf.perm hp hF).rep, hk⟩
  unfold initPrefix
  refine Good.next e.owned [] wf
    (.start (ben := collectWindow texts s) (F := False) wf own)
    (listCreate_tri (ι := ABuf)) (by simp) nofun
    fun strings s1 sf1 hr1 hsc => ?_
  rcases strings with _ | strings <;> dsimp only
  · exact hexit (.inl (e, ENOMEM)) sf1 (by simp [prefEnc, prefExtra]) (fun _ => ⟨_, rfl, ENOMEM_ne_OK⟩) (.refl e)
  have n1 : s1.next = s.next + 1 := by have := listCreate_req (ι := ABuf) s; unfold Good at this; rwa [hr1] at this
  have hsc := hsc strings rfl
  -- `wbxml_strtbl_collect_strings`: all its requests are benign
  refine Good.next_rep (e.owned ++ [strings.hdr]) [] (A := [])
    (b := fun _ => True)
    (own := fun r => r.cells.map (·.1))
    (EA := fun _ => False)
    (X := fun r s' => r.hdr = strings.hdr ∧ (∀ b ∈ r.cells.map (·.2), b ∈ texts) ∧
      s'.next = s1.next + (texts.filter collectable).length)
    wf sf1 (by simp) (fun _ => ?_) ?_
    fun strings2 s2 sf2 _ ⟨eh2, hmem2, _⟩ => ?_
  · refine (collectStrings_spec texts strings s1 sf1.clean.wf (sf1.clean.mem_live (by simp))
      fun t ht => (sf1.clean.outside wf (htx t ht).1 (htx t ht).2).1).mono ?_
    rintro r s' ⟨eh, newc, hcells, c, sub, _, n⟩
    rw [hsc, List.nil_append] at hcells
    exact ⟨hcells ▸ c, fun _ _ _ _ h => (h trivial).elim, eh, fun b hb => (List.mem_filter.1 (sub.subset (hcells ▸ hb))).1, n⟩
  · rintro r s' - ⟨_, _, n⟩ k a b -
    exact ⟨by omega, by omega⟩
  have sf2 : Sofar s s2 e.owned (e.owned ++ stringsOwned true strings2.hdr strings2.cells) (collectWindow texts s)
      False := sf2.perm (by
    simp only [stringsOwned, eh2, strOi_true, cellsOwned_nop]; perm_count) (by simp)
  refine Good.next [] [] wf sf2 (checkReferences_tri e strings2 true) (by simp) (fun i hi => ?_)
    fun ⟨e3, ret, strs, oneRef⟩ s3 sf3 _ ⟨k3, hne3, hok3, hprov3⟩ => ?_
  · obtain ⟨b, hb, rfl⟩ := List.mem_map.1 (by simpa using hi)
    exact sf2.clean.outside wf (htx b (hmem2 b (by simpa [AList.items] using hb))).1 (htx b (hmem2 b (by simpa [AList.items] using hb))).2
  simp only [List.nil_append, List.append_nil] at sf3 ⊢
  refine Good.if_ne_ok (fun hret => ?_) fun hret => ?_
  · obtain rfl := hne3 hret
    refine Good.next e3.owned [] wf sf3 (listDestroy_frees (fun _ => ([] : List Nat)) _ nop_destroys strs).tri (by
      cases strs <;> simp only [listOwned, stringsOwned, strOi_true] <;> perm_count) nofun fun _ s4 sf4 _ _ => ?_
    exact hexit (.inl (e3, ret)) sf4 (by simp [prefEnc, prefExtra]) (fun _ => ⟨_, rfl, hret⟩) k3
  subst hret
  obtain ⟨rfl, hsome⟩ := hok3 rfl
  obtain ⟨one, rfl⟩ := Option.isSome_iff_exists.1 hsome
  -- the references are held, their strings are text nodes of the tree
  refine Good.next (e3.owned ++ refsOwned one) [] wf sf3 (collectWords_tri one) (by simp)
    (eltReads_live (sf3.clean.mem_live (by simp)) fun x hx =>
      have hb := htx _ (hmem2 _ (by simpa [AList.items] using (hprov3 one rfl x hx).2))
      ⟨sf3.clean.mem_live (List.mem_append_right _ (List.mem_cons_of_mem _ (mem_cellsOwned_hdr hx))),
        (sf3.clean.outside wf hb.1 hb.2).1⟩)
    fun ⟨ret4, words⟩ s4 sf4 _ e4 => ?_
  have sf4 := sf4.perm (.refl _) (show _ → ret4 ≠ OK by simp)
  have hdrop : ∀ (r : Sum (AEnc × Nat) (AEnc × AList ABuf)), prefEnc r = e3 → prefExtra r = bufListOwned words →
      (ret4 ≠ OK → ∃ x, r = .inl x ∧ x.2 ≠ OK) →
      Good (Prog.bind (listDestroy (some one) (fun x => strEltDestroy (some x))) fun _ => Prog.ret r) s4
        (PrefixPost e texts s) := fun r h1 h2 hF =>
    Good.next e3.owned (bufListOwned words) wf sf4 (listDestroy_frees StrElt.owned _ elt_destroys (some one)).tri
      (by simp only [listOwned]; perm_count) nofun
      fun _ s5 sf5 _ _ => hexit r sf5 (by rw [h1, h2, List.nil_append]) (fun f => hF (f.resolve_right id)) (h1 ▸ k3)
  refine Good.if_ne_ok (fun hret4 => ?_) fun hret4 => ?_
  · obtain rfl := e4 hret4
    exact hdrop (.inl (e3, ret4)) rfl rfl fun _ => ⟨_, rfl, hret4⟩
  · subst hret4
    cases words with
    | none => exact hdrop (.inl (e3, OK)) rfl rfl (by simp)
    | some words => exact hdrop (.inr (e3, words)) rfl rfl (by simp)

/-- The second `wbxml_strtbl_check_references`: whatever fails, the encoder keeps a well-formed table
    and everything else is released; the code returned is the one passed in, or `WBXML_OK`. -/
theorem initSuffix_tri (a : Sum (AEnc × Nat) (AEnc × AList ABuf)) :
    Spec [] ((prefEnc a).owned ++ prefExtra a) (initSuffix a) (fun r => r.1.owned)
      (fun r => TblKept (prefEnc a) r.1 ∧ (match a with | .inl x => r.2 = x.2 | .inr _ => r.2 = OK)) (fun _ => True) := by
  rcases a with x | ⟨e1, words⟩
  · exact .ret (by simp [prefEnc, prefExtra]) ⟨rfl, .refl _, rfl⟩ fun _ => trivial
  simp only [prefEnc, prefExtra]
  unfold initSuffix
  refine (checkReferences_tri e1 words false).step (by simp only [stringsOwned, listOwned, strOi_false]; exact .refl _) nofun ?_
  rintro ⟨e2, ret2, words', oneRef2⟩ ⟨k, _, hok, _⟩
  simp only at k hok ⊢
  -- the common tail: destroy `one_ref`, return OK
  have hfin : ∀ {F : Prop}, Tri [] (e2.owned ++ listOwned StrElt.owned oneRef2) F
      ((listDestroy oneRef2 (fun x => strEltDestroy (some x))).bind fun _ => Prog.ret (e2, OK))
      (fun r B => B = r.1.owned ∧ TblKept e1 r.1 ∧ r.2 = OK) (fun _ => True) :=
    .release (listDestroy_frees StrElt.owned _ elt_destroys oneRef2) (.refl _)
      (.ret (.refl _) ⟨rfl, k, rfl⟩ fun _ => trivial)
  by_cases hret : (ret2 != OK) = true
  · rw [if_pos hret]
    exact .release (listDestroy_frees ABuf.owned _ buf_destroys words') (Fr := e2.owned ++ listOwned StrElt.owned oneRef2) (by
      cases words' <;> cases oneRef2 <;> simp only [stringsOwned, listOwned, strOi_false] <;> perm_count) hfin
  · rw [if_neg hret]
    obtain ⟨rfl, _⟩ := hok (by simpa using hret)
    exact hfin.perm (by cases oneRef2 <;> simp [listOwned])

/-- `wbxml_strtbl_initialize`, for every list of text nodes and every schedule: never a fault; every
    block the run allocates ends up owned by the encoder (in its string table) or is released; the
    text buffers of the tree are only read; the string table stays well-formed (`TblInv`) and only
    gains entries that own their string; and every failed request is reported as an error — except
    the requests of the two places whose failure the code ignores on purpose: the
    `wbxml_list_append` calls of `wbxml_strtbl_collect_strings` (`collectWindow`) and everything the
    second `wbxml_strtbl_check_references` asks for (the requests after `initPrefix`). -/
theorem strtblInitialize_spec (e : AEnc) (texts : List ABuf) (s : Ledger) (wf : s.WF) (own : Owns s e.owned)
    (htx : ∀ t ∈ texts, t.hdr ∈ s.live ∧ t.hdr ∉ e.owned) :
    Good (strtblInitialize e texts) s (fun r s' =>
      TblKept e r.1 ∧ Clean s s' e.owned r.1.owned ∧
      (∀ k, s.fails k = true → s.next < k → k ≤ s'.next → ¬ collectWindow texts s k →
        ¬ (run (initPrefix e texts) s).2.next < k → r.2 ≠ OK)) := by
  rw [strtblInitialize_eq]
  refine Good.bind (initPrefix_spec e texts s wf own htx).with_run ?_
  intro a s4 ⟨⟨cP, hrep, kP⟩, hrun⟩
  refine ((initSuffix_tri a).good cP.wf cP.owns nofun).mono ?_
  intro r s5 ⟨cS, _, kS, hres⟩
  refine ⟨kP.trans kS, Clean.trans_recycle wf cP cS, ?_⟩
  intro k hf a1 a2 hw hk
  rw [hrun] at hk
  obtain ⟨x, hx, hne⟩ := hrep k hf a1 (by simpa using Nat.le_of_not_lt hk) hw
  subst hx
  rw [hres]; exact hne

end Wbxml.Model.Alloc
