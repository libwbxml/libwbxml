/-
  WBXML encoder proofs: `wbxml_encode_tag` writes `[switchPage] stag` of the grammar; what a reader
  makes of the tag written (`tagRow_found`, `tagOk_wf`, `exactName`, `tagLink_exact`); the token and literal writers
  and the tag encoder keep the frame `Step` (`Lemmas/EncWBasic.lean`).
-/
import Wbxml.Lemmas.CodecBits
import Wbxml.Lemmas.EncWSplit
import Wbxml.Lemmas.EncLookup
namespace Wbxml.Lemmas.EncW
open Wbxml Wbxml.Model Wbxml.Spec Wbxml.Lemmas.ParseSer
open Wbxml.Model.Codec (mbEncode)

/-- The row `wbxml_encode_tag` works with (`current_tag` afterwards), given the tag page in force. -/
def foundAt (l : Lang) (tp : Nat) : Name → Option TagRow
  | .token r => some r
  | .literal s =>
    match l.tags with
    | some tags => encTag tags (some tp) (cstrOf s)
    | none => none

theorem foundAt_spec (l : Lang) (tp : Nat) (name : Name) (hn : nameOver l name = true) (r : TagRow)
    (h : foundAt l tp name = some r) : (∃ tags, l.tags = some tags ∧ r ∈ tags) ∧ r.name = name.cName := by
  cases name with
  | token r' =>
    simp only [foundAt] at h; injection h with h; subst h
    simp only [nameOver] at hn
    cases ht : l.tags with
    | none => simp [ht] at hn
    | some tags => exact ⟨⟨tags, rfl, by simpa [ht] using hn⟩, rfl⟩
  | literal s =>
    simp only [foundAt] at h
    cases ht : l.tags with
    | none => simp [ht] at h
    | some tags => rw [ht] at h; exact ⟨⟨tags, rfl, (encTag_spec _ _ _ _ h).1⟩, (encTag_spec _ _ _ _ h).2⟩

theorem tagBits (t : Nat) (ht : t < 64) (a b : Bool) :
    (t ||| (if a then 0x40 else 0) ||| (if b then 0x80 else 0)) = t + tagFlags b a ∧
    ((t + tagFlags b a) &&& 0x3F == 0) = (t == 0) := by
  -- the flags are a multiple of 64 and `t < 64`: the OR is the sum, and its low six bits are `t`
  obtain ⟨k, hk1, hk2⟩ : ∃ k, tagFlags b a = 2 ^ 6 * k ∧
      ((if a then 0x40 else 0) ||| (if b then 0x80 else 0) : Nat) = 2 ^ 6 * k := by
    cases a <;> cases b
    · exact ⟨0, rfl, rfl⟩
    · exact ⟨2, rfl, rfl⟩
    · exact ⟨1, rfl, rfl⟩
    · exact ⟨3, rfl, rfl⟩
  constructor
  · rw [Nat.or_assoc, hk2, hk1, Nat.or_comm, ← Nat.two_pow_add_eq_or_of_lt ht, Nat.add_comm]
  · rw [Lemmas.Codec.and_63, hk1, Nat.add_comm, Nat.mul_add_mod, Nat.mod_eq_of_lt ht]

theorem tagTokenW_out (token page : Nat) (st : WSt) :
    (tagTokenW token page st).out = st.out ++ (serSw (swFor st.tagPage page) ++ [UInt8.ofNat token]) ∧
    (tagTokenW token page st).tagPage = page % 256 ∧ (tagTokenW token page st).attrPage = st.attrPage := by
  unfold tagTokenW swFor
  by_cases h : (st.tagPage != page % 256) = true
  · simp only [h, ↓reduceIte, emit_out, serSw, byte_mod, List.append_assoc, emit_tagPage]
    exact ⟨by simp, trivial, rfl⟩
  · simp only [h, Bool.false_eq_true, ↓reduceIte, emit_out, serSw, List.nil_append, emit_tagPage, true_and]
    simp only [bne_iff_ne, ne_eq, Decidable.not_not] at h
    exact ⟨h, rfl⟩

theorem tagLiteralW_eq (c : WCfg) (name : Bytes) (mask : Nat) (st : WSt) :
    tagLiteralW c name mask st =
      if c.useStrtbl = true then
        .ok ((strtblAdd st name none).1.emit (UInt8.ofNat (0x04 ||| mask) :: mbEncode (strtblAdd st name none).2))
      else .error (.code EW.strtblDisabled) := by
  unfold tagLiteralW
  cases c.useStrtbl <;> rfl

/-- What the `[switchPage] stag` written for a name is: all a reader's well-formedness and string-table
    references need of it. -/
inductive TagOk (c : WCfg) (tbl : List StrEntry) (tp : Nat) (nm : Bytes) : Option Nat → Tag → Prop
  | tok (tags : List TagRow) (r : TagRow) : c.lang.tags = some tags → r ∈ tags → r.name = nm →
      TagOk c tbl tp nm (swFor tp r.page) (.tok r.token)
  | lit (off : Nat) : (∃ e ∈ tbl, e.offset = off ∧ e.str = nm) → TagOk c tbl tp nm none (.lit off)

/-- How the tag written relates to `current_tag`, which is what types the text that follows. -/
def TagLink (c : WCfg) (name : Name) (st : WSt) (sw : Option Nat) (tag : Tag) : Prop :=
  match foundAt c.lang st.tagPage name with
  | some r => sw = swFor st.tagPage r.page ∧ tag = .tok r.token
  | none => sw = none ∧ ∃ off, tag = .lit off

/-- `wbxml_encode_tag` after the row has been chosen. -/
def encTagCore (c : WCfg) (cname : Bytes) (t p : Nat) (hc ha : Bool) (st1 : WSt) : Except Err WSt :=
  let token := t ||| (if hc then 0x40 else 0) ||| (if ha then 0x80 else 0)
  if token &&& 0x3F == 0 then tagLiteralW c cname token st1
  else pure (tagTokenW token p st1)

theorem encTagW_eq (c : WCfg) (name : Name) (hc ha : Bool) (st : WSt) :
    encTagW c name hc ha st =
      encTagCore c name.cName (match foundAt c.lang st.tagPage name with | some r => r.token % 256 | none => 0)
        (match foundAt c.lang st.tagPage name with | some r => r.page % 256 | none => 0) hc ha
        { st with curTag := foundAt c.lang st.tagPage name } := by
  cases name with
  | token r => rfl
  | literal s => rfl

theorem attrTokenW_step (c : WCfg) (t p : Nat) (st : WSt) : Step c st (attrTokenW t p st) := by
  unfold attrTokenW; split <;> exact ⟨TblExt.of_eq rfl rfl, rfl, rfl⟩

theorem tagTokenW_step (c : WCfg) (t p : Nat) (st : WSt) : Step c st (tagTokenW t p st) := by
  unfold tagTokenW; split <;> exact ⟨TblExt.of_eq rfl rfl, rfl, rfl⟩

theorem tagLiteralW_step (c : WCfg) (name : Bytes) (mask : Nat) (st st' : WSt) (h : tagLiteralW c name mask st = .ok st') :
    Step c st st' := by
  rw [tagLiteralW_eq] at h
  split at h
  · injection h with h; subst h; exact strtblAdd_step c ‹_› st name _
  · cases h

theorem encTagCore_step (c : WCfg) (cname : Bytes) (t p : Nat) (hc ha : Bool) (st1 st' : WSt)
    (h : encTagCore c cname t p hc ha st1 = .ok st') : Step c st1 st' := by
  unfold encTagCore at h
  simp only at h
  generalize (t ||| (if hc = true then 64 else 0) ||| if ha = true then 128 else 0) = token at h
  split at h
  · exact tagLiteralW_step c _ _ _ st' h
  · cases Except.ok.inj h; exact tagTokenW_step c _ _ _

theorem encTagW_step (c : WCfg) (name : Name) (hc ha : Bool) (st st' : WSt) (h : encTagW c name hc ha st = .ok st') :
    Step c { st with curTag := foundAt c.lang st.tagPage name } st' := by
  rw [encTagW_eq] at h
  exact encTagCore_step _ _ _ _ _ _ _ _ h

theorem encTagW_spec (c : WCfg) (name : Name) (hc ha : Bool) (st st' : WSt)
    (hl : langOk c.lang = true) (hn : nameOver c.lang name = true)
    (h : encTagW c name hc ha st = .ok st') :
    ∃ sw tag, st'.out = st.out ++ (serSw sw ++ serTag (tagFlags ha hc) tag) ∧
      st'.tagPage = swPage sw st.tagPage ∧ st'.attrPage = st.attrPage ∧
      TblExt c st st' ∧ TagOk c st'.strtbl st.tagPage name.cName sw tag ∧ TagLink c name st sw tag := by
  have hstep := encTagW_step c name hc ha st st' h
  have htbl : TblExt c st st' := (TblExt.of_eq rfl rfl : TblExt c st { st with curTag := foundAt c.lang st.tagPage name }).trans hstep.tbl
  rw [encTagW_eq] at h
  unfold encTagCore at h
  cases hf : foundAt c.lang st.tagPage name with
  | some r =>
    obtain ⟨⟨tags, ht, hm⟩, hnm⟩ := foundAt_spec c.lang st.tagPage name hn r hf
    obtain ⟨h5, h64, hp⟩ := tagRange r (langOk_tags hl ht hm)
    rw [hf] at h
    simp only [Nat.mod_eq_of_lt (show r.token < 256 by omega), (tagBits r.token h64 hc ha).1,
      (tagBits r.token h64 hc ha).2] at h
    have hne : (r.token == 0) = false := by simp; omega
    rw [hne] at h
    injection h with h
    subst h
    have ho := tagTokenW_out (r.token + tagFlags ha hc) (r.page % 256) { st with curTag := some r }
    simp only [Nat.mod_mod] at ho
    refine ⟨swFor st.tagPage r.page, .tok r.token, ?_, ?_, ho.2.2, htbl,
      .tok tags r ht hm hnm, by simp only [TagLink, hf, and_self]⟩
    · rw [ho.1]
      simp only [serTag, byte, swFor, Nat.mod_mod]
    · rw [ho.2.1, swPage_swFor]
  | none =>
    rw [hf] at h
    have hz : ((0 ||| (if hc then 0x40 else 0) ||| (if ha then 0x80 else 0)) &&& 0x3F == 0) = true := by
      cases hc <;> cases ha <;> rfl
    simp only [hz, ↓reduceIte] at h
    rw [tagLiteralW_eq] at h
    split at h
    · injection h with h
      subst h
      obtain ⟨e, he, ho, hstr⟩ := strtblAdd_idx { st with curTag := none } name.cName none
      refine ⟨none, .lit (strtblAdd { st with curTag := none } name.cName none).2, ?_, ?_, ?_, htbl,
        .lit _ ⟨e, he, ho, hstr⟩, by simp only [TagLink, hf, true_and]; exact ⟨_, rfl⟩⟩
      · simp only [emit_out, strtblAdd_out, serSw, List.nil_append, serTag, mb]
        congr 2
        cases hc <;> cases ha <;> rfl
      · simp only [emit_tagPage, strtblAdd_tagPage]; rfl
      · simp only [emit_attrPage, strtblAdd_attrPage]
    · cases h

theorem tagRow_found (c : WCfg) (ctx : Ctx) (hlang : ctx.lang = c.lang) (tags : List TagRow)
    (ht : c.lang.tags = some tags) (r : TagRow) (hr : r ∈ tags) :
    ∃ r', tagRow ctx r.page r.token = some r' ∧ decTag tags r.page r.token = some r' ∧
      r'.token = r.token ∧ r'.page = r.page := by
  have ht' : ctx.lang.tags = some tags := by rw [hlang]; exact ht
  simp only [tagRow, ht', decTag]
  cases hf : tags.find? (fun x => x.token == r.token && x.page == r.page) with
  | none =>
    have := List.find?_eq_none.mp hf r hr
    simp at this
  | some r' =>
    have h1 := List.find?_some hf
    simp only [Bool.and_eq_true, beq_iff_eq] at h1
    exact ⟨r', rfl, rfl, h1.1, h1.2⟩

theorem TagOk.mono {c : WCfg} {tbl tbl' : List StrEntry} (hp : tbl <+: tbl') {tp nm sw tag}
    (h : TagOk c tbl tp nm sw tag) : TagOk c tbl' tp nm sw tag := by
  cases h with
  | tok tags r ht hr hn => exact .tok tags r ht hr hn
  | lit off ho => obtain ⟨e, he, ho⟩ := ho; exact .lit off ⟨e, hp.subset he, ho⟩

theorem tagOk_wf (c : WCfg) (tbl) (tp : Nat) (nm) (sw tag) (h : TagOk c tbl tp nm sw tag)
    (ctx : Ctx) (hc : Compat c tbl ctx) (hl : langOk c.lang = true) :
    wfSw sw = true ∧ wfTag ctx (swPage sw tp) tag = true := by
  cases h with
  | tok tags r ht hr _ =>
    have hrange := tagRange r (langOk_tags hl ht hr)
    refine ⟨wfSw_swFor _ _, ?_⟩
    rw [swPage_swFor, Nat.mod_eq_of_lt hrange.2.2]
    obtain ⟨r', hfr, _⟩ := tagRow_found c ctx hc.lang tags ht r hr
    simp only [wfTag, isTagTok, hfr, Option.isSome_some, Bool.and_true, Bool.and_eq_true, decide_eq_true_eq]
    exact ⟨hrange.1, hrange.2.1⟩
  | lit off ho =>
    obtain ⟨e, he, rfl, _⟩ := ho
    exact ⟨rfl, by simp [wfTag, hc.cs, hc.offs e he]⟩

theorem tagOk_refs (c : WCfg) (tbl) (tp : Nat) (nm) (sw tag) (h : TagOk c tbl tp nm sw tag) :
    ∀ off ∈ refsTag tag, ∃ e ∈ tbl, e.offset = off := by
  intro off ho
  cases h with
  | tok tags r ht hr _ => cases ho
  | lit o hoo =>
    simp only [refsTag, List.mem_cons, List.mem_nil_iff, or_false] at ho
    subst ho
    obtain ⟨e, he, heo, _⟩ := hoo
    exact ⟨e, he, heo⟩

theorem nameOver_nulFree (l : Lang) (name : Name) (hn : nameOver l name = true) (hts : tagSemOk l = true) :
    nulFree name.cName = true := by
  cases name with
  | literal s => exact nulFree_cstrOf s
  | token r =>
    simp only [nameOver] at hn
    cases ht : l.tags with
    | none => simp [ht] at hn
    | some tags =>
      simp only [ht, List.contains_iff_mem] at hn
      simp only [tagSemOk, ht, List.all_eq_true, Bool.and_eq_true] at hts
      exact (hts r hn).1

/-- The name of the FIRST row with the page and token of the row found: its alias where the table has
    aliases (ActiveSync). -/
def nameView (l : Lang) (found : Option TagRow) (nm : Bytes) : Bytes :=
  match found with
  | some r =>
    match l.tags with
    | some tags =>
      match decTag tags r.page r.token with
      | some d => d.name
      | none => nm
    | none => nm
  | none => nm

theorem TagOk.lit_inv {c : WCfg} {tbl : List StrEntry} {tp : Nat} {nm : Bytes} {sw : Option Nat} {off : Nat}
    (h : TagOk c tbl tp nm sw (.lit off)) : ∃ e ∈ tbl, e.offset = off ∧ e.str = nm := by
  generalize ht : Tag.lit off = tag at h
  cases h with
  | tok tags r _ _ _ => cases ht
  | lit off' ho => injection ht with ht; subst ht; exact ho

theorem foundAt_token (l : Lang) (tp : Nat) (r0 : TagRow) : foundAt l tp (.token r0) = some r0 := rfl

/-- **The `Name` a reader gives the tag written for a node** — representation included: the token
    name of the FIRST row with the page and token of the row `wbxml_encode_tag` found (C08's
    `decTag`: the row itself, except for the second of two rows sharing a token), or the literal
    with the node's own name when no row was found. `nameView` is its XML name. -/
def exactName (l : Lang) (found : Option TagRow) (nm : Bytes) : Name :=
  match found with
  | some r =>
    match l.tags with
    | some tags =>
      match decTag tags r.page r.token with
      | some d => .token d
      | none => .literal nm
    | none => .literal nm
  | none => .literal nm

theorem exactName_xmlName (l : Lang) (found : Option TagRow) (nm : Bytes) :
    (exactName l found nm).xmlName = nameView l found nm := by
  unfold exactName nameView
  cases found with
  | none => rfl
  | some r =>
    cases l.tags with
    | none => rfl
    | some tags =>
      simp only
      cases decTag tags r.page r.token <;> rfl

theorem tagLink_exact (c : WCfg) (name : Name) (st : WSt) (tbl) (sw tag)
    (hok : TagOk c tbl st.tagPage name.cName sw tag) (hlink : TagLink c name st sw tag)
    (hn : nameOver c.lang name = true) (ctx : Ctx) (hlang : ctx.lang = c.lang) (hl : langOk c.lang = true)
    (hres : Resolves ctx.tbl tbl) :
    (tagName ctx (swPage sw st.tagPage) tag).1 = exactName c.lang (foundAt c.lang st.tagPage name) name.cName := by
  unfold TagLink at hlink
  cases hf : foundAt c.lang st.tagPage name with
  | some r =>
    rw [hf] at hlink
    obtain ⟨rfl, rfl⟩ := hlink
    obtain ⟨⟨tags, ht, hm⟩, _⟩ := foundAt_spec c.lang st.tagPage name hn r hf
    have hrange := tagRange r (langOk_tags hl ht hm)
    rw [swPage_swFor, Nat.mod_eq_of_lt hrange.2.2]
    obtain ⟨r', hfr, hd, _⟩ := tagRow_found c ctx hlang tags ht r hm
    simp only [tagName, hfr, exactName, ht, hd]
  | none =>
    rw [hf] at hlink
    obtain ⟨rfl, off, rfl⟩ := hlink
    have hnf : nulFree name.cName = true := by
      cases name with
      | token r0 => rw [foundAt_token] at hf; cases hf
      | literal s => exact nulFree_cstrOf s
    obtain ⟨e, he, rfl, hstr⟩ := hok.lit_inv
    rw [← hstr]
    exact congrArg Name.literal (hres e he (by rw [hstr]; exact hnf))

end Wbxml.Lemmas.EncW
