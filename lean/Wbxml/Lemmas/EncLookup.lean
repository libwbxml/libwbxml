/-
  Table look-ups of the encoder, at the level of the tables (`Model/Tables.lean`): the row
  `wbxml_tables_get_attr_from_xml` returns (`encAttr_spec`, read off `Rt.encAttr_choice`) and the row
  `wbxml_tables_get_tag_from_xml` returns (`encTag_spec`). No encoder state.
-/
import Wbxml.Lemmas.AttrChoice
namespace Wbxml.Lemmas.EncW
open Wbxml Wbxml.Model

/-- What `wbxml_tables_get_attr_from_xml` promises of the row `r` it returns with `n` octets of the
    value covered: a row of the table with the name asked for, whose value prefix is the whole value
    or else a prefix of it, `n` octets long. -/
theorem encAttr_spec {attrs : List AttrRow} {name value : Bytes} {r : AttrRow} {n : Nat}
    (h : encAttr attrs name value = some (r, n)) : r ∈ attrs ∧ r.name = name ∧
      (r.value = some value ∨ (n = (r.value.getD []).length ∧ r.value.getD [] <+: value)) := by
  rw [Rt.encAttr_choice] at h
  split at h
  · rename_i e he
    injection h with h; injection h with h1 h2; subst h1 h2
    have hp := List.find?_some he
    simp only [Rt.isExactRow, Bool.and_eq_true, beq_iff_eq] at hp
    exact ⟨List.mem_of_find?_eq_some he, hp.1, Or.inl hp.2⟩
  · split at h
    · rename_i hm
      obtain ⟨e, he, h⟩ := Option.map_eq_some_iff.mp h
      injection h with h1 h2; subst h1 h2
      have hp := List.find?_some he
      rw [beq_iff_eq] at hp
      obtain ⟨hn, v, hv, hpre, hl⟩ := Rt.preLenOf_pos (r := e) (by rw [hp]; exact hm)
      exact ⟨List.mem_of_find?_eq_some he, hn, Or.inr (by rw [hv, Option.getD_some, ← hp, hl]; exact ⟨rfl, hpre⟩)⟩
    · obtain ⟨e, he, h⟩ := Option.map_eq_some_iff.mp h
      injection h with h1 h2; subst h1 h2
      have hp := List.find?_some he
      simp only [Rt.isNullRow, Bool.and_eq_true, beq_iff_eq, Option.isNone_iff_eq_none] at hp
      exact ⟨List.mem_of_find?_eq_some he, hp.1, Or.inr (by rw [hp.2]; exact ⟨rfl, List.nil_prefix⟩)⟩

theorem encTagLoop1_spec (cur : Nat) (name : Bytes) (l : List TagRow) (f : Bool) (r : TagRow)
    (h : encTagLoop1 cur name l f = some r) : r ∈ l ∧ r.name = name := by
  induction l generalizing f with
  | nil => simp [encTagLoop1] at h
  | cons x xs ih =>
    simp only [encTagLoop1] at h
    split at h
    · split at h
      · rename_i hn
        injection h with h; subst h; exact ⟨List.mem_cons_self, by simpa using hn⟩
      · exact ⟨List.mem_cons_of_mem _ (ih _ h).1, (ih _ h).2⟩
    · split at h
      · cases h
      · exact ⟨List.mem_cons_of_mem _ (ih _ h).1, (ih _ h).2⟩

theorem encTag_spec (tags : List TagRow) (cur : Option Nat) (name : Bytes) (r : TagRow)
    (h : encTag tags cur name = some r) : r ∈ tags ∧ r.name = name := by
  unfold encTag at h
  cases cur with
  | none => exact ⟨List.mem_of_find?_eq_some h, by simpa using List.find?_some h⟩
  | some c =>
    simp only at h
    cases h1 : encTagLoop1 c name tags false with
    | some r' => rw [h1] at h; injection h with h; subst h; exact encTagLoop1_spec _ _ _ _ _ h1
    | none =>
      rw [h1] at h
      have := List.find?_some h
      simp only [Bool.and_eq_true, beq_iff_eq] at this
      exact ⟨List.mem_of_find?_eq_some h, this.2⟩

end Wbxml.Lemmas.EncW
