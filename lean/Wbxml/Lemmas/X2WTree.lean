/-
  C02, tree-builder half: `BOk`, the step invariant of the Expat call-backs — every node the builder has
  attached is well named (`nodeOk`), every embedded tree has a root, the language is a table entry, every
  error code is non-zero — for any event sequence whose names are XML names (`evNamed`); and, whatever the
  events, only `searchTable` sets the language (`treeOfXml_lang_mem`).
-/
import Wbxml.Lemmas.Ident
import Wbxml.Lemmas.XmlElt
import Wbxml.Lemmas.X2WContract
import Wbxml.Lemmas.TreeBuildBasic
namespace Wbxml.Lemmas.X2W
open Wbxml Wbxml.Model

theorem nodeOk_text (s : Bytes) : nodeOk (.text s) = true := by simp [nodeOk]

theorem addKid_ok (kids : List Node) (n : Node) (hk : nodesOk kids = true) (hn : nodeOk n = true) :
    nodesOk (addKid kids n) = true :=
  (nodesOk_iff _).mpr (Rt.addKid_all kids n nodeOk_text ((nodesOk_iff _).mp hk) hn)

/-- The node an open frame closes to will satisfy `nodeOk`: its names are non-empty, its children so far well named. -/
def frameOk (f : XFrame) : Bool :=
  (match f.kind with
   | .elt n a => nameOk n && a.all (fun x => anameOk x.name)
   | .cdata => true) && nodesOk f.kids

theorem frameOk_close (f : XFrame) (h : frameOk f = true) : nodeOk f.close = true := by
  unfold frameOk at h
  unfold XFrame.close
  cases hk : f.kind with
  | elt n a =>
    simp only [hk, Bool.and_eq_true] at h
    simp only [nodeOk, Bool.and_eq_true]
    exact ⟨h.1, h.2⟩
  | cdata =>
    simp only [hk, Bool.true_and] at h
    simp only [nodeOk]
    exact h

theorem frameOk_addKid (f : XFrame) (n : Node) (h : frameOk f = true) (hn : nodeOk n = true) :
    frameOk { f with kids := addKid f.kids n } = true := by
  unfold frameOk at h ⊢
  simp only [Bool.and_eq_true] at h ⊢
  exact ⟨h.1, addKid_ok _ _ h.2 hn⟩

theorem frameOk_content (f : XFrame) (c : Option Bytes) (h : frameOk f = true) :
    frameOk { f with content := c } = true := h

/-- The invariant of the builder behind `treeOfXml_ok`: open frames and root are well named, the language is
    one of the table, an error code is not 0 (`WBXML_OK`). -/
structure BOk (main : List Lang) (b : XBState) : Prop where
  stack : ∀ f ∈ b.stack, frameOk f = true
  root : ∀ r, b.root = some r → nodeOk r = true
  lang : ∀ l, b.lang = some l → l ∈ main
  err : ∀ e, b.error = some e → e ≠ 0

theorem bOk_init (main : List Lang) : BOk main {} :=
  ⟨(by intro f h; cases h), (by intro r h; cases h), (by intro l h; cases h), (by intro e h; cases h)⟩

theorem BOk.setErr {main : List Lang} {b : XBState} (h : BOk main b) (e : Nat) (he : e ≠ 0) :
    BOk main { b with error := some e } :=
  ⟨h.stack, h.root, h.lang, by intro e' h'; simp only [Option.some.injEq] at h'; subst h'; exact he⟩

theorem cstrOf_ne_nil_of (s : Bytes) (h : (cstrOf s).isEmpty = false) : s ≠ [] := by
  intro e; subst e; simp [cstrOf] at h

theorem xeTag_ok (lang : Lang) (name : Bytes) (h : (cstrOf (localName name)).isEmpty = false) :
    nameOk (xeTag lang name).1 = true := by
  rcases xeTag_cases lang name with e | ⟨r, _, e, _, _, hn⟩ <;> rw [e] <;> simp only [nameOk]
  · rw [h]; rfl
  · rw [hn, List.isEmpty_eq_false_iff.mpr (cstrOf_ne_nil_of _ h)]; rfl

theorem xeAttr_ok (lang : Lang) (nv : Bytes × Bytes) (h : (cstrOf nv.1).isEmpty = false) :
    anameOk (xeAttr lang nv).name = true := by
  have hu : (cstrOf (unXml nv.1)).isEmpty = false := by
    unfold unXml
    split
    · simp [cstrOf, cstrLen]
    · exact h
  rcases xeAttr_cases lang nv with e | ⟨r, _, e, _, _, hn⟩ <;> rw [e] <;> simp only [anameOk]
  · rw [hu]; rfl
  · rw [hn, List.isEmpty_eq_false_iff.mpr (cstrOf_ne_nil_of _ hu)]; rfl

theorem xmlElt_ok (lang : Lang) (name : Bytes) (attrs : List (Bytes × Bytes))
    (hn : xnameOk name = true) (ha : xattrsOk attrs = true) : frameOk (xmlElt lang name attrs).1 = true := by
  rw [xmlElt_closed]
  simp only [frameOk, nodesOk, Bool.and_true, Bool.and_eq_true, List.all_map, List.all_eq_true]
  simp only [xattrsOk, List.all_eq_true] at ha
  exact ⟨xeTag_ok lang name (by simpa [xnameOk] using hn), fun p hp => xeAttr_ok lang p (by simpa using ha p hp)⟩

theorem BOk.congr {main : List Lang} {b b' : XBState} (h : BOk main b) (hs : b'.stack = b.stack)
    (hr : b'.root = b.root) (hl : b'.lang = b.lang) (he : b'.error = b.error) : BOk main b' :=
  ⟨hs ▸ h.stack, hr ▸ h.root, hl ▸ h.lang, he ▸ h.err⟩

theorem BOk.setStack {main : List Lang} {b : XBState} (h : BOk main b) (S : List XFrame)
    (hS : ∀ f ∈ S, frameOk f = true) : BOk main { b with stack := S } :=
  ⟨hS, h.root, h.lang, h.err⟩

theorem BOk.setLang {main : List Lang} {b : XBState} (h : BOk main b) (l : Lang) (hl : l ∈ main) :
    BOk main { b with lang := some l } :=
  ⟨h.stack, h.root, by intro l' e; cases e; exact hl, h.err⟩

theorem BOk.push {main : List Lang} {b : XBState} (h : BOk main b) (f : XFrame) (hf : frameOk f = true) :
    BOk main { b with stack := f :: b.stack } := by
  refine h.setStack _ ?_
  intro g hg
  rcases List.mem_cons.mp hg with rfl | hg
  · exact hf
  · exact h.stack g hg

theorem BOk.top {main : List Lang} {b : XBState} (h : BOk main b) {f : XFrame} {rest : List XFrame}
    (hs : b.stack = f :: rest) : frameOk f = true ∧ ∀ g ∈ rest, frameOk g = true :=
  ⟨h.stack f (by rw [hs]; simp), fun g hg => h.stack g (by rw [hs]; simp [hg])⟩

theorem BOk.setTop {main : List Lang} {b : XBState} (h : BOk main b) {f : XFrame} {rest : List XFrame}
    (hs : b.stack = f :: rest) (f' : XFrame) (hf' : frameOk f' = true) : BOk main { b with stack := f' :: rest } := by
  refine h.setStack _ ?_
  intro g hg
  rcases List.mem_cons.mp hg with rfl | hg
  · exact hf'
  · exact (h.top hs).2 g hg

theorem BOk.attach {main : List Lang} {b : XBState} (h : BOk main b) (n : Node) (hn : nodeOk n = true) :
    BOk main (b.attach n) := by
  rcases attach_cases b n with ⟨f, rest, hs, e⟩ | ⟨_, _, e⟩ | ⟨_, _, e⟩ <;> rw [e]
  · exact h.setTop hs _ (frameOk_addKid f n (h.top hs).1 hn)
  · exact ⟨h.stack, fun r hr => by cases hr; exact hn, h.lang, h.err⟩
  · exact h.setErr _ (by decide)

theorem decodeTop_ok {main : List Lang} {b : XBState} (h : BOk main b) : BOk main (decodeTop b) := by
  rcases decodeTop_cases b with e | ⟨f, rest, _, _, _, hs, _, _, ⟨_, e⟩ | ⟨_, _, e⟩⟩ <;> rw [e]
  · exact h
  · exact (h.setTop hs _ (frameOk_content f none (h.top hs).1)).setErr 19 (by decide)
  · exact (h.setTop hs _ (frameOk_content f none (h.top hs).1)).attach _ (nodeOk_text _)

theorem xPop_ok {main : List Lang} {b : XBState} (h : BOk main b) : BOk main (xPop b) := by
  rcases xPop_cases b with ⟨_, e⟩ | ⟨f, rest, hs, e⟩ | ⟨f, g, rest, hs, _, e⟩ | ⟨_, _, e⟩ <;> rw [e]
  · exact h.setErr E.internal (by decide)
  · exact (h.setStack rest (h.top hs).2).attach _ (frameOk_close f (h.top hs).1)
  · have hg : frameOk g = true := (h.top hs).2 g (by simp)
    exact (h.setStack rest (fun x hx => (h.top hs).2 x (by simp [hx]))).attach _
      (frameOk_close _ (frameOk_addKid g _ hg (frameOk_close f (h.top hs).1)))
  · exact h.setErr E.internal (by decide)

theorem endTail_ok {main : List Lang} (input : Bytes) {sub : Bytes → Option (Except Nat Tree)} (hsub : SubOk sub)
    {b : XBState} (h : BOk main b) (name : Bytes) (idx : Nat) : BOk main (endTail main input sub b name idx) := by
  unfold endTail
  split
  · rename_i doc _
    unfold answer
    split
    · exact h.congr rfl rfl rfl rfl
    · rename_i e he
      exact h.setErr e ((hsub doc).2 e he)
    · rename_i t ht
      exact (h.congr (b' := { b with skipLvl := 0 }) rfl rfl rfl rfl).attach _ ((hsub doc).1 t ht)
  · rcases endTailNQ_cases b name with e | e | e | e <;> rw [e]
    · exact h
    · exact h.congr rfl rfl rfl rfl
    · exact h.setErr _ (by decide)
    · exact xPop_ok h

theorem step_ok {main : List Lang} (input : Bytes) {sub : Bytes → Option (Except Nat Tree)} (hsub : SubOk sub)
    {b : XBState} (h : BOk main b) (e : XEvent) (he : evNamed e = true) :
    BOk main (xbuildStep main input sub b e) := by
  rw [xbuildStep_eq]
  split
  · exact h
  cases e with
  | endElt name idx => exact endTail_ok input hsub (decodeTop_ok h) name idx
  | xmlDecl v enc =>
    obtain ⟨cs, e⟩ := live_xmlDecl main input sub b v enc
    rw [e]
    exact h.congr rfl rfl rfl rfl
  | doctype sysid pubid =>
    rcases live_doctype main input sub b sysid pubid with ⟨_, e⟩ | ⟨l, hl, e⟩ <;> rw [e]
    · exact h
    · exact h.setLang l (Ident.searchTable_mem _ _ _ _ _ hl)
  | pi => exact h
  | startCdata =>
    simp only [liveStep]
    split
    · exact h
    · exact h.push _ rfl
  | endCdata =>
    simp only [liveStep]
    split
    · exact h
    · split
      · exact h.setErr _ (by decide)
      · rename_i f rest hs
        exact (h.setStack rest (h.top hs).2).attach _ (frameOk_close f (h.top hs).1)
  | chars s =>
    simp only [liveStep]
    split
    · exact h
    · have h1 : BOk main (charsPrep b) := by
        rcases charsPrep_cases b with e | ⟨_, _, _, _, _, _, e⟩ <;> rw [e]
        · exact h
        · exact h.push _ rfl
      generalize charsPrep b = b1 at h1
      generalize charsText b s = s'
      rcases charsTail_cases b1 s' with ⟨_, e⟩ | ⟨f, rest, hs, ⟨_, _, _, _, e⟩ | e⟩ <;> rw [e]
      · exact h1.setErr E.internal (by decide)
      · exact h1.setTop hs _ (h1.top hs).1
      · exact h1.setTop hs _ (frameOk_addKid f _ (h1.top hs).1 (nodeOk_text _))
  | startElt name attrs idx =>
    simp only [evNamed, Bool.and_eq_true] at he
    simp only [liveStep]
    split
    · exact h
    · split
      · exact h.congr rfl rfl rfl rfl
      · have h1 : BOk main (startLang main b name) := by
          rcases startLang_cases main b name with e | ⟨_, _, _, ⟨l, hl, e⟩ | e⟩ <;> rw [e]
          · exact h
          · exact h.setLang l (Ident.searchTable_mem _ _ _ _ _ hl)
          · exact h.setErr 101 (by decide)
        generalize startLang main b name = b1 at h1
        rcases startTail_cases b1 (b.stack.isEmpty && b.root.isNone) name attrs idx with
          ⟨_, e⟩ | e | ⟨_, _, _, e⟩ | ⟨lang, _, _, _, e⟩ <;> rw [e]
        · exact h1
        · exact h1.setErr 15 (by decide)
        · exact h1.congr rfl rfl rfl rfl
        · exact (h1.push _ (xmlElt_ok lang name attrs he.1 he.2)).congr rfl rfl rfl rfl

theorem fold_ok {main : List Lang} (input : Bytes) {sub : Bytes → Option (Except Nat Tree)} (hsub : SubOk sub)
    (evs : List XEvent) (b : XBState) (h : BOk main b) (he : evs.all evNamed = true) :
    BOk main (evs.foldl (xbuildStep main input sub) b) :=
  List.foldlRecOn evs _ h fun _ hb e hm => step_ok input hsub hb e (List.all_eq_true.mp he e hm)

variable (main : List Lang) (input : Bytes) (sub : Bytes → Option (Except Nat Tree))

theorem step_lang_mem (b : XBState) (e : XEvent) (h : ∀ l, b.lang = some l → l ∈ main) :
    ∀ l, (xbuildStep main input sub b e).lang = some l → l ∈ main := by
  rw [xbuildStep_eq]
  split
  · exact h
  intro l hl
  rcases live_lang_cases main input sub b e with e | ⟨_, _, l', _, hs, e⟩ | ⟨_, _, _, l', _, _, hs, e⟩ <;>
    rw [e] at hl
  · exact h l hl
  · cases hl; exact Ident.searchTable_mem _ _ _ _ _ hs
  · cases hl; exact Ident.searchTable_mem _ _ _ _ _ hs

/-- The language of a delivered tree is an entry of the main table (so its public identifier is
    one of the table's). -/
theorem treeOfXml_lang_mem (main : List Lang) (env : List (Bytes × ExpatRun)) (f : Nat) (xml : Bytes) (t : Tree)
    (h : treeOfXml main env f xml = .ok t) : ∀ l, t.lang = some l → l ∈ main := by
  obtain ⟨f', k, run, b, rfl, _, _, hb, _, _, rfl⟩ := treeOfXml_ok_run h
  subst hb
  exact List.foldlRecOn run.events _ (by intro l hl; cases hl) fun b hb e _ => step_lang_mem main xml _ b e hb

end Wbxml.Lemmas.X2W
