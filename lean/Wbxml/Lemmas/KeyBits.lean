/-
  Keys seen so far as the bits of one number: one pass over a list shows that keys are pairwise
  different (`keysFresh`) or that a key does not occur (`maskOf`); a bit test and an `or` are one
  kernel step each whatever the size of the number. Generic in the row type and the key.
-/
import Wbxml.Prim.Basic
namespace Wbxml.Model

/-- Every row outside `exc` has a key that no row before it has and that is not in `seen`. `exc` names
    rows that may repeat a key (a table's known alias rows); they still occupy their key. -/
def keysFresh {α : Type} (key : α → Nat) (exc : α → Bool) : Nat → List α → Bool
  | _, [] => true
  | seen, r :: rs => (!seen.testBit (key r) || exc r) && keysFresh key exc (seen ||| 2 ^ key r) rs

/-- Only "equal rows have equal keys" is ever used of a key: a collision makes the check fail,
    not lie. -/
theorem keysFresh_pairwise {α : Type} {key : α → Nat} {exc : α → Bool} :
    ∀ {l : List α} {seen : Nat}, keysFresh key exc seen l = true →
      l.Pairwise (fun a c => exc c = false → key a ≠ key c) ∧
      ∀ c ∈ l, exc c = false → seen.testBit (key c) = false
  | [], _, _ => ⟨.nil, fun _ h => nomatch h⟩
  | a :: l, seen, h => by
    rw [keysFresh, Bool.and_eq_true] at h
    obtain ⟨hp, hs⟩ := keysFresh_pairwise h.2
    simp only [Nat.testBit_or, Nat.testBit_two_pow, Bool.or_eq_false_iff, decide_eq_false_iff_not] at hs
    refine ⟨.cons (fun c hc hx => (hs c hc hx).2) hp, fun c hc hx => ?_⟩
    rcases List.mem_cons.mp hc with rfl | hc
    · simpa [hx] using h.1
    · exact (hs c hc hx).1

/-- `l.Pairwise R` for a relation that holds of rows with different keys: by one pass over the
    keys, and by `R` itself where two keys collide, so exactly the lists with `l.Pairwise R` pass. -/
def pairwiseBy {α : Type} (key : α → Nat) (R : α → α → Prop) [DecidableRel R] (l : List α) : Bool :=
  keysFresh key (fun _ => false) 0 l || decide (l.Pairwise R)

theorem pairwise_of_pairwiseBy {α : Type} {key : α → Nat} {R : α → α → Prop} [DecidableRel R] {l : List α}
    (hR : ∀ a c, key a ≠ key c → R a c) (h : pairwiseBy key R l = true) : l.Pairwise R := by
  rw [pairwiseBy, Bool.or_eq_true, decide_eq_true_eq] at h
  exact h.elim (fun h => (keysFresh_pairwise h).1.imp fun hk => hR _ _ (hk rfl)) id

/-- The one first-match lemma: in a list pairwise related by `R`, a search for a property of `r` that
    no row standing in relation `R` to `r` has finds `r` (`R`: "has another key"). -/
theorem find?_first {α : Type} {R : α → α → Prop} {p : α → Bool} {r : α} (hpr : p r = true)
    (hp : ∀ a, p a = true → ¬ R a r) : ∀ {l : List α}, l.Pairwise R → r ∈ l → l.find? p = some r
  | a :: l, hl, hr => by
    rw [List.pairwise_cons] at hl
    rcases List.mem_cons.mp hr with rfl | hm
    · exact List.find?_cons_of_pos hpr
    · rw [List.find?_cons_of_neg fun hpa => hp a hpa (hl.1 r hm)]
      exact find?_first hpr hp hl.2 hm

theorem find?_self {α β : Type} [BEq β] [LawfulBEq β] {f : α → β} {l : List α}
    (hl : l.Pairwise (fun a c => f a ≠ f c)) {r : α} (hr : r ∈ l) :
    l.find? (fun x => f x == f r) = some r :=
  find?_first (p := fun x => f x == f r) (beq_self_eq_true _) (fun _ ha hk => hk (eq_of_beq ha)) hl hr

def maskOf {α : Type} (key : α → Nat) (l : List α) : Nat := l.foldl (fun m a => m ||| 2 ^ key a) 0

theorem testBit_foldl_mask {α : Type} {key : α → Nat} {a : α} : ∀ (l : List α) (m : Nat),
    m.testBit (key a) = true ∨ a ∈ l → (l.foldl (fun m a => m ||| 2 ^ key a) m).testBit (key a) = true
  | [], _, h => h.resolve_right (fun h => nomatch h)
  | b :: l, m, h => by
    refine testBit_foldl_mask l _ ?_
    rcases h with h | h
    · exact .inl (by rw [Nat.testBit_or, h, Bool.true_or])
    · rcases List.mem_cons.mp h with rfl | h
      · exact .inl (by rw [Nat.testBit_or, Nat.testBit_two_pow_self, Bool.or_true])
      · exact .inr h

theorem not_mem_of_mask {α : Type} {key : α → Nat} {l : List α} {a : α}
    (h : (maskOf key l).testBit (key a) = false) : a ∉ l :=
  fun ha => by rw [maskOf, testBit_foldl_mask l 0 (.inr ha)] at h; cases h

/-- Names as numbers (bijective base 256): the kernel compares two numbers in one step, two byte
    lists element by element. -/
def nameKey : Bytes → Nat
  | [] => 0
  | b :: n => nameKey n * 256 + b.toNat + 1

theorem nameKey_inj : ∀ {a b : Bytes}, nameKey a = nameKey b → a = b
  | [], [], _ => rfl
  | [], _ :: _, h => by simp only [nameKey] at h; omega
  | _ :: _, [], h => by simp only [nameKey] at h; omega
  | x :: a, y :: b, h => by
    simp only [nameKey] at h
    have hx := x.toNat_lt
    have hy := y.toNat_lt
    rw [nameKey_inj (a := a) (b := b) (by omega), UInt8.toNat_inj.mp (by omega : x.toNat = y.toNat)]

end Wbxml.Model
