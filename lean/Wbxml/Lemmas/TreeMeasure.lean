/-
  Measures of trees: `Node.sizeW` / `size`, `depth`, `walkIn`, `eltDepth` with the
  inequalities between them, and one weighted count `wsum ω` (`Wts`: what each kind of node weighs by
  itself) of which the size (`sizeWts`, `wsum_size`) and the number of element nodes (`eltWts`, which
  bounds the element nesting: `eltDepth_le_count`) are instances. The XML-side builder (`X2WCount`) bounds
  `wsum ω` of the tree under construction event by event.

  * `Node.sizeW w`: number of nodes and attributes plus all octets of names, values and text; every
    document node (`.tree`) additionally weighs `w lang` (`w = 0`: the plain size `Node.size`).
  * `Node.depth`: nodes on the longest path from a node down (embedded documents entered);
    `Node.walkL`: stack frames of the encoder's `parse_node` recursion for a `next` chain — one frame
    per nesting level AND per sibling. `depthL ≤ walkL ≤ sizeL`.
  * `Node.eltDepth`: element nesting (CDATA nodes transparent, text 0, embedded documents entered).
-/
import Wbxml.Model.Tree

namespace Wbxml.Model

/-- Octets a tag name carries (the row's XML name for a token). -/
def Name.size : Name → Nat
  | .token r => r.name.length
  | .literal s => s.length

def AName.size : AName → Nat
  | .token r => r.name.length
  | .literal s => s.length

/-- One attribute: itself, its name, its value buffer. -/
def Attr.size (a : Attr) : Nat := 1 + a.name.size + a.value.length

def attrsSize : List Attr → Nat
  | [] => 0
  | a :: r => a.size + attrsSize r

mutual
/-- Nodes, attributes and octets of a sub-tree; a document node weighs `1 + w lang` plus its root. -/
def Node.sizeW (w : Option Lang → Nat) : Node → Nat
  | .elt n a kids => 1 + n.size + attrsSize a + Node.sizeWL w kids
  | .text s => 1 + s.length
  | .cdata kids => 1 + Node.sizeWL w kids
  | .tree l _ none => 1 + w l
  | .tree l _ (some r) => 1 + w l + r.sizeW w
def Node.sizeWL (w : Option Lang → Nat) : List Node → Nat
  | [] => 0
  | n :: rest => n.sizeW w + Node.sizeWL w rest
end

def Node.size (n : Node) : Nat := n.sizeW (fun _ => 0)
def Node.sizeL (l : List Node) : Nat := Node.sizeWL (fun _ => 0) l

/-- A document: its `WBXMLTree` object (one unit) and its nodes. -/
def Tree.sizeW (w : Option Lang → Nat) (t : Tree) : Nat := (Node.tree t.lang t.origCharset t.root).sizeW w
def Tree.size (t : Tree) : Nat := t.sizeW (fun _ => 0)

mutual
/-- Nodes on the longest path from this node down; an embedded document continues the path. -/
def Node.depth : Node → Nat
  | .elt _ _ kids => 1 + Node.depthL kids
  | .text _ => 1
  | .cdata kids => 1 + Node.depthL kids
  | .tree _ _ none => 1
  | .tree _ _ (some r) => 1 + r.depth
def Node.depthL : List Node → Nat
  | [] => 0
  | n :: rest => max n.depth (Node.depthL rest)
end

mutual
/-- Frames of `parse_node` below the frame of this node: its children's chain, or the root of the
    embedded document (encoded by a duplicated encoder on the same call stack). -/
def Node.walkIn : Node → Nat
  | .elt _ _ kids => Node.walkL kids
  | .text _ => 0
  | .cdata kids => Node.walkL kids
  | .tree _ _ none => 0
  | .tree _ _ (some r) => 1 + r.walkIn
/-- Frames of `parse_node` for a `next` chain: `parse_node(node)` encodes the node, its children,
    and then calls itself on `node->next`. -/
def Node.walkL : List Node → Nat
  | [] => 0
  | n :: rest => 1 + max n.walkIn (Node.walkL rest)
end

mutual
/-- Element nesting: CDATA nodes are transparent, text counts 0, an embedded document continues. -/
def Node.eltDepth : Node → Nat
  | .elt _ _ kids => 1 + Node.eltDepthL kids
  | .text _ => 0
  | .cdata kids => Node.eltDepthL kids
  | .tree _ _ none => 0
  | .tree _ _ (some r) => r.eltDepth
def Node.eltDepthL : List Node → Nat
  | [] => 0
  | n :: rest => max n.eltDepth (Node.eltDepthL rest)
end

def Tree.eltDepth (t : Tree) : Nat := (Node.tree t.lang t.origCharset t.root).eltDepth
def Tree.depth (t : Tree) : Nat := (Node.tree t.lang t.origCharset t.root).depth
/-- Call depth of the encoder's node walk on the whole tree. -/
def Tree.walk (t : Tree) : Nat := (Node.tree t.lang t.origCharset t.root).walkIn

end Wbxml.Model

namespace Wbxml.Lemmas.X2W
open Wbxml Wbxml.Model

/-- Length of an optional buffer (the text cached in an open frame, the encoder's CDATA buffer), 0 without one. -/
def contentLen : Option Bytes → Nat
  | some c => c.length
  | none => 0

theorem size_elt (name : Name) (a : List Attr) (kids : List Node) :
    (Node.elt name a kids).size = 1 + name.size + attrsSize a + Node.sizeL kids := by
  simp [Node.size, Node.sizeL, Node.sizeW]
theorem size_text (s : Bytes) : (Node.text s).size = 1 + s.length := by simp [Node.size, Node.sizeW]
theorem size_cdata (kids : List Node) : (Node.cdata kids).size = 1 + Node.sizeL kids := by
  simp [Node.size, Node.sizeL, Node.sizeW]
theorem size_tree_some (l : Option Lang) (cs : Nat) (r : Node) : (Node.tree l cs (some r)).size = 1 + r.size := by
  simp [Node.size, Node.sizeW]
theorem size_tree_none (l : Option Lang) (cs : Nat) : (Node.tree l cs none).size = 1 := by
  simp [Node.size, Node.sizeW]
theorem sizeL_cons (n : Node) (rest : List Node) : Node.sizeL (n :: rest) = n.size + Node.sizeL rest := by
  simp [Node.size, Node.sizeL, Node.sizeWL]
theorem sizeL_nil : Node.sizeL [] = 0 := rfl

mutual
theorem depth_le_walk : ∀ (n : Node), n.depth ≤ 1 + n.walkIn
  | .elt _ _ kids => by
    have := depthL_le_walkL kids
    simp only [Node.depth, Node.walkIn]; omega
  | .text _ => by simp [Node.depth, Node.walkIn]
  | .cdata kids => by
    have := depthL_le_walkL kids
    simp only [Node.depth, Node.walkIn]; omega
  | .tree _ _ none => by simp [Node.depth, Node.walkIn]
  | .tree _ _ (some r) => by
    have := depth_le_walk r
    simp only [Node.depth, Node.walkIn]; omega
theorem depthL_le_walkL : ∀ (l : List Node), Node.depthL l ≤ Node.walkL l
  | [] => by simp [Node.depthL, Node.walkL]
  | n :: rest => by
    have h1 := depth_le_walk n
    have h2 := depthL_le_walkL rest
    simp only [Node.depthL, Node.walkL]
    omega
end

mutual
theorem walkIn_lt_size : ∀ (n : Node), 1 + n.walkIn ≤ n.size
  | .elt name a kids => by
    have := walkL_le_sizeL kids
    rw [size_elt]
    simp only [Node.walkIn]; omega
  | .text s => by simp only [Node.walkIn, size_text]; omega
  | .cdata kids => by
    have := walkL_le_sizeL kids
    rw [size_cdata]
    simp only [Node.walkIn]; omega
  | .tree l cs none => by simp [Node.walkIn, Node.size, Node.sizeW]
  | .tree l cs (some r) => by
    have := walkIn_lt_size r
    simp only [Node.walkIn, Node.size, Node.sizeW] at this ⊢
    omega
theorem walkL_le_sizeL : ∀ (l : List Node), Node.walkL l ≤ Node.sizeL l
  | [] => by simp [Node.walkL, Node.sizeL, Node.sizeWL]
  | n :: rest => by
    have h1 := walkIn_lt_size n
    have h2 := walkL_le_sizeL rest
    simp only [Node.walkL, Node.sizeL, Node.sizeWL, Node.size] at h1 h2 ⊢
    omega
end

/-- The sibling walk alone reaches the bound: `k` empty text siblings need `k` frames. -/
theorem walkL_replicate (k : Nat) : Node.walkL (List.replicate k (.text [])) = k := by
  induction k with
  | zero => rfl
  | succ k ih => simp only [List.replicate_succ, Node.walkL, Node.walkIn, ih]; omega

mutual
theorem eltDepth_le_depth : ∀ (n : Node), n.eltDepth ≤ n.depth
  | .elt _ _ kids => by
    have := eltDepthL_le_depthL kids
    simp only [Node.depth, Node.eltDepth]; omega
  | .text _ => by simp [Node.eltDepth]
  | .cdata kids => by
    have := eltDepthL_le_depthL kids
    simp only [Node.depth, Node.eltDepth]; omega
  | .tree _ _ none => by simp [Node.eltDepth]
  | .tree _ _ (some r) => by
    have := eltDepth_le_depth r
    simp only [Node.depth, Node.eltDepth]; omega
theorem eltDepthL_le_depthL : ∀ (l : List Node), Node.eltDepthL l ≤ Node.depthL l
  | [] => by simp [Node.depthL, Node.eltDepthL]
  | n :: rest => by
    have h1 := eltDepth_le_depth n
    have h2 := eltDepthL_le_depthL rest
    simp only [Node.depthL, Node.eltDepthL]
    omega
end

/-- What each kind of node weighs by itself. -/
structure Wts where
  elt : Name → List Attr → Nat
  cdata : Nat
  text : Bytes → Nat
  doc : Option Lang → Nat
  /-- cached text of an open frame (XML front end: the base64 text of a binary-flagged element) -/
  held : Option Bytes → Nat

mutual
def wsum (ω : Wts) : Node → Nat
  | .elt n a kids => ω.elt n a + wsumL ω kids
  | .text s => ω.text s
  | .cdata kids => ω.cdata + wsumL ω kids
  | .tree l _ none => ω.doc l
  | .tree l _ (some r) => ω.doc l + wsum ω r
def wsumL (ω : Wts) : List Node → Nat
  | [] => 0
  | n :: rest => wsum ω n + wsumL ω rest
end

def Tree.wsum (ω : Wts) (t : Tree) : Nat := X2W.wsum ω (.tree t.lang t.origCharset t.root)

theorem wsumL_append (ω : Wts) : ∀ (a b : List Node), wsumL ω (a ++ b) = wsumL ω a + wsumL ω b
  | [], b => by simp [wsumL]
  | n :: a, b => by simp only [List.cons_append, wsumL, wsumL_append ω a b]; omega

/-- `wbxml_tree_add_text` merges a text into a preceding text sibling. -/
theorem addKid_w {ω : Wts} (hω : ∀ s t, ω.text (s ++ t) ≤ ω.text s + ω.text t) (kids : List Node) (n : Node) :
    wsumL ω (addKid kids n) ≤ wsumL ω kids + wsum ω n := by
  unfold addKid
  split
  · rename_i s t hl
    obtain ⟨ys, hk⟩ := List.getLast?_eq_some_iff.mp hl
    subst hk
    have := hω t s
    rw [List.dropLast_concat, wsumL_append, wsumL_append]
    simp only [wsumL, wsum]
    omega
  · rw [wsumL_append]
    simp [wsumL]

def sizeWts (w : Option Lang → Nat) : Wts where
  elt n a := 1 + n.size + attrsSize a
  cdata := 1
  text s := 1 + s.length
  doc l := 1 + w l
  held := contentLen

mutual
theorem wsum_size (w : Option Lang → Nat) : ∀ (n : Node), wsum (sizeWts w) n = n.sizeW w
  | .elt n a kids => by simp only [wsum, Node.sizeW]; rw [wsumL_size w kids]; rfl
  | .text s => rfl
  | .cdata kids => by simp only [wsum, Node.sizeW]; rw [wsumL_size w kids]; rfl
  | .tree l _ none => rfl
  | .tree l _ (some r) => by simp only [wsum, Node.sizeW]; rw [wsum_size w r]; rfl
theorem wsumL_size (w : Option Lang → Nat) : ∀ (l : List Node), wsumL (sizeWts w) l = Node.sizeWL w l
  | [] => rfl
  | n :: rest => by simp only [wsumL, Node.sizeWL, wsum_size w n, wsumL_size w rest]
end

def eltWts : Wts where
  elt _ _ := 1
  cdata := 0
  text _ := 0
  doc _ := 0
  held _ := 0

mutual
theorem eltDepth_le_count : ∀ (n : Node), n.eltDepth ≤ wsum eltWts n
  | .elt n a kids => by
    have := eltDepthL_le_count kids
    have e : eltWts.elt n a = 1 := rfl
    simp only [Node.eltDepth, wsum, e]; omega
  | .text _ => Nat.le_refl _
  | .cdata kids => by
    have := eltDepthL_le_count kids
    have e : eltWts.cdata = 0 := rfl
    simp only [Node.eltDepth, wsum, e]; omega
  | .tree _ _ none => Nat.le_refl _
  | .tree l _ (some r) => by
    have := eltDepth_le_count r
    have e : eltWts.doc l = 0 := rfl
    simp only [Node.eltDepth, wsum, e]; omega
theorem eltDepthL_le_count : ∀ (l : List Node), Node.eltDepthL l ≤ wsumL eltWts l
  | [] => Nat.le_refl _
  | n :: rest => by
    have h1 := eltDepth_le_count n
    have h2 := eltDepthL_le_count rest
    simp only [Node.eltDepthL, wsumL]
    omega
end

end Wbxml.Lemmas.X2W
