/-
  C19 — the operations built on `insert_data` / `delete` / the read accessors. `insertData`, `appendData`,
  `setChar` and `delete` by index against the plain-sequence reference `Spec.Seq`; the eight entry points
  that only forward (insert, insert_cstr, insert-self, append, append_cstr, append_char, append_mb,
  append-self) as equations to `insertData` / `appendData`; duplicate, compare*, contains_only_whitespaces.
-/
import Wbxml.Lemmas.BufCore
namespace Wbxml.Model
open Wbxml Wbxml.Spec.Seq

namespace Buf

theorem ofArg_spec (a : Arg) :
    (a.bytes = none ∧ ofArg a = .ok none) ∨
    (∃ s bs, a.bytes = some bs ∧ ofArg a = .ok (some s) ∧ View s bs) := by
  cases a with
  | null => left; exact ⟨rfl, rfl⟩
  | dyn bs =>
    right
    obtain ⟨b, hb, hr⟩ := rep_create (some bs) bs.length
    refine ⟨b, bs, rfl, ?_, by simpa using hr.view⟩
    simp [ofArg, hb]
  | sta bs =>
    right
    have h := staCreate_inv bs
    refine ⟨staCreate bs, bs, rfl, rfl, ?_⟩
    have := h.1.view
    rwa [h.2] at this

theorem setChar_spec {b : Buf} {c : Bytes} (h : Rep b c) (pos : Nat) (ch : UInt8) :
    let r := if pos < c.length then (c.set pos ch, true) else (c, false)
    ∃ b', b.setChar pos ch = .ok (b', r.2) ∧ Rep b' r.1 := by
  by_cases hp : pos < c.length
  · have hsplit : c = c.take pos ++ c[pos] :: c.drop (pos + 1) := by
      rw [← List.drop_eq_getElem_cons hp, List.take_append_drop]
    obtain ⟨b', hb, hr⟩ := setChar_mid (c.take pos) (c.drop (pos + 1)) c[pos] ch (hsplit ▸ h)
    rw [List.length_take_of_le (by omega)] at hb
    exact ⟨b', by simpa [hp] using hb, by simpa [hp, List.set_eq_take_append_cons_drop] using hr⟩
  · exact ⟨b, by simpa [hp] using setChar_oob (b := b) pos ch (by rw [h.len]; omega), by simpa [hp] using h⟩

theorem insertData_spec {b : Buf} {c : Bytes} (h : Rep b c) (pos : Nat) (d : Bytes) :
    ∃ b', b.insertData pos d = .ok (b', (insertAt c pos d).2) ∧ Rep b' (insertAt c pos d).1 := by
  unfold insertAt
  by_cases hr : d = [] ∨ pos > c.length
  · have hc : (d.isEmpty || decide (pos > c.length)) = true := by
      rcases hr with rfl | hr <;> simp [*]
    exact ⟨b, by simpa [hc] using insertData_refused (b := b) pos d (h.len ▸ hr), by simpa [hc] using h⟩
  · have hc : (d.isEmpty || decide (pos > c.length)) = false := by
      cases d <;> simp_all
    obtain ⟨b', hb, hr'⟩ := insertData_mid (c.take pos) (c.drop pos) d (by rwa [List.take_append_drop])
      (fun hd => hr (.inl hd))
    rw [List.length_take_of_le (by omega)] at hb
    exact ⟨b', by simpa [hc] using hb, by simpa [hc] using hr'⟩

theorem appendData_spec {b : Buf} {c : Bytes} (h : Rep b c) (d : Option Bytes) :
    ∃ b', b.appendData d = .ok (b', (appendBytes c d).2) ∧ Rep b' (appendBytes c d).1 := by
  unfold appendData appendBytes
  rw [h.dyn]
  cases d with
  | none => exact ⟨b, by simp, h⟩
  | some d =>
    by_cases hd : d = []
    · subst hd; exact ⟨b, by simp, by simpa using h⟩
    · have : d.length ≠ 0 := by simpa using hd
      obtain ⟨b', hb, hr⟩ := insertData_mid c [] d (by simpa using h) hd
      exact ⟨b', by simpa [this, h.len] using hb, by simpa using hr⟩

theorem appendData_static {b : Buf} (hs : b.isStatic = true) (d : Option Bytes) :
    b.appendData d = .ok (b, false) := by simp [appendData, hs]

/-! The entry points that only forward to `insert_data` / `append_data`: each IS the more primitive
call, on a static buffer too (the primitive refuses as well), so its refinement and its refusal are
those of `insertData` / `appendData`. -/

theorem ofArg_insert (a : Arg) : ∃ s, ofArg a = .ok s ∧ ∀ (b : Buf) (pos : Nat),
    b.insert s pos = match a.bytes with
      | none => .ok (b, false)
      | some bs => b.insertData pos bs := by
  rcases ofArg_spec a with ⟨hn, ho⟩ | ⟨s, bs, hb, ho, hv⟩
  · exact ⟨none, ho, fun b pos => by rw [hn]; rfl⟩
  · exact ⟨some s, ho, fun b pos => by
      rw [hb]; cases hs : b.isStatic <;> simp [Buf.insert, insertData, hs, contents_view hv]⟩

theorem insertCstr_eq (b : Buf) (s : Option Bytes) (pos : Nat) :
    b.insertCstr s pos = match s with
      | none => .ok (b, false)
      | some s => b.insertData pos (cstr s) := by
  cases s <;> cases hs : b.isStatic <;> simp [insertCstr, insertData, hs, cstrOf_eq]

theorem ofArg_append (a : Arg) : ∃ s, ofArg a = .ok s ∧ ∀ b : Buf, b.append s = b.appendData a.bytes := by
  rcases ofArg_spec a with ⟨hn, ho⟩ | ⟨s, bs, hb, ho, hv⟩
  · exact ⟨none, ho, fun b => by rw [hn]; cases hs : b.isStatic <;> simp [append, appendData, hs]⟩
  · exact ⟨some s, ho, fun b => by
      rw [hb]; cases hs : b.isStatic <;> simp [append, appendData, hs, getCstr_view hv]⟩

theorem appendCstr_eq (b : Buf) (s : Option Bytes) : b.appendCstr s = b.appendData (s.map cstr) := by
  cases s <;> cases hs : b.isStatic <;> simp [appendCstr, appendData, hs, cstrOf_eq]

theorem appendChar_eq (b : Buf) (ch : UInt8) : b.appendChar ch = b.appendData (some [ch]) := by
  cases hs : b.isStatic <;> simp [appendChar, appendData, hs]

theorem mbOctets_ne_nil (v : Nat) : mbOctets v ≠ [] := by simp [mbOctets]

theorem appendMb_eq (b : Buf) (v : Nat) : b.appendMb v = b.appendData (some (mbOctets v)) := by
  cases hs : b.isStatic <;> simp [appendMb, appendData, hs]

theorem delete_spec {b : Buf} {c : Bytes} (h : Rep b c) (pos n : Nat)
    (hc : ¬ (pos < c.length ∧ n ≠ 0 ∧ pos + n > c.length)) :
    ∃ b', b.delete pos n = .ok (b', (deleteAt c pos n).2) ∧ Rep b' (deleteAt c pos n).1 := by
  unfold deleteAt
  by_cases hr : pos ≥ c.length ∨ n = 0
  · have hd : (decide (pos ≥ c.length) || decide (n = 0)) = true := by simpa using hr
    exact ⟨b, by simpa [hd] using delete_refused (b := b) pos n (h.len ▸ hr), by simpa [hd] using h⟩
  · have hd : (decide (pos ≥ c.length) || decide (n = 0)) = false := by simpa using hr
    have hsplit : c = c.take pos ++ (c.drop pos).take n ++ c.drop (pos + n) := by
      rw [List.append_assoc, ← List.drop_drop, List.take_append_drop, List.take_append_drop]
    obtain ⟨b', hb, hr'⟩ := delete_mid (c.take pos) ((c.drop pos).take n) (c.drop (pos + n)) (hsplit ▸ h)
    have hx : ((c.drop pos).take n).isEmpty = false := by
      simp; omega
    rw [List.length_take_of_le (by omega), List.length_take_of_le (by simp; omega), hx] at hb
    exact ⟨b', by simpa [hd] using hb, by simpa [hd] using hr'⟩

theorem duplicate_view {b : Buf} {c : Bytes} (h : View b c) :
    ∃ d, b.duplicate = .ok d ∧ Rep d c := by
  obtain ⟨d, hd, hr⟩ := rep_create (some c) b.len
  exact ⟨d, by simp [duplicate, getCstr_view h, hd], by simpa using hr⟩

/-- The private duplicate of `insert(to, to)` / `append(dest, dest)` holds the same bytes. -/
theorem insertSelf_eq {b : Buf} {c : Bytes} (hv : View b c) (pos : Nat) : b.insertSelf pos = b.insertData pos c := by
  obtain ⟨d, hd, hr⟩ := duplicate_view hv
  cases hs : b.isStatic <;> simp [insertSelf, insertData, hs, hd, contents_view hr.view]

theorem appendSelf_eq {b : Buf} {c : Bytes} (hv : View b c) : b.appendSelf = b.appendData (some c) := by
  obtain ⟨d, hd, hr⟩ := duplicate_view hv
  cases hs : b.isStatic <;> simp [appendSelf, appendData, hs, hd, getCstr_view hr.view]

theorem cmp_memcmp (c1 c2 : Bytes) :
    cmp c1 c2 =
      (let n := if c1.length < c2.length then c1.length else c2.length
       let r := memcmpSign (c1.take n) (c2.take n)
       if r = 0 then (if c1.length < c2.length then -1 else if c1.length > c2.length then 1 else 0) else r) := by
  induction c1 generalizing c2 with
  | nil => cases c2 <;> simp [cmp, memcmpSign]
  | cons a as ih =>
    cases c2 with
    | nil => simp [cmp, memcmpSign]
    | cons b bs =>
      have hmin : (if (a :: as).length < (b :: bs).length then (a :: as).length else (b :: bs).length)
          = (if as.length < bs.length then as.length else bs.length) + 1 := by
        simp only [List.length_cons]; split <;> split <;> omega
      simp only [hmin, List.take_succ_cons, memcmpSign, cmp]
      by_cases h1 : a < b
      · simp [h1]
      · by_cases h2 : b < a
        · simp [h1, h2]
        · simp only [h1, h2, if_false]
          rw [ih bs]
          simp only [List.length_cons, Nat.add_lt_add_iff_right, gt_iff_lt]

theorem compareCore_spec (c1 c2 : Bytes) (rd1 rd2 : Nat → Except Err Bytes)
    (h1 : ∀ n, n ≤ c1.length → n ≠ 0 → rd1 n = .ok (c1.take n))
    (h2 : ∀ n, n ≤ c2.length → n ≠ 0 → rd2 n = .ok (c2.take n)) :
    compareCore c1.length c2.length rd1 rd2 = .ok (cmp c1 c2) := by
  unfold compareCore
  generalize hn : (if c1.length < c2.length then c1.length else c2.length) = n
  have hle1 : n ≤ c1.length := by rw [← hn]; split <;> omega
  have hle2 : n ≤ c2.length := by rw [← hn]; split <;> omega
  by_cases h0 : n = 0
  · subst h0
    cases c1 with
    | nil => cases c2 <;> simp [cmp]
    | cons a as =>
      cases c2 with
      | nil => simp [cmp]
      | cons b bs => simp only [List.length_cons] at hn; split at hn <;> omega
  · simp only [h0, if_false, h1 n hle1 h0, h2 n hle2 h0]
    rw [cmp_memcmp c1 c2]
    simp only [hn]
    split <;> rename_i hr
    · split
      · rfl
      · split <;> rfl
    · rfl

theorem compare_spec {b : Buf} {c : Bytes} (h : View b c) (a : Arg) :
    ∃ o, ofArg a = .ok o ∧ b.compare o = .ok (cmpArg c a.bytes) := by
  rcases ofArg_spec a with ⟨hn, ho⟩ | ⟨s, bs, hb, ho, hv⟩
  · exact ⟨none, ho, by simp [compare, hn, cmpArg]⟩
  · refine ⟨some s, ho, ?_⟩
    simp only [compare, hb, h.2, hv.2, cmpArg]
    apply compareCore_spec
    · intro n hn h0; obtain ⟨m, hm, hr⟩ := h.read 0 n (by rw [h.2]; omega) (by rw [h.2]; omega); simp only [hm, hr, List.drop_zero]
    · intro n hn h0; obtain ⟨m, hm, hr⟩ := hv.read 0 n (by rw [hv.2]; omega) (by rw [hv.2]; omega); simp only [hm, hr, List.drop_zero]

theorem compareCstr_spec {b : Buf} {c : Bytes} (h : View b c) (s : Option Bytes) :
    b.compareCstr s = .ok (cmpArg c (s.map cstr)) := by
  cases s with
  | none => rfl
  | some s =>
    simp only [compareCstr, h.2, cstrOf_eq, Option.map_some, cmpArg]
    apply compareCore_spec
    · intro n hn h0; obtain ⟨m, hm, hr⟩ := h.read 0 n (by rw [h.2]; omega) (by rw [h.2]; omega); simp only [hm, hr, List.drop_zero]
    · intro n _ _; rfl

theorem onlyWs_spec {b : Buf} {c : Bytes} (h : View b c) : b.onlyWs = .ok (c.all ws) := by
  simp [onlyWs, contents_view h, isSpace_fun]

end Buf
end Wbxml.Model
