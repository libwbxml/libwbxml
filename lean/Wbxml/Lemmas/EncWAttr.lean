/-
  WBXML encoder proofs: attributes. `wbxml_encode_attr_start` writes an `attrStart` of the grammar
  (its plan: `Lemmas/EncWAttrPlan.lean`), `wbxml_encode_value_element_buffer` (attribute context) a list
  of `attrValue`s, together one `attribute` whose reading is `xAttr` (`Lemmas/EncWAttrRead.lean`); and,
  with the tag from `EncWTag`, the element start: `parse_element` writes `[switchPage] stag [1*attribute END]`.
-/
import Wbxml.Lemmas.EncWAttrRead
import Wbxml.Lemmas.EncWTag
namespace Wbxml.Lemmas.EncW
open Wbxml Wbxml.Model Wbxml.Spec Wbxml.Lemmas.ParseSer
open Wbxml.Model.Codec (mbEncode)

/-- The result of `wbxml_encode_attr_start`: the `attrStart` written and what it is. -/
structure AStartRes (c : WCfg) (nm : Bytes) (st st' : WSt) (as : AStart) : Prop where
  out : st'.out = st.out ++ serAStart as
  ap : ∀ ctx, st'.attrPage = (astartName ctx st.attrPage as).2.2
  tp : st'.tagPage = st.tagPage
  ok : AStartOk c st'.strtbl st.attrPage nm as st'.curAttr

theorem AStartRes.tok (c : WCfg) (attrs : List AttrRow) (r : AttrRow) (ha : c.lang.attrs = some attrs)
    (hr : r ∈ attrs) (nm : Bytes) (hn : r.name = nm) (st : WSt) :
    AStartRes c nm st (attrTokenW r.token r.page { st with curAttr := some r })
      (.tok (swFor st.attrPage r.page) r.token) := by
  have ho := attrTokenW_out r.token r.page { st with curAttr := some r }
  have hf := attrTokenW_frame r.token r.page { st with curAttr := some r }
  refine ⟨?_, ?_, hf.1, ?_⟩
  · rw [ho.1]; simp only [serAStart, byte]
  · intro ctx; rw [astartName_page, ho.2]; exact (swPage_swFor _ _).symm
  · rw [attrTokenW_curAttr, hf.2]; exact .tok attrs r ha hr hn

theorem AStartRes.lit (c : WCfg) (name : Bytes) (st st' : WSt)
    (h : attrLiteralW c name { st with curAttr := none } = .ok st') :
    st'.curAttr = none ∧ ∃ off, AStartRes c name st st' (.lit off) := by
  rw [attrLiteralW_eq] at h
  split at h
  · injection h with h; subst h
    obtain ⟨e, he, ho, hstr⟩ := strtblAdd_idx { st with curAttr := none } name none
    refine ⟨by simp only [emit_curAttr, strtblAdd_curAttr], (strtblAdd { st with curAttr := none } name none).2, ?_, ?_, ?_, ?_⟩
    · simp only [emit_out, strtblAdd_out, serAStart, mb]
    · intro ctx; simp only [emit_attrPage, strtblAdd_attrPage, astartName]
    · simp only [emit_tagPage, strtblAdd_tagPage]
    · simp only [emit_curAttr, strtblAdd_curAttr, emit_strtbl]
      exact .lit _ ⟨e, he, ho, hstr⟩
  · cases h

theorem attrStartW_spec (c : WCfg) (a : Attr) (st st' : WSt) (rest : Option Bytes)
    (ha : attrOver c.lang a = true) (attrs : List AttrRow) (hattrs : c.lang.attrs = some attrs)
    (h : attrStartW c a (cstrOf a.value) st = .ok (rest, st')) :
    ∃ as, AStartRes c a.name.cName st st' as ∧ st'.curAttr = startRow c a ∧
      cstrOf a.value = preOf st'.curAttr ++ rest.getD [] ∧
      ∀ s, rest = some s → nulFree s = true ∧ s.length ≤ (cstrOf a.value).length := by
  rw [startRow_eq_plan]
  rcases attrStartW_inv h with ⟨r, rst, hp, rfl, rfl⟩ | ⟨hp, rfl, hlit⟩
  · obtain ⟨hn, _, _, ho, hpre, htail⟩ := startPlan_spec c a _ r _ hp
    cases ho
    refine ⟨_, AStartRes.tok c attrs r hattrs (startPlan_mem hp hattrs ha) _ hn st, by rw [attrTokenW_curAttr, hp]; rfl,
      by rw [attrTokenW_curAttr]; exact hpre (cstrOf_length_le _), fun s hs => ?_⟩
    obtain ⟨n, rfl⟩ := htail s hs
    exact ⟨nulFree_drop _ _ (nulFree_cstrOf _), by rw [List.length_drop]; omega⟩
  · obtain ⟨hcur, off, hres⟩ := AStartRes.lit c _ st st' hlit
    exact ⟨_, hres, by rw [hcur, hp]; rfl, by rw [hcur]; rfl,
      fun s hs => by injection hs with hs; subst hs; exact ⟨nulFree_cstrOf _, Nat.le_refl _⟩⟩

/-- "Encoder Language Specific Attribute Values" by `current_attr`: a `%Datetime` start of SI / EMN
    takes `wbxml_encode_datetime` of the value, the OTA `VALUE` start goes to the icon encoder,
    anything else declines. -/
theorem attrSpecialW_eq (c : WCfg) (na : Option (List Attr)) (s : Bytes) (st : WSt) :
    attrSpecialW c na s st =
      match st.curAttr with
      | none => pure none
      | some a =>
        if dtRow c.lang.id a then (do let item ← Typed.encodeDatetime s; pure (some (st.emit item)))
        else if iconRow c.lang.id a then otaIconW na s st else pure none := by
  unfold attrSpecialW dtRow iconRow
  cases st.curAttr with
  | none => simp only [ite_self]
  | some a =>
    by_cases h1 : c.lang.id = 1301
    · simp [h1]
    · by_cases h2 : c.lang.id = 1701
      · simp [h2]
      · by_cases h3 : c.lang.id = 1901
        · simp [h3]
        · simp [h1, h2, h3]

theorem attrSpecialW_emit (c : WCfg) (na : Option (List Attr)) (s : Bytes) (st st2 : WSt)
    (h : attrSpecialW c na s st = .ok (some st2)) :
    ∃ item, st2 = st.emit item ∧ ∃ r, st.curAttr = some r ∧
      ((dtRow c.lang.id r = true ∧ Typed.encodeDatetime s = .ok item) ∨
       (iconRow c.lang.id r = true ∧ iconCtx na = true ∧
         ∃ d, Codec.b64DecodeE (b64TextW s) = .ok d ∧ item = opaqueW d)) := by
  rw [attrSpecialW_eq] at h
  cases hca : st.curAttr with
  | none => rw [hca] at h; cases h
  | some a =>
    rw [hca] at h
    by_cases hd : dtRow c.lang.id a = true
    · simp only [hd, ↓reduceIte] at h
      obtain ⟨item, hi, rfl⟩ := bind_ok_someO _ (fun item => st.emit item) _ h
      exact ⟨item, rfl, a, rfl, .inl ⟨hd, hi⟩⟩
    · by_cases hi : iconRow c.lang.id a = true
      · simp only [hd, hi, Bool.false_eq_true, ↓reduceIte] at h
        unfold otaIconW at h
        split at h
        · split at h
          · rename_i hany
            obtain ⟨d, hd, rfl⟩ := bind_ok_someO _ (fun d => st.emit (opaqueW d)) _ h
            exact ⟨_, rfl, a, rfl, .inr ⟨hi, hany, d, hd, rfl⟩⟩
          · cases h
        · cases h
      · simp only [hd, hi, Bool.false_eq_true, ↓reduceIte] at h; cases h

/-- The payload `p` of the single OPAQUE a typed attribute value is written as, and which rule made it. -/
def SpecialOut (c : WCfg) (na : Option (List Attr)) (s : Bytes) (cur : Option AttrRow) (p : Bytes) : Prop :=
  p.length < 2 ^ 32 ∧ ∃ r, cur = some r ∧
    ((dtRow c.lang.id r = true ∧ Typed.datetimePayload s = .ok p) ∨
     (iconRow c.lang.id r = true ∧ iconCtx na = true ∧ Codec.b64DecodeE (b64TextW s) = .ok p))

theorem attrSpecialW_some' (c : WCfg) (na : Option (List Attr)) (s : Bytes) (st st2 : WSt)
    (hs : s.length < 2 ^ 32) (h : attrSpecialW c na s st = .ok (some st2)) :
    ∃ p, st2 = st.emit (serOpaque p) ∧ SpecialOut c na s st.curAttr p := by
  obtain ⟨item, rfl, r, hr, ⟨hd, hi⟩ | ⟨hic, hctx, d, hd, rfl⟩⟩ := attrSpecialW_emit c na s st st2 h
  · obtain ⟨p, rfl, hp, hlen⟩ := encodeDatetime_shape s item hs hi
    exact ⟨p, rfl, hlen, r, hr, .inl ⟨hd, hp⟩⟩
  · have := b64DecodeE_textW_len s d hd
    exact ⟨d, rfl, by omega, r, hr, .inr ⟨hic, hctx, hd⟩⟩

theorem attrSpecialW_some (c : WCfg) (na : Option (List Attr)) (s : Bytes) (st st2 : WSt)
    (hs : s.length < 2 ^ 32) (h : attrSpecialW c na s st = .ok (some st2)) :
    ∃ p, st2 = st.emit (serOpaque p) := by
  obtain ⟨p, hp, _⟩ := attrSpecialW_some' c na s st st2 hs h
  exact ⟨p, hp⟩

theorem attrSpecialW_dt (c : WCfg) (na : Option (List Attr)) (s : Bytes) (st : WSt) (r : AttrRow)
    (hc : st.curAttr = some r) (hd : dtRow c.lang.id r = true) : attrSpecialW c na s st ≠ .ok none := by
  rw [attrSpecialW_eq, hc]
  simp only [hd, ↓reduceIte]
  intro h
  obtain ⟨_, _, h⟩ := bind_eq_ok h
  cases h

theorem attrSpecialW_untyped (c : WCfg) (na : Option (List Attr)) (s : Bytes) (st : WSt)
    (h : noTypedAttr c.lang.id = true) : attrSpecialW c na s st = .ok none := by
  rw [attrSpecialW_eq]
  cases st.curAttr with
  | none => rfl
  | some a =>
    simp only [noTypedAttr_dt _ h a, iconRow, noTypedAttr_not_ota _ h, Bool.false_and, Bool.false_eq_true, ↓reduceIte]
    rfl

theorem attrStartW_step (c : WCfg) (a : Attr) (v : Bytes) (st st' : WSt) (rest : Option Bytes)
    (h : attrStartW c a v st = .ok (rest, st')) : Step c st st' := by
  rcases attrStartW_inv h with ⟨r, _, _, _, rfl⟩ | ⟨_, _, hlit⟩
  · exact (Step.curAttr c st (some r)).trans (attrTokenW_step c _ _ _)
  · exact (Step.curAttr c st none).trans (attrLiteralW_step c _ _ _ hlit)

theorem emitVElts_step (c : WCfg) (l : List VElt) (st : WSt) : Step c st (emitVElts st l) :=
  List.foldlRecOn l _ (Step.refl c st) fun st' hst e _ => hst.trans (by
    cases e with
    | str s => simp only [emitVElt]; split <;> exact ⟨TblExt.of_eq rfl rfl, rfl, rfl⟩
    | ext r => exact ⟨TblExt.of_eq rfl rfl, rfl, rfl⟩
    | ref o => exact ⟨TblExt.of_eq rfl rfl, rfl, rfl⟩
    | tok r => exact attrTokenW_step c _ _ _)

theorem encAttrValueW_step (c : WCfg) (na : Option (List Attr)) (s : Bytes) (st st' : WSt)
    (h : encAttrValueW c na s st = .ok st') : Step c st st' := by
  unfold encAttrValueW at h
  split at h
  · cases Except.ok.inj h; exact Step.refl _ _
  · obtain ⟨r, hsp, h⟩ := bind_eq_ok h
    cases r with
    | some st2 =>
      cases Except.ok.inj h
      obtain ⟨item, rfl, _⟩ := attrSpecialW_emit c na s st _ hsp
      exact ⟨TblExt.of_eq rfl rfl, rfl, rfl⟩
    | none =>
      obtain ⟨l1, _, h⟩ := bind_eq_ok h
      obtain ⟨l2, _, h⟩ := bind_eq_ok h
      cases Except.ok.inj h
      exact emitVElts_step c l2 st

theorem encAttrW_step (c : WCfg) (na : Option (List Attr)) (a : Attr) (st st' : WSt)
    (h : encAttrW c na a st = .ok st') : Step c st st' := by
  unfold encAttrW at h
  split at h
  · cases Except.ok.inj h; exact Step.refl _ _
  · obtain ⟨⟨rest, st1⟩, hs, h⟩ := bind_eq_ok h
    obtain ⟨st2, hv, h⟩ := bind_eq_ok h
    cases Except.ok.inj h
    have t2 : Step c st1 st2 := by
      cases rest with
      | none => cases Except.ok.inj hv; exact Step.refl _ _
      | some s => exact encAttrValueW_step c na s st1 st2 hv
    exact (attrStartW_step c a _ st st1 rest hs).trans (t2.trans ⟨TblExt.of_eq rfl rfl, rfl, rfl⟩)

theorem encAttrsW_step (c : WCfg) (na : Option (List Attr)) :
    ∀ (l : List Attr) (st st' : WSt), encAttrsW c na l st = .ok st' → Step c st st' := by
  intro l
  induction l with
  | nil => intro st st' h; cases Except.ok.inj h; exact Step.refl _ _
  | cons a rest ih =>
    intro st st' h
    simp only [encAttrsW] at h
    obtain ⟨st1, h1, h⟩ := bind_eq_ok h
    exact (encAttrW_step c na a st st1 h1).trans (ih st1 st' h)

/-- The result of the value part of an attribute: the `attrValue`s written for the C string `s`. -/
structure AValsRes (c : WCfg) (na : Option (List Attr)) (s : Bytes) (st st' : WSt) (vals : List AVal) : Prop where
  out : st'.out = st.out ++ serAVals vals
  ap : ∀ ctx, st'.attrPage = (avalsText ctx st.attrPage vals).2
  tp : st'.tagPage = st.tagPage
  tbl : st'.strtbl = st.strtbl
  refs : ∀ off ∈ refsAVals vals, ∃ e ∈ st.strtbl, e.offset = off
  wf : ∀ ctx, Compat c st.strtbl ctx → langOk c.lang = true → opqsAVals vals = [] →
    wfAVals ctx st.attrPage vals = true
  dt : ∀ r, st.curAttr = some r → dtRow c.lang.id r = true → vals = [] ∨ opqsAVals vals ≠ []
  text : ∀ ctx : Ctx, ctx.lang = c.lang → langOk c.lang = true → valSemOk c.lang = true →
    Resolves ctx.tbl st.strtbl → opqsAVals vals = [] → (avalsText ctx st.attrPage vals).1 = s
  noopq : noTypedAttr c.lang.id = true → opqsAVals vals = []
  typed : opqsAVals vals = [] ∨ ∃ p, vals = [.opaque p] ∧ s ≠ [] ∧ SpecialOut c na s st.curAttr p

theorem AValsRes.nil (c : WCfg) (na : Option (List Attr)) (st : WSt) : AValsRes c na [] st st [] :=
  ⟨by simp [serAVals], fun _ => rfl, rfl, rfl, (by intro o h; cases h), fun _ _ _ _ => rfl, fun _ _ _ => Or.inl rfl,
    fun _ _ _ _ _ _ => rfl, fun _ => rfl, Or.inl rfl⟩

/-- Three outcomes: the empty value writes nothing; a typed start takes the value as one OPAQUE; otherwise
    the value-token pass and the string-table pass cut it into pieces whose concatenation a reader reads
    back. -/
theorem encAttrValueW_spec (c : WCfg) (na : Option (List Attr)) (s : Bytes) (st st' : WSt)
    (hs : nulFree s = true) (hlen : s.length < 2 ^ 32) (h : encAttrValueW c na s st = .ok st') :
    ∃ vals, AValsRes c na s st st' vals := by
  unfold encAttrValueW at h
  split at h
  · rename_i he
    have hse : s = [] := List.isEmpty_iff.mp he
    subst hse
    injection h with h; subst h; exact ⟨[], AValsRes.nil c na st⟩
  · rename_i hne
    have hsne : s ≠ [] := fun e => hne (by rw [e]; rfl)
    cases hsp : attrSpecialW c na s st with
    | error e => rw [hsp] at h; cases h
    | ok r =>
      rw [hsp] at h
      cases r with
      | some st2 =>
        have h' : (Except.ok st2 : Except Err WSt) = .ok st' := h
        injection h' with h'; subst h'
        obtain ⟨p, rfl, hout⟩ := attrSpecialW_some' c na s st st2 hlen hsp
        refine ⟨[.opaque p], ?_, fun _ => rfl, rfl, rfl, (by intro o ho; cases ho), ?_, ?_, ?_, ?_,
          Or.inr ⟨p, rfl, hsne, hout⟩⟩
        · simp [serAVals, serAVal]
        · intro ctx _ _ hno; cases hno
        · intro r _ _; exact Or.inr (by simp [opqsAVals, opqsAVal])
        · intro ctx _ _ _ _ hno; cases hno
        · intro hu; rw [attrSpecialW_untyped c na s st hu] at hsp; cases hsp
      | none =>
        have hdt : ∀ r, st.curAttr = some r → dtRow c.lang.id r = true → False :=
          fun r h1 h2 => attrSpecialW_dt c na s st r h1 h2 hsp
        have h0 : ∀ e ∈ [VElt.str s], VOk c st.strtbl e ∧ notExt e := by
          intro e he; simp only [List.mem_cons, List.mem_nil_iff, or_false] at he; subst he; exact ⟨hs, trivial⟩
        obtain ⟨l1, hl1, hcat1, h⟩ : ∃ l1, (∀ e ∈ l1, VOk c st.strtbl e ∧ notExt e) ∧
            (∀ tb, l1.flatMap (vval tb) = s) ∧
            (do let l ← (if c.useStrtbl = true then splitByStrtbl st.strtbl l1 else pure l1)
                pure (emitVElts st l) : Except Err WSt) = .ok st' := by
          have h : (do
              let l ← (match c.lang.values with
                | some vals => splitByValues vals [.str s]
                | none => pure [.str s])
              let l ← (if c.useStrtbl = true then splitByStrtbl st.strtbl l else pure l)
              pure (emitVElts st l) : Except Err WSt) = .ok st' := h
          cases hv : c.lang.values with
          | none => rw [hv] at h; exact ⟨_, h0, fun tb => by simp [vval], h⟩
          | some vals =>
            rw [hv] at h
            obtain ⟨l1, hl1, h⟩ := bind_eq_ok h
            have hcut : CutStable (fun e => VOk c st.strtbl e ∧ notExt e) :=
              fun s i h => ⟨⟨(vok_cut c st.strtbl s i h.1).1, trivial⟩, ⟨(vok_cut c st.strtbl s i h.1).2, trivial⟩⟩
            obtain ⟨h1, h2⟩ := splitByValues_spec _ hcut vals (fun r hr => ⟨⟨vals, hv, hr⟩, trivial⟩) _ _ h0 hl1
            exact ⟨l1, h1, fun tb => by rw [h2 tb]; simp [vval], h⟩
        obtain ⟨l2, rfl, hl2, hcat2⟩ := strtblPass_spec c st st' notExt notExt_cut (fun _ => trivial) l1 hl1 h
        have hv : ∀ e ∈ l2, VOk c st.strtbl e := fun e he => (hl2 e he).1
        have hne : ∀ e ∈ l2, notExt e := fun e he => (hl2 e he).2
        have he := emitVElts_attr l2 hne st
        have hf := emitVElts_frame l2 st
        refine ⟨_, he.1, ?_, hf.1, hf.2, avalsOf_refs c st.strtbl l2 hv _, ?_, ?_, ?_, fun _ => avalsOf_opqs l2 _,
          Or.inl (avalsOf_opqs l2 _)⟩
        · intro ctx; rw [he.2, avalsOf_page]
        · intro ctx hc hl _; exact avalsOf_wf c st.strtbl ctx hc hl l2 hv hne _
        · intro r h1 h2; exact absurd (hdt r h1 h2) id
        · intro ctx hlang hl hsem hres _
          rw [avalsOf_text c st.strtbl ctx hlang hl hsem l2 hv hne, hcat2 ctx.tbl hres, hcat1]

/-- The single typed OPAQUE behind a `%Datetime` or OTA icon start is well-formed under the source
    hypothesis of its form: the reader's rule is defined on the payload (`decode_datetime` on an empty one
    or on 4 to 7 octets, base64 on a non-empty one), and such starts carry no value prefix. -/
theorem wfAttr_typed (c : WCfg) (na : Option (List Attr)) (ctx : Ctx) (tbl) (hc : Compat c tbl ctx)
    (hl : langOk c.lang = true) (htl : typedLangOk c.lang = true) (ap : Nat) (nm : Bytes) (as : AStart) (r : AttrRow)
    (hok : AStartOk c tbl ap nm as (some r)) (s p : Bytes) (hout : SpecialOut c na s (some r) p)
    (hdt : dtAttrName c.lang nm = true → validDatetimeText (r.value.getD [] ++ s) = true)
    (hic : iconCtx na = true → iconValName c.lang nm = true → b64NonEmpty (r.value.getD [] ++ s) = true) :
    wfAttr ctx ap ⟨as, [.opaque p]⟩ = true := by
  obtain ⟨hlen, r0, hr0, hcase⟩ := hout
  injection hr0 with hr0; subst hr0
  have hrd := astartOk_rd hok ctx hc.lang hl
  obtain ⟨attrs, ha, hr, rfl⟩ : ∃ attrs, c.lang.attrs = some attrs ∧ r ∈ attrs ∧ r.name = nm := by
    cases hok with
    | tok attrs _ ha hr hn => exact ⟨attrs, ha, hr, hn⟩
  have hlen' : p.length < 4294967296 := hlen
  simp only [wfAttr, wfPi, Bool.and_eq_true]
  rcases hcase with ⟨hd, hpay⟩ | ⟨hi, hctx, hdec⟩
  · have hoa := opaqueAttrText_plain ctx (by rw [hc.lang]; exact dtRow_not_ota _ _ hd) p
    have hname : dtAttrName c.lang r.name = true := by
      simp only [dtAttrName, ha, Option.getD_some, List.any_eq_true, Bool.and_eq_true, beq_iff_eq]
      exact ⟨r, hr, hd, rfl⟩
    have hv := hdt hname
    rw [hrd.nopre r rfl hd, List.nil_append] at hv
    simp only [validDatetimeText, hpay, Bool.or_eq_true, Bool.and_eq_true, decide_eq_true_eq, List.isEmpty_iff] at hv
    refine ⟨⟨hrd.wf hc.cs hc.offs, ?_⟩, ?_⟩
    · simp only [wfAVals, wfAVal, hoa, Option.isSome_some, Bool.and_true, decide_eq_true_eq]
      exact hlen'
    · simp only [avalsText, avalText, hoa, Option.getD_some, hrd.dtpre hd, List.nil_append, List.append_nil,
        attrValueText, hrd.isdt, Option.any_some, hd, Bool.and_true]
      rcases hv with hv | hv
      · subst hv; rfl
      · obtain ⟨b, hb⟩ := decodeDatetime_len p hv.1 hv.2
        simp only [hb]
        split <;> rfl
  · have hid : c.lang.id = 1901 := beq_iff_eq.mp (iconRow_id _ _ hi)
    have hname : iconValName c.lang r.name = true := by
      simp only [iconValName, ha, Option.getD_some, List.any_eq_true, Bool.and_eq_true, beq_iff_eq]
      exact ⟨r, hr, hi, rfl⟩
    have hv := hic hctx hname
    rw [typedLangOk_icon htl ha hr hi, List.nil_append] at hv
    simp only [b64NonEmpty, hdec, Bool.not_eq_true', List.isEmpty_eq_false_iff] at hv
    have hoa : opaqueAttrText ctx p = some (Rfc4648.encode p) := by
      simp only [opaqueAttrText, decodeOpaqueAttrValue, hc.lang, hid, beq_self_eq_true, ↓reduceIte,
        decodeBase64Value_spec p hv]
    refine ⟨⟨hrd.wf hc.cs hc.offs, ?_⟩, ?_⟩
    · simp only [wfAVals, wfAVal, hoa, Option.isSome_some, Bool.and_true, decide_eq_true_eq]
      exact hlen'
    · simp only [attrValueText, hrd.isdt, Option.any_some, iconRow_not_dt _ r r hi, Bool.and_false, Bool.false_eq_true,
        ↓reduceIte, Option.isSome_some]

/-- **The value a reader outside OTA reports for an attribute is `vAttrValue`** of the source value
    (`current_attr`'s value prefix ++ what was handed to the value encoder): without OPAQUE the pieces
    read back as the text, and under a `%Datetime` start there are then none; the only OPAQUE is the
    `%Datetime` payload, which the reader shows through `decode_datetime`. -/
theorem evAttr_value_typed (c : WCfg) (na : Option (List Attr)) (nm : Bytes) (ap : Nat) (as : AStart) (vals : List AVal)
    (rest : Bytes) (st1 st2 : WSt) (hok : AStartOk c st1.strtbl ap nm as st1.curAttr)
    (hap : ∀ ctx, st1.attrPage = (astartName ctx ap as).2.2) (hvr : AValsRes c na rest st1 st2 vals)
    (ctx : Ctx) (hr : RdA c st1.strtbl ctx) (hno : (c.lang.id == 1901) = false) :
    (evAttr ctx ap ⟨as, vals⟩).1.value = withNul (vAttrValue c st1.curAttr (preOf st1.curAttr ++ rest)) := by
  have hrd := astartOk_rd hok ctx hr.lang hr.ok
  have hisdt := hrd.isdt
  have hpre0 := hrd.nopre
  have htext := hvr.text ctx hr.lang hr.ok hr.vs hr.res
  have htyped : opqsAVals vals = [] ∨ ∃ p r, vals = [.opaque p] ∧ rest ≠ [] ∧ st1.curAttr = some r ∧
      dtRow c.lang.id r = true ∧ Typed.datetimePayload rest = .ok p := by
    rcases hvr.typed with h | ⟨p, hv, hne, _, r, hcur, ⟨hd, hpay⟩ | ⟨hi, _⟩⟩
    · exact .inl h
    · exact .inr ⟨p, r, hv, hne, hcur, hd, hpay⟩
    · rw [iconRow_id _ _ hi] at hno; cases hno
  show withNul ((attrValueText ctx (astartName ctx ap as).1
    ((astartName ctx ap as).2.1 ++ (avalsText ctx (astartName ctx ap as).2.2 vals).1)).getD []) = _
  rw [hrd.pre hr.as, ← hap ctx]
  congr 1
  rcases htyped with hplain | ⟨p, r, rfl, hne, hcur, hd, hpay⟩
  · rw [htext hplain]
    cases hcur : st1.curAttr with
    | none => rw [hcur] at hisdt; simp [attrValueText, hisdt, vAttrValue]
    | some r =>
      rw [hcur] at hisdt
      by_cases hd : dtRow c.lang.id r = true
      · have hv0 : vals = [] := (hvr.dt r hcur hd).resolve_right (fun h => h hplain)
        have hrest : rest = [] := by rw [← htext hplain, hv0]; rfl
        simp [preOf, hpre0 r hcur hd, hrest, attrValueText, vAttrValue]
      · simp [attrValueText, hisdt, vAttrValue, hd]
  · have hoa := opaqueAttrText_plain ctx (by rw [hr.lang]; exact hno) p
    have hne' : rest.isEmpty = false := by cases rest with | nil => exact absurd rfl hne | cons _ _ => rfl
    rw [hcur] at hisdt ⊢
    simp only [preOf, hpre0 r hcur hd, List.nil_append, avalsText, avalText, hoa, Option.getD_some, List.append_nil,
      attrValueText, hisdt, Option.any_some, hd, Bool.and_true, vAttrValue, hne', Bool.not_false, ↓reduceIte, hpay, dtShow]
    cases hpe : p.isEmpty with
    | true => simp [List.isEmpty_iff.mp hpe]
    | false =>
      cases decodeDatetime p <;> rfl

/-- The result of `wbxml_encode_attr` for one attribute: the `attribute` written and what a reader makes
    of it. `nm`, `v`: the source name and value as C strings. -/
structure AttrRes (c : WCfg) (na : Option (List Attr)) (nm v : Bytes) (st st' : WSt) (a : Attribute) : Prop where
  out : st'.out = st.out ++ serAttr a
  ap : ∀ ctx, st'.attrPage = (evAttr ctx st.attrPage a).2
  tp : st'.tagPage = st.tagPage
  tbl : TblExt c st st'
  refs : ∀ off ∈ refsAttr a, ∃ e ∈ st'.strtbl, e.offset = off
  wf : ∀ ctx, Compat c st'.strtbl ctx → langOk c.lang = true → opqsAttr a = [] →
    wfAttr ctx st.attrPage a = true
  value : ∀ ctx : Ctx, ctx.lang = c.lang → langOk c.lang = true → valSemOk c.lang = true →
    attrSemOk c.lang = true → Resolves ctx.tbl st'.strtbl → opqsAttr a = [] →
    (astartName ctx st.attrPage a.start).2.1 ++
      (avalsText ctx (astartName ctx st.attrPage a.start).2.2 a.vals).1 = v
  noopq : noTypedAttr c.lang.id = true → opqsAttr a = []
  wfT : ∀ ctx, Compat c st'.strtbl ctx → langOk c.lang = true → typedLangOk c.lang = true →
    (dtAttrName c.lang nm = true → validDatetimeText v = true) →
    (iconCtx na = true → iconValName c.lang nm = true → v.isEmpty = true ∨ b64NonEmpty v = true) →
    wfAttr ctx st.attrPage a = true

theorem encAttrW_spec (c : WCfg) (na : Option (List Attr)) (a : Attr) (st st' : WSt)
    (ha : attrOver c.lang a = true) (attrs : List AttrRow) (hattrs : c.lang.attrs = some attrs)
    (h : encAttrW c na a st = .ok st') : ∃ sa, AttrRes c na a.name.cName (cstrOf a.value) st st' sa ∧
      (∀ ctx : Ctx, RdA c st'.strtbl ctx → (c.lang.id == 1901) = false →
        (evAttr ctx st.attrPage sa).1 = xAttr c a) := by
  have hstep := encAttrW_step c na a st st' h
  unfold encAttrW at h
  rw [hattrs] at h
  obtain ⟨⟨rest, st1⟩, hs, h⟩ := bind_eq_ok h
  obtain ⟨st2, hv, h⟩ := bind_eq_ok h
  cases Except.ok.inj h
  obtain ⟨as, hres, hcurS, hpre, hrest⟩ := attrStartW_spec c a st st1 rest ha attrs hattrs hs
  obtain ⟨vals, hvr⟩ : ∃ vals, AValsRes c na (rest.getD []) st1 st2 vals := by
    cases rest with
    | none => cases Except.ok.inj hv; exact ⟨[], AValsRes.nil c na st1⟩
    | some s =>
      simp only [attrOver, Bool.and_eq_true, decide_eq_true_eq] at ha
      exact encAttrValueW_spec c na s st1 st2 (hrest s rfl).1
        (by have := (hrest s rfl).2; have := cstrOf_length_le a.value; omega) hv
  have hvalue : ∀ ctx : Ctx, ctx.lang = c.lang → langOk c.lang = true → valSemOk c.lang = true →
      attrSemOk c.lang = true → Resolves ctx.tbl st2.strtbl → opqsAVals vals = [] →
      (astartName ctx st.attrPage as).2.1 ++ (avalsText ctx (astartName ctx st.attrPage as).2.2 vals).1 =
        cstrOf a.value := by
    intro ctx hlang hl hvs has hrs hno
    have hres1 : Resolves ctx.tbl st1.strtbl := hvr.tbl ▸ hrs
    rw [(astartOk_rd hres.ok ctx hlang hl).pre has, ← hres.ap ctx, hvr.text ctx hlang hl hvs hres1 hno]
    exact hpre.symm
  have hwf0 : ∀ ctx, Compat c st2.strtbl ctx → langOk c.lang = true → opqsAttr ⟨as, vals⟩ = [] →
      wfAttr ctx st.attrPage ⟨as, vals⟩ = true := by
    intro ctx hc hl hno
    have hc1 : Compat c st1.strtbl ctx := hvr.tbl ▸ hc
    simp only [opqsAttr] at hno
    simp only [wfAttr, wfPi, Bool.and_eq_true]
    refine ⟨⟨(astartOk_rd hres.ok ctx hc1.lang hl).wf hc1.cs hc1.offs, ?_⟩, ?_⟩
    · rw [← hres.ap ctx]; exact hvr.wf ctx hc1 hl hno
    · apply attrValueText_ok c _ _ _ _ _ hres.ok ctx hc1 hl vals
      intro r hr hd
      rcases hvr.dt r hr hd with h | h
      · exact h
      · exact absurd hno h
  have hexact : ∀ ctx : Ctx, RdA c st2.strtbl ctx → (c.lang.id == 1901) = false →
      (evAttr ctx st.attrPage ⟨as, vals⟩).1 = xAttr c a := by
    intro ctx hr hno
    have hr1 : RdA c st1.strtbl ctx := hvr.tbl.symm ▸ hr
    have hn := (astartOk_rd hres.ok ctx hr.lang hr.ok).exact hr1.res (attrOver_nulFree c.lang a attrs hattrs ha hr.an)
    have hv := evAttr_value_typed c na _ _ _ _ _ st1 st2 hres.ok hres.ap hvr ctx hr1 hno
    rw [← hpre, hcurS] at hv
    rw [hcurS] at hn
    exact congr (congrArg Attr.mk hn) hv
  refine ⟨⟨as, vals⟩, ⟨?_, ?_, ?_, ?_, ?_, hwf0, hvalue, hvr.noopq, ?_⟩, hexact⟩
  · show st2.out = _
    rw [hvr.out, hres.out, serAttr, List.append_assoc]
  · intro ctx
    show st2.attrPage = _
    rw [evAttr_page, hvr.ap ctx, hres.ap ctx]
  · show st2.tagPage = _
    rw [hvr.tp, hres.tp]
  · exact hstep.tbl
  · intro off ho
    show ∃ e ∈ st2.strtbl, _
    rw [hvr.tbl]
    simp only [refsAttr, List.mem_append] at ho
    rcases ho with ho | ho
    · exact astartOk_refs c _ _ _ _ _ hres.ok off ho
    · exact hvr.refs off ho
  · intro ctx hc hl htl hdt hic
    rcases hvr.typed with hno | ⟨p, hvals, hsne, hout⟩
    · exact hwf0 ctx hc hl (by simp only [opqsAttr]; exact hno)
    · obtain ⟨_, r, hcur, _⟩ := id hout
      rw [hcur] at hout hpre
      subst hvals
      rw [hpre] at hdt hic
      refine wfAttr_typed c na ctx st1.strtbl (hvr.tbl ▸ hc) hl htl st.attrPage _ as r (hcur ▸ hres.ok) _ p hout hdt ?_
      intro h1 h2
      rcases hic h1 h2 with h3 | h3
      · rw [List.isEmpty_iff, List.append_eq_nil_iff] at h3
        exact absurd h3.2 hsne
      · exact h3

/-- The result of `parse_element`'s attribute loop: the attributes written for the list `l`. -/
structure AttrsRes (c : WCfg) (na : Option (List Attr)) (l : List Attr) (st st' : WSt) (as : List Attribute) : Prop where
  out : st'.out = st.out ++ serAttrs as
  ap : ∀ ctx, st'.attrPage = (evAttrs ctx st.attrPage as).2
  tp : st'.tagPage = st.tagPage
  tbl : TblExt c st st'
  refs : ∀ off ∈ refsAttrs as, ∃ e ∈ st'.strtbl, e.offset = off
  wf : ∀ ctx, Compat c st'.strtbl ctx → langOk c.lang = true → opqsAttrs as = [] →
    wfAttrs ctx st.attrPage as = true
  noopq : noTypedAttr c.lang.id = true → opqsAttrs as = []
  view : ∀ ctx : Ctx, Rd c st'.strtbl ctx → (evAttrs ctx st.attrPage as).1.map attrView = l.map srcAttrView
  wfT : ∀ ctx, Compat c st'.strtbl ctx → langOk c.lang = true → typedLangOk c.lang = true →
    l.all (dtAttrOk c.lang) = true → l.all (iconAttrOk c.lang na) = true → wfAttrs ctx st.attrPage as = true

theorem encAttrsW_spec' (c : WCfg) (na : Option (List Attr)) (attrs : List AttrRow) (hattrs : c.lang.attrs = some attrs) :
    ∀ (l : List Attr) (st st' : WSt), l.all (attrOver c.lang) = true → encAttrsW c na l st = .ok st' →
      ∃ as, as.length = l.length ∧ AttrsRes c na l st st' as ∧
        (∀ ctx : Ctx, RdA c st'.strtbl ctx → (c.lang.id == 1901) = false →
          (evAttrs ctx st.attrPage as).1 = l.map (xAttr c)) := by
  intro l
  induction l with
  | nil =>
    intro st st' _ h
    cases Except.ok.inj h
    exact ⟨[], rfl, ⟨by simp [serAttrs], fun _ => rfl, rfl, TblExt.refl _ _, nofun, fun _ _ _ _ => rfl,
      fun _ => rfl, fun _ _ => rfl, fun _ _ _ _ _ _ => rfl⟩, fun _ _ _ => rfl⟩
  | cons a rest ih =>
    intro st st' hall h
    simp only [List.all_cons, Bool.and_eq_true] at hall
    simp only [encAttrsW] at h
    obtain ⟨st1, h1, h2⟩ := bind_eq_ok h
    obtain ⟨sa, hsa, hsaX⟩ := encAttrW_spec c na a st st1 hall.1 attrs hattrs h1
    obtain ⟨as, hlen, has, hasX⟩ := ih st1 st' hall.2 h2
    -- a reader's view of `sa :: as` is its view of `sa`, then of `as` from the page `sa` leaves
    have hX : ∀ ctx : Ctx, RdA c st'.strtbl ctx → (c.lang.id == 1901) = false →
        (evAttrs ctx st.attrPage (sa :: as)).1 = (a :: rest).map (xAttr c) := fun ctx hr hno =>
      congr (congrArg List.cons (hsaX ctx (hr.mono has.tbl.pre) hno)) (hsa.ap ctx ▸ hasX ctx hr hno)
    refine ⟨sa :: as, by simp [hlen], ⟨?_, ?_, ?_, hsa.tbl.trans has.tbl, ?_, ?_,
      fun hu => by simp only [opqsAttrs, hsa.noopq hu, has.noopq hu, List.append_nil], ?_, ?_⟩, hX⟩
    · rw [has.out, hsa.out, serAttrs, List.append_assoc]
    · intro ctx; rw [evAttrs_cons_page, has.ap ctx, hsa.ap ctx]
    · rw [has.tp, hsa.tp]
    · intro off ho
      simp only [refsAttrs, List.mem_append] at ho
      rcases ho with ho | ho
      · obtain ⟨e, he, heo⟩ := hsa.refs off ho
        exact ⟨e, has.tbl.pre.subset he, heo⟩
      · exact has.refs off ho
    · intro ctx hc hl hno
      simp only [opqsAttrs, List.append_eq_nil_iff] at hno
      simp only [wfAttrs, Bool.and_eq_true]
      refine ⟨hsa.wf ctx (hc.mono has.tbl.pre) hl hno.1, ?_⟩
      rw [← hsa.ap ctx]
      exact has.wf ctx hc hl hno.2
    · intro ctx hr
      rw [hX ctx hr.toA (noTypedAttr_not_ota _ hr.nta)]
      exact srcView_of_exact c _ attrs hattrs (by simpa using hall) hr.an hr.nta
    · intro ctx hc hl htl h1 h2
      simp only [List.all_cons, Bool.and_eq_true] at h1 h2
      simp only [wfAttrs, Bool.and_eq_true]
      refine ⟨hsa.wfT ctx (hc.mono has.tbl.pre) hl htl ?_ ?_, ?_⟩
      · intro hn
        have := h1.1
        simpa [dtAttrOk, hn] using this
      · intro ha1 ha2
        have := h2.1
        simpa [iconAttrOk, ha1, ha2] using this
      · rw [← hsa.ap ctx]
        exact has.wfT ctx hc hl htl h1.2 h2.2

theorem encAttrsW_spec (c : WCfg) (na : Option (List Attr)) (attrs : List AttrRow) (hattrs : c.lang.attrs = some attrs) :
    ∀ (l : List Attr) (st st' : WSt), l.all (attrOver c.lang) = true → encAttrsW c na l st = .ok st' →
      ∃ as, as.length = l.length ∧ AttrsRes c na l st st' as := by
  intro l st st' h1 h2
  obtain ⟨as, h3, h4, _⟩ := encAttrsW_spec' c na attrs hattrs l st st' h1 h2
  exact ⟨as, h3, h4⟩

theorem encAttrsW_noattrs (c : WCfg) (na : Option (List Attr)) (hattrs : c.lang.attrs = none) :
    ∀ (l : List Attr) (st : WSt), encAttrsW c na l st = .ok st := by
  intro l
  induction l with
  | nil => intro st; rfl
  | cons a rest ih =>
    intro st
    simp only [encAttrsW]
    have : encAttrW c na a st = .ok st := by unfold encAttrW; rw [hattrs]; rfl
    rw [this]
    exact ih st

/-- What `parse_element` writes: `[switchPage] stag [1*attribute END]`. -/
structure StartRes (c : WCfg) (nm : Bytes) (src : List (Bytes × Bytes)) (st st' : WSt) (hasContent : Bool)
    (sw : Option Nat) (tag : Tag) (as : List Attribute) : Prop where
  out : st'.out = st.out ++ (serSw sw ++ (serTag (tagFlags (!as.isEmpty) hasContent) tag ++
    (if as.isEmpty then [] else serAttrs as ++ [0x01])))
  tp : st'.tagPage = swPage sw st.tagPage
  ap : ∀ ctx, st'.attrPage = (evAttrs ctx st.attrPage as).2
  tbl : TblExt c st st'
  tag : TagOk c st'.strtbl st.tagPage nm sw tag
  refs : ∀ off ∈ refsAttrs as, ∃ e ∈ st'.strtbl, e.offset = off
  wf : ∀ ctx, Compat c st'.strtbl ctx → langOk c.lang = true → opqsAttrs as = [] →
    wfAttrs ctx st.attrPage as = true
  noopq : noTypedAttr c.lang.id = true → opqsAttrs as = []
  attrsView : ∀ ctx : Ctx, Rd c st'.strtbl ctx → (evAttrs ctx st.attrPage as).1.map attrView = src

def srcAttrsView (c : WCfg) (attrs : List Attr) : List (Bytes × Bytes) :=
  if c.lang.attrs.isSome then attrs.map srcAttrView else []

theorem encElementStartW_spec' (c : WCfg) (name : Name) (attrs : List Attr) (hasContent : Bool) (st st' : WSt)
    (hl : langOk c.lang = true) (hn : nameOver c.lang name = true) (ha : attrs.all (attrOver c.lang) = true)
    (h : encElementStartW c (some attrs) name attrs hasContent st = .ok st') :
    ∃ sw tag as, StartRes c name.cName (srcAttrsView c attrs) st st' hasContent sw tag as ∧
      TagLink c name st sw tag ∧
      (∀ ctx, Compat c st'.strtbl ctx → langOk c.lang = true → typedLangOk c.lang = true →
        attrs.all (dtAttrOk c.lang) = true → attrs.all (iconAttrOk c.lang (some attrs)) = true →
        wfAttrs ctx st.attrPage as = true) ∧
      (∀ ctx : Ctx, RdT c st'.strtbl ctx → (c.lang.id == 1901) = false →
        (evAttrs ctx st.attrPage as).1 = xAttrs c attrs) := by
  unfold encElementStartW at h
  obtain ⟨st1, ht, h⟩ := bind_eq_ok h
  obtain ⟨st2, ha2, h⟩ := bind_eq_ok h
  -- the END of the attribute list is the only thing written behind the attributes
  have hst' : st' = st2.emit (if (!attrs.isEmpty && c.lang.attrs.isSome) = true then [0x01] else []) := by
    rw [← Except.ok.inj h]; split
    · rfl
    · exact (emit_nil _).symm
  subst hst'
  obtain ⟨sw, tag, hout, htp, hap, htbl, htag, hlink⟩ := encTagW_spec c name hasContent _ st st1 hl hn ht
  cases hat : c.lang.attrs with
  | none =>
    rw [encAttrsW_noattrs c _ hat] at ha2
    cases Except.ok.inj ha2
    refine ⟨sw, tag, [], ⟨?_, htp, fun _ => hap, htbl.trans (TblExt.of_eq rfl rfl), htag, nofun, fun _ _ _ _ => rfl,
      fun _ => rfl, fun _ _ => by simp [srcAttrsView, hat, evAttrs_nil]⟩, hlink, fun _ _ _ _ _ _ => rfl,
      fun _ _ _ => by simp [xAttrs, hat, evAttrs_nil]⟩
    simp only [hat, Option.isSome_none, Bool.and_false, Bool.false_eq_true, ↓reduceIte] at hout ⊢
    simpa using hout
  | some atbl =>
    obtain ⟨as, hlen, has, hasX⟩ := encAttrsW_spec' c (some attrs) atbl hat attrs st1 st2 ha ha2
    have hemp : as.isEmpty = attrs.isEmpty := by
      cases as <;> cases attrs <;> first | rfl | cases hlen
    simp only [hat, Option.isSome_some, Bool.and_true] at hout ⊢
    refine ⟨sw, tag, as, ⟨?_, has.tp.trans htp, fun ctx => by rw [← hap]; exact has.ap ctx,
      htbl.trans (has.tbl.trans (TblExt.of_eq rfl rfl)), htag.mono has.tbl.pre, has.refs, by rw [← hap]; exact has.wf,
      has.noopq, ?_⟩, hlink, by rw [← hap]; exact has.wfT, ?_⟩
    · rw [emit_out, has.out, hout, hemp]
      cases hae : attrs.isEmpty
      · simp
      · obtain rfl : as = [] := List.isEmpty_iff.mp (hemp.trans hae)
        simp [serAttrs]
    · simp only [srcAttrsView, hat, Option.isSome_some, ↓reduceIte]; rw [← hap]; exact has.view
    · simp only [xAttrs, hat, Option.isSome_some, ↓reduceIte]; rw [← hap]
      exact fun ctx hr hno => hasX ctx hr.toA hno

theorem encElementStartW_spec (c : WCfg) (name : Name) (attrs : List Attr) (hasContent : Bool) (st st' : WSt)
    (hl : langOk c.lang = true) (hn : nameOver c.lang name = true) (ha : attrs.all (attrOver c.lang) = true)
    (h : encElementStartW c (some attrs) name attrs hasContent st = .ok st') :
    ∃ sw tag as, StartRes c name.cName (srcAttrsView c attrs) st st' hasContent sw tag as := by
  obtain ⟨sw, tag, as, hs, _⟩ := encElementStartW_spec' c name attrs hasContent st st' hl hn ha h
  exact ⟨sw, tag, as, hs⟩

end Wbxml.Lemmas.EncW
