/-
  Round trip (C03), second trip: the XML-side builder followed over a conforming reading of the printed tree.
  `Fills` / `Opens` say what an event list does to the open frame; `xrun_kids`, `xrun_doc`: the tree built is
  `readNode` of the printed tree; `treeOfXml_readsBack`: so is what `treeOfXml` delivers under `ReadsBack`.
-/
import Wbxml.Lemmas.RtReadNorm
import Wbxml.Lemmas.RtData
import Wbxml.Lemmas.XCallbacks
namespace Wbxml.Lemmas.Rt
open Wbxml Wbxml.Model Wbxml.Spec Wbxml.Lemmas.EncW Wbxml.Lemmas.X2W

variable (main : List Lang) (input : Bytes) (sub : Bytes → Option (Except Nat Tree))

/-- A quiet builder state whose language is known to be `lang`. -/
structure XAt (lang : Lang) (b : XBState) : Prop where
  quiet : XQuiet b
  lang : b.lang = some lang

/-- An open element frame under which character data becomes a plain text child. -/
structure FrameOk (f : XFrame) : Prop where
  kind : ∃ n a, f.kind = .elt n a ∧ (n.xmlName == dataName) = false ∧ isBinaryName n = false
  content : f.content = none

theorem XAt.frames {lang : Lang} {b : XBState} (h : XAt lang b) (S : List XFrame) (cp : Nat) :
    XAt lang { b with stack := S, curPage := cp } := ⟨h.quiet.congr rfl rfl rfl, h.lang⟩

/-- An open element frame that is not binary-flagged and has nothing cached. Unlike `FrameOk` it may be an
    element called `Data`: in the names with `D` or `_d` the condition on the text under `Data` is the caller's. -/
structure FrameOkD (f : XFrame) : Prop where
  kind : ∃ n a, f.kind = .elt n a ∧ isBinaryName n = false
  content : f.content = none

theorem xstep_chars_d {lang : Lang} {b : XBState} {f : XFrame} {rest : List XFrame} (h : XAt lang b)
    (hs : b.stack = f :: rest) (hf : FrameOkD f) (s : Bytes)
    (hty : syncmlDataType (xStackFrames (f :: rest)) = .normal) :
    xbuildStep main input sub b (.chars s) = { b with stack := { f with kids := addKid f.kids (.text s) } :: rest } := by
  obtain ⟨⟨n, a, hk, hbin⟩, _⟩ := hf
  refine xstep_chars_plain main input sub h.quiet hs (by rw [hs]; exact hty) (fun n' a' hk' => ?_) s
  rw [hk] at hk'
  cases hk'
  exact hbin

theorem FrameOk.toD {f : XFrame} (hf : FrameOk f) : FrameOkD f :=
  let ⟨⟨n, a, hk, _, hbin⟩, hc⟩ := hf; ⟨⟨n, a, hk, hbin⟩, hc⟩

/-- Under a frame that is not called `Data` character data is ordinary text. -/
theorem FrameOk.normal {f : XFrame} (hf : FrameOk f) (rest : List XFrame) :
    syncmlDataType (xStackFrames (f :: rest)) = .normal := by
  obtain ⟨⟨n, a, hk, hnd, _⟩, _⟩ := hf
  exact TreeBuild.syncml_normal_elt (f := { kind := f.kind, kids := f.kids }) hk hnd

theorem xeTag_notBinary (lang : Lang) (hpl : plainLang lang = true) (name : Bytes) :
    isBinaryName (xeTag lang name).1 = false := by
  rcases xeTag_cases lang name with e | ⟨r, tags, e, ht, hm, _⟩ <;> rw [e]
  · rfl
  · simp only [plainLang, ht, Bool.and_eq_true, List.all_eq_true, beq_iff_eq] at hpl
    simp [isBinaryName, hpl.2 r hm]

theorem xmlElt_frameOk (lang : Lang) (hpl : plainLang lang = true) (name : Bytes) (attrs : List (Bytes × Bytes))
    (hn : eltNameOk name = true) (kids : List Node) :
    FrameOk { (xmlElt lang name attrs).1 with kids := kids } := by
  rw [xmlElt_closed]
  refine ⟨⟨_, _, rfl, ?_, xeTag_notBinary lang hpl name⟩, rfl⟩
  rw [xeTag_xmlName, localName_of_ok name hn]
  simp only [eltNameOk, Bool.and_eq_true, Bool.not_eq_true'] at hn
  exact hn.1.2

theorem xmlElt_kids (lang : Lang) (name : Bytes) (attrs : List (Bytes × Bytes)) : (xmlElt lang name attrs).1.kids = [] := by
  rw [xmlElt_closed]

theorem xmlElt_close (lang : Lang) (name : Bytes) (attrs : List (Bytes × Bytes)) (K : List Node) :
    XFrame.close { (xmlElt lang name attrs).1 with kids := K } =
      .elt (xeTag lang name).1 (attrs.map (xeAttr lang)) K := by
  rw [xmlElt_closed]; rfl

theorem xStackFrames_cons (f : XFrame) (rest : List XFrame) :
    xStackFrames (f :: rest) = { kind := f.kind, kids := f.kids } :: xStackFrames rest := rfl

/-! ### What an event list does to the open frame

  `Fills` composes along a well-bracketed event list: nothing (`nil`), one after the other
  (`append`), character data (`text`), an element with its body (`elt`, through `bracket`, which also
  serves the root element). The walks over `Reads` and `ReadsNs` apply one rule per case. They differ in how
  a reported element name is resolved (`Opens`), in where `normal` comes from (`FrameOk.normal` for `Reads`; the
  hypothesis `dataOkXL` over `FrameOkD` for `ReadsNs`), and in what is built (`readKidsAcc`; `readXKids`; the
  namespace scope `ScopeNs` is threaded by the walk over `ReadsNs` itself). -/

/-- Wherever the call-backs stand quietly with the frame `f` open above `rest`, the events `evs` change
    nothing but `f`'s children, which become `K` (and the current code page). -/
def Fills (lang : Lang) (evs : List XEvent) (f : XFrame) (rest : List XFrame) (K : List Node) : Prop :=
  ∀ b : XBState, XAt lang b → b.stack = f :: rest →
    ∃ cp, evs.foldl (xbuildStep main input sub) b = { b with stack := { f with kids := K } :: rest, curPage := cp }

/-- The start call-back for `ev` pushes the frame `F`. -/
def Opens (lang : Lang) (ev : XEvent) (F : XFrame) : Prop :=
  ∀ b : XBState, XAt lang b → (b.stack = [] → b.root = none) →
    ∃ pg, xbuildStep main input sub b ev = { b with stack := F :: b.stack, curPage := pg }

theorem Fills.nil (lang : Lang) (f : XFrame) (rest : List XFrame) : Fills main input sub lang [] f rest f.kids := by
  intro b _ hs
  refine ⟨b.curPage, ?_⟩
  cases b; simp only at hs; subst hs; rfl

theorem Fills.append {lang : Lang} {e1 e2 : List XEvent} {f : XFrame} {rest : List XFrame} {K1 K2 : List Node}
    (h1 : Fills main input sub lang e1 f rest K1) (h2 : Fills main input sub lang e2 { f with kids := K1 } rest K2) :
    Fills main input sub lang (e1 ++ e2) f rest K2 := by
  intro b h hs
  obtain ⟨cp1, e1'⟩ := h1 b h hs
  obtain ⟨cp2, e2'⟩ := h2 ({ b with stack := { f with kids := K1 } :: rest, curPage := cp1 } : XBState)
    (h.frames _ _) rfl
  exact ⟨cp2, by rw [List.foldl_append, e1', e2']⟩

/-- Start tag, body, end tag: the closed element is attached to whatever is open, or becomes the root. -/
theorem bracket {lang : Lang} {ev : XEvent} {F : XFrame} {body : List XEvent} {K : List Node}
    (ho : Opens main input sub lang ev F) (hF : FrameOkD F) (nm : Bytes) (j : Nat) (b : XBState) (h : XAt lang b)
    (hroot : b.stack = [] → b.root = none) (hb : Fills main input sub lang body F b.stack K) :
    ∃ cp, ∀ es : List XEvent, (ev :: (body ++ .endElt nm j :: es)).foldl (xbuildStep main input sub) b =
      es.foldl (xbuildStep main input sub) (({ b with curPage := cp } : XBState).attach (XFrame.close { F with kids := K })) := by
  obtain ⟨pg, e0⟩ := ho b h hroot
  obtain ⟨cp, e1⟩ := hb ({ b with stack := F :: b.stack, curPage := pg } : XBState) (h.frames _ _) rfl
  obtain ⟨_, _, hk, _⟩ := hF.kind
  refine ⟨cp, fun es => ?_⟩
  rw [List.foldl_cons, List.foldl_append, List.foldl_cons, e0, e1,
    xstep_end_elt main input sub
      (b := { ({ b with stack := F :: b.stack, curPage := pg } : XBState) with
              stack := { F with kids := K } :: b.stack, curPage := cp })
      ((h.frames _ _).quiet) rfl hF.content hk nm j]

theorem Fills.elt {lang : Lang} {ev : XEvent} {F : XFrame} {body es : List XEvent} {K K' : List Node}
    {f : XFrame} {rest : List XFrame}
    (ho : Opens main input sub lang ev F) (hF : FrameOkD F) (hb : Fills main input sub lang body F (f :: rest) K)
    (nm : Bytes) (j : Nat)
    (he : Fills main input sub lang es { f with kids := addKid f.kids (XFrame.close { F with kids := K }) } rest K') :
    Fills main input sub lang (ev :: (body ++ .endElt nm j :: es)) f rest K' := by
  intro b h hs
  obtain ⟨cp1, e1⟩ := bracket main input sub ho hF nm j b h (by intro h0; rw [hs] at h0; cases h0) (by rw [hs]; exact hb)
  obtain ⟨cp2, e2⟩ := he
    ({ b with stack := { f with kids := addKid f.kids (XFrame.close ({ F with kids := K } : XFrame)) } :: rest, curPage := cp1 } : XBState)
    (h.frames _ _) rfl
  exact ⟨cp2, by rw [e1, X2W.attach_cons (b := { b with curPage := cp1 }) hs, e2]⟩

/-- The events of one printed text, reported in non-empty pieces: the text joins the children of
    the open frame — provided `syncmlDataType` answers `normal` there, unless nothing is reported. -/
theorem Fills.text {lang : Lang} {rest : List XFrame} : ∀ (pieces : List Bytes) {f : XFrame}, FrameOkD f →
    (∀ p ∈ pieces, p ≠ []) → (pieces.flatten.isEmpty || normalAt (xStackFrames (f :: rest))) = true →
    Fills main input sub lang (pieces.map XEvent.chars) f rest (addChars f.kids pieces.flatten)
  | [], f, _, _, _ => Fills.nil main input sub lang f rest
  | p :: ps, f, hf, hne, hN => by
    obtain ⟨b0, p', rfl⟩ := List.exists_cons_of_ne_nil (hne p (List.mem_cons_self ..))
    have hn : normalAt (xStackFrames (f :: rest)) = true := by simpa using hN
    have one : Fills main input sub lang [.chars (b0 :: p')] f rest (addChars f.kids (b0 :: p')) := fun b h hs =>
      ⟨b.curPage, by rw [List.foldl_cons, List.foldl_nil, xstep_chars_d main input sub h hs hf _ ((normalAt_iff _).mp hn)]; rfl⟩
    -- the children of the top frame do not matter to `syncmlDataType`
    have hn' : normalAt (xStackFrames ({ f with kids := addChars f.kids (b0 :: p') } :: rest)) = true := by
      rw [xStackFrames_cons] at hn ⊢
      rw [normalAt_top _ _ f.kids]; exact hn
    rw [List.flatten_cons, ← addChars_addChars]
    exact Fills.append main input sub one (Fills.text ps ⟨hf.kind, hf.content⟩
      (fun x hx => hne x (List.mem_cons_of_mem _ hx)) (by rw [hn', Bool.or_true]))

theorem opens_plain {lang : Lang} (c : XCfg) (name : Name) (attrs : List Attr) (i : Nat) (hn : eltNameOk name.xmlName = true) :
    Opens main input sub lang (.startElt name.xmlName (xmlAttrsOf c attrs) i) (xmlElt lang name.xmlName (xmlAttrsOf c attrs)).1 :=
  fun _ h hroot => ⟨_, xstep_start_known main input sub h.quiet h.lang hroot _ _ _ (eltNameOk_notSkip _ hn)⟩

/-- **The children of a printed element**: over a conforming reading the call-backs collect
    `readKidsAcc` in the open frame. -/
theorem xrun_kids {lang : Lang} {c : XCfg} (hpl : plainLang lang = true) {ks : List Node} {evs : List XEvent}
    (hr : Reads c ks evs) : readableL ks = true → ∀ (f : XFrame) (rest : List XFrame), FrameOk f →
      Fills main input sub lang evs f rest (readKidsAcc lang c ks f.kids) := by
  induction hr with
  | nil => intro _ f rest _; rw [readKidsAcc_nil]; exact Fills.nil main input sub lang f rest
  | elt name attrs kids more body es i j _ _ ihb ihe =>
    intro hrd f rest hf
    rw [readableL, readable, Bool.and_eq_true, Bool.and_eq_true] at hrd
    obtain ⟨⟨hn, hkids⟩, hmore⟩ := hrd
    have hF : FrameOk (xmlElt lang name.xmlName (xmlAttrsOf c attrs)).1 := xmlElt_frameOk lang hpl _ _ hn _
    rw [readKidsAcc_cons, addN_of_not_text _ _ (by rw [readNode_elt]; rfl), readNode_elt, ← xmlElt_close]
    have := ihb hkids _ (f :: rest) hF
    rw [xmlElt_kids] at this
    exact Fills.elt main input sub (opens_plain main input sub c name attrs i hn) hF.toD this _ j
      (ihe hmore _ rest ⟨hf.kind, hf.content⟩)
  | text s more pieces es hflat hne _ ihe =>
    intro hrd f rest hf
    rw [readableL, Bool.and_eq_true] at hrd
    rw [readKidsAcc_cons, readNode_text, addN_text, ← hflat]
    exact Fills.append main input sub
      (Fills.text main input sub pieces hf.toD hne (by rw [(normalAt_iff _).mpr (hf.normal rest), Bool.or_true]))
      (ihe hrd.2 _ rest ⟨hf.kind, hf.content⟩)

/-- Prolog, then the root element: the closed root is the tree's root, with the language the
    document type selects. -/
theorem xrun_root {lang : Lang} (hdt : docTypeFinds main lang = true) {ev : XEvent} {F : XFrame} {body : List XEvent}
    {K : List Node} (ho : Opens main input sub lang ev F) (hF : FrameOkD F) (hb : Fills main input sub lang body F [] K)
    (nm : Bytes) (j : Nat) :
    ∃ cp, (xmlDeclEv :: docTypeOf lang :: ev :: (body ++ [.endElt nm j])).foldl (xbuildStep main input sub) {} =
      { lang := some lang, root := some (XFrame.close { F with kids := K }), curPage := cp } := by
  obtain ⟨sysid, pubid, hd, hfind⟩ := docTypeFinds_spec main lang hdt
  obtain ⟨cp, e⟩ := bracket main input sub ho hF nm j ({ lang := some lang } : XBState) ⟨⟨rfl, rfl, rfl⟩, rfl⟩ (fun _ => rfl) hb
  refine ⟨cp, ?_⟩
  rw [hd, List.foldl_cons, List.foldl_cons]
  unfold xmlDeclEv
  rw [xstep_xmlDecl main input sub ⟨rfl, rfl, rfl⟩, xstep_doctype main input sub ⟨rfl, rfl, rfl⟩ sysid pubid lang hfind, e []]
  rfl

/-- **The XML-side builder over a conforming reading of the printed tree** builds `readNode` of
    its root, with the language the document type selects. -/
theorem xrun_doc {lang : Lang} {c : XCfg} (hpl : plainLang lang = true) (hc : c.lang = lang)
    (hdt : docTypeFinds main lang = true) (t : Tree) (r : Node) (hroot : t.root = some r)
    (hre : readable r = true) (helt : isElt r = true) (evs : List XEvent) (hr : ReadsDoc c t evs) :
    ∃ cp, evs.foldl (xbuildStep main input sub) {} =
      { lang := some lang, root := some (readNode lang c r), curPage := cp } := by
  obtain ⟨_, _, r0, body, hr0, hreads, hevs⟩ := hr
  rw [hroot] at hr0; injection hr0 with hr0; subst hr0
  subst hevs
  cases hreads with
  | text s rest pieces es _ _ _ => cases helt
  | elt name attrs kids rest body' es i j hk hrest =>
    cases hrest
    rw [readable, Bool.and_eq_true] at hre
    have hF : FrameOk (xmlElt lang name.xmlName (xmlAttrsOf c attrs)).1 := xmlElt_frameOk lang hpl _ _ hre.1 _
    have hb := xrun_kids main input sub hpl hk hre.2 _ [] hF
    rw [xmlElt_kids] at hb
    rw [hc, readNode_elt, ← xmlElt_close]
    exact xrun_root main input sub hdt (opens_plain main input sub c name attrs i hre.1) hF.toD hb _ j

theorem treeOfXml_of_run (main : List Lang) (env : List (Bytes × ExpatRun)) (xml k : Bytes) (run : ExpatRun) (f : Nat)
    (hne : xml ≠ []) (hfind : env.find? (fun p => p.1 == xml) = some (k, run)) (hok : run.ok = true)
    (lang : Lang) (r : Node)
    (he : ∀ sub, ∃ cp, run.events.foldl (xbuildStep main xml sub) {} = { lang := some lang, root := some r, curPage := cp }) :
    treeOfXml main env (f + 1) xml = .ok { lang := some lang, origCharset := 0, root := some r } := by
  rw [treeOfXml_succ]
  have hx : xml.isEmpty = false := List.isEmpty_eq_false_iff.mpr hne
  simp only [hx, Bool.false_eq_true, ↓reduceIte, hfind]
  obtain ⟨cp, e⟩ := he _
  rw [e]
  simp only [hok, Bool.not_true, Bool.false_eq_true, ↓reduceIte]

theorem treeOfXml_readsBack {lang : Lang} {c : XCfg} (main : List Lang) (hpl : plainLang lang = true) (hc : c.lang = lang)
    (hdt : docTypeFinds main lang = true) (t : Tree) (r : Node) (hroot : t.root = some r)
    (hre : readable r = true) (helt : isElt r = true) (env : List (Bytes × ExpatRun)) (xml : Bytes)
    (hne : xml ≠ []) (hrb : ReadsBack env xml c t) (f : Nat) :
    treeOfXml main env (f + 1) xml = .ok { lang := some lang, origCharset := 0, root := some (readNode lang c r) } := by
  obtain ⟨k, run, hfind, hok, hrd⟩ := hrb
  exact treeOfXml_of_run main env xml k run f hne hfind hok lang _
    (fun sub => xrun_doc main xml sub hpl hc hdt t r hroot hre helt run.events hrd)

end Wbxml.Lemmas.Rt
