/-
  C18 lemmas: extracting the LAST child of a node and adding it back under the same parent restores the
  shape — hence `abs` — unless the node and its previous sibling are both text (then `wbxml_tree_add_node`
  merges them).
-/
import Wbxml.Lemmas.TreeHeapAbs
import Wbxml.Lemmas.TreeHeapRun
namespace Wbxml.Model.TreeHeap
open Wbxml Wbxml.Model

/-- `wbxml_tree_extract_node(tree, n)` followed by `wbxml_tree_add_node(tree, P, n)` for a node `n` that
    is the LAST child of `P` (`n->next == NULL`), unless `n` and its previous sibling are both text
    nodes: both calls succeed, the links are again exactly those of the shape before, every payload is
    kept — the abstraction of the tree is the same as before.  (The chain below `P` is `A ⧺ [n; c]`, the
    first call leaves `A` and the detached top `[n; c]`, the second appends it again.) -/
theorem extract_reinsert_last {s : St} {G : BT} (hF : Forest s G) {n P : Nat} {cn : Cell}
    (hcn : s.cellAt n = some cn) (hp : cn.parent = some P) (hlast : cn.next = none)
    (hside : ∀ q cq, cn.prev = some q → s.cellAt q = some cq → ¬ (cn.pay.isText = true ∧ cq.pay.isText = true)) :
    ∃ s2, run s [.extract n, .addNode (some P) n] = .ok s2 ∧ Forest s2 G ∧
      (∀ j, payOf s2.cellAt j = payOf s.cellAt j) ∧ absTree s2 = absTree s := by
  obtain ⟨cP, A, c, B, cx⟩ := hF.cutCtx hcn hp
  obtain ⟨s1, e1, h⟩ := extract_cut cx hp
  have hB : B = .nil := BT.rid_none (by rw [← cx.next]; exact hlast)
  subst hB
  have hF1 := h.forest cx
  have hpay1 := h.pay cx
  have m1 := h.sameMeta
  rw [BT.snoc_nil] at hF1
  have hP1 : P ∈ (BT.snoc (BT.setKids P A G) .nil).ids := by
    rw [BT.snoc_nil, BT.mem_setKids P _ G P hF.nodup]
    exact Or.inl ⟨cx.hPG, (BT.kidsOf_nodup P G hF.nodup).2⟩
  have hroot1 : s1.root ≠ some n := by
    rw [m1.1]
    intro hr
    have := (Inv.links ⟨G, hF⟩ n cn hcn).2.2.2.2.2 hr
    rw [hp] at this; cases this
  have ctx : AddCtx s1 (BT.setKids P A G) c .nil P n _ _ := ⟨hF1, hroot1, hP1, h.parent, cx.hbr, h.self⟩
  -- the re-insertion appends (a merge is excluded by `hside`), so the children chain is the old one
  obtain ⟨s2, K', h2⟩ := addNode_under ctx
  have hF2 := h2.forest
  have hnm := h2.plain
  have m2 := h2.sameMeta
  rw [BT.snoc_nil] at hF2
  rw [BT.snoc_nil, BT.kidsOf_setKids P A G cx.hPG hF.nodup] at hnm
  obtain ⟨hK', hpn, hpo⟩ := hnm (by
    intro A' l x hA
    have hl : cn.prev = some l := by rw [cx.prev, hA, BT.last_snoc]; simp [BT.last]
    obtain ⟨cq, hcq⟩ := cx.live (Or.inl (cx.before_mem hl))
    have := hside l cq hl hcq
    rw [hpay1 l]
    simpa [payOf, hcq] using this)
  rw [hK', ← cx.hK, BT.setKids_setKids, BT.setKids_kidsOf P G hF.nodup] at hF2
  have hpay2 : ∀ j, payOf s2.cellAt j = payOf s.cellAt j := by
    intro j
    by_cases hj : j = n
    · subst hj
      rw [hpn, ← hpay1 j]; simp [payOf, h.self]
    · rw [hpo j hj, hpay1 j]
  refine ⟨s2, ?_, hF2, hpay2,
    absTree_congr hF hF2 (fun j _ => hpay2 j) (m2.1.trans m1.1) (m2.2.1.trans m1.2.1) (m2.2.2.1.trans m1.2.2.1)⟩
  rw [run_cons _ (stepChecked_of (x := (.code 0, s1)) (by simp only [pre, hcn, Option.isSome_some]) (by simp only [step, e1])),
    run_cons _ (stepChecked_of (x := (.bool true, s2)) ctx.pre (by simp only [step, h2.ok]))]
  rfl

/-- Inserting a detached sub-tree, extracting it and inserting it again at the same place gives the
    same `abs` as inserting it once — on every state that satisfies the invariant and has no adjacent
    text siblings, for every insertion inside the contract. -/
theorem insert_extract_insert {s : St} {G : BT} (hF : Forest s G) (hN : NoAdjText s) {P n : Nat}
    (hpre : pre s (.addNode (some P) n) = true) :
    ∃ s1 s3, run s [.addNode (some P) n] = .ok s1 ∧
      run s [.addNode (some P) n, .extract n, .addNode (some P) n] = .ok s3 ∧ Inv s3 ∧ absTree s3 = absTree s1 := by
  have hpre' := hpre
  simp only [pre, Bool.and_eq_true] at hpre'
  obtain ⟨T, C, T', cP, cn, ctx⟩ := addCtx_of_pre hF hpre'.1.1 hpre'.1.2 hpre'.2
  obtain ⟨s1, K', h1⟩ := addNode_under ctx
  have hN1 : NoAdjText s1 := h1.noAdj hN
  have hF1 := h1.forest
  obtain ⟨cP1, _, _, _, mK⟩ := hF1.cell_kids (ctx.kids_after K').1
  rw [(ctx.kids_after K').2] at mK
  obtain ⟨c1, hc1, hnx1, hpar1⟩ := MatchTo.last_cell K' none n ((matchTo_none K' none).mpr mK) h1.last
  have hI1 : Inv s1 := ⟨_, hF1⟩
  obtain ⟨s3, e3, hF3, _, habs⟩ := extract_reinsert_last hF1 hc1 hpar1 hnx1 (by
    intro q cq hq hcq
    obtain ⟨cq', hcq', hqn, _⟩ := (hI1.links n c1 hc1).2.2.1 q hq
    cases hcq.symm.trans hcq'
    exact fun h => hN1 q n cq c1 hcq hqn hc1 ⟨h.2, h.1⟩)
  have st1 : stepChecked s (.addNode (some P) n) = .ok (.bool true, s1) :=
    stepChecked_of hpre (by simp only [step, h1.ok])
  refine ⟨s1, s3, ?_, ?_, ⟨_, hF3⟩, habs⟩
  · simp only [run, st1]
  · rw [run_cons _ st1]; exact e3

end Wbxml.Model.TreeHeap
