/-
  Wire compatibility by insertion: a table that only gained rows, none of which can be mistaken
  for a published row, understands every published row as before. Deciding that takes one pass
  over the two tables, where the row-by-row comparison of look-ups of `Model/Compat.lean` takes a
  scan per row.
-/
import Wbxml.Model.Compat
namespace Wbxml.Model

section Grown
variable {α : Type} {clash : α → α → Bool} {R : List α}

theorem not_of_noClash {p : α → Bool} (hp : ∀ y, p y = true → ∃ x ∈ R, clash y x = true) {y : α}
    (h : R.all (fun x => !clash y x) = true) : p y = false := by
  cases hpy : p y with
  | false => rfl
  | true =>
    obtain ⟨x, hx, hc⟩ := hp y hpy
    have := List.all_eq_true.mp h x hx
    simp [hc] at this

variable [DecidableEq α]

/-- `c` is `r` with further rows put in, none of which clashes with a row of `R`. -/
def grownFrom (clash : α → α → Bool) (R : List α) : List α → List α → Bool
  | [], r => r.isEmpty
  | y :: c, [] => R.all (fun x => !clash y x) && grownFrom clash R c []
  | y :: c, x :: r =>
    if y = x then grownFrom clash R c r
    else R.all (fun x => !clash y x) && grownFrom clash R c (x :: r)

/-- A first-match look-up whose hits all clash with some published row skips the new rows. -/
theorem find?_of_grownFrom {p : α → Bool} (hp : ∀ y, p y = true → ∃ x ∈ R, clash y x = true) :
    ∀ {c r : List α}, grownFrom clash R c r = true → c.find? p = r.find? p := by
  intro c
  induction c with
  | nil => intro r h; cases r with
    | nil => rfl
    | cons _ _ => simp [grownFrom] at h
  | cons y c ih =>
    intro r h
    cases r with
    | nil =>
      simp only [grownFrom, Bool.and_eq_true] at h
      rw [List.find?_cons, not_of_noClash hp h.1]
      exact ih h.2
    | cons x r =>
      simp only [grownFrom] at h
      split at h
      · subst y
        rw [List.find?_cons, List.find?_cons, ih h]
      · simp only [Bool.and_eq_true] at h
        rw [List.find?_cons, not_of_noClash hp h.1]
        exact ih h.2

end Grown

/-- The attribute scan of the encoder passes over rows of other names. -/
theorem encAttrGo_of_grownFrom {clash : AttrRow → AttrRow → Bool} {R : List AttrRow} {name value : Bytes}
    (hp : ∀ y : AttrRow, (y.name == name) = true → ∃ x ∈ R, clash y x = true) :
    ∀ {c r : List AttrRow} (st : AttrScan), grownFrom clash R c r = true →
      encAttrGo name value c st = encAttrGo name value r st := by
  intro c
  induction c with
  | nil => intro r st h; cases r with
    | nil => rfl
    | cons _ _ => simp [grownFrom] at h
  | cons y c ih =>
    intro r st h
    have skip : R.all (fun x => !clash y x) = true →
        encAttrGo name value (y :: c) st = encAttrGo name value c st := by
      intro hall
      rw [encAttrGo, not_of_noClash hp hall]
      rfl
    cases r with
    | nil =>
      simp only [grownFrom, Bool.and_eq_true] at h
      rw [skip h.1]
      exact ih st h.2
    | cons x r =>
      simp only [grownFrom] at h
      split at h
      · subst y
        unfold encAttrGo
        simp only [ih _ h]
      · simp only [Bool.and_eq_true] at h
        rw [skip h.1]
        exact ih st h.2

/-! Per kind of table: what makes a new row mistakable for a published one, and the direct
    comparison as a consequence of `grownFrom`. -/

def tagClash (y x : TagRow) : Bool := y.page == x.page && (y.token == x.token || y.name == x.name)

/-- Page contiguity of the current table is a fact about that table alone (C08 has it). -/
theorem tagsPreserved_of_grown {r c : List TagRow} (hc : ∀ p, contigFrom p c = true)
    (h : grownFrom tagClash r c r = true) : tagsPreserved r c = true := by
  unfold tagsPreserved
  simp only [List.all_eq_true, Bool.and_eq_true]
  intro p _
  refine ⟨hc p, fun x hx => ?_⟩
  obtain ⟨hxr, hpg⟩ := mem_bucket hx
  cases eq_of_beq hpg
  unfold tagRowPreserved bucketDec bucketEnc bucket
  simp only [List.find?_filter]
  rw [find?_of_grownFrom (fun y hy => ⟨x, hxr, by simp_all [tagClash]⟩) h,
    find?_of_grownFrom (fun y hy => ⟨x, hxr, by simp_all [tagClash]⟩) h]
  simp

def attrClash (y x : AttrRow) : Bool := (y.page == x.page && y.token == x.token) || y.name == x.name

theorem attrsPreserved_of_grown {r c : List AttrRow} (h : grownFrom attrClash r c r = true) :
    attrsPreserved r c = true := by
  unfold attrsPreserved
  rw [List.all_eq_true]
  intro x hx
  unfold attrRowPreserved decAttr encAttr
  rw [find?_of_grownFrom (fun y hy => ⟨x, hx, by simp_all [attrClash]⟩) h,
    encAttrGo_of_grownFrom (fun y hy => ⟨x, hx, by simp_all [attrClash]⟩) _ h]
  simp

def valClash (y x : ValRow) : Bool := (y.page == x.page && y.token == x.token) || y.name == x.name

theorem valsPreserved_of_grown {r c : List ValRow} (h : grownFrom valClash r c r = true) :
    valsPreserved r c = true := by
  unfold valsPreserved
  rw [List.all_eq_true]
  intro x hx
  unfold valRowPreserved decVal
  rw [find?_of_grownFrom (fun y hy => ⟨x, hx, by simp_all [valClash]⟩) h,
    find?_of_grownFrom (fun y hy => ⟨x, hx, by simp_all [valClash]⟩) h]
  simp

def extClash (y x : ExtRow) : Bool := y.token == x.token || y.name == x.name

theorem extsPreserved_of_grown {r c : List ExtRow} (h : grownFrom extClash r c r = true) :
    extsPreserved r c = true := by
  unfold extsPreserved
  rw [List.all_eq_true]
  intro x hx
  unfold extRowPreserved decExt encExt
  rw [find?_of_grownFrom (fun y hy => ⟨x, hx, by simp_all [extClash]⟩) h,
    find?_of_grownFrom (fun y hy => ⟨x, hx, by simp_all [extClash]⟩) h]
  simp

def nsClash (y x : NsRow) : Bool := y.page == x.page || y.ns == x.ns

def nssGrown (r c : List NsRow) : Bool :=
  grownFrom nsClash r c r && c.head?.map (·.ns) == r.head?.map (·.ns)

theorem nssPreserved_of_grown {r c : List NsRow} (h : nssGrown r c = true) :
    nssPreserved r c = true := by
  unfold nssGrown at h
  rw [Bool.and_eq_true] at h
  unfold nssPreserved
  rw [Bool.and_eq_true, List.all_eq_true]
  refine ⟨fun x hx => ?_, h.2⟩
  unfold nsRowPreserved nsOfPage pageOfNs
  rw [find?_of_grownFrom (fun y hy => ⟨x, hx, by simp_all [nsClash]⟩) h.1,
    find?_of_grownFrom (fun y hy => ⟨x, hx, by simp_all [nsClash]⟩) h.1]
  simp

/-! The registry: each table by insertion where that succeeds, by the direct comparison where it
    does not (a row moved or dropped without any change of meaning): the proof has to go through
    for every regenerated table that satisfies the statement, not only for those that merely grew. -/

def orElse {α : Type} (f g : List α → List α → Bool) (r c : List α) : Bool := f r c || g r c

def langGrown (r c : Lang) : Bool :=
  r.pub == c.pub &&
  optPreserved (orElse (fun r c => grownFrom tagClash r c r) tagsPreserved) r.tags c.tags &&
  optPreserved (orElse (fun r c => grownFrom attrClash r c r) attrsPreserved) r.attrs c.attrs &&
  optPreserved (orElse (fun r c => grownFrom valClash r c r) valsPreserved) r.values c.values &&
  optPreserved (orElse (fun r c => grownFrom extClash r c r) extsPreserved) r.exts c.exts &&
  optPreserved (orElse nssGrown nssPreserved) r.ns c.ns

def registryGrown (reg cur : List Lang) : Bool :=
  reg.all (fun r => match langOf cur r.id with
    | some c => langGrown r c && routesPreserved reg cur r
    | none => false)

theorem optPreserved_orElse {α : Type} {f g : List α → List α → Bool} {rs cs : Option (List α)}
    (hfg : ∀ r c, cs = some c → f r c = true → g r c = true)
    (h : optPreserved (orElse f g) rs cs = true) : optPreserved g rs cs = true := by
  cases rs <;> cases cs <;> simp_all [optPreserved, orElse]
  exact h.elim (hfg _) id

theorem langPreserved_of_grown {r c : Lang} (hc : ∀ t, c.tags = some t → ∀ p, contigFrom p t = true)
    (h : langGrown r c = true) : langPreserved r c = true := by
  unfold langGrown at h
  unfold langPreserved
  simp only [Bool.and_eq_true] at h ⊢
  obtain ⟨⟨⟨⟨⟨hp, ht⟩, ha⟩, hv⟩, he⟩, hn⟩ := h
  exact ⟨⟨⟨⟨⟨hp, optPreserved_orElse (fun _ t ht => tagsPreserved_of_grown (hc t ht)) ht⟩,
    optPreserved_orElse (fun _ _ _ => attrsPreserved_of_grown) ha⟩,
    optPreserved_orElse (fun _ _ _ => valsPreserved_of_grown) hv⟩,
    optPreserved_orElse (fun _ _ _ => extsPreserved_of_grown) he⟩,
    optPreserved_orElse (fun _ _ _ => nssPreserved_of_grown) hn⟩

theorem registryPreserved_of_grown {reg cur : List Lang}
    (hc : ∀ c ∈ cur, ∀ t, c.tags = some t → ∀ p, contigFrom p t = true)
    (h : registryGrown reg cur = true) : registryPreserved reg cur = true := by
  unfold registryGrown at h
  unfold registryPreserved
  rw [List.all_eq_true] at h ⊢
  intro r hr
  have := h r hr
  cases hc' : langOf cur r.id with
  | none => simp [hc'] at this
  | some c =>
    simp only [hc', Bool.and_eq_true] at this ⊢
    exact ⟨langPreserved_of_grown (hc c (List.mem_of_find?_eq_some hc')) this.1, this.2⟩

end Wbxml.Model
