/-
  Lemmas for C14: what a step does to each thread, the projection of a run on one thread is that
  thread's own iteration, and enough iterations of a thread equal its sequential run.
-/
import Wbxml.Model.Conc
namespace Wbxml.Model.Conc

variable {Sh L Op Out : Type} {n : Nat}

theorem upd_same {α : Type} (f : Fin n → α) (i : Fin n) (v : α) : upd f i v i = v := by
  simp [upd]

theorem upd_other {α : Type} (f : Fin n → α) {i j : Fin n} (h : j ≠ i) (v : α) : upd f i v j = f j := by
  simp [upd, h]

theorem upd_comm {α : Type} (f : Fin n → α) {i j : Fin n} (h : i ≠ j) (v w : α) :
    upd (upd f i v) j w = upd (upd f j w) i v := by
  funext k
  simp only [upd]
  by_cases h1 : k = j
  · subst h1
    have h2 : ¬ k = i := fun e => h e.symm
    simp [h2]
  · by_cases h2 : k = i
    · subst h2; simp [h1]
    · simp [h1, h2]

theorem stepThread_th (M : Machine Sh L Op Out) (i j : Fin n) (c : Config n Sh L Op Out) :
    (stepThread M i c).th j = if j = i then localStep M c.sh (c.th i) else c.th j := by
  cases h : (c.th i).todo with
  | nil =>
    by_cases hj : j = i
    · subst hj; simp [stepThread, localStep, h]
    · simp [stepThread, h, hj]
  | cons op rest =>
    by_cases hj : j = i
    · subst hj; simp [stepThread, localStep, h, upd]
    · simp [stepThread, h, hj, upd]

theorem stepThread_sh (M : Machine Sh L Op Out) (hro : M.ReadOnly) (i : Fin n) (c : Config n Sh L Op Out) :
    (stepThread M i c).sh = c.sh := by
  cases h : (c.th i).todo with
  | nil => simp [stepThread, h]
  | cons op rest => simp [stepThread, h, hro c.sh (c.th i).loc op]

theorem config_ext {c d : Config n Sh L Op Out} (h1 : c.sh = d.sh) (h2 : ∀ j, c.th j = d.th j) : c = d := by
  cases c; cases d
  simp only [Config.mk.injEq]
  exact ⟨h1, funext h2⟩

theorem run_append (M : Machine Sh L Op Out) (s t : List (Fin n)) (c : Config n Sh L Op Out) :
    run M (s ++ t) c = run M t (run M s c) := by
  induction s generalizing c with
  | nil => rfl
  | cons i s ih => simp [run, ih]

theorem run_sh (M : Machine Sh L Op Out) (hro : M.ReadOnly) (s : List (Fin n)) (c : Config n Sh L Op Out) :
    (run M s c).sh = c.sh := by
  induction s generalizing c with
  | nil => rfl
  | cons i s ih => simp [run, ih, stepThread_sh M hro]

theorem iter_succ' {α : Type} (f : α → α) (k : Nat) (a : α) : iter f (k + 1) a = iter f k (f a) := rfl

theorem run_th (M : Machine Sh L Op Out) (hro : M.ReadOnly) (s : List (Fin n)) (c : Config n Sh L Op Out)
    (i : Fin n) : (run M s c).th i = iter (localStep M c.sh) (s.count i) (c.th i) := by
  induction s generalizing c with
  | nil => rfl
  | cons j s ih =>
    simp only [run]
    rw [ih, stepThread_sh M hro, stepThread_th]
    by_cases hji : j = i
    · subst hji
      simp [iter_succ']
    · simp [hji, Ne.symm hji]

/-- The sequential run under a fixed shared state (what `seqRun` computes when nothing writes it). -/
def seqLocal (M : Machine Sh L Op Out) (sh : Sh) : L → List Op → L × List Out
  | l, [] => (l, [])
  | l, op :: ops =>
    let r := M.step sh l op
    let t := seqLocal M sh r.2.1 ops
    (t.1, r.2.2 :: t.2)

theorem seqRun_readOnly (M : Machine Sh L Op Out) (hro : M.ReadOnly) (sh : Sh) (l : L) (ops : List Op) :
    seqRun M sh l ops = (sh, seqLocal M sh l ops) := by
  induction ops generalizing l with
  | nil => rfl
  | cons op ops ih =>
    simp only [seqRun, seqLocal]
    rw [hro sh l op, ih]

theorem localStep_nil (M : Machine Sh L Op Out) (sh : Sh) (loc : L) (outs : List Out) :
    localStep M sh { loc := loc, todo := [], outs := outs } = { loc := loc, todo := [], outs := outs } := rfl

theorem localStep_cons (M : Machine Sh L Op Out) (sh : Sh) (loc : L) (op : Op) (rest : List Op) (outs : List Out) :
    localStep M sh { loc := loc, todo := op :: rest, outs := outs }
      = { loc := (M.step sh loc op).2.1, todo := rest, outs := outs ++ [(M.step sh loc op).2.2] } := rfl

theorem iter_outs_prefix (M : Machine Sh L Op Out) (sh : Sh) (k : Nat) (t : Thread L Op Out) :
    (iter (localStep M sh) k t).outs = t.outs ++ (seqLocal M sh t.loc t.todo).2.take k := by
  induction k generalizing t with
  | zero => simp [iter]
  | succ k ih =>
    obtain ⟨loc, todo, outs⟩ := t
    cases todo with
    | nil =>
      rw [iter_succ', localStep_nil, ih]
      simp [seqLocal]
    | cons op rest =>
      rw [iter_succ', localStep_cons, ih]
      simp [seqLocal]

theorem iter_complete (M : Machine Sh L Op Out) (sh : Sh) (k : Nat) (t : Thread L Op Out)
    (hk : t.todo.length ≤ k) :
    iter (localStep M sh) k t =
      { loc := (seqLocal M sh t.loc t.todo).1, todo := [], outs := t.outs ++ (seqLocal M sh t.loc t.todo).2 } := by
  induction k generalizing t with
  | zero =>
    obtain ⟨loc, todo, outs⟩ := t
    cases todo with
    | nil => simp [iter, seqLocal]
    | cons op rest => simp at hk
  | succ k ih =>
    obtain ⟨loc, todo, outs⟩ := t
    cases todo with
    | nil =>
      rw [iter_succ', localStep_nil, ih _ (by simp)]
    | cons op rest =>
      rw [iter_succ', localStep_cons, ih _ (by simp at hk ⊢; omega)]
      simp [seqLocal]

theorem count_flatMap_replicate (progs : Fin n → List Op) (i : Fin n) (l : List (Fin n)) :
    (l.flatMap (fun j => List.replicate (progs j).length j)).count i = l.count i * (progs i).length := by
  induction l with
  | nil => simp
  | cons j l ih =>
    simp only [List.flatMap_cons, List.count_append, ih, List.count_cons, List.count_replicate]
    by_cases hji : j = i
    · subst hji; simp [Nat.add_mul, Nat.add_comm]
    · simp [hji]

theorem count_finRange (i : Fin n) : (List.finRange n).count i = 1 :=
by
  rw [List.Nodup.count (List.nodup_finRange n)]
  simp [List.mem_finRange]

theorem sequentialSchedule_count (progs : Fin n → List Op) (i : Fin n) :
    (sequentialSchedule progs).count i = (progs i).length := by
  simp [sequentialSchedule, count_flatMap_replicate, count_finRange]

end Wbxml.Model.Conc
