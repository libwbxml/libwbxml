/-
  `wbxml_encode_attr_start` as a pure plan: which row's start token stands for (a prefix of) the
  attribute and what of the value is left (`startPlan`, `attrStartW_eq`: the one case analysis of the
  code), what the plan promises of the source attribute alone (`startPlan_spec`), and `current_attr`
  after the start as a function of the attribute (`startRow`).
-/
import Wbxml.Lemmas.EncLookup
import Wbxml.Lemmas.EncWBasic
namespace Wbxml.Lemmas.EncW
open Wbxml Wbxml.Model
open Wbxml.Model.Codec (mbEncode)

theorem attrLookup_spec (lang : Lang) (name value : Bytes) :
    (∀ r, attrLookup lang name value = .exact r →
      (∃ attrs, lang.attrs = some attrs ∧ r ∈ attrs) ∧ r.name = name ∧ r.value = some value) ∧
    (∀ r n, attrLookup lang name value = .part r n →
      (∃ attrs, lang.attrs = some attrs ∧ r ∈ attrs) ∧ r.name = name ∧
        n = (r.value.getD []).length ∧ r.value.getD [] <+: value) := by
  unfold attrLookup
  cases ha : lang.attrs with
  | none => exact ⟨fun r h => (by cases h), fun r n h => (by cases h)⟩
  | some attrs =>
    simp only
    cases he : encAttr attrs name value with
    | none => exact ⟨fun r h => (by cases h), fun r n h => (by cases h)⟩
    | some p =>
      obtain ⟨hm, hn, hv⟩ := encAttr_spec he
      simp only
      constructor
      · intro r h
        split at h
        · rename_i hv'
          injection h with h; subst h
          exact ⟨⟨attrs, rfl, hm⟩, hn, by simpa using hv'⟩
        · cases h
      · intro r n h
        split at h
        · cases h
        · rename_i hv'
          injection h with h1 h2; subst h1 h2
          rcases hv with hv | hv
          · rw [hv] at hv'; simp at hv'
          · exact ⟨⟨attrs, rfl, hm⟩, hn, hv⟩

theorem attrTokenW_curAttr (token page : Nat) (st : WSt) : (attrTokenW token page st).curAttr = st.curAttr := by
  unfold attrTokenW; split <;> rfl

theorem attrLiteralW_eq (c : WCfg) (name : Bytes) (st : WSt) :
    attrLiteralW c name st =
      if c.useStrtbl = true then
        .ok ((strtblAdd st name none).1.emit (0x04 :: mbEncode (strtblAdd st name none).2))
      else .error (.code EW.strtblDisabled) := by
  unfold attrLiteralW
  cases c.useStrtbl <;> rfl

theorem attrLiteralW_step (c : WCfg) (name : Bytes) (st st' : WSt) (h : attrLiteralW c name st = .ok st') :
    Step c st st' := by
  rw [attrLiteralW_eq] at h
  split at h
  · injection h with h; subst h; exact strtblAdd_step c ‹_› st name _
  · cases h

/-- `current_attr` after `wbxml_encode_attr_start`, as a function of the source attribute alone
    (no encoder state, no option other than the language). -/
def startRow (c : WCfg) (a : Attr) : Option AttrRow :=
  match a.name with
  | .token r =>
    match r.value with
    | none => some r
    | some p => if p.isPrefixOf (cstrOf a.value) then some r else none
  | .literal s =>
    match (if s.isEmpty then AttrHit.none else attrLookup c.lang (cstrOf s) (cstrOf a.value)) with
    | .none => none
    | .exact r => some r
    | .part r _ => some r

/-- `wbxml_encode_attr_start` has seven branches and two behaviours. The plan names the row whose
    start token stands for (a prefix of) the attribute `a` with value `v`, and the value left behind that
    prefix (`none` = nothing); no plan: the name is written as a literal and the whole value is left. -/
def startPlan (c : WCfg) (a : Attr) (v : Bytes) : Option (AttrRow × Except Err (Option Bytes)) :=
  match a.name with
  | .token r =>
    match r.value with
    | none => some (r, pure (some v))
    | some p =>
      if p.isPrefixOf v then
        some (r, if a.value.length > p.length then
          (ptrAdd "attribute value + strlen(xmlValue)" v p.length >>= fun rest => pure (some rest)) else pure none)
      else none
  | .literal s =>
    match (if s.isEmpty then AttrHit.none else attrLookup c.lang (cstrOf s) v) with
    | .none => none
    | .exact r => some (r, pure none)
    | .part r comp => some (r, ptrAdd "xml_value + found_comp" v comp >>= fun rest => pure (some rest))

/-- The one case analysis of the code of `attrStartW`; it holds of every run. -/
theorem attrStartW_eq (c : WCfg) (a : Attr) (v : Bytes) (st : WSt) :
    attrStartW c a v st =
      match startPlan c a v with
      | some (r, rest) => rest >>= fun rest => pure (rest, attrTokenW r.token r.page { st with curAttr := some r })
      | none => attrLiteralW c a.name.cName { st with curAttr := none } >>= fun st' => pure (some v, st') := by
  unfold attrStartW startPlan
  cases a.name with
  | token r =>
    simp only [AName.cName]
    cases r.value with
    | none => rfl
    | some p =>
      simp only
      split
      · split
        · simp only [bind_assoc, pure_bind]
        · rfl
      · rfl
  | literal s =>
    simp only [AName.cName]
    cases (if s.isEmpty then AttrHit.none else attrLookup c.lang (cstrOf s) v) with
    | none => rfl
    | exact r => rfl
    | part r comp => simp only [bind_assoc, pure_bind]

theorem startRow_eq_plan (c : WCfg) (a : Attr) : startRow c a = (startPlan c a (cstrOf a.value)).map (·.1) := by
  unfold startRow startPlan
  cases a.name with
  | token r =>
    simp only
    cases r.value with
    | none => rfl
    | some p => simp only; split <;> rfl
  | literal s =>
    simp only
    cases (if s.isEmpty then AttrHit.none else attrLookup c.lang (cstrOf s) (cstrOf a.value)) <;> rfl

/-- What the plan promises of the source attribute alone: the row carries the attribute's name and is
    its own row or a table row; the pointer step cannot fail (the row's value prefix is a prefix of
    `v`); what is left is a tail of `v`. "Prefix ++ rest = `v`" needs `v.length ≤ a.value.length`: the C
    code decides by the BUFFER length `a.value.length` whether anything is left, while `v` is the C
    string in it. -/
theorem startPlan_spec (c : WCfg) (a : Attr) (v : Bytes) (r : AttrRow) (rest : Except Err (Option Bytes))
    (h : startPlan c a v = some (r, rest)) :
    r.name = a.name.cName ∧ (a.name = .token r ∨ ∃ attrs, c.lang.attrs = some attrs ∧ r ∈ attrs) ∧
    ∃ o, rest = .ok o ∧ (v.length ≤ a.value.length → v = r.value.getD [] ++ o.getD []) ∧
      ∀ s, o = some s → ∃ n, s = v.drop n := by
  have hadd : ∀ (what : String) (p : Bytes), p <+: v →
      (ptrAdd what v p.length >>= fun rest => pure (some rest) : Except Err (Option Bytes)) =
        .ok (some (v.drop p.length)) :=
    fun what p hp => by simp [ptrAdd, hp.length_le, bind, Except.bind, pure, Except.pure]
  unfold startPlan at h
  cases hn : a.name with
  | token r0 =>
    simp only [hn] at h
    cases hv : r0.value with
    | none =>
      simp only [hv, Option.some.injEq, Prod.mk.injEq] at h
      obtain ⟨rfl, rfl⟩ := h
      exact ⟨rfl, .inl rfl, some v, rfl, fun _ => by simp [hv], fun s hs => ⟨0, by injection hs with hs; exact hs.symm⟩⟩
    | some p =>
      simp only [hv] at h
      split at h
      · rename_i hpre
        obtain ⟨rfl, rfl⟩ := h
        have hp := List.isPrefixOf_iff_prefix.mp hpre
        have hsplit := (List.prefix_iff_eq_append.mp hp).symm
        refine ⟨rfl, .inl rfl, ?_⟩
        split
        · exact ⟨_, hadd _ p hp, fun _ => by simpa [hv] using hsplit,
            fun s hs => ⟨_, by injection hs with hs; exact hs.symm⟩⟩
        · -- the BUFFER is no longer than the prefix: nothing is left of the C string either
          refine ⟨none, rfl, fun hvlen => ?_, fun s hs => nomatch hs⟩
          rw [List.drop_eq_nil_of_le (by omega), List.append_nil] at hsplit
          simpa [hv] using hsplit
      · cases h
  | literal s =>
    simp only [hn] at h
    have hsp := attrLookup_spec c.lang (cstrOf s) v
    have hhit : ∀ x, (if s.isEmpty then AttrHit.none else attrLookup c.lang (cstrOf s) v) = x → x ≠ .none →
        attrLookup c.lang (cstrOf s) v = x := by
      intro x hx hne
      split at hx
      · exact absurd hx.symm hne
      · exact hx
    split at h
    · cases h
    · rename_i r' hx
      obtain ⟨rfl, rfl⟩ := h
      obtain ⟨hm, hnm, hval⟩ := hsp.1 _ (hhit _ hx nofun)
      exact ⟨hnm, .inr hm, none, rfl, fun _ => by simp [hval], fun _ hs => nomatch hs⟩
    · rename_i r' comp hx
      obtain ⟨rfl, rfl⟩ := h
      obtain ⟨hm, hnm, rfl, hpre⟩ := hsp.2 _ _ (hhit _ hx nofun)
      exact ⟨hnm, .inr hm, _, hadd _ _ hpre, fun _ => (List.prefix_iff_eq_append.mp hpre).symm,
        fun s hs => ⟨_, by injection hs with hs; exact hs.symm⟩⟩

theorem startPlan_mem {c : WCfg} {a : Attr} {v : Bytes} {r : AttrRow} {rest : Except Err (Option Bytes)}
    (h : startPlan c a v = some (r, rest)) {attrs : List AttrRow} (hattrs : c.lang.attrs = some attrs)
    (ha : attrOver c.lang a = true) : r ∈ attrs := by
  rcases (startPlan_spec c a v r rest h).2.1 with hr | ⟨attrs', ha', hr⟩
  · simp only [attrOver, hr, hattrs, Bool.and_eq_true, List.contains_iff_mem] at ha
    exact ha.2
  · rw [hattrs] at ha'; injection ha' with ha'; subst ha'; exact hr

theorem startRow_mem (c : WCfg) (a : Attr) (attrs : List AttrRow) (hattrs : c.lang.attrs = some attrs)
    (ha : attrOver c.lang a = true) (r : AttrRow) (h : startRow c a = some r) : r.name = a.name.cName ∧ r ∈ attrs := by
  rw [startRow_eq_plan] at h
  cases hp : startPlan c a (cstrOf a.value) with
  | none => rw [hp] at h; cases h
  | some x =>
    rw [hp] at h
    injection h with h
    subst h
    exact ⟨(startPlan_spec c a _ _ _ hp).1, startPlan_mem hp hattrs ha⟩

theorem attrStartW_inv {c : WCfg} {a : Attr} {v : Bytes} {st st' : WSt} {rest : Option Bytes}
    (h : attrStartW c a v st = .ok (rest, st')) :
    (∃ r rst, startPlan c a v = some (r, rst) ∧ rst = .ok rest ∧
      st' = attrTokenW r.token r.page { st with curAttr := some r }) ∨
    (startPlan c a v = none ∧ rest = some v ∧ attrLiteralW c a.name.cName { st with curAttr := none } = .ok st') := by
  rw [attrStartW_eq] at h
  split at h
  · rename_i r rst hp
    obtain ⟨o, ho, h⟩ := bind_eq_ok h
    cases Except.ok.inj h
    exact .inl ⟨r, rst, hp, ho, rfl⟩
  · rename_i hp
    obtain ⟨st1, hlit, h⟩ := bind_eq_ok h
    cases Except.ok.inj h
    exact .inr ⟨hp, rfl, hlit⟩

end Wbxml.Lemmas.EncW
