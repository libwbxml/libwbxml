/-
  Lemmas for C10 (language identification): `wbxml_tables_search_table` as its three stages, and
  the DOCTYPE callback of the XML tree builder.
-/
import Wbxml.Model.TreeOfXml
namespace Wbxml.Lemmas.Ident
open Wbxml Wbxml.Model

theorem lastIndexOf_go_isSome (b : UInt8) (s : Bytes) (i : Nat) (best : Option Nat) :
    (lastIndexOf.go b i best s).isSome = (best.isSome || s.contains b) := by
  induction s generalizing i best with
  | nil => simp [lastIndexOf.go]
  | cons c r ih =>
    simp only [lastIndexOf.go, ih, List.contains_cons]
    by_cases h : c = b
    · subst h; simp
    · have h1 : (c == b) = false := by simpa using h
      have h2 : (b == c) = false := by simpa using (Ne.symm h)
      simp [h1, h2]

/-- The namespace test of `wbxml_tables_search_table` (`strrchr(root, '|') != NULL`). -/
theorem lastIndexOf_isSome (b : UInt8) (s : Bytes) : (lastIndexOf b s).isSome = s.contains b := by
  simp [lastIndexOf, lastIndexOf_go_isSome]

/-- DOCTYPE public identifier, compared with `strcasecmp`. -/
def pubMatch (p : Bytes) (l : Lang) : Bool :=
  match l.pub.xmlId with
  | some x => caseEq x p
  | none => false

/-- First namespace row of the language is a case-insensitive prefix of the root name. -/
def nsMatch (r : Bytes) (l : Lang) : Bool :=
  match l.ns with
  | some (n :: _) => casePrefix n.ns r
  | _ => false

def byPub (main : List Lang) (pubid : Option Bytes) : Option Lang :=
  pubid.bind fun p => main.find? (pubMatch p)

def bySys (main : List Lang) (sysid : Option Bytes) : Option Lang :=
  sysid.bind fun s => main.find? (fun l => l.pub.dtd == some s)

def byRoot (main : List Lang) (root : Option Bytes) : Option Lang :=
  root.bind fun r =>
    if r.contains 124 then main.find? (nsMatch r) else main.find? (fun l => l.pub.root == some r)

theorem searchTable_eq (main : List Lang) (pubid sysid root : Option Bytes) :
    searchTable main pubid sysid root = ((byPub main pubid).or (bySys main sysid)).or (byRoot main root) := by
  have e : searchTable main pubid sysid root =
      (match byPub main pubid with
       | some l => some l
       | none => match bySys main sysid with
         | some l => some l
         | none => byRoot main root) := by
    unfold searchTable byPub bySys byRoot
    cases pubid <;> cases sysid <;> cases root <;>
      simp only [Option.bind_none, Option.bind_some, lastIndexOf_isSome] <;> rfl
  rw [e]
  cases byPub main pubid <;> cases bySys main sysid <;> simp

theorem searchTable_mem (main : List Lang) (pubid sysid root : Option Bytes) (l : Lang)
    (h : searchTable main pubid sysid root = some l) : l ∈ main := by
  rw [searchTable_eq] at h
  simp only [Option.or_eq_some_iff, byPub, bySys, byRoot, Option.bind_eq_some_iff] at h
  rcases h with (⟨p, _, h⟩ | ⟨_, s, _, h⟩) | ⟨_, r, _, h⟩
  · exact List.mem_of_find?_eq_some h
  · exact List.mem_of_find?_eq_some h
  · split at h <;> exact List.mem_of_find?_eq_some h

/-- The DOCTYPE callback of the tree builder, which only consults `searchTable`. -/
theorem xbuildStep_doctype (main : List Lang) (input : Bytes) (sub : Bytes → Option (Except Nat Tree))
    (b : XBState) (sysid pubid : Option Bytes) :
    xbuildStep main input sub b (.doctype sysid pubid) =
      if b.need.isSome then b else
        match searchTable main pubid sysid none with
        | some l => { b with lang := some l }
        | none => b := rfl

end Wbxml.Lemmas.Ident
