/-
  C18 lemmas: `wbxml_tree_extract_node` keeps the invariant — for a node inside the tree
  (unlinked from parent and siblings, becomes a detached top) and for a node that has no parent
  (the root: the tree becomes empty; an already detached node: nothing changes, which is the
  behaviour after the repair recorded in known_findings.json).
-/
import Wbxml.Lemmas.TreeHeapAdd
namespace Wbxml.Model.TreeHeap
open Wbxml Wbxml.Model

theorem cell_eta_links (c : Cell) (h1 : c.next = none) (h2 : c.prev = none) :
    ({ c with next := none, prev := none } : Cell) = c := by
  cases c; simp_all

theorem extract_top {s : St} {G : BT} (hF : Forest s G) {n : Nat} {cn : Cell} (hcn : s.cellAt n = some cn)
    (hp : cn.parent = none) :
    ∃ s', extractNode s n = .ok s' ∧ Forest s' G ∧ s'.cellAt = s.cellAt ∧
      s'.root = (if s.root = some n then none else s.root) ∧ s'.lang = s.lang ∧ s'.charset = s.charset := by
  obtain ⟨T, k, T', hG⟩ := hF.split_detached hcn hp
  obtain ⟨c', hc', h1, h2, h3, _⟩ := Loc.top_at (hG ▸ hF.m)
  cases hcn.symm.trans hc'
  by_cases hr : s.root = some n
  · -- the root leaves: tree->root = node->next = NULL
    have hcn' : ({ s with root := (none : Option Nat) } : St).cellAt n = some cn := hcn
    obtain ⟨s1, e1, hv, m1⟩ := upd_same hcn' (fun c => { c with next := none, prev := none }) (fun _ => rfl)
      (cell_eta_links cn h3 h2)
    refine ⟨s1, ?_, hF.of_view_eq hv (fun r hr' => by rw [m1.1] at hr'; cases hr'), hv, by rw [m1.1]; simp [hr],
      m1.2.1, m1.2.2.1⟩
    simp only [extractNode, extractNodeG, extractFixed, St.updOpt, deref_of_cellAt hcn, bind, Except.bind, h1, hr, h3, h2,
      pure, Except.pure, bne_self_eq_false, Bool.and_false, Bool.false_eq_true, if_false]
    exact e1
  · -- an already detached node: nothing to do
    obtain ⟨s1, e1, hv, m1⟩ := upd_same hcn (fun c => { c with next := none, prev := none }) (fun _ => rfl)
      (cell_eta_links cn h3 h2)
    have hbne : (s.root != some n) = true := by
      simp only [bne_iff_ne, ne_eq]; exact hr
    refine ⟨s1, ?_, hF.of_view_eq hv (fun r hr' => by rw [m1.1] at hr'; exact hF.root r hr'), hv,
      by rw [m1.1]; simp [hr], m1.2.1, m1.2.2.1⟩
    simp only [extractNode, extractNodeG, extractFixed, St.updOpt, deref_of_cellAt hcn, bind, Except.bind, h1, hbne, h3, h2,
      pure, Except.pure, Bool.and_self, if_true]
    exact e1

/-- The situation of `wbxml_tree_extract_node(tree, n)` for a node with parent `P`: the chain below `P` is
    `A ⧺ [n; c] ⧺ B`. -/
structure CutCtx (s : St) (G : BT) (P n : Nat) (cP cn : Cell) (A c B : BT) : Prop where
  hF : Forest s G
  hcn : s.cellAt n = some cn
  hcP : s.cellAt P = some cP
  hbr : cP.pay.isBranch = true
  hPG : P ∈ G.ids
  hK : BT.kidsOf P G = A.snoc (.node n c B)
  first : cP.first = (A.snoc (.node n c B)).rid
  chain : Match s.cellAt (some P) none (A.snoc (.node n c B))
  nodup : (A.snoc (.node n c B)).ids.Nodup
  notP : P ∉ (A.snoc (.node n c B)).ids
  prev : cn.prev = A.last
  next : cn.next = B.rid
  fst : cn.first = c.rid
  leaf : cn.pay.isBranch = true ∨ c = .nil
  sub : Match s.cellAt (some n) none c

theorem Forest.cutCtx {s : St} {G : BT} (hF : Forest s G) {n P : Nat} {cn : Cell}
    (hcn : s.cellAt n = some cn) (hp : cn.parent = some P) : ∃ cP A c B, CutCtx s G P n cP cn A c B := by
  obtain ⟨hPG, hnK, cP, hcP, hPf, hbr, mK⟩ := hF.child_facts hcn hp
  have hKnd := BT.kidsOf_nodup P G hF.nodup
  obtain ⟨A, c, B, hK⟩ := BT.split_top n _ hnK
  rw [hK] at mK hKnd hPf
  obtain ⟨cn', hcn', hprev, hfirst, hnext, hleaf, mc, _⟩ := Match.at_top mK
  cases hcn.symm.trans hcn'
  exact ⟨cP, A, c, B, hF, hcn, hcP, hbr, hPG, hK, hPf, mK, hKnd.1, hKnd.2, by rw [hprev, Option.or_none], hnext,
    hfirst, hleaf, mc⟩

namespace CutCtx
variable {s s' : St} {G : BT} {P n : Nat} {cP cn : Cell} {A c B : BT}

theorem mem (x : CutCtx s G P n cP cn A c B) {j : Nat} (hj : j ∈ A.ids ∨ j ∈ c.ids ∨ j ∈ B.ids) :
    j ∈ (A.snoc (.node n c B)).ids ∧ j ≠ P ∧ j ≠ n := by
  have h : j ∈ (A.snoc (.node n c B)).ids :=
    (BT.snoc_ids _ _ j).mpr (hj.imp_right (fun h => BT.mem_node.mpr (Or.inr h)))
  obtain ⟨_, _, _, nA, nc, nB, _⟩ := BT.nodup_split x.nodup
  refine ⟨h, fun e => x.notP (e ▸ h), fun e => ?_⟩
  subst e
  rcases hj with h | h | h
  · exact nA h
  · exact nc h
  · exact nB h

theorem ne (x : CutCtx s G P n cP cn A c B) : P ≠ n := fun e => by
  subst e
  exact x.notP ((BT.snoc_ids _ _ _).mpr (Or.inr (BT.mem_node.mpr (Or.inl rfl))))

theorem before_mem (x : CutCtx s G P n cP cn A c B) {q : Nat} (hq : cn.prev = some q) : q ∈ A.ids :=
  BT.tops_sub _ _ (BT.last_mem A q (by rw [← x.prev]; exact hq))

theorem after_mem (x : CutCtx s G P n cP cn A c B) {y : Nat} (hy : cn.next = some y) : y ∈ B.ids :=
  BT.rid_mem (by rw [← x.next]; exact hy)

theorem live (x : CutCtx s G P n cP cn A c B) {j : Nat} (hj : j ∈ A.ids ∨ j ∈ B.ids) : ∃ cj, s.cellAt j = some cj :=
  Match.live _ _ _ x.chain j (x.mem (hj.imp_right Or.inr)).1

/-- The two neighbours of `n` are different nodes. -/
theorem apart (x : CutCtx s G P n cP cn A c B) {q : Nat} (hq : cn.prev = some q) : cn.next ≠ some q :=
  fun hy => ((BT.nodup_split x.nodup).2.2.2.2.2.2.1 q (x.before_mem hq)).2 (x.after_mem hy)

end CutCtx

/-- The final view of `wbxml_tree_extract_node(tree, n)` for a node with parent `P`: `n` has lost its three
    links, `P` points to the next sibling if `n` was its first child, the two neighbours of `n` point to each
    other; no other cell has changed. -/
structure Cut (s s' : St) (P n : Nat) (cP cn : Cell) : Prop where
  sameMeta : SameMeta s s'
  other : ∀ i, i ≠ P → i ≠ n → some i ≠ cn.next → some i ≠ cn.prev → s'.cellAt i = s.cellAt i
  self : s'.cellAt n = some { cn with parent := none, next := none, prev := none }
  parent : s'.cellAt P = some { cP with first := if cP.first = some n then cn.next else cP.first }
  before : ∀ q cq, cn.prev = some q → s.cellAt q = some cq → s'.cellAt q = some { cq with next := cn.next }
  after : ∀ y cy, cn.next = some y → s.cellAt y = some cy → s'.cellAt y = some { cy with prev := cn.prev }

/-- The five writes of `wbxml_tree_extract_node` and the view they leave. -/
theorem extract_cut {s : St} {G : BT} {P n : Nat} {cP cn : Cell} {A c B : BT} (x : CutCtx s G P n cP cn A c B)
    (hp : cn.parent = some P) : ∃ s', extractNode s n = .ok s' ∧ Cut s s' P n cP cn := by
  have hPn := x.ne
  have ho1 : ∀ j, j ≠ P → (if cP.first = some n then some P else none) ≠ some j := by
    intro j hj; split
    · intro h; injection h with h; exact hj h.symm
    · intro h; cases h
  have hyn : ∀ y, cn.next = some y → y ≠ n := fun y hy => (x.mem (Or.inr (Or.inr (x.after_mem hy)))).2.2
  have hqn : ∀ q, cn.prev = some q → q ≠ n := fun q hq => (x.mem (Or.inl (x.before_mem hq))).2.2
  have hyP : ∀ y, cn.next = some y → y ≠ P := fun y hy => (x.mem (Or.inr (Or.inr (x.after_mem hy)))).2.1
  have hqP : ∀ q, cn.prev = some q → q ≠ P := fun q hq => (x.mem (Or.inl (x.before_mem hq))).2.1
  have p2 : cn.prev ≠ some n := fun h => hqn n h rfl
  have p3 : cn.next ≠ some n := fun h => hyn n h rfl
  obtain ⟨s1, e1, v1, m1⟩ := updOpt_step (s := s) (o := if cP.first = some n then some P else none)
    (f := fun c => { c with first := cn.next })
    (by intro y hy; split at hy
        · cases hy; exact ⟨cP, x.hcP⟩
        · cases hy) (fun _ => rfl)
  have hn1 : s1.cellAt n = some cn := by rw [v1, vmap_ne (ho1 n hPn.symm)]; exact x.hcn
  obtain ⟨s2, e2, v2, m2⟩ := upd_step hn1 (fun c => { c with parent := none }) (fun _ => rfl)
  obtain ⟨s3, e3, v3, m3⟩ := updOpt_step (s := s2) (o := cn.next) (f := fun c => { c with prev := cn.prev })
    (by intro y hy
        obtain ⟨cy, hcy⟩ := x.live (Or.inr (x.after_mem hy))
        exact ⟨cy, by rw [v2, vset_ne _ _ (hyn y hy), v1, vmap_ne (ho1 y (hyP y hy))]; exact hcy⟩) (fun _ => rfl)
  obtain ⟨s4, e4, v4, m4⟩ := updOpt_step (s := s3) (o := cn.prev) (f := fun c => { c with next := cn.next })
    (by intro q hq
        obtain ⟨cq, hcq⟩ := x.live (Or.inl (x.before_mem hq))
        exact ⟨cq, by rw [v3, vmap_ne (x.apart hq), v2, vset_ne _ _ (hqn q hq), v1, vmap_ne (ho1 q (hqP q hq))]
                      exact hcq⟩) (fun _ => rfl)
  have hn4 : s4.cellAt n = some { cn with parent := none } := by
    rw [v4, vmap_ne p2, v3, vmap_ne p3, v2]; simp
  obtain ⟨s5, e5, v5, m5⟩ := upd_step hn4 (fun c => { c with next := none, prev := none }) (fun _ => rfl)
  refine ⟨s5, ?_, (((m1.trans m2).trans m3).trans m4).trans m5, ?_, by rw [v5]; simp, ?_, ?_, ?_⟩
  · simp only [extractNode, extractNodeG, deref_of_cellAt x.hcn, bind, Except.bind, hp, deref_of_cellAt x.hcP, e1, e2,
      e3, e4]
    exact e5
  · intro i hiP hin hiy hiq
    rw [v5, vset_ne _ _ hin, v4, vmap_ne hiq.symm, v3, vmap_ne hiy.symm, v2, vset_ne _ _ hin, v1, vmap_ne (ho1 i hiP)]
  · have hPy : cn.next ≠ some P := fun h => hyP P h rfl
    have hPq : cn.prev ≠ some P := fun h => hqP P h rfl
    rw [v5, vset_ne _ _ hPn, v4, vmap_ne hPq, v3, vmap_ne hPy, v2, vset_ne _ _ hPn, v1]
    by_cases hc : cP.first = some n <;> simp [vmap, hc, x.hcP]
  · intro q cq hq hc
    rw [v5, vset_ne _ _ (hqn q hq), v4, hq, vmap_self, v3, vmap_ne (x.apart hq), v2, vset_ne _ _ (hqn q hq), v1,
      vmap_ne (ho1 q (hqP q hq)), hc]
    rfl
  · intro y cy hy hc
    rw [v5, vset_ne _ _ (hyn y hy), v4, vmap_ne (fun h => x.apart h hy), v3, hy, vmap_self, v2, vset_ne _ _ (hyn y hy),
      v1, vmap_ne (ho1 y (hyP y hy)), hc]
    rfl

namespace Cut
variable {s s' : St} {G : BT} {P n : Nat} {cP cn : Cell} {A c B : BT}

/-- Every write keeps the payload. -/
theorem pay (h : Cut s s' P n cP cn) (x : CutCtx s G P n cP cn A c B) (j : Nat) :
    payOf s'.cellAt j = payOf s.cellAt j := by
  by_cases hjn : j = n
  · subst hjn; simp only [payOf, h.self, x.hcn]
  · by_cases hjP : j = P
    · subst hjP; simp only [payOf, h.parent, x.hcP]
    · by_cases hjy : some j = cn.next
      · obtain ⟨cy, hcy⟩ := x.live (Or.inr (x.after_mem hjy.symm))
        simp only [payOf, h.after j cy hjy.symm hcy, hcy]
      · by_cases hjq : some j = cn.prev
        · obtain ⟨cq, hcq⟩ := x.live (Or.inl (x.before_mem hjq.symm))
          simp only [payOf, h.before j cq hjq.symm hcq, hcq]
        · simp only [payOf, h.other j hjP hjn hjy hjq]

/-- Below `P` the chain `A ⧺ [n; c] ⧺ B` has become `A ⧺ B`; `n` with its sub-tree is a detached top. -/
theorem forest (h : Cut s s' P n cP cn) (x : CutCtx s G P n cP cn A c B) :
    Forest s' (BT.snoc (BT.setKids P (BT.snoc A B) G) (.node n c .nil)) := by
  obtain ⟨_, _, _, _, _, _, dAc, dcB⟩ := BT.nodup_split x.nodup
  -- a cell of `A`, `c`, `B` other than the two neighbours of `n` is untouched
  have hv_in : ∀ j, j ∈ A.ids ∨ j ∈ c.ids ∨ j ∈ B.ids → some j ≠ A.last → some j ≠ B.rid →
      s'.cellAt j = s.cellAt j := fun j hj h1 h2 =>
    h.other j (x.mem hj).2.1 (x.mem hj).2.2 (by rw [x.next]; exact h2) (by rw [x.prev]; exact h1)
  have hchain : Match s'.cellAt (some P) none (A.snoc B) :=
    Match.remove (v := s.cellAt) (some P) n A c B none x.nodup
      (fun j hj h1 => hv_in j (Or.inl hj) h1 (fun e => (dAc j hj).2 (BT.rid_mem e.symm)))
      (fun j hj h1 => hv_in j (Or.inr (Or.inr hj)) (fun e =>
        (dAc j (BT.tops_sub _ _ (BT.last_mem A j e.symm))).2 hj) h1)
      (fun q cq hq hc => by rw [← x.next]; exact h.before q cq (by rw [x.prev]; exact hq) hc)
      (fun y cy hy hc => by rw [Option.or_none, ← x.prev]; exact h.after y cy (by rw [x.next]; exact hy) hc) x.chain
  obtain ⟨X, Y, hX, hY⟩ := BT.ids_split P G x.hF.nodup x.hPG
  apply x.hF.of_perm [] _ _ (fun i ci hci => ⟨?_, by simp⟩)
  · intro r hr
    rw [h.sameMeta.1] at hr
    rw [BT.tops_snoc, BT.tops_setKids]
    exact Or.inl (x.hF.root r hr)
  · apply (Loc.top_snoc _ _ _ none none).mpr
    refine ⟨?_, ⟨_, h.self, rfl, rfl, x.fst, rfl, x.leaf.imp_right (fun e => by rw [e]; rfl)⟩, ?_, trivial⟩
    · apply Loc.setKids P _ G none none x.hF.nodup _ _ ((loc_some_iff _ _ P none).mpr hchain) x.hF.m
      · intro i hi hiP par prv f nn l
        have hik := (BT.mem_setKids_nil x.hF.nodup hi).2
        rw [x.hK] at hik
        apply LinkF.congr _ l
        apply h.other i hiP (fun e => hik ((BT.snoc_ids _ _ i).mpr (Or.inr (BT.mem_node.mpr (Or.inl e)))))
        · intro e; exact hik (x.mem (Or.inr (Or.inr (x.after_mem e.symm)))).1
        · intro e; exact hik (x.mem (Or.inl (x.before_mem e.symm))).1
      · intro par prv f nn l
        apply LinkF.set_first _ x.hcP _ x.hbr l
        rw [h.parent, x.first, x.next, BT.rid_unlink (BT.nodup_split x.nodup).2.2.2.1]
    · apply (loc_some_iff _ c n none).mpr
      apply Match.frame _ _ _ _ x.sub
      intro j hj
      exact hv_in j (Or.inr (Or.inl hj))
        (fun e => (dAc j (BT.tops_sub _ _ (BT.last_mem A j e.symm))).1 hj)
        (fun e => dcB j hj (BT.rid_mem e.symm))
  · rw [BT.snoc_ids_eq, hY, hX, x.hK]
    simp only [BT.snoc_ids_eq, BT.ids_node, BT.ids_nil, List.append_nil]
    exact perm_splice X A.ids (n :: c.ids) B.ids Y P
  · -- no cell has come to life
    by_cases hin : i = n
    · exact ⟨cn, hin ▸ x.hcn⟩
    · by_cases hiP : i = P
      · exact ⟨cP, hiP ▸ x.hcP⟩
      · by_cases hiy : some i = cn.next
        · exact x.live (Or.inr (x.after_mem hiy.symm))
        · by_cases hiq : some i = cn.prev
          · exact x.live (Or.inl (x.before_mem hiq.symm))
          · rw [h.other i hiP hin hiy hiq] at hci; exact ⟨ci, hci⟩

end Cut

end Wbxml.Model.TreeHeap
