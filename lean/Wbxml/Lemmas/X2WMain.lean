/-
  C02: `treeOfXml` delivers trees `treeToWbxml` is total on (`treeOfXml_ok`), asks only for documents
  whose Expat run is missing (`treeOfXml_need`), and the frozen state after an unknown root.
-/
import Wbxml.Lemmas.X2WShape
namespace Wbxml.Lemmas.X2W
open Wbxml Wbxml.Model

theorem subOk_of (main : List Lang) (env : List (Bytes × ExpatRun)) (f : Nat)
    (h : ∀ doc, ResOk (treeOfXml main env f doc)) : SubOk (subOf main env f) := by
  intro doc
  have := h doc
  constructor
  · intro t ht
    rw [subOf_ok ht] at this
    exact this
  · intro e he
    rw [subOf_error he] at this
    exact this

/-- **The tree `wbxml_tree_from_xml` delivers is one `wbxml_tree_to_wbxml` is total on**: every name
    is a non-empty C string, every embedded document (and the document itself, when it has a
    language) has a root, the rows of every language's tables have non-empty names (`langNames`). Error codes are
    non-zero. -/
theorem treeOfXml_ok (main : List Lang) (env : List (Bytes × ExpatRun)) (hm : MainOk main) (he : EnvWf env) :
    ∀ (f : Nat) (xml : Bytes), ResOk (treeOfXml main env f xml)
  | 0, xml => by rw [treeOfXml]; simp [ResOk]
  | f + 1, xml => by
    have hsub := subOk_of main env f (treeOfXml_ok main env hm he f)
    have hb := fun {k run} (hfind : env.find? (fun p => p.1 == xml) = some (k, run)) (hok : run.ok = true) =>
      fold_ok (main := main) xml hsub run.events {} (bOk_init main)
        (wfDoc_named (he _ (List.mem_of_find?_eq_some hfind) hok))
    have v := treeOfXml_view main env f xml
    generalize treeOfXml main env (f + 1) xml = R at v ⊢
    cases v with
    | empty => simp [ResOk]
    | missing => trivial
    | pending => trivial
    | refused => simp [ResOk]
    | failed hfind _ hok herr => exact (hb hfind hok).err _ herr
    | @ok k run b hfind hbe hneed hok herr =>
      have hB : BOk main b := hbe ▸ hb hfind hok
      have hdoc : Failed b ∨ b.root.isSome = true :=
        hbe ▸ run_doc main xml (subOf main env f) (he _ (List.mem_of_find?_eq_some hfind) hok)
      show treeOk _ = true
      unfold treeOk
      cases hl : b.lang with
      | none => unfold nodeOk; rfl
      | some l =>
        have hlm := hm l (hB.lang l hl)
        rcases hdoc with (hf | hf) | hr
        · rw [hneed] at hf; cases hf
        · rw [herr] at hf; cases hf
        · cases hroot : b.root with
          | none => rw [hroot] at hr; cases hr
          | some r =>
            unfold nodeOk
            simp only [hlm, Bool.true_and]
            exact hB.root r hroot

variable (main : List Lang) (input : Bytes) (sub : Bytes → Option (Except Nat Tree))

theorem fold_need_inv (evs : List XEvent) (b : XBState) (h : ∀ d, b.need = some d → sub d = none) :
    ∀ d, (evs.foldl (xbuildStep main input sub) b).need = some d → sub d = none :=
  List.foldlRecOn (motive := fun (b : XBState) => ∀ d, b.need = some d → sub d = none) evs _ h fun b hb e _ d hd => by
    rcases step_need_cases main input sub b e with e1 | ⟨d2, _, hs, e2⟩
    · rw [e1] at hd; exact hb d hd
    · rw [e2] at hd
      cases hd; exact hs

/-- **`.need d` means Expat's run for `d` is missing from `env`** (and `d` is the document itself or
    an embedded document met on the way). -/
theorem treeOfXml_need (main : List Lang) (env : List (Bytes × ExpatRun)) :
    ∀ (f : Nat) (xml d : Bytes), treeOfXml main env f xml = .need d → env.find? (fun p => p.1 == d) = none
  | 0, xml, d, h => by rw [treeOfXml] at h; cases h
  | f + 1, xml, d, h => by
    have v := treeOfXml_view main env f xml
    rw [h] at v
    cases v with
    | missing hfind => exact hfind
    | @pending k run d0 _ _ hd0 hd =>
      -- the builder recorded the request because the embedded document had no answer
      have hsub : subOf main env f d0 = none :=
        fold_need_inv main xml (subOf main env f) _ {} (by intro d h; cases h) d0 hd0
      unfold subOf at hsub
      rcases hd with hd | ⟨hd, _⟩
      · exact treeOfXml_need main env f d0 d hd
      · cases hr : treeOfXml main env f d0 with
        | ok t => rw [hr] at hsub; cases hsub
        | err e => rw [hr] at hsub; cases hsub
        | need d' => exact absurd hr (hd d')

/-! For `x2w_unknown_lang` of `Props/C02`: once an error is stored while no element is open, the rest of the
    run changes neither the code nor the (absent) request. -/

/-- A state with a stored error, nothing open and nothing requested stays so. The empty stack is needed: with an
    open frame holding cached base64 text the end-element callback may replace the stored code by 19 (`decodeTop`). -/
theorem step_frozen (b : XBState) (ev : XEvent) (e0 : Nat) (hn : b.need = none) (hst : b.stack = [])
    (herr : b.error = some e0) :
    (xbuildStep main input sub b ev).need = none ∧ (xbuildStep main input sub b ev).stack = [] ∧
      (xbuildStep main input sub b ev).error = some e0 := by
  rcases step_of_error main input sub b ev (by rw [herr]; rfl) with e | ⟨e1, e2, e3⟩
  · have hd : decodeTop b = b := by unfold decodeTop; rw [hst]
    rw [e, hd]
    exact ⟨hn, hst, herr⟩
  · exact ⟨e3.trans hn, e2.trans hst, e1.trans herr⟩

theorem fold_frozen (e0 : Nat) (evs : List XEvent) (b : XBState) (hn : b.need = none) (hst : b.stack = [])
    (he : b.error = some e0) :
    (evs.foldl (xbuildStep main input sub) b).need = none ∧ (evs.foldl (xbuildStep main input sub) b).error = some e0 :=
  have h := List.foldlRecOn (motive := fun (b : XBState) => b.need = none ∧ b.stack = [] ∧ b.error = some e0) evs _ ⟨hn, hst, he⟩
    fun b hb ev _ => step_frozen main input sub b ev e0 hb.1 hb.2.1 hb.2.2
  ⟨h.1, h.2.2⟩

/-- Over prolog events none of whose DOCTYPEs the table knows, the language stays unset. -/
theorem fold_prolog_unknown (pro : List XEvent) (hp : pro.all isPrologEv = true)
    (hd : ∀ sysid pubid, XEvent.doctype sysid pubid ∈ pro → searchTable main pubid sysid none = none)
    (b : XBState) (hl : b.lang = none) :
    (pro.foldl (xbuildStep main input sub) b).lang = none :=
  List.foldlRecOn (motive := fun (b : XBState) => b.lang = none) pro (xbuildStep main input sub) hl fun b hb ev hm => by
    rw [xbuildStep_eq]
    split
    · exact hb
    rcases live_lang_cases main input sub b ev with e | ⟨sysid, pubid, l, rfl, hs, _⟩ | ⟨name, attrs, idx, l, rfl, _⟩
    · exact e.trans hb
    · rw [hd sysid pubid hm] at hs; cases hs
    · exact absurd (List.all_eq_true.mp hp _ hm) (by simp [isPrologEv])

end Wbxml.Lemmas.X2W
