/-
  C19 — the two bridges to the reference every later module needs (`isSpace = ws`, `bufCstrOf = cstr`),
  memory primitives, the storage invariant and the core operations (`create`, `get_char`, `set_char`,
  `grow_buff`/`insert_data`, `delete`).  Three views of a buffer, by user: the queries need only `View b c`
  (the first `len` bytes are readable and are `c`: holds of dynamic and static buffers alike); the mutators
  work on `Rep b c` (a well-formed dynamic buffer denoting `c`, i.e. `canon c j` or the NULL buffer); the
  run (`BufRun`) carries `Inv` = `DynInv ∨ StaInv`, from which either is obtained.
-/
import Wbxml.Model.Buf
namespace Wbxml.Model
open Wbxml

section
open Wbxml.Spec.Seq (ws cstr)

/-- `isspace` tests the range 9…13, the reference lists its five members. -/
theorem isSpace_fun : isSpace = ws := by
  funext c
  rw [Bool.eq_iff_iff]
  simp only [isSpace, ws, Bool.or_eq_true, Bool.and_eq_true, beq_iff_eq, decide_eq_true_eq,
    UInt8.le_iff_toNat_le, ← UInt8.toNat_inj, UInt8.toNat_ofNat]
  omega

theorem cstrOf_eq (s : Bytes) : bufCstrOf s = cstr s := rfl

end

namespace Mem

theorem read_at (a t : Bytes) (off n : Nat) (ho : off = a.length) (hn : n ≤ t.length) :
    Mem.read (a ++ t) off n = .ok (t.take n) := by
  subst ho
  simp [Mem.read, hn]

theorem write_at (a t bs : Bytes) (off : Nat) (ho : off = a.length) (hn : bs.length ≤ t.length) :
    Mem.write (a ++ t) off bs = .ok (a ++ bs ++ t.drop bs.length) := by
  subst ho
  simp [Mem.write, hn]

theorem store_mid (a c : Bytes) (y v : UInt8) (off : Nat) (ho : off = a.length) :
    Mem.store (a ++ y :: c) off v = .ok (a ++ v :: c) := by
  simpa [Mem.store] using write_at a (y :: c) [v] off ho (by simp)

theorem load_mid (a c : Bytes) (y : UInt8) (off : Nat) (ho : off = a.length) :
    Mem.load (a ++ y :: c) off = .ok y := by
  subst ho
  simp [Mem.load]

theorem store_tail (a t : Bytes) (v : UInt8) (off : Nat) (ho : off = a.length) (ht : 0 < t.length) :
    ∃ r, Mem.store (a ++ t) off v = .ok (a ++ v :: r) ∧ r.length + 1 = t.length := by
  obtain ⟨y, r, rfl⟩ := List.exists_cons_of_length_pos ht
  exact ⟨r, store_mid a r y v off ho, rfl⟩

end Mem

namespace Buf

/-- The canonical dynamic buffer with contents `c` and `j` spare bytes after the terminator. -/
def canon (c j : Bytes) : Buf := ⟨some (c ++ 0 :: j), c.length, c.length + 1 + j.length, false⟩

def nullBuf : Buf := ⟨none, 0, 0, false⟩

/-- Storage invariant of a dynamic buffer (DESIGN.md §5 C19): either no storage at all and length
    0, or `len < malloced`, the block has `malloced` bytes and `data[len] = 0`. -/
def DynInv (b : Buf) : Prop :=
  b.isStatic = false ∧
  match b.data with
  | none => b.len = 0 ∧ b.malloced = 0
  | some m => m.length = b.malloced ∧ b.len < b.malloced ∧ m[b.len]? = some 0

def StaInv (b : Buf) : Prop :=
  b.isStatic = true ∧ ∃ m, b.data = some m ∧ b.len ≤ m.length

def Inv (b : Buf) : Prop := DynInv b ∨ StaInv b

def Rep (b : Buf) (c : Bytes) : Prop := DynInv b ∧ b.abs = c

def View (b : Buf) (c : Bytes) : Prop := b.abs = c ∧ b.len = c.length

theorem canon_dynInv (c j : Bytes) : DynInv (canon c j) := by
  simp [DynInv, canon]; omega

theorem abs_canon (c j : Bytes) : (canon c j).abs = c := by
  simp [abs, canon]

theorem rep_canon (c j : Bytes) : Rep (canon c j) c := ⟨canon_dynInv c j, abs_canon c j⟩

theorem rep_null : Rep nullBuf [] := by
  simp [Rep, DynInv, nullBuf, abs]

theorem canon_mk (c' j'' : Bytes) (L M : Nat) (hL : L = c'.length) (hM : M = c'.length + 1 + j''.length) :
    Buf.mk (some (c' ++ 0 :: j'')) L M false = canon c' j'' := by
  subst hL hM; rfl

theorem DynInv.cases {b : Buf} (h : DynInv b) :
    b = nullBuf ∨ ∃ c j, b = canon c j := by
  obtain ⟨data, len, malloced, isStatic⟩ := b
  obtain ⟨rfl, hm⟩ := h
  cases data with
  | none => exact .inl (by simp only at hm; simp [nullBuf, hm.1, hm.2])
  | some m =>
    simp only at hm
    obtain ⟨h1, h2, h3⟩ := hm
    obtain ⟨hlt, hget⟩ := List.getElem?_eq_some_iff.mp h3
    refine .inr ⟨m.take len, m.drop (len + 1), ?_⟩
    have hsplit : m.take len ++ 0 :: m.drop (len + 1) = m := by
      rw [← hget, ← List.drop_eq_getElem_cons hlt, List.take_append_drop]
    simp only [canon, hsplit, Buf.mk.injEq, true_and, List.length_take, List.length_drop, and_true]
    omega

theorem Rep.cases {b : Buf} {c : Bytes} (h : Rep b c) :
    (b = nullBuf ∧ c = []) ∨ ∃ j, b = canon c j := by
  obtain ⟨hd, ha⟩ := h
  rcases hd.cases with rfl | ⟨c', j, rfl⟩
  · left; simp [abs, nullBuf] at ha; exact ⟨rfl, ha⟩
  · right; rw [abs_canon] at ha; subst ha; exact ⟨j, rfl⟩

theorem Rep.view {b : Buf} {c : Bytes} (h : Rep b c) : View b c := by
  rcases h.cases with ⟨rfl, rfl⟩ | ⟨j, rfl⟩
  · simp [View, abs, nullBuf]
  · exact ⟨abs_canon c j, rfl⟩

theorem Rep.dyn {b : Buf} {c : Bytes} (h : Rep b c) : b.isStatic = false := h.1.1

theorem Rep.len {b : Buf} {c : Bytes} (h : Rep b c) : b.len = c.length := h.view.2

theorem StaInv.view {b : Buf} (h : StaInv b) : View b b.abs := by
  obtain ⟨_, m, hm, hl⟩ := h
  simp [View, abs, hm]; omega

theorem Inv.view {b : Buf} (h : Inv b) : View b b.abs := by
  rcases h with h | h
  · exact (show Rep b b.abs from ⟨h, rfl⟩).view
  · exact h.view

theorem View.mem {b : Buf} {c : Bytes} (h : View b c) (hne : b.len ≠ 0) :
    ∃ r, b.data = some (c ++ r) := by
  obtain ⟨ha, hl⟩ := h
  cases hd : b.data with
  | none => simp [abs, hd] at ha; subst ha; simp at hl; omega
  | some m =>
    simp [abs, hd] at ha
    exact ⟨m.drop b.len, by rw [← ha, List.take_append_drop]⟩

theorem create_none (block : Nat) : create none block = .ok nullBuf := rfl

theorem create_nil (block : Nat) : create (some []) block = .ok nullBuf := rfl

theorem create_some (d : Bytes) (block : Nat) (hd : d ≠ []) : ∃ j, create (some d) block = .ok (canon d j) := by
  have hlen : d.length ≠ 0 := by simpa using hd
  generalize hM : (if d.length + 1 > block + 1 then d.length + 1 + block else block + 1) = M
  have hM' : d.length + 1 ≤ M := by rw [← hM]; split <;> omega
  have hw := Mem.write_at [] (List.replicate M 0) d 0 rfl (by simp; omega)
  obtain ⟨r, hs, hr⟩ := Mem.store_tail d ((List.replicate M 0).drop d.length) 0 d.length rfl (by simp; omega)
  refine ⟨r, ?_⟩
  simp only [List.nil_append] at hw
  simp only [create, hlen, if_false, hM, Mem.realloc, hw, hs, Except.ok.injEq]
  exact canon_mk _ _ _ _ rfl (by simp at hr; omega)

theorem rep_create (src : Option Bytes) (block : Nat) :
    ∃ b, create src block = .ok b ∧ Rep b (src.getD []) := by
  cases src with
  | none => exact ⟨nullBuf, rfl, rep_null⟩
  | some d =>
    by_cases hd : d = []
    · subst hd; exact ⟨nullBuf, rfl, rep_null⟩
    · obtain ⟨j, hj⟩ := create_some d block hd
      exact ⟨_, hj, rep_canon d j⟩

theorem staCreate_inv (d : Bytes) : StaInv (staCreate d) ∧ (staCreate d).abs = d := by
  simp [StaInv, staCreate, abs]

theorem getChar_view {b : Buf} {c : Bytes} (h : View b c) (pos : Nat) : b.getChar pos = .ok c[pos]? := by
  unfold getChar
  by_cases hp : pos ≥ b.len
  · have : c[pos]? = none := by rw [List.getElem?_eq_none]; rw [← h.2]; exact hp
    simp [hp, this]
  · have hne : b.len ≠ 0 := by omega
    obtain ⟨r, hr⟩ := h.mem hne
    have hpc : pos < c.length := by rw [← h.2]; omega
    have hl : Mem.load (c ++ r) pos = .ok c[pos] := by
      rw [Mem.load, List.getElem?_append_left hpc, List.getElem?_eq_getElem hpc]
    simp [hp, mem, hr, hl, List.getElem?_eq_getElem hpc]

theorem getChar_mid {b : Buf} (p s : Bytes) (x : UInt8) (h : View b (p ++ x :: s)) :
    b.getChar p.length = .ok (some x) := by
  rw [getChar_view h]; simp

theorem getChar_end {b : Buf} {c : Bytes} (h : View b c) {i : Nat} (hi : c.length ≤ i) : b.getChar i = .ok none := by
  rw [getChar_view h, List.getElem?_eq_none hi]

theorem getChar_some_lt {b : Buf} {i : Nat} {ch : UInt8} (h : b.getChar i = .ok (some ch)) : i < b.len := by
  unfold getChar at h
  split at h
  · cases h
  · omega

/-- Reading inside the contents (`memcmp`, `memchr`, `memcpy` out of the buffer). -/
theorem View.read {b : Buf} {c : Bytes} (h : View b c) (off n : Nat) (hn : off + n ≤ b.len) (h0 : b.len ≠ 0) :
    ∃ m, b.mem = .ok m ∧ m.read off n = .ok ((c.drop off).take n) := by
  obtain ⟨r, hr⟩ := h.mem h0
  have hl := h.2
  have := Mem.read_at (c.take off) (c.drop off ++ r) off n (by simp; omega) (by simp; omega)
  rw [← List.append_assoc, List.take_append_drop, List.take_append_of_le_length (by simp; omega)] at this
  exact ⟨c ++ r, by rw [Buf.mem, hr], this⟩

theorem contents_view {b : Buf} {c : Bytes} (h : View b c) : b.contents = .ok c := by
  unfold contents
  by_cases h0 : b.len = 0
  · have : c = [] := List.eq_nil_of_length_eq_zero (h0 ▸ h.2.symm)
    simp [h0, this]
  · obtain ⟨m, hm, hr⟩ := h.read 0 b.len (by omega) h0
    rw [h.2, List.drop_zero, List.take_length] at hr
    simp only [h0, if_false, hm]
    rw [h.2, hr]

theorem getCstr_view {b : Buf} {c : Bytes} (h : View b c) : b.getCstr = .ok c :=
  contents_view h

theorem setChar_static {b : Buf} (hs : b.isStatic = true) (pos : Nat) (ch : UInt8) :
    b.setChar pos ch = .ok (b, false) := by simp [setChar, hs]

theorem setChar_oob {b : Buf} (pos : Nat) (ch : UInt8) (hp : pos ≥ b.len) :
    b.setChar pos ch = .ok (b, false) := by simp [setChar, hp]

theorem setChar_mid {b : Buf} (p s : Bytes) (x ch : UInt8) (h : Rep b (p ++ x :: s)) :
    ∃ b', b.setChar p.length ch = .ok (b', true) ∧ Rep b' (p ++ ch :: s) := by
  rcases h.cases with ⟨_, hnil⟩ | ⟨j, rfl⟩
  · simp at hnil
  · refine ⟨canon (p ++ ch :: s) j, ?_, rep_canon _ _⟩
    have hnp : ¬ p.length ≥ (p ++ x :: s).length := by simp
    have hst := Mem.store_mid p (s ++ 0 :: j) x ch p.length rfl
    simp only [setChar, canon, Bool.false_or, decide_eq_true_eq, hnp, if_false, mem, List.append_assoc,
      List.cons_append, hst, Except.ok.injEq, Prod.mk.injEq, and_true, Buf.mk.injEq, true_and]
    simp

theorem growBuff_rep {b : Buf} {c : Bytes} (h : Rep b c) (size : Nat) :
    ∃ j', b.growBuff size = (canon c j', true) ∧ size ≤ j'.length := by
  rcases h.cases with ⟨rfl, rfl⟩ | ⟨j, rfl⟩
  · refine ⟨List.replicate size 0, ?_, by simp⟩
    simp [growBuff, nullBuf, canon, Mem.realloc, List.replicate_succ]
    omega
  · by_cases hg : c.length + (size + 1) > c.length + 1 + j.length
    · generalize hM : (if (c.length + 1 + j.length) * 2 < c.length + (size + 1) then c.length + (size + 1)
        else (c.length + 1 + j.length) * 2) = M
      have hM' : c.length + (size + 1) ≤ M := by rw [← hM]; split <;> omega
      refine ⟨j ++ List.replicate (M - (c.length + 1 + j.length)) 0, ?_, by simp; omega⟩
      have hr : Mem.realloc (some (c ++ 0 :: j)) M = c ++ 0 :: (j ++ List.replicate (M - (c.length + 1 + j.length)) 0) := by
        simp only [Mem.realloc]
        rw [List.take_of_length_le (by simp; omega)]
        simp only [List.length_append, List.length_cons, List.append_assoc, List.cons_append]
        rw [show c.length + (j.length + 1) = c.length + 1 + j.length from by omega]
      have hgo : (canon c j).growBuff size = (⟨some (Mem.realloc (some (c ++ 0 :: j)) M), c.length, M, false⟩, true) := by
        show growBuff ⟨some (c ++ 0 :: j), c.length, c.length + 1 + j.length, false⟩ size = _
        unfold growBuff
        simp only [Bool.false_eq_true, if_false, hg, if_true, hM]
      rw [hgo, hr]
      simp only [canon, Prod.mk.injEq, and_true, Buf.mk.injEq, true_and, List.length_append, List.length_replicate]
      omega
    · exact ⟨j, by simp only [growBuff, canon, Bool.false_eq_true, if_false, hg], by omega⟩

theorem insertData_static {b : Buf} (hs : b.isStatic = true) (pos : Nat) (d : Bytes) :
    b.insertData pos d = .ok (b, false) := by simp [insertData, hs]

theorem insertData_refused {b : Buf} (pos : Nat) (d : Bytes) (h : d = [] ∨ pos > b.len) :
    b.insertData pos d = .ok (b, false) := by
  rcases h with rfl | h
  · simp [insertData]
  · simp [insertData, h]

theorem insertMem_mid (p s j d : Bytes) (len : Nat) (hlen : len = p.length + s.length) (hj : d.length ≤ j.length) :
    ∃ j', insertMem (p ++ (s ++ 0 :: j)) len p.length d = .ok (p ++ (d ++ (s ++ 0 :: j')))
      ∧ j'.length + d.length = j.length := by
  -- `X` is what stands behind the insertion point: its first `|s|` bytes move up by `|d|`, `d` goes
  -- in front of them, and the terminator lands in what is left of `X`
  have hs : (s ++ 0 :: j).take s.length = s := List.take_left' rfl
  have hXl : (s ++ 0 :: j).length = s.length + 1 + j.length := by
    rw [List.length_append, List.length_cons]; omega
  generalize s ++ 0 :: j = X at hs hXl ⊢
  have hmove : (if len > p.length then Mem.move (p ++ X) (p.length + d.length) p.length (len - p.length)
      else .ok (p ++ X)) = .ok (p ++ (X.take d.length ++ (s ++ X.drop (d.length + s.length)))) := by
    have hread := Mem.read_at p X p.length s.length rfl (by omega)
    have hwrite := Mem.write_at (p ++ X.take d.length) (X.drop d.length) s (p.length + d.length)
      (by rw [List.length_append, List.length_take_of_le (by omega)]) (by rw [List.length_drop]; omega)
    rw [List.append_assoc, List.take_append_drop, List.drop_drop, List.append_assoc] at hwrite
    split
    · rw [Mem.move, hlen, Nat.add_sub_cancel_left, hread, hs]
      simp only [hwrite, List.append_assoc]
    · obtain rfl : s = [] := List.eq_nil_of_length_eq_zero (by omega)
      simp
  have hwrite := Mem.write_at p (X.take d.length ++ (s ++ X.drop (d.length + s.length))) d p.length rfl
    (by rw [List.length_append, List.length_take_of_le (by omega)]; omega)
  rw [List.drop_left' (List.length_take_of_le (by omega))] at hwrite
  obtain ⟨j', hstore, hj'⟩ := Mem.store_tail (p ++ d ++ s) (X.drop (d.length + s.length)) 0 (len + d.length)
    (by simp [hlen]; omega) (by rw [List.length_drop]; omega)
  refine ⟨j', ?_, by rw [List.length_drop] at hj'; omega⟩
  simp only [List.append_assoc] at hwrite hstore
  simp only [insertMem, hmove, hwrite, hstore]

theorem insertData_mid {b : Buf} (p s d : Bytes) (h : Rep b (p ++ s)) (hd : d ≠ []) :
    ∃ b', b.insertData p.length d = .ok (b', true) ∧ Rep b' (p ++ d ++ s) := by
  obtain ⟨j, hg, hsz⟩ := growBuff_rep h d.length
  obtain ⟨j', hcore, hjl⟩ := insertMem_mid p s j d (p ++ s).length (by simp) hsz
  refine ⟨canon (p ++ d ++ s) j', ?_, rep_canon _ _⟩
  have hdl : d.length ≠ 0 := by simpa using hd
  have hnp : ¬ p.length > b.len := by rw [h.len]; simp
  simp only [insertData, h.dyn, hdl, hnp, hg, if_false, Bool.not_true,
    Bool.false_eq_true, decide_false, Bool.or_self]
  simp only [canon, mem, List.append_assoc, hcore]
  simp only [Except.ok.injEq, Prod.mk.injEq, and_true, Buf.mk.injEq, true_and, List.length_append]
  omega

theorem delete_static {b : Buf} (hs : b.isStatic = true) (pos n : Nat) :
    b.delete pos n = .ok (b, false) := by simp [delete, hs]

theorem delete_refused {b : Buf} (pos n : Nat) (h : pos ≥ b.len ∨ n = 0) :
    b.delete pos n = .ok (b, false) := by
  unfold delete
  split
  · rfl
  · rcases h with h | h <;> simp [h]

theorem deleteMem_mid (p x s j : Bytes) (len : Nat) (hlen : len = p.length + x.length + s.length) :
    ∃ j', deleteMem (p ++ (x ++ (s ++ 0 :: j))) len p.length x.length = .ok (p ++ (s ++ 0 :: j'))
      ∧ j'.length = x.length + j.length := by
  have hn : len - p.length - x.length = s.length := by omega
  have hread : Mem.read (p ++ (x ++ (s ++ 0 :: j))) (p.length + x.length) s.length = .ok s := by
    simpa using Mem.read_at (p ++ x) (s ++ 0 :: j) (p.length + x.length) s.length (by simp) (by simp)
  have hwrite := Mem.write_at p (x ++ (s ++ 0 :: j)) s p.length rfl (by simp; omega)
  obtain ⟨r, hstore, hr⟩ := Mem.store_tail (p ++ s) ((x ++ (s ++ 0 :: j)).drop s.length) 0 (len - x.length)
    (by simp; omega) (by simp; omega)
  simp only [List.append_assoc] at hwrite hstore
  refine ⟨r, ?_, by simp at hr; omega⟩
  simp only [deleteMem, Mem.move, hn, hread, hwrite, hstore]


theorem delete_mid {b : Buf} (p x s : Bytes) (h : Rep b (p ++ x ++ s)) :
    ∃ b', b.delete p.length x.length = .ok (b', !x.isEmpty) ∧ Rep b' (p ++ s) := by
  by_cases hx : x = []
  · subst hx
    exact ⟨b, delete_refused _ _ (.inr rfl), by simpa using h⟩
  have hxl : 0 < x.length := List.length_pos_iff.mpr hx
  rcases h.cases with ⟨_, hnil⟩ | ⟨j, rfl⟩
  · simp [hx] at hnil
  · obtain ⟨j', hcore, hjl⟩ := deleteMem_mid p x s j (p ++ (x ++ s)).length (by simp; omega)
    refine ⟨canon (p ++ s) j', ?_, rep_canon _ _⟩
    have hnp : ¬ (p.length ≥ (p ++ (x ++ s)).length) := by simp; omega
    have hnc : ¬ (p.length + x.length > (p ++ (x ++ s)).length) := by simp
    have hn : x.length ≠ 0 := by omega
    have hxe : x.isEmpty = false := by simpa using hx
    simp only [delete, canon, Bool.false_eq_true, if_false, decide_eq_true_eq, Bool.or_eq_true, hnp, hn, or_self,
      hnc, mem, List.append_assoc, hcore, hxe, Bool.not_false]
    simp only [Except.ok.injEq, Prod.mk.injEq, and_true, Buf.mk.injEq, true_and, List.length_append]
    omega

/-- `if (n > 0) delete(b, i, n)` is `delete(b, i, n)`: a zero count is refused anyway. -/
theorem delete_guard (b : Buf) (i n : Nat) :
    (if n > 0 then b.delete i n else .ok (b, false)) = b.delete i n := by
  split
  · rfl
  · exact (delete_refused i n (.inr (by omega))).symm

end Buf
end Wbxml.Model
