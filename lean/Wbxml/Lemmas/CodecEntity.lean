/- The entity → UTF-8 generation of `parse_entity`: the codec model `Codec.entityLoop` / `Codec.entityBytes`
   (`Model/Codec/Entity.lean`), the parser's model of the same C loop with the C bit operators
   (`Model.entityLoop` / `Model.entityBytes`, `Model/Parser.lean`), their agreement
   (`ParserBridge.entityBytes_eq`) and the laws of C11. -/
import Wbxml.Model.Codec.Entity
import Wbxml.Model.Parser
import Wbxml.Spec.Utf8
import Wbxml.Lemmas.CodecBits
namespace Wbxml.Lemmas.Codec
open Wbxml Wbxml.Model.Codec Wbxml.Spec

theorem x80_or64 (x : Nat) : 0x80 ||| x % 64 = 0x80 + x % 64 :=
  or_mul_pow 2 (x % 64) 6 (Nat.mod_lt _ (by decide))

theorem toNat_cont (x : Nat) : (cont x).toNat = 0x80 + x % 64 := by
  rw [cont, toNat_ofNat_lt _ (by omega)]

theorem cont_div (x : Nat) : (cont x).toNat / 64 = 2 := by rw [toNat_cont]; omega
theorem cont_mod (x : Nat) : (cont x).toNat % 64 = x % 64 := by rw [toNat_cont]; omega

theorem cstr_cons_ne (b : UInt8) (t : Bytes) (h : b ≠ 0) : cstr (b :: t) = b :: cstr t := by
  simp [cstr, h]
theorem cstr_zero (t : Bytes) : cstr (0 :: t) = [] := by simp [cstr]

/-- `strlen` of an array of non-zero bytes followed by the terminator returns all of them. -/
theorem cstr_all_ne (l : Bytes) (h : ∀ b ∈ l, b ≠ 0) : cstr (l ++ [0]) = l := by
  rw [cstr, List.takeWhile_append_of_pos (by simpa using h)]; simp

/-- The `WB_UTINY` store of the loop (lead octet `m + y`, continuation octets `0x80 + x % 64`). -/
abbrev ob (n : Nat) : UInt8 := UInt8.ofNat n

/-- `loop_2`, `loop_3`, `loop_4`: the loop unfolded for the three multi-octet length classes of Unicode scalar values
    (`entityLoop_spec` gives lengths and bounds for every accepted code, not the octets; the UTF-8 equality needs them). -/
theorem loop_2 (c : Nat) (h1 : 0x80 ≤ c) (h2 : c < 0x800) :
    entityLoop 5 c [] = .ok [ob (0xC0 + c / 64), ob (0x80 + c % 64)] := by
  have l5 : c ≥ 0x40 / 2 ^ (5 - 5) := by simp; omega
  have l4 : ¬ (c / 64 ≥ 0x40 / 2 ^ (5 - 4)) := by simp; omega
  simp only [entityLoop, l5, l4, ↓reduceIte, entityMasks, List.getElem?_cons_succ, List.getElem?_cons_zero, x80_or64]
  rw [or_mul_pow 6 _ 5 (by omega)]

theorem loop_3 (c : Nat) (h1 : 0x800 ≤ c) (h2 : c < 0x10000) :
    entityLoop 5 c [] = .ok [ob (0xE0 + c / 64 / 64), ob (0x80 + c / 64 % 64), ob (0x80 + c % 64)] := by
  have l5 : c ≥ 0x40 / 2 ^ (5 - 5) := by simp; omega
  have l4 : c / 64 ≥ 0x40 / 2 ^ (5 - 4) := by simp; omega
  have l3 : ¬ (c / 64 / 64 ≥ 0x40 / 2 ^ (5 - 3)) := by simp; omega
  simp only [entityLoop, l5, l4, l3, ↓reduceIte, entityMasks, List.getElem?_cons_succ, List.getElem?_cons_zero, x80_or64]
  rw [or_mul_pow 14 _ 4 (by omega)]

theorem loop_4 (c : Nat) (h1 : 0x10000 ≤ c) (h2 : c < 0x200000) :
    entityLoop 5 c [] = .ok [ob (0xF0 + c / 64 / 64 / 64), ob (0x80 + c / 64 / 64 % 64),
      ob (0x80 + c / 64 % 64), ob (0x80 + c % 64)] := by
  have l5 : c ≥ 0x40 / 2 ^ (5 - 5) := by simp; omega
  have l4 : c / 64 ≥ 0x40 / 2 ^ (5 - 4) := by simp; omega
  have l3 : c / 64 / 64 ≥ 0x40 / 2 ^ (5 - 3) := by simp; omega
  have l2 : ¬ (c / 64 / 64 / 64 ≥ 0x40 / 2 ^ (5 - 2)) := by simp; omega
  simp only [entityLoop, l5, l4, l3, l2, ↓reduceIte, entityMasks, List.getElem?_cons_succ, List.getElem?_cons_zero, x80_or64]
  rw [or_mul_pow 30 _ 3 (by omega)]

theorem ob_ne_zero (n : Nat) (h1 : 0x80 ≤ n) (h2 : n < 256) : ob n ≠ 0 := ofNat_ne_zero n (by omega) h2

theorem cont_ne_zero (x : Nat) : ob (0x80 + x % 64) ≠ 0 := ob_ne_zero _ (by omega) (by omega)

/-- `0x40 >> (5 - index)` and `masks[index]` (a lead octet pattern) for the indices the loop can reach. -/
theorem entity_tbl : ∀ i, i ≤ 5 → 0x40 / 2 ^ (5 - i) = 2 ^ (i + 1) ∧
    (i ≤ 4 → entityMasks[i]? = some (entityMasks.getD i 0) ∧ 0x80 ≤ entityMasks.getD i 0 ∧
      entityMasks.getD i 0 < 2 ^ 8) := by decide

/-- From index `i ≤ 4` with a code of at most `6 i + 1` bits the loop neither writes `entity[-1]` nor
    reads `masks[5]`: it prepends between one and `i + 1` non-zero octets. -/
theorem entityLoop_spec (i : Nat) (hi : i ≤ 4) : ∀ c tail, c < 2 ^ (6 * i + 1) →
    ∃ bs, entityLoop i c tail = .ok (bs ++ tail) ∧ 1 ≤ bs.length ∧ bs.length ≤ i + 1 ∧ ∀ b ∈ bs, b ≠ 0 := by
  induction i with
  | zero =>
    intro c tail hc
    obtain ⟨ht, hm, hm1, hm2⟩ := (entity_tbl 0 (by decide)).imp id (· hi)
    refine ⟨[ob (entityMasks.getD 0 0 ||| c)], ?_, by simp, by simp, ?_⟩
    · rw [entityLoop, if_neg (by omega), hm]; rfl
    · simp only [List.mem_singleton, forall_eq]
      exact ob_ne_zero _ (Nat.le_trans hm1 Nat.left_le_or) (Nat.or_lt_two_pow hm2 (by omega))
  | succ i ih =>
    intro c tail hc
    obtain ⟨ht, hm, hm1, hm2⟩ := (entity_tbl (i + 1) (by omega)).imp id (· hi)
    rw [entityLoop, ht]
    by_cases hge : c ≥ 2 ^ (i + 1 + 1)
    · obtain ⟨bs, hl, h1, h2, hz⟩ := ih (by omega) (c / 64) (ob (0x80 ||| c % 64) :: tail)
        (by rw [Nat.div_lt_iff_lt_mul (by decide), show 64 = 2 ^ 6 by rfl, ← Nat.pow_add]; exact hc)
      refine ⟨bs ++ [ob (0x80 ||| c % 64)], ?_, by simp, by simp; omega, ?_⟩
      · rw [if_pos hge, List.append_assoc]; exact hl
      · intro b hb
        rcases List.mem_append.mp hb with hb | hb
        · exact hz b hb
        · rw [List.mem_singleton.mp hb, x80_or64]; exact cont_ne_zero c
    · refine ⟨[ob (entityMasks.getD (i + 1) 0 ||| c)], ?_, by simp, by simp, ?_⟩
      · rw [if_neg hge, hm]; rfl
      · simp only [List.mem_singleton, forall_eq]
        have : c < 2 ^ 8 := Nat.lt_of_lt_of_le (Nat.lt_of_not_le hge) (Nat.pow_le_pow_right (by decide) (by omega))
        exact ob_ne_zero _ (Nat.le_trans hm1 Nat.left_le_or) (Nat.or_lt_two_pow hm2 this)

/-- Neither out-of-bounds access of the loop is reachable: for every code the function accepts the
    loop ends with `0 ≤ index ≤ 4`. -/
theorem entityLoop_ok (c : Nat) (h1 : 0x80 ≤ c) (h2 : c < 0x80000000) :
    ∃ bs, entityLoop 5 c [] = .ok bs ∧ 2 ≤ bs.length ∧ bs.length ≤ 6 ∧ ∀ b ∈ bs, b ≠ 0 := by
  obtain ⟨bs, hl, l1, l2, hz⟩ := entityLoop_spec 4 (by decide) (c / 64) [ob (0x80 ||| c % 64)] (by omega)
  refine ⟨bs ++ [ob (0x80 ||| c % 64)], ?_, by simp; omega, by simp; omega, ?_⟩
  · rw [entityLoop, if_pos (by simp; omega)]; exact hl
  · intro b hb
    rcases List.mem_append.mp hb with hb | hb
    · exact hz b hb
    · rw [List.mem_singleton.mp hb, x80_or64]; exact cont_ne_zero c

theorem entityBytes_of_loop (c : Nat) (h1 : 0x80 ≤ c) (h2 : c < 0x80000000) (bs : Bytes)
    (hl : entityLoop 5 c [] = .ok bs) (hz : ∀ b ∈ bs, b ≠ 0) : entityBytes c = .ok bs := by
  have a1 : ¬ (c ≥ 0x80000000) := by omega
  have a2 : ¬ (c < 0x80) := by omega
  simp only [entityBytes, a1, a2, ↓reduceIte, hl]
  show Except.ok (cstr (bs ++ [0])) = _
  rw [cstr_all_ne bs hz]

/-- A code below 0x80 goes through `wbxml_buffer_create_from_cstr` on `{code, 0}`. -/
theorem entityBytes_ascii (c : Nat) (h0 : c ≠ 0) (h : c < 0x80) : entityBytes c = .ok [UInt8.ofNat c] := by
  have a1 : ¬ (c ≥ 0x80000000) := by omega
  simp only [entityBytes, a1, h, ↓reduceIte]
  rw [cstr_cons_ne _ _ (ofNat_ne_zero c (by omega) (by omega)), cstr_zero]

/-- C11 `entity_utf8_partial`: the loop's octets are the UTF-8 sequence (code 0 excepted). -/
theorem entityBytes_eq_utf8 (c : Nat) (h : isScalar c) (h0 : c ≠ 0) : entityBytes c = .ok (utf8 c) := by
  have hc : c < 0x110000 := by rcases h with h | h <;> omega
  by_cases c1 : c < 0x80
  · rw [entityBytes_ascii c h0 c1]; simp only [utf8, c1, ↓reduceIte]
  obtain ⟨bs, hl, _, _, hz⟩ := entityLoop_ok c (by omega) (by omega)
  rw [entityBytes_of_loop c (by omega) (by omega) bs hl hz]
  have hu : entityLoop 5 c [] = .ok (utf8 c) := by
    by_cases c2 : c < 0x800
    · rw [loop_2 c (by omega) c2]; simp only [utf8, c1, c2, ↓reduceIte, cont, ob]
    by_cases c3 : c < 0x10000
    · rw [loop_3 c (by omega) c3, show c / 64 / 64 = c / 4096 by omega]
      simp only [utf8, c1, c2, c3, ↓reduceIte, cont, ob]
    · rw [loop_4 c (by omega) (by omega), show c / 64 / 64 / 64 = c / 262144 by omega,
        show c / 64 / 64 = c / 4096 by omega]
      simp only [utf8, c1, c2, c3, ↓reduceIte, cont, ob]
  rw [← hl, hu]

end Wbxml.Lemmas.Codec

namespace Wbxml.Lemmas.ParserBridge
open Wbxml Wbxml.Model

/-- The parser's shift-by-6 loop is the codec's, whenever the latter stays inside its arrays (which
    `Lemmas.Codec.entityLoop_ok` proves for every accepted code). -/
theorem entityLoop_eq : ∀ (index code : Nat) (tail : Bytes) (f : Nat) (bs : Bytes),
    Model.Codec.entityLoop index code tail = .ok bs → index < f → entityLoop f code index tail = bs
  | index, code, tail, 0, bs, _, hf => by omega
  | index, code, tail, f + 1, bs, h, hf => by
    rw [Model.Codec.entityLoop.eq_def] at h
    rw [entityLoop, Nat.shiftRight_eq_div_pow]
    by_cases hc : code ≥ 0x40 / 2 ^ (5 - index)
    · simp only [hc, if_true] at h ⊢
      cases index with
      | zero => cases h
      | succ i =>
        simp only [bit_arith]
        exact entityLoop_eq i _ _ f bs h (by omega)
    · simp only [hc, if_false] at h ⊢
      cases hm : Model.Codec.entityMasks[index]? with
      | none => rw [hm] at h; cases h
      | some m =>
        rw [hm] at h
        simp only [Except.ok.injEq] at h
        have : [0xFC, 0xF8, 0xF0, 0xE0, 0xC0].getD index 0 = m := by
          have hm' : ([0xFC, 0xF8, 0xF0, 0xE0, 0xC0] : List Nat)[index]? = some m := hm
          rw [List.getD_eq_getElem?_getD, hm']; rfl
        rw [this, ← h]

/-- `strlen`-cut of a buffer, both ways of writing it. -/
theorem cstr_append_zero : ∀ (l : Bytes), Model.Codec.cstr (l ++ [0]) = l.take (cstrLen l)
  | [] => by simp [Model.Codec.cstr, cstrLen]
  | b :: r => by
    by_cases hb : b = 0
    · subst hb; simp [Model.Codec.cstr, cstrLen]
    · have hb' : (b == 0) = false := by simpa using hb
      have ih := cstr_append_zero r
      simp only [Model.Codec.cstr] at ih
      simp only [Model.Codec.cstr, List.cons_append, cstrLen, hb', Bool.false_eq_true, if_false,
        List.take_succ_cons]
      rw [List.takeWhile_cons_of_pos (by simpa using hb), ih]

/-- `entityBytes = Codec.entityBytes`: C11's UTF-8 theorems speak about the parser's function. -/
theorem entityBytes_eq (code : Nat) : entityBytes code = Model.Codec.entityBytes code := by
  unfold entityBytes Model.Codec.entityBytes
  by_cases h1 : code ≥ 0x80000000
  · simp only [h1, if_true]; rfl
  · simp only [h1, if_false]
    by_cases h2 : code < 0x80
    · simp only [h2, if_true]
      by_cases h0 : code = 0
      · subst h0; rfl
      · have hne : UInt8.ofNat code ≠ 0 := Codec.ofNat_ne_zero code (by omega) (by omega)
        have hb : (code == 0) = false := by simpa using h0
        simp only [hb, Bool.false_eq_true, if_false]
        rw [Codec.cstr_cons_ne _ _ hne, Codec.cstr_zero]
    · simp only [h2, if_false]
      obtain ⟨bs, hl, _, _, _⟩ := Codec.entityLoop_ok code (by omega) (by omega)
      rw [hl, entityLoop_eq 5 code [] 6 bs hl (by omega)]
      show _ = Except.ok (Model.Codec.cstr (bs ++ [0]))
      rw [cstr_append_zero]

end Wbxml.Lemmas.ParserBridge
