/-
  C16 — the parser main loop on the ledger, one item at a time: the per-item buffers of
  `parse_content` (`parse_string` / `parse_entity` / `parse_opaque`, `parse_extension` for the WML
  variables, `parse_opaque` + `decode_base64_value`), the `characters` delivery, the unwinding of
  the open `parse_element` frames, `parse_pi`, and the start and the end of `parse_element`.
-/
import Wbxml.Lemmas.AllocParse
import Wbxml.Lemmas.AllocTreeClb
import Wbxml.Lemmas.AllocB64
namespace Wbxml.Model.Alloc
open Wbxml

/-- The blocks of the tags held by the open `parse_element` frames. -/
def stackOwned (st : List AName) : List Nat := st.flatMap AName.owned

theorem stackOwned_cons (e : AName) (st : List AName) : stackOwned (e :: st) = e.owned ++ stackOwned st := by
  simp [stackOwned]

theorem unwind_frees (st : List AName) : Frees (unwind st) (stackOwned st) :=
  forM_frees AName.owned _ (fun e => nameDestroy_frees (some e)) st

theorem parseExtWml_tri (var : Piece) (suffix : Bytes) : RefSpec (parseExtWml var suffix) := by
  unfold parseExtWml
  refine (parseAttrValue_tri var).step (.refl _) nofun fun ⟨ret, v⟩ e1 => ?_
  cases v with
  | none => exact .ret (.refl _) ⟨rfl, fun _ => rfl⟩ (·.resolve_left id)
  | some v =>
    obtain rfl : ret = OK := Decidable.byContradiction fun h => nomatch e1 h
    refine .malloc (.release (bufDestroy_frees (some v)) (.refl _) (.ret (.refl _) ⟨rfl, fun _ => rfl⟩ fun _ => ENOMEM_ne_OK)) fun x => ?_
    -- memcpy(ext + len, wbxml_buffer_get_cstr(var_value), …)
    refine .deref (.inl (by simp)) (.deref (.inl (List.mem_append_left _ List.mem_cons_self)) ?_)
    refine .release (bufDestroy_frees (some v)) List.perm_append_comm ?_
    refine (bufCreate_tri _ _).make nofun fun r _ => ?_
    refine .release (Frees.free (some x)) List.perm_append_comm ?_
    cases r with
    | none => exact .ret (.refl _) ⟨rfl, fun _ => rfl⟩ fun _ => ENOMEM_ne_OK
    | some r => exact .ret (.refl _) ⟨rfl, fun h => absurd rfl h⟩ (by simp)

theorem parseOpaqueB64_tri (bytes encoded : Bytes) : RefSpec (parseOpaqueB64 bytes encoded) := by
  unfold parseOpaqueB64
  refine (bufCreate_tri (some bytes) bytes.length).step (.refl _) nofun fun b hk1 => ?_
  cases b with
  | none => exact .ret (.refl _) ⟨rfl, fun _ => rfl⟩ fun _ => ENOMEM_ne_OK
  | some b =>
    refine .deref (.inl List.mem_cons_self) ((b64Encode_tri b.len).make nofun fun r _ => ?_)
    cases r with
    | none =>
      exact .release (bufDestroy_frees (some b)) (.of_eq (List.append_nil _))
        (.ret (.refl _) ⟨rfl, fun _ => rfl⟩ fun _ => EB64ENC_ne_OK)
    | some x =>
      refine (bufRewrite_tri b encoded (hk1 b rfl)).call (.refl _) nofun fun ⟨b3, ok⟩ _ => ?_
      refine .release (Frees.free (some x)) (.refl _) ?_
      cases ok with
      | false => exact .release (bufDestroy_frees (some b3)) (.refl _) (.ret (.refl _) ⟨rfl, fun _ => rfl⟩ fun _ => ENOMEM_ne_OK)
      | true => exact .ret (.refl _) ⟨rfl, fun h => absurd rfl h⟩ (by simp)

theorem parseContent_tri (ci : Content) : RefSpec (parseContent ci) := by
  cases ci with
  | ref p => exact parseAttrValue_tri p
  | ext var suffix => exact parseExtWml_tri var suffix
  | opqB64 bytes encoded => exact parseOpaqueB64_tri bytes encoded

theorem deliverChars_tri (c : TCtx) (content : Option ABuf) (cd : Bool) (hok : c.ok) :
    CbSpec (content.toList.map (·.hdr)) c (deliverChars c content cd) := by
  unfold deliverChars
  cases content with
  | none => exact CbSpec.ret (.refl hok) nofun
  | some b =>
    exact .deref (.inr List.mem_cons_self) (.ite (fun _ => CbSpec.ret (.refl hok) nofun) fun _ =>
      (clbCharacters_tri c b.bytes cd hok).borrow nofun)

theorem parsePi_tri (a : AttrShape) (hst : a.start.wf) : Spec [] [] (parsePi a) (fun _ => []) (fun _ => True) (· ≠ OK) := by
  unfold parsePi
  refine (parseAttrStart_tri a.start hst).step (.refl _) nofun fun ⟨ret, name, start⟩ ⟨e1, k1⟩ => ?_
  refine .if_ne_ok (fun hret => ?_) (fun hret => ?_)
  · cases e1 hret
    exact .ret (.refl _) ⟨rfl, trivial⟩ fun _ => hret
  · subst hret
    obtain ⟨n, rfl⟩ := Option.isSome_iff_exists.1 (k1 rfl)
    refine (bufCreate_tri start ATTR_BLOCK).make nofun fun value ok2 => ?_
    cases value with
    | none => exact .release (nameDestroy_frees (some n)) List.perm_append_comm (.ret (.refl _) ⟨rfl, trivial⟩ fun _ => ENOMEM_ne_OK)
    | some value =>
      refine (attrValueLoop_tri (some n) a.pieces value (ok2 value rfl)).step (.refl _) nofun fun ⟨ret3, v3⟩ ⟨e3, k3, o3⟩ => ?_
      cases v3 with
      | none => exact .ret (.refl _) ⟨rfl, trivial⟩ fun _ h => nomatch k3 h
      | some value3 =>
        obtain rfl : ret3 = OK := Decidable.byContradiction fun h => nomatch e3 h
        refine (appendNulUnlessEmpty_tri value3 (o3 value3 rfl)).after _ (.refl _) nofun fun ⟨value4, ok4⟩ _ => ?_
        cases ok4 with
        | false => exact dropNameValue_tri _ _ value4 (.refl _) ⟨rfl, trivial⟩ fun _ => ENOMEM_ne_OK
        | true =>
          -- pi_clb(get_xml_name(attr_name), get_cstr(attr_value))
          refine .deref (.inl List.mem_cons_self) (.deref (.inl (List.mem_append_right _ List.mem_cons_self)) ?_)
          exact dropNameValue_tri _ _ value4 (.refl _) ⟨rfl, trivial⟩ (by simp)

theorem parsePis_tri (pis : List AttrShape) (hw : ∀ a ∈ pis, a.start.wf) :
    Spec [] [] (parsePis pis) (fun _ => []) (fun _ => True) (· ≠ OK) := by
  induction pis with
  | nil => exact .ret (.refl _) ⟨rfl, trivial⟩ nofun
  | cons a rest ih =>
    unfold parsePis
    refine (parsePi_tri a (hw a List.mem_cons_self)).step (.refl _) nofun fun ret _ => ?_
    exact .if_ne_ok (fun hret => .ret (.refl _) ⟨rfl, trivial⟩ fun _ => hret) fun hret =>
      (ih fun x hx => hw x (List.mem_cons_of_mem _ hx)).lower fun f => f.elim id fun f => f hret

theorem startElement_tri (c : TCtx) (t : TagShape) (ht : t.wf) (attrs : List AttrShape)
    (hshape : ∀ a ∈ attrs, a.start.wf) (hok : c.ok) :
    Spec [] c.owned (startElement c t attrs) (fun r => ownedNameOpt r.2.1 ++ r.2.2.owned)
      (fun r => CbRel c r.2.2 ∧ (r.2.1 = none → r.1 ≠ OK ∧ r.2.2 = c) ∧ (r.2.1.isSome → r.1 = OK))
      (fun r => r.1 ≠ OK ∨ r.2.2.error ≠ OK) := by
  unfold startElement
  refine (parseStag_tri t ht).make nofun fun ⟨ret, element⟩ ⟨e1, k1⟩ => ?_
  refine .if_ne_ok (fun hret => ?_) (fun hret => ?_)
  · cases e1 hret
    exact .ret (.of_eq (List.append_nil _)) ⟨rfl, .refl hok, fun _ => ⟨hret, rfl⟩, nofun⟩ fun _ => .inl hret
  · subst hret
    obtain ⟨e, rfl⟩ := Option.isSome_iff_exists.1 (k1 rfl)
    refine .deref (.inl (List.mem_append_right _ List.mem_cons_self)) ?_
    refine (attrTableLoop_tri (some e) attrs hshape none [] fun _ => rfl).after c.owned (by simp) nofun
      fun ⟨ret2, tbl, entries⟩ e2 => ?_
    refine .if_ne_ok (fun hret2 => ?_) (fun hret2 => ?_)
    · exact .ret (.of_eq (by rw [if_neg hret2, List.append_nil]; rfl)) ⟨rfl, .refl hok, fun _ => ⟨hret2, rfl⟩, nofun⟩
        fun _ => .inl hret2
    · subst hret2
      -- the call-back reads the tag and the entries, which stay the parser's
      refine (clbStartElement_tri c e entries hok).call (.refl _) (fun i hi => .inr ((List.mem_append.1 hi).elim
        (List.mem_append_left _) fun h => List.mem_append_right _ (List.mem_append_right _ h))) fun c3 r3 => ?_
      refine .release (freeAttrsTable_frees tbl entries e2) (.of_eq (List.append_assoc ..).symm) ?_
      exact .ret List.perm_append_comm ⟨rfl, r3, nofun, fun _ => rfl⟩ fun f => .inr (f.resolve_left (by simp))

theorem closeElement_tri (c : TCtx) (e : AName) (hok : c.ok) :
    Spec [] (e.owned ++ c.owned) (closeElement c e) TCtx.owned (CbRel c) (fun c' => c'.error ≠ OK) :=
  (clbEndElement_tri c hok).after e.owned (.refl _) nofun fun _ r1 =>
    .release (nameDestroy_frees (some e)) List.perm_append_comm (CbSpec.ret r1 (·.resolve_left id))

end Wbxml.Model.Alloc
