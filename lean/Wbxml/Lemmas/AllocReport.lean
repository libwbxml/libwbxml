/-
  C16 — functions that ignore some failed requests on purpose.

  Their specifications speak of request numbers, so their proofs follow the ledger.  `Reported s s'
  ben P`: every request of the run from `s` to `s'` that was scheduled to fail and is not benign has
  the visible consequence `P`.  `Sofar s₀ s L P ben F` is what such a proof carries from statement to
  statement: the footprint since the entry ledger `s₀`, and that every such request so far is
  accounted for in the flag `F`.  `Good.next` calls a function specified by a triple (it ignores
  nothing), `Good.next_rep` one that has benign requests of its own.
-/
import Wbxml.Lemmas.AllocTri
namespace Wbxml.Model.Alloc
open Wbxml

def Reported (s s' : Ledger) (ben : Nat → Prop) (P : Prop) : Prop :=
  ∀ k, s.fails k = true → s.next < k → k ≤ s'.next → ¬ ben k → P

theorem Reported.refl (s : Ledger) {ben : Nat → Prop} {P : Prop} : Reported s s ben P :=
  fun _ _ a b _ => absurd (Nat.lt_of_lt_of_le a b) (Nat.lt_irrefl _)

/-- With nothing benign this is the clause about delivered failures. -/
theorem Reported.strict_iff {s s' : Ledger} {P : Prop} (l : Later s s') :
    Reported s s' (fun _ => False) P ↔ (s.hits < s'.hits → P) :=
  ⟨fun h hh => let ⟨k, hf, a, b⟩ := l.window.1 hh; h k hf a b id, fun h k hf a b _ => h (l.window.2 ⟨k, hf, a, b⟩)⟩

theorem Reported.mono {s s' : Ledger} {ben ben' : Nat → Prop} {P P' : Prop} (h : Reported s s' ben P)
    (hb : ∀ k, s.next < k → k ≤ s'.next → ben k → ben' k) (hp : P → P') : Reported s s' ben' P' :=
  fun k hf a b hn => hp (h k hf a b fun hk => hn (hb k a b hk))

/-- Two runs in a row: a request of the whole window lies in one of the two. -/
theorem Reported.trans {s s1 s2 : Ledger} {b1 b2 : Nat → Prop} {P1 P2 : Prop} (hs : s1.sched = s.sched)
    (h1 : Reported s s1 b1 P1) (h2 : Reported s1 s2 b2 P2) :
    Reported s s2 (fun k => b1 k ∨ (s1.next < k ∧ b2 k)) (P1 ∨ P2) := by
  intro k hf a b hn
  by_cases hk : k ≤ s1.next
  · exact Or.inl (h1 k hf a hk fun h => hn (Or.inl h))
  · exact Or.inr (h2 k (by simpa only [Ledger.fails, hs] using hf) (by omega) b fun h => hn (Or.inr ⟨by omega, h⟩))

theorem Good.later {p : Prog α} {s : Ledger} {Q : α → Ledger → Prop} (h : Good p s Q) :
    Good p s (fun a s' => Q a s' ∧ Later s s' ∧ run p s = (.ok a, s')) :=
  h.with_run.mono fun a s' ⟨q, hr⟩ => ⟨q, by simpa [hr] using run_later p s, hr⟩

/-- With nothing benign, every delivered failure is reported. -/
theorem Good.strict {p : Prog α} {s : Ledger} {Q : α → Ledger → Prop} {ben : Nat → Prop} {P : α → Prop} (h : Good p s Q)
    (hr : ∀ r s', Q r s' → Reported s s' ben (P r)) (hb : ∀ k, ¬ ben k) :
    Good p s (fun r s' => Q r s' ∧ (s.hits < s'.hits → P r)) :=
  h.later.mono fun r s' ⟨q, l, _⟩ => ⟨q, (Reported.strict_iff l).1 ((hr r s' q).mono (fun k _ _ hk => hb k hk) id)⟩

/-- The state of a proof between two statements of a body: `s₀` the entry ledger, `s` the ledger
    reached, `L` the blocks held on entry, `P` the blocks held at `s`, `ben` the requests the function
    may ignore, `F` what is known if a request so far was scheduled to fail and is not in `ben`. -/
structure Sofar (s₀ s : Ledger) (L P : List Nat) (ben : Nat → Prop) (F : Prop) : Prop where
  clean : Clean s₀ s L P
  rep : Reported s₀ s ben F

variable {s₀ s : Ledger} {L P P' A R' : List Nat} {ben b : Nat → Prop} {F F' : Prop} {p : Prog α} {f : α → Prog β}
  {own : α → List Nat} {EA : α → Prop} {R : β → Ledger → Prop}

theorem Sofar.start (wf : s.WF) (own : Owns s L) : Sofar s s L L ben F :=
  ⟨Clean.id wf own, .refl s⟩

theorem Sofar.perm (sf : Sofar s₀ s L P ben F) (hP : P.Perm P') (hF : F → F') : Sofar s₀ s L P' ben F' :=
  ⟨sf.clean.prod_perm hP, sf.rep.mono (fun _ _ _ => id) hF⟩

/-- Call a function that has benign requests of its own (`b`, all of them benign for the caller too):
    the blocks held split as `Fl ++ A ++ Fr`; the rest of the body gets the run as well, which is what
    the benign sets are stated with. -/
theorem Good.next_rep (Fl Fr : List Nat) {X : α → Ledger → Prop} (wf : s₀.WF) (sf : Sofar s₀ s L P ben F)
    (hP : P.Perm (Fl ++ (A ++ Fr)))
    (hp : Owns s A → Good p s (fun r s' => Clean s s' A (own r) ∧ Reported s s' b (EA r) ∧ X r s'))
    (hb : ∀ r s', run p s = (.ok r, s') → X r s' → ∀ k, s.next < k → k ≤ s'.next → b k → ben k)
    (k : ∀ r s', Sofar s₀ s' L (Fl ++ (own r ++ Fr)) ben (F ∨ EA r) → run p s = (.ok r, s') → X r s' → Good (f r) s' R) :
    Good (Prog.bind p f) s R := by
  have c0 := sf.clean.prod_perm hP
  refine Good.bind (hp c0.owns.right.left).with_run ?_
  rintro r s1 ⟨⟨c, rep, x⟩, hr⟩
  have cF := Clean.frame_l Fl c0.wf (Clean.frame_r Fr c0.wf c c0.owns.right) c0.owns
  exact k r s1 ⟨Clean.trans_recycle wf c0 cF, (sf.rep.trans sf.clean.sched rep).mono
    (fun k _ le h => h.elim id fun ⟨a, h⟩ => hb r s1 hr x k a le h) id⟩ hr x

/-- Call a function specified by a triple. -/
theorem Good.next (Fl Fr : List Nat) {X : α → Prop} (wf : s₀.WF) (sf : Sofar s₀ s L P ben F) (hp : Spec R' A p own X EA)
    (hP : P.Perm (Fl ++ (A ++ Fr))) (hR : ∀ i ∈ R', i ∈ s.live ∧ i ∉ A)
    (k : ∀ r s', Sofar s₀ s' L (Fl ++ (own r ++ Fr)) ben (F ∨ EA r) → run p s = (.ok r, s') → X r → Good (f r) s' R) :
    Good (Prog.bind p f) s R :=
  Good.next_rep Fl Fr (b := fun _ => False) wf sf hP
    (fun o => (hp.good sf.clean.wf o hR).later.mono fun _ _ ⟨⟨c, h, x⟩, l, _⟩ => ⟨c, (Reported.strict_iff l).2 h, x⟩)
    (fun _ _ _ _ _ _ _ h => h.elim) k

end Wbxml.Model.Alloc
