/-
  C19 — the singly linked list: every operation keeps the heap well formed (an acyclic chain of
  live cells from `head`, `tail` its last cell, `len` its length) and acts on the item sequence
  like the plain-sequence reference; no operation dereferences NULL or a freed cell.
-/
import Wbxml.Model.LList
namespace Wbxml.Model
open Wbxml Wbxml.Spec.Seq

namespace LList

/-- Following `next` from `p` visits exactly the cells `xs` (all live) and arrives at `q`. -/
def Seg (h : List Cell) : Option Nat → List Nat → Option Nat → Prop
  | p, [], q => p = q
  | p, x :: xs, q => p = some x ∧ ∃ c, h[x]? = some c ∧ c.live = true ∧ Seg h c.next xs q

def itemAt (h : List Cell) (a : Nat) : Nat :=
  match h[a]? with
  | some c => c.item
  | none => 0

def Chain (l : LList) (ptrs : List Nat) : Prop :=
  Seg l.heap l.head ptrs none ∧ ptrs.Nodup ∧ l.len = ptrs.length ∧ l.tail = ptrs.getLast?

/-- The list is well formed and its items, in order, are `items`. -/
def Denotes (l : LList) (items : List Nat) : Prop :=
  ∃ ptrs, Chain l ptrs ∧ items = ptrs.map (itemAt l.heap)

theorem seg_append {h : List Cell} {xs ys : List Nat} {p q : Option Nat} :
    Seg h p (xs ++ ys) q ↔ ∃ m, Seg h p xs m ∧ Seg h m ys q := by
  induction xs generalizing p with
  | nil => simp [Seg]
  | cons x xs ih =>
    simp only [List.cons_append, Seg, ih]
    constructor
    · rintro ⟨hp, c, hc, hl, m, h1, h2⟩; exact ⟨m, ⟨hp, c, hc, hl, h1⟩, h2⟩
    · rintro ⟨m, ⟨hp, c, hc, hl, h1⟩, h2⟩; exact ⟨hp, c, hc, hl, m, h1, h2⟩

theorem seg_lt {h : List Cell} {xs : List Nat} {p q : Option Nat} (hs : Seg h p xs q) :
    ∀ x ∈ xs, x < h.length := by
  induction xs generalizing p with
  | nil => intro x hx; simp at hx
  | cons y ys ih =>
    obtain ⟨_, c, hc, _, hr⟩ := hs
    intro x hx
    rcases List.mem_cons.mp hx with rfl | hx
    · exact (List.getElem?_eq_some_iff.mp hc).1
    · exact ih hr x hx

/-- A segment only depends on the cells it visits. -/
theorem seg_congr {h h2 : List Cell} {xs : List Nat} {p q : Option Nat} (hs : Seg h p xs q)
    (hag : ∀ x ∈ xs, h2[x]? = h[x]?) : Seg h2 p xs q := by
  induction xs generalizing p with
  | nil => exact hs
  | cons y ys ih =>
    obtain ⟨hp, c, hc, hl, hr⟩ := hs
    exact ⟨hp, c, (hag y (by simp)).trans hc, hl, ih hr (fun x hx => hag x (by simp [hx]))⟩

theorem seg_frame_set {h : List Cell} {xs : List Nat} {p q : Option Nat} (hs : Seg h p xs q)
    (a : Nat) (c' : Cell) (ha : a ∉ xs) : Seg (h.set a c') p xs q :=
  seg_congr hs (fun x hx => List.getElem?_set_ne (fun e => ha (by rw [e]; exact hx)))

theorem seg_push {h h2 : List Cell} {xs : List Nat} {p q : Option Nat} {a item : Nat} (hs : Seg h p xs q)
    (hag : ∀ x ∈ xs, h2[x]? = h[x]?) (ha : h2[a]? = some ⟨item, p, true⟩) : Seg h2 (some a) (a :: xs) q :=
  ⟨rfl, _, ha, rfl, seg_congr hs hag⟩

/-- A new cell linked in behind the cell `u`: `u` now points to it, it points to what followed `u`. -/
theorem seg_splice {h h2 : List Cell} {pre post : List Nat} {p q : Option Nat} {u a item : Nat} {cu : Cell}
    (hs0 : Seg h p pre (some u)) (hlu : cu.live = true) (hs2 : Seg h cu.next post q)
    (hag : ∀ x ∈ pre ++ post, h2[x]? = h[x]?)
    (hu : h2[u]? = some { cu with next := some a }) (ha : h2[a]? = some ⟨item, cu.next, true⟩) :
    Seg h2 p (pre ++ u :: a :: post) q :=
  seg_append.mpr ⟨some u, seg_congr hs0 (fun x hx => hag x (by simp [hx])), rfl, _, hu, hlu, rfl, _, ha, rfl,
    seg_congr hs2 (fun x hx => hag x (by simp [hx]))⟩

theorem seg_single {h : List Cell} {x : Nat} {c : Cell} (hc : h[x]? = some c) (hl : c.live = true) :
    Seg h (some x) [x] c.next := ⟨rfl, c, hc, hl, rfl⟩

theorem itemAt_set {h : List Cell} {a : Nat} {c c' : Cell} (hc : h[a]? = some c) (hi : c'.item = c.item)
    (x : Nat) : itemAt (h.set a c') x = itemAt h x := by
  unfold itemAt
  by_cases hx : a = x
  · subst hx
    simp [List.getElem?_set_self (List.getElem?_eq_some_iff.mp hc).1, hc, hi]
  · rw [List.getElem?_set_ne hx]

theorem deref_ok {l : LList} {a : Nat} {c : Cell} (hc : l.heap[a]? = some c) (hl : c.live = true) :
    l.deref (some a) = .ok c := by simp [deref, hc, hl]

theorem setNext_ok {l : LList} {a : Nat} {c : Cell} (hc : l.heap[a]? = some c) (hl : c.live = true) (n : Option Nat) :
    l.setNext (some a) n = .ok { l with heap := l.heap.set a { c with next := n } } := by
  simp [setNext, deref_ok hc hl]

theorem free_ok {l : LList} {a : Nat} {c : Cell} (hc : l.heap[a]? = some c) (hl : c.live = true) :
    l.free (some a) = .ok { l with heap := l.heap.set a { c with live := false } } := by
  simp [free, deref_ok hc hl]

/-- Advancing along a segment of `k` cells: `prev` ends on its last cell, `elt` on what follows. -/
theorem advance_seg {l : LList} {xs : List Nat} {p q : Option Nat} (hs : Seg l.heap p xs q) (prev : Option Nat) :
    l.advance xs.length prev p = .ok (if xs = [] then prev else xs.getLast?, q) := by
  induction xs generalizing p prev with
  | nil => simp [advance]; exact hs
  | cons y ys ih =>
    obtain ⟨hp, c, hc, hl, hr⟩ := hs
    subst hp
    simp only [List.length_cons, advance, deref_ok hc hl]
    rw [ih hr (some y)]
    cases ys with
    | nil => simp
    | cons z zs => simp [List.getLast?_cons_cons]

theorem denotes_create : Denotes create [] :=
  ⟨[], ⟨rfl, List.nodup_nil, rfl, rfl⟩, rfl⟩

theorem denotes_len {l : LList} {items : List Nat} (h : Denotes l items) : l.len = items.length := by
  obtain ⟨ptrs, hch, hit⟩ := h
  rw [hit, hch.2.2.1]; simp

theorem chain_nil_iff {l : LList} {ptrs : List Nat} (h : Chain l ptrs) :
    (l.len = 0 ↔ ptrs = []) ∧ (l.head = none ↔ ptrs = []) := by
  obtain ⟨hseg, _, hlen, _⟩ := h
  cases ptrs with
  | nil => exact ⟨by simp [hlen], by simp [show l.head = none from hseg]⟩
  | cons x xs => exact ⟨by simp [hlen], by simp [hseg.1]⟩

/-- The common end of every insertion: the fresh cell `a = heap.length` stands between `pre` and `post`
    in the new heap `h2`, the old cells still carry their items. -/
theorem denotes_link {l : LList} {items pre post : List Nat} {item : Nat} {h2 : List Cell} {hd : Option Nat}
    (hch : Chain l (pre ++ post)) (hit : items = (pre ++ post).map (itemAt l.heap))
    (hseg : Seg h2 hd (pre ++ l.heap.length :: post) none)
    (hold : ∀ x ∈ pre ++ post, itemAt h2 x = itemAt l.heap x) (hnew : itemAt h2 l.heap.length = item) :
    Denotes ⟨h2, hd, if post = [] then some l.heap.length else l.tail, l.len + 1⟩
      (items.take pre.length ++ item :: items.drop pre.length) := by
  obtain ⟨hs, hnd, hlen, htail⟩ := hch
  have hfresh : l.heap.length ∉ pre ++ post := fun hm => Nat.lt_irrefl _ (seg_lt hs _ hm)
  refine ⟨pre ++ l.heap.length :: post, ⟨hseg, ?_, ?_, ?_⟩, ?_⟩
  · exact List.perm_middle.nodup_iff.mpr (List.nodup_cons.mpr ⟨hfresh, hnd⟩)
  · simp only [hlen, List.length_append, List.length_cons]
    omega
  · cases post with
    | nil => simp
    | cons y ys => simpa [List.getLast?_append, List.getLast?_cons_cons] using htail
  · have hm : ∀ xs : List Nat, (∀ x ∈ xs, x ∈ pre ++ post) → xs.map (itemAt h2) = xs.map (itemAt l.heap) :=
      fun xs hxs => List.map_congr_left (fun x hx => hold x (hxs x hx))
    rw [hit, List.map_append, List.take_left' (by simp), List.drop_left' (by simp), List.map_append,
      List.map_cons, hnew, hm pre (fun x hx => by simp [hx]), hm post (fun x hx => by simp [hx])]

/-- The two shapes of the heap after linking the fresh cell behind `u`. -/
theorem link_behind {l : LList} {items pre post : List Nat} {u item : Nat} {cu : Cell} {h2 : List Cell}
    (hch : Chain l (pre ++ u :: post)) (hit : items = (pre ++ u :: post).map (itemAt l.heap))
    (hcu : l.heap[u]? = some cu)
    (hag : ∀ x, x < l.heap.length → x ≠ u → h2[x]? = l.heap[x]?)
    (hu : h2[u]? = some { cu with next := some l.heap.length })
    (ha : h2[l.heap.length]? = some ⟨item, cu.next, true⟩) :
    Denotes ⟨h2, l.head, if post = [] then some l.heap.length else l.tail, l.len + 1⟩
      (items.take (pre.length + 1) ++ item :: items.drop (pre.length + 1)) := by
  have hlt := seg_lt hch.1
  have hnd := hch.2.1
  obtain ⟨m, hs0, hm, cu', hcu', hlu, hs2⟩ := seg_append.mp hch.1
  cases hcu.symm.trans hcu'
  have hnd' := List.nodup_append.mp hnd
  have hne : ∀ x ∈ pre ++ post, x ≠ u := by
    intro x hx e
    rcases List.mem_append.mp hx with hx | hx
    · exact hnd'.2.2 x hx u (by simp) e
    · exact (List.nodup_cons.mp hnd'.2.1).1 (e ▸ hx)
  have hmem : ∀ x ∈ pre ++ post, x ∈ pre ++ u :: post := fun x hx => by
    rcases List.mem_append.mp hx with hx | hx <;> simp [hx]
  have := denotes_link (pre := pre ++ [u]) (post := post) (item := item) (h2 := h2) (hd := l.head)
    (by simpa using hch) (by simpa using hit)
    (by
      rw [List.append_assoc]
      exact seg_splice (hm ▸ hs0) hlu hs2 (fun x hx => hag x (hlt x (hmem x hx)) (hne x hx)) hu ha)
    (by
      intro x hx
      by_cases hxu : x = u
      · subst hxu; simp [itemAt, hu, hcu]
      · simp [itemAt, hag x (hlt x (by simpa using hx)) hxu])
    (by simp [itemAt, ha])
  simpa using this

theorem insert_denotes {l : LList} {items : List Nat} (h : Denotes l items) (item pos : Nat) :
    ∃ l' r, l.insert item pos = .ok (l', r) ∧ Denotes l' (lstep items (.insert item pos)).1 ∧
      LOut.bool r = (lstep items (.insert item pos)).2 := by
  have hlen_items := denotes_len h
  obtain ⟨ptrs, hch, hit⟩ := h
  by_cases h0 : item = 0
  · subst h0
    exact ⟨l, false, by simp [LList.insert], ⟨ptrs, hch, by simpa [lstep] using hit⟩, by simp [lstep]⟩
  simp only [lstep, h0, if_false]
  have hlt := seg_lt hch.1
  unfold LList.insert
  simp only [h0, if_false, newCell]
  -- all that matters of the heap `H` with the fresh cell: the cell is there, the old cells are as before
  have hnewcell : (l.heap ++ [Cell.mk item none true])[l.heap.length]? = some (Cell.mk item none true) := by simp
  have hold : ∀ x, x < l.heap.length → (l.heap ++ [Cell.mk item none true])[x]? = l.heap[x]? :=
    fun x hx => List.getElem?_append_left hx
  generalize l.heap ++ [Cell.mk item none true] = H at hnewcell hold ⊢
  have hHl : l.heap.length < H.length := (List.getElem?_eq_some_iff.mp hnewcell).1
  by_cases hl0 : l.len = 0
  · -- empty list: the new cell is head and tail
    obtain rfl := (chain_nil_iff hch).1.mp hl0
    have := denotes_link (pre := []) (post := []) (item := item) (h2 := H)
      (hd := some l.heap.length) hch hit (seg_push (item := item) (h := l.heap) (p := none) (xs := []) rfl (fun _ h => nomatch h)
        hnewcell) (fun _ h => nomatch h) (by simp [itemAt, hnewcell])
    simp only [hl0, if_true]
    exact ⟨_, true, rfl, by simpa [hit, hl0] using this, rfl⟩
  have hne : ptrs ≠ [] := fun e => hl0 ((chain_nil_iff hch).1.mpr e)
  simp only [hl0, if_false]
  by_cases hp0 : pos = 0
  · -- new head
    subst hp0
    have hsn := setNext_ok (l := { l with heap := H }) hnewcell rfl l.head
    have := denotes_link (pre := []) (post := ptrs) (item := item) (hd := some l.heap.length)
      (h2 := H.set l.heap.length (Cell.mk item l.head true)) hch hit
      (seg_push (item := item) hch.1 (fun x hx => by
          rw [List.getElem?_set_ne (Nat.ne_of_gt (hlt x hx)), hold x (hlt x hx)])
        (List.getElem?_set_self hHl))
      (fun x hx => by rw [itemAt_set hnewcell (c' := Cell.mk item l.head true) rfl, itemAt, hold x (hlt x hx)]; rfl)
      (by simp [itemAt, hHl])
    simp only [if_true, hsn]
    exact ⟨_, true, rfl, by simpa [hne] using this, rfl⟩
  simp only [hp0, if_false]
  by_cases hpl : pos ≥ l.len
  · -- at or beyond the end
    obtain ⟨init, t, rfl⟩ : ∃ init t, ptrs = init ++ [t] := ⟨_, _, (List.dropLast_concat_getLast hne).symm⟩
    obtain ⟨m, hs0, hm, ct, hct, hlt', hnx⟩ := seg_append.mp hch.1
    have hnx : ct.next = none := hnx
    have htl := hlt t (by simp)
    have hct1 : H[t]? = some ct := by
      rw [hold t htl]; exact hct
    have htail : l.tail = some t := by simp [hch.2.2.2]
    have hsn := setNext_ok (l := ⟨H, l.head, some t, l.len⟩) hct1 hlt'
      (some l.heap.length)
    have := link_behind (pre := init) (post := []) (item := item) hch hit hct
      (h2 := H.set t { ct with next := some l.heap.length })
      (fun x hx hxt => by rw [List.getElem?_set_ne (Ne.symm hxt), hold x hx])
      (by rw [List.getElem?_set_self (by omega)])
      (by rw [List.getElem?_set_ne (by omega), hnx]; exact hnewcell)
    have hl : items.length = init.length + 1 := by simp [hit]
    rw [← hl, List.take_length, List.drop_length] at this
    simp only [hpl, if_true, htail, hsn]
    refine ⟨_, true, rfl, ?_, rfl⟩
    rw [List.take_of_length_le (by omega), List.drop_eq_nil_of_le (by omega)]
    simpa using this
  · -- in the middle: ptrs = pre ++ u :: post, |pre| + 1 = pos, post not empty
    have hplen := hch.2.2.1
    obtain ⟨u, post, hup⟩ := List.exists_cons_of_length_pos (l := ptrs.drop (pos - 1)) (by simp; omega)
    have hpost : post ≠ [] := by
      intro e
      have := congrArg List.length hup
      simp [e] at this
      omega
    have hsplit : ptrs = ptrs.take (pos - 1) ++ u :: post := by rw [← hup, List.take_append_drop]
    have hprelen : (ptrs.take (pos - 1)).length + 1 = pos := by simp; omega
    generalize ptrs.take (pos - 1) = pre at hsplit hprelen
    subst hsplit
    obtain ⟨m, hs0, hm, cu, hcu, hlu, hs2⟩ := seg_append.mp hch.1
    have hcu1 : H[u]? = some cu := by
      rw [hold u (hlt u (by simp))]; exact hcu
    -- the walk stops with `prev` on `u`
    have hs1 : Seg H l.head (pre ++ [u]) cu.next :=
      seg_append.mpr ⟨m, seg_congr hs0 (fun x hx => hold x (hlt x (by simp [hx]))),
        hm, cu, hcu1, hlu, rfl⟩
    have hadv : advance { l with heap := H } (pre.length + 1) none l.head = .ok (some u, cu.next) := by
      simpa using advance_seg (l := { l with heap := H }) hs1 none
    rw [hprelen] at hadv
    have hsn1 := setNext_ok (l := { l with heap := H }) hcu1 hlu (some l.heap.length)
    have hnew2 : (H.set u { cu with next := some l.heap.length })[l.heap.length]?
        = some (Cell.mk item none true) := by
      rw [List.getElem?_set_ne (Nat.ne_of_lt (hlt u (by simp)))]; exact hnewcell
    have hsn2 := setNext_ok hnew2 rfl cu.next
      (l := { l with heap := H.set u { cu with next := some l.heap.length } })
    have := link_behind (pre := pre) (post := post) (item := item) hch hit hcu
      (h2 := (H.set u { cu with next := some l.heap.length }).set l.heap.length
        (Cell.mk item cu.next true))
      (fun x hx hxu => by
        rw [List.getElem?_set_ne (Nat.ne_of_gt hx), List.getElem?_set_ne (Ne.symm hxu), hold x hx])
      (by
        have hu := hlt u (by simp)
        rw [List.getElem?_set_ne (Nat.ne_of_gt hu), List.getElem?_set_self (by omega)])
      (List.getElem?_set_self (by simpa using hHl))
    rw [hprelen] at this
    simp only [hpl, if_false, hadv, hsn1, hsn2]
    exact ⟨_, true, rfl, by simpa [hpost] using this, rfl⟩

theorem append_eq_insert {l : LList} {ptrs : List Nat} (hch : Chain l ptrs) (item : Nat) :
    l.append item = l.insert item l.len := by
  have hn := chain_nil_iff hch
  by_cases h0 : item = 0
  · simp [LList.append, LList.insert, h0]
  · cases hh : l.head with
    | none => simp [LList.append, LList.insert, h0, hh, hn.1.mpr (hn.2.mp hh), newCell]
    | some a =>
      have hl : l.len ≠ 0 := fun e => by rw [hn.2.mpr (hn.1.mp e)] at hh; cases hh
      simp [LList.append, LList.insert, h0, hh, hl, newCell]

theorem append_denotes {l : LList} {items : List Nat} (h : Denotes l items) (item : Nat) :
    ∃ l' r, l.append item = .ok (l', r) ∧ Denotes l' (lstep items (.append item)).1 ∧
      LOut.bool r = (lstep items (.append item)).2 := by
  have hs : lstep items (.append item) = lstep items (.insert item l.len) := by simp [lstep, denotes_len h]
  obtain ⟨ptrs, hch, _⟩ := h
  rw [append_eq_insert hch, hs]
  exact insert_denotes ⟨ptrs, hch, ‹_›⟩ item l.len

theorem get_denotes {l : LList} {items : List Nat} (h : Denotes l items) (idx : Nat) :
    l.get idx = .ok items[idx]? := by
  obtain ⟨ptrs, ⟨hseg, hnd, hlen, htail⟩, hit⟩ := h
  unfold get
  by_cases hi : idx ≥ l.len
  · have : items[idx]? = none := by rw [List.getElem?_eq_none]; rw [hit]; simp; omega
    simp [hi, this]
  · have hlt : idx < ptrs.length := by omega
    have hsplit : ptrs = ptrs.take idx ++ ptrs[idx] :: ptrs.drop (idx + 1) := by
      conv => lhs; rw [← List.take_append_drop idx ptrs, List.drop_eq_getElem_cons hlt]
    rw [hsplit] at hseg
    obtain ⟨m, hs1, hs2⟩ := seg_append.mp hseg
    obtain ⟨hm, c, hc, hl, _⟩ := hs2
    have hadv := advance_seg hs1 none
    have hlen' : (ptrs.take idx).length = idx := by simp; omega
    rw [hlen'] at hadv
    simp only [hi, if_false, hadv, hm, deref_ok hc hl]
    have : items[idx]? = some c.item := by
      rw [hit, List.getElem?_map, List.getElem?_eq_getElem hlt]
      simp [itemAt, hc]
    rw [this]

theorem extractFirst_denotes {l : LList} {items : List Nat} (h : Denotes l items) :
    ∃ l', l.extractFirst = .ok (l', items.head?) ∧ Denotes l' items.tail := by
  obtain ⟨ptrs, ⟨hseg, hnd, hlen, htail⟩, hit⟩ := h
  unfold extractFirst
  cases ptrs with
  | nil =>
    subst hit
    have : l.len = 0 := by simpa using hlen
    exact ⟨l, by simp [this], ⟨[], ⟨hseg, hnd, hlen, htail⟩, rfl⟩⟩
  | cons u rest =>
    obtain ⟨hp, cu, hcu, hlu, hr⟩ := hseg
    have hlen0 : l.len ≠ 0 := by simp at hlen; omega
    have hnd' := List.nodup_cons.mp hnd
    simp only [hlen0, if_false, hp, deref_ok hcu hlu]
    let l1 : LList := { l with head := cu.next, tail := if cu.next = none then none else l.tail }
    have hfree : l1.free (some u) = .ok { l1 with heap := l1.heap.set u { cu with live := false } } :=
      free_ok (l := l1) hcu hlu
    simp only [l1] at hfree
    rw [hfree]
    have hhead : items.head? = some cu.item := by rw [hit]; simp [itemAt, hcu]
    rw [hhead]
    refine ⟨_, rfl, ?_⟩
    · refine ⟨rest, ⟨?_, hnd'.2, ?_, ?_⟩, ?_⟩
      · exact seg_frame_set hr u _ hnd'.1
      · simp at hlen ⊢; omega
      · cases rest with
        | nil => have : cu.next = none := hr; simp [this]
        | cons v vs =>
          have : cu.next = some v := hr.1
          simp [this, htail, List.getLast?_cons_cons]
      · rw [hit]; simp only [List.map_cons, List.tail_cons]
        apply List.map_congr_left
        intro x _
        exact (itemAt_set hcu (c' := { cu with live := false }) rfl x).symm

/-- `wbxml_list_destroy` runs to the end of the chain without a fault: in the model a second `free` of a
    cell, or any use of a freed one, would be `Err.ub`. -/
theorem destroyLoop_ok (xs : List Nat) : ∀ (l : LList) (p : Option Nat) (fuel : Nat),
    Seg l.heap p xs none → xs.Nodup → xs.length < fuel → ∃ l', l.destroyLoop fuel p = .ok l' := by
  induction xs with
  | nil =>
    intro l p fuel hs _ hf
    have : p = none := hs
    subst this
    cases fuel with
    | zero => omega
    | succ f => exact ⟨l, rfl⟩
  | cons x rest ih =>
    intro l p fuel hs hnd hf
    obtain ⟨hp, c, hc, hl, hr⟩ := hs
    subst hp
    cases fuel with
    | zero => omega
    | succ f =>
      have hnd' := List.nodup_cons.mp hnd
      simp only [destroyLoop, deref_ok hc hl, free_ok hc hl]
      exact ih _ c.next f (seg_frame_set hr x _ hnd'.1) hnd'.2 (by simp at hf; omega)

theorem destroy_ok {l : LList} {items : List Nat} (h : Denotes l items) : ∃ l', l.destroy = .ok l' := by
  obtain ⟨ptrs, ⟨hseg, hnd, hlen, _⟩, _⟩ := h
  exact destroyLoop_ok ptrs l l.head (l.len + 1) hseg hnd (by omega)

theorem step_refines {l : LList} {items : List Nat} (h : Denotes l items) (op : LOp) :
    ∃ l' o, l.step op = .ok (l', o) ∧ Denotes l' (lstep items op).1 ∧ o = (lstep items op).2 := by
  cases op with
  | len => exact ⟨l, .nat l.len, rfl, h, by simp [lstep, denotes_len h]⟩
  | append item =>
    obtain ⟨l', r, hl, hd, hr⟩ := append_denotes h item
    exact ⟨l', .bool r, by simp [step, hl], hd, hr⟩
  | insert item pos =>
    obtain ⟨l', r, hl, hd, hr⟩ := insert_denotes h item pos
    exact ⟨l', .bool r, by simp [step, hl], hd, hr⟩
  | get idx => exact ⟨l, .item items[idx]?, by simp [step, get_denotes h idx], h, rfl⟩
  | extractFirst =>
    obtain ⟨l', hl, hd⟩ := extractFirst_denotes h
    exact ⟨l', .item items.head?, by simp [step, hl], hd, rfl⟩

theorem run_refines (ops : List LOp) : ∀ (l : LList) (items : List Nat), Denotes l items →
    ∃ l' outs, l.run ops = .ok (l', outs) ∧ Denotes l' (lrun items ops).1 ∧ outs = (lrun items ops).2 := by
  induction ops with
  | nil => intro l items h; exact ⟨l, [], rfl, h, rfl⟩
  | cons op ops ih =>
    intro l items h
    obtain ⟨l1, o, hl1, hd1, ho1⟩ := step_refines h op
    obtain ⟨l2, outs, hl2, hd2, ho2⟩ := ih l1 _ hd1
    exact ⟨l2, o :: outs, by simp [run, hl1, hl2], by simpa [lrun] using hd2, by simp [lrun, ho1, ho2]⟩

end LList
end Wbxml.Model
