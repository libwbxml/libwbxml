/-
  Round trip (C03): elements called `Data`. `wbxml_tree_node_get_syncml_data_type` (model:
  `syncmlDataType`) is consulted at every character-data event; it answers `normal` — the text
  becomes an ordinary text node — unless the innermost open element is called `Data` AND the
  `Meta`/`Type` look-up among the children its parent / grandparent have SO FAR finds one of the
  special media types, or the grandparent is called `Add` / `Replace`.

  The builder reconstructs `nodeOfElem` whenever `syncmlDataType` answers `normal` at every
  non-empty character-data event (`dataOk*`, `run_*_d` in `RtBuild.lean`). Here the same condition
  is given as a decidable predicate on the TREE that is being built (it is in normal form):
  `dataNormal`, `dataOk_of_normal_*`, `dataIsNormal`.
-/
import Wbxml.Lemmas.RtNf
namespace Wbxml.Lemmas.Rt
open Wbxml Wbxml.Model Wbxml.Spec Wbxml.Lemmas.ParserSafe Wbxml.Lemmas.ParseSer Wbxml.Lemmas.EncW

theorem findElt_snoc (l : List Node) (x : Node) (nm : Bytes) :
    findElt (l ++ [x]) nm = (findElt l nm).or (if x.eltName? == some nm then some x else none) := by
  unfold findElt
  rw [List.find?_append, List.find?_singleton]

theorem metaType_snoc (l : List Node) (p : Node) :
    metaType (l ++ [p]) =
      match findElt l b!"Meta" with
      | some m => findElt m.kids b!"Type"
      | none => if p.eltName? == some b!"Meta" then findElt p.kids b!"Type" else none := by
  unfold metaType
  rw [findElt_snoc]
  cases findElt l b!"Meta" with
  | some m => rfl
  | none =>
    simp only [Option.none_or]
    by_cases hp : (p.eltName? == some b!"Meta") = true
    · simp only [hp, if_true]
    · simp only [hp]; rfl

theorem close_elt (n : Name) (a : List Attr) (ks : List Node) :
    Frame.close { kind := .elt n a, kids := ks } = .elt n a ks := rfl

theorem eltName_elt (n : Name) (a : List Attr) (ks : List Node) : (Node.elt n a ks).eltName? = some n.xmlName := rfl

theorem close_kids (k : FrameKind) (ks : List Node) : (Frame.close { kind := k, kids := ks }).kids = ks := by
  cases k <;> rfl

theorem close_eltName (k : FrameKind) (ks : List Node) :
    (Frame.close { kind := k, kids := ks }).eltName? = (Frame.close { kind := k, kids := [] }).eltName? := by
  cases k <;> rfl

theorem syncml_top_kids (k : FrameKind) (x y : List Node) (rest : List Frame) :
    syncmlDataType ({ kind := k, kids := x } :: rest) = syncmlDataType ({ kind := k, kids := y } :: rest) := by
  cases k with
  | cdata => rfl
  | elt n a =>
    cases rest with
    | nil => rfl
    | cons g rest' =>
      unfold syncmlDataType
      simp only [materialize, materialize.materializeAux, close_elt, eltName_elt]
      by_cases hn : (some n.xmlName == some b!"Data") = true
      · -- The look-ups read the children of the parent and the grandparent, never those of the innermost frame;
        -- the innermost node appears there only as a last child, and one called `Data` is neither the `Meta`
        -- nor the `Type` they search for.
        have hnm : n.xmlName = b!"Data" := by simpa using hn
        have hM : (some n.xmlName == some b!"Meta") = false := by rw [hnm]; decide
        have hT : (some n.xmlName == some b!"Type") = false := by rw [hnm]; decide
        have e2 : ∀ z, findElt (g.kids ++ [Node.elt n a z]) b!"Type" = findElt g.kids b!"Type" := by
          intro z; rw [findElt_snoc]; simp only [eltName_elt, hT]; simp
        cases rest' with
        | nil =>
          simp only [materialize.materializeAux, close_kids, metaType_snoc, eltName_elt, hM, Bool.false_eq_true, if_false]
        | cons h rest'' =>
          simp only [materialize.materializeAux, close_kids, metaType_snoc, eltName_elt, hM, e2, Bool.false_eq_true,
            if_false, close_eltName _ (_ ++ _)]
      · simp only [hn, Bool.false_eq_true, if_false]

mutual
/-- `dataOk*` read on the tree that is being built: every non-empty text of `n` stands where `syncmlDataType`
    answers `normal`, on the frames the builder has when that text arrives (`stack` below `n`; `dataNormalL`
    carries the children already attached as `done`). -/
def dataNormal (stack : List Frame) : Node → Bool
  | .elt n a kids => dataNormalL (.elt n a) stack [] kids
  | .text s => s.isEmpty || normalAt stack
  | .cdata _ => true
  | .tree _ _ _ => true
def dataNormalL (k : FrameKind) (below : List Frame) : List Node → List Node → Bool
  | _, [] => true
  | done, n :: todo => dataNormal ({ kind := k, kids := done } :: below) n && dataNormalL k below (done ++ [n]) todo
end

theorem dataNormal_elt (stack n a kids) : dataNormal stack (.elt n a kids) = dataNormalL (.elt n a) stack [] kids := by
  rw [dataNormal]
theorem dataNormal_text (stack s) : dataNormal stack (.text s) = (s.isEmpty || normalAt stack) := by rw [dataNormal]
theorem dataNormalL_nil (k below done) : dataNormalL k below done [] = true := by rw [dataNormalL]
theorem dataNormalL_cons (k below done n todo) : dataNormalL k below done (n :: todo) =
    (dataNormal ({ kind := k, kids := done } :: below) n && dataNormalL k below (done ++ [n]) todo) := by rw [dataNormalL]

/-- The children without a trailing text node: the part of `acc` that later character data cannot change
    (`addKid` merges into a last text). -/
def baseOf (acc : List Node) : List Node := if lastText acc then acc.dropLast else acc

theorem baseOf_nil : baseOf [] = [] := rfl
theorem baseOf_snoc_text (B : List Node) (t : Bytes) : baseOf (B ++ [.text t]) = B := by
  unfold baseOf; rw [lastText_snoc]; simp [isText]
theorem baseOf_snoc_nontext (B : List Node) (n : Node) (h : isText n = false) : baseOf (B ++ [n]) = B ++ [n] := by
  unfold baseOf; rw [lastText_snoc, h]; rfl
theorem baseOf_of_not (acc : List Node) (h : lastText acc = false) : baseOf acc = acc := by
  unfold baseOf; rw [h]; rfl

/-- How the last child may have changed: a text node has grown, anything else is as it was. -/
def Grown (x x' : Node) : Prop := (isText x = false ∧ x' = x) ∨ ∃ u u', x = .text u ∧ x' = .text (u ++ u')

theorem Grown.refl (x : Node) : Grown x x := by
  cases x with
  | text u => exact Or.inr ⟨u, [], rfl, by rw [List.append_nil]⟩
  | _ => exact Or.inl ⟨rfl, rfl⟩

theorem Grown.trans {x y z : Node} (h1 : Grown x y) (h2 : Grown y z) : Grown x z := by
  rcases h1 with ⟨hx, rfl⟩ | ⟨u, u', rfl, rfl⟩
  · exact h2
  · rcases h2 with ⟨hy, _⟩ | ⟨v, v', hv, rfl⟩
    · cases hy
    · injection hv with hv; subst hv
      exact Or.inr ⟨u, u' ++ v', rfl, by rw [List.append_assoc]⟩

theorem addChars_snoc (B : List Node) (x : Node) (t : Bytes) :
    (∃ x', addChars (B ++ [x]) t = B ++ [x'] ∧ Grown x x') ∨ (∃ y, addChars (B ++ [x]) t = B ++ [x] ++ [y]) := by
  cases t with
  | nil => exact Or.inl ⟨x, rfl, Grown.refl x⟩
  | cons b t =>
    rw [addChars_cons]
    cases x with
    | text u => rw [addKid_text_merge]; exact Or.inl ⟨_, rfl, Or.inr ⟨u, b :: t, rfl, rfl⟩⟩
    | _ => rw [addKid_text_after _ _ (by rw [lastText_snoc]; rfl)]; exact Or.inr ⟨_, rfl⟩

theorem kidOfItem_snoc (c : Ctx) (own : Option TagRow) (pg : Pages) (it : Item) (B : List Node) (x : Node) :
    (∃ x', kidOfItem c own pg it (B ++ [x]) = B ++ [x'] ∧ Grown x x') ∨
    (∃ y, kidOfItem c own pg it (B ++ [x]) = B ++ [x] ++ [y]) := by
  cases it with
  | elem e =>
    rw [kidOfItem_elem, addKid_not_text _ _ (isText_nodeOfElem c pg e)]
    exact Or.inr ⟨_, rfl⟩
  | pi a => rw [kidOfItem_pi]; exact Or.inl ⟨x, rfl, Grown.refl x⟩
  | _ => rw [(leafItem_spec c own pg _ rfl _).1]; exact addChars_snoc B x _

/-- **Prefix stability**: more items only extend the child list behind its last member, which —
    if it is a text node — may grow. -/
theorem kidsOfItems_snoc (c : Ctx) (own : Option TagRow) : ∀ (items : List Item) (pg : Pages) (B : List Node) (x : Node),
    ∃ x' more, kidsOfItems c own pg items (B ++ [x]) = B ++ (x' :: more) ∧ Grown x x'
  | [], pg, B, x => ⟨x, [], by rw [kidsOfItems_nil], Grown.refl x⟩
  | it :: rest, pg, B, x => by
    rw [kidsOfItems_cons]
    rcases kidOfItem_snoc c own pg it B x with ⟨x', h1, h2⟩ | ⟨y, h1⟩
    · rw [h1]
      obtain ⟨x'', more, h3, h4⟩ := kidsOfItems_snoc c own rest (evItem c own pg it).2 B x'
      exact ⟨x'', more, h3, h2.trans h4⟩
    · rw [h1]
      obtain ⟨y', more, h3, _⟩ := kidsOfItems_snoc c own rest (evItem c own pg it).2 (B ++ [x]) y
      exact ⟨x, y' :: more, by rw [h3, List.append_assoc]; rfl, Grown.refl x⟩

theorem acc_split (acc : List Node) :
    (lastText acc = false ∧ baseOf acc = acc) ∨ ∃ B t, acc = B ++ [.text t] ∧ baseOf acc = B := by
  cases h : lastText acc with
  | false => exact Or.inl ⟨rfl, baseOf_of_not acc h⟩
  | true =>
    obtain ⟨B, t, rfl⟩ := lastText_split acc h
    exact Or.inr ⟨B, t, rfl, baseOf_snoc_text B t⟩

theorem addChars_form (acc : List Node) (b : UInt8) (t : Bytes) :
    ∃ u, addChars acc (b :: t) = baseOf acc ++ [.text u] ∧ u ≠ [] := by
  rw [addChars_cons]
  rcases acc_split acc with ⟨h1, h2⟩ | ⟨B, t0, rfl, h2⟩
  · rw [addKid_text_after _ _ h1, h2]; exact ⟨b :: t, rfl, by intro h; cases h⟩
  · rw [addKid_text_merge, h2]
    exact ⟨t0 ++ b :: t, rfl, by intro h; have := congrArg List.length h; simp at this⟩

theorem baseOf_addChars (acc : List Node) (t : Bytes) : baseOf (addChars acc t) = baseOf acc := by
  cases t with
  | nil => rfl
  | cons b t =>
    obtain ⟨u, hu, _⟩ := addChars_form acc b t
    rw [hu, baseOf_snoc_text]

theorem normalAt_top (k : FrameKind) (x y : List Node) (rest : List Frame) :
    normalAt ({ kind := k, kids := x } :: rest) = normalAt ({ kind := k, kids := y } :: rest) := by
  unfold normalAt; rw [syncml_top_kids k x y rest]

/-- The step of `dataOk_of_normal_items` at character data `t`: the items still to come (`rest`) deliver
    `baseOf acc ++ T` with `T` normal above `baseOf acc`; the text node that `t` goes into is the first member
    of `T`, and it stands on the frame whose children are `acc` (`normalAt_top`: which children is immaterial). -/
theorem leaf_step (c : Ctx) (own : Option TagRow) (pg : Pages) (k : FrameKind) (below : List Frame)
    (rest : List Item) (acc : List Node) (t : Bytes) (T : List Node)
    (hK : kidsOfItems c own pg rest (addChars acc t) = baseOf acc ++ T)
    (hN : dataNormalL k below (baseOf acc) T = true) :
    (t.isEmpty || normalAt ({ kind := k, kids := acc } :: below)) = true := by
  cases t with
  | nil => rfl
  | cons b t' =>
    obtain ⟨u, hu, hne⟩ := addChars_form acc b t'
    rw [hu] at hK
    obtain ⟨x', more, h3, h4⟩ := kidsOfItems_snoc c own rest pg (baseOf acc) (.text u)
    rw [h3] at hK
    have hT := List.append_cancel_left hK
    subst hT
    rcases h4 with ⟨h5, _⟩ | ⟨v, v', hv, rfl⟩
    · cases h5
    · injection hv with hv; subst hv
      rw [dataNormalL_cons, Bool.and_eq_true, dataNormal_text] at hN
      have hne' : (u ++ v').isEmpty = false :=
      List.isEmpty_eq_false_iff.mpr (List.append_ne_nil_of_left_ne_nil hne _)
      rw [hne', Bool.false_or] at hN
      rw [normalAt_top k acc (baseOf acc) below, hN.1]
      rfl

/-- The step at an element `node`: nothing merges into or behind a non-text node, so `T` is `node :: more`
    (behind the trailing text node of `acc`, if it has one); `node` is normal on the frame with children `acc`,
    and the invariant holds again for `acc ++ [node]` and `more`. -/
theorem elem_step (c : Ctx) (own : Option TagRow) (pg : Pages) (k : FrameKind) (below : List Frame)
    (rest : List Item) (acc : List Node) (node : Node) (hnt : isText node = false) (T : List Node)
    (hK : kidsOfItems c own pg rest (acc ++ [node]) = baseOf acc ++ T)
    (hN : dataNormalL k below (baseOf acc) T = true) :
    ∃ more, kidsOfItems c own pg rest (acc ++ [node]) = baseOf (acc ++ [node]) ++ more ∧
      dataNormal ({ kind := k, kids := acc } :: below) node = true ∧
      dataNormalL k below (baseOf (acc ++ [node])) more = true := by
  obtain ⟨x', more, h3, h4⟩ := kidsOfItems_snoc c own rest pg acc node
  have hx : x' = node := by
    rcases h4 with ⟨_, h⟩ | ⟨u, u', hu, _⟩
    · exact h
    · rw [hu] at hnt; cases hnt
  subst hx
  rw [baseOf_snoc_nontext acc x' hnt]
  refine ⟨more, by rw [h3, List.append_assoc]; rfl, ?_⟩
  rw [h3] at hK
  rcases acc_split acc with ⟨_, h2⟩ | ⟨B, t0, rfl, h2⟩
  · rw [h2] at hK hN
    have hT := List.append_cancel_left hK
    subst hT
    rw [dataNormalL_cons, Bool.and_eq_true] at hN
    exact hN
  · rw [h2] at hK hN
    rw [List.append_assoc] at hK
    have hT := List.append_cancel_left hK
    subst hT
    rw [List.singleton_append, dataNormalL_cons, Bool.and_eq_true, dataNormalL_cons, Bool.and_eq_true] at hN
    exact hN.2

mutual
/-- **From the tree to the grammar element**: if the tree read off an element satisfies the
    tree-level condition under the frames `below`, the builder meets `normal` at every non-empty
    character-data event of the element. -/
theorem dataOk_of_normal_elem (c : Ctx) : ∀ (e : Elem) (pg : Pages) (below : List Frame),
    dataNormal below (nodeOfElem c pg e) = true → dataOkElem c pg below e = true
  | .mk sw tag attrs content, pg, below, h => by
    rw [nodeOfElem_mk, dataNormal_elt] at h
    rw [dataOkElem_mk]
    exact dataOk_of_normal_content c content _ _ _ below h
theorem dataOk_of_normal_content (c : Ctx) : ∀ (content : Option (List Item)) (own : Option TagRow) (pg : Pages)
    (k : FrameKind) (below : List Frame),
    dataNormalL k below [] (kidsOfContent c own pg content []) = true → dataOkContent c own pg k below content [] = true
  | none, own, pg, k, below, _ => by rw [dataOkContent_none]
  | some items, own, pg, k, below, h => by
    rw [kidsOfContent_some] at h
    rw [dataOkContent_some]
    exact dataOk_of_normal_items c items own pg k below [] _ rfl h
/-- Invariant of the walk over the items: what the remaining items make of `acc` is `baseOf acc ++ T` — only a
    trailing text node of `acc` can still change (`kidsOfItems_snoc`) — and `T` is normal with `baseOf acc` as
    the children already attached. -/
theorem dataOk_of_normal_items (c : Ctx) : ∀ (items : List Item) (own : Option TagRow) (pg : Pages)
    (k : FrameKind) (below : List Frame) (acc T : List Node),
    kidsOfItems c own pg items acc = baseOf acc ++ T → dataNormalL k below (baseOf acc) T = true →
    dataOkItems c own pg k below items acc = true
  | [], own, pg, k, below, acc, T, _, _ => by rw [dataOkItems_nil]
  | it :: rest, own, pg, k, below, acc, T, hK, hN => by
    rw [kidsOfItems_cons] at hK
    rw [dataOkItems_cons, Bool.and_eq_true]
    exact dataOk_of_normal_item c it own pg k below acc T rest hK hN
      (fun acc' T' h1 h2 => dataOk_of_normal_items c rest own _ k below acc' T' h1 h2)
theorem dataOk_of_normal_item (c : Ctx) : ∀ (it : Item) (own : Option TagRow) (pg : Pages)
    (k : FrameKind) (below : List Frame) (acc T : List Node) (rest : List Item),
    kidsOfItems c own (evItem c own pg it).2 rest (kidOfItem c own pg it acc) = baseOf acc ++ T →
    dataNormalL k below (baseOf acc) T = true →
    (∀ acc' T', kidsOfItems c own (evItem c own pg it).2 rest acc' = baseOf acc' ++ T' →
      dataNormalL k below (baseOf acc') T' = true → dataOkItems c own (evItem c own pg it).2 k below rest acc' = true) →
    dataOkItem c own pg k below it acc = true ∧
      dataOkItems c own (evItem c own pg it).2 k below rest (kidOfItem c own pg it acc) = true
  | it, own, pg, k, below, acc, T, rest, hK, hN, ih => by
    by_cases hl : leafItem it = true
    · obtain ⟨t, _, hkid, hd⟩ := leafItem_view c own pg k below it hl acc
      rw [hkid] at hK ⊢
      rw [hd]
      exact ⟨leaf_step c own _ k below rest acc _ T hK hN,
        ih _ T (by rw [baseOf_addChars]; exact hK) (by rw [baseOf_addChars]; exact hN)⟩
    · cases it with
      | elem e =>
        rw [kidOfItem_elem, addKid_not_text _ _ (isText_nodeOfElem c pg e)] at hK ⊢
        obtain ⟨more, h1, h2, h3⟩ := elem_step c own _ k below rest acc _ (isText_nodeOfElem c pg e) T hK hN
        rw [dataOkItem_elem]
        exact ⟨dataOk_of_normal_elem c e pg _ h2, ih _ more h1 h3⟩
      | pi p =>
        rw [kidOfItem_pi] at hK ⊢
        exact ⟨by rw [dataOkItem], ih _ T hK hN⟩
      | _ => exact absurd rfl hl
end

/-- **`dataIsNormal n`**: in the tree `n` (in the normal form the builders deliver) every text node
    stands where `wbxml_tree_node_get_syncml_data_type` answers `normal` when the text arrives — i.e.
    its parent is not called `Data`, or the `Meta`/`Type` look-up among the children its
    grandparent / great-grandparent have at that moment (the preceding siblings of the path) finds
    none of the special media types and the great-grandparent is not called `Add` / `Replace`.
    Evaluated with the model's own `syncmlDataType` on the frames the builder has at that moment. -/
def dataIsNormal (n : Node) : Bool := dataNormal [] n

theorem dataOkDoc_of_normal (cfg : PCfg) (d : Doc) (l : Lang) (hl : headerLang cfg d.hdr = some l)
    (h : dataIsNormal (rootOfDoc cfg d l) = true) : dataOkDoc cfg d = true := by
  unfold dataOkDoc
  rw [hl]
  exact dataOk_of_normal_elem _ d.root _ [] h

mutual
/-- No element is called `Data` (XML names). -/
def noDataX : Node → Bool
  | .elt n _ kids => !(n.xmlName == dataName) && noDataXL kids
  | .text _ => true
  | .cdata _ => true
  | .tree _ _ _ => true
def noDataXL : List Node → Bool
  | [] => true
  | k :: r => noDataX k && noDataXL r
end

mutual
theorem dataNormal_of_noData : ∀ (n : Node) (stack : List Frame), (∀ f rest, stack = f :: rest →
      ∃ nm a, f.kind = .elt nm a ∧ (nm.xmlName == dataName) = false) → noDataX n = true → dataNormal stack n = true
  | .elt n a kids, stack, _, h => by
    rw [noDataX, Bool.and_eq_true, Bool.not_eq_true'] at h
    rw [dataNormal_elt]
    exact dataNormalL_of_noData kids n a stack [] h.1 h.2
  | .text s, stack, hs, _ => by
    rw [dataNormal_text]
    cases stack with
    | nil => simp [normalAt, syncmlDataType, materialize]
    | cons f rest =>
      obtain ⟨nm, a, hk, hn⟩ := hs f rest rfl
      rw [(normalAt_iff _).mpr (TreeBuild.syncml_normal_elt hk hn), Bool.or_true]
  | .cdata _, _, _, _ => by rw [dataNormal]
  | .tree _ _ _, _, _, _ => by rw [dataNormal]
theorem dataNormalL_of_noData : ∀ (todo : List Node) (n : Name) (a : List Attr) (below : List Frame) (done : List Node),
    (n.xmlName == dataName) = false → noDataXL todo = true → dataNormalL (.elt n a) below done todo = true
  | [], n, a, below, done, _, _ => by rw [dataNormalL_nil]
  | k :: rest, n, a, below, done, hn, h => by
    rw [noDataXL, Bool.and_eq_true] at h
    rw [dataNormalL_cons, Bool.and_eq_true]
    exact ⟨dataNormal_of_noData k _ (fun f r hfr => by injection hfr with h1 _; subst h1; exact ⟨n, a, rfl, hn⟩) h.1,
      dataNormalL_of_noData rest n a below _ hn h.2⟩
end

theorem dataIsNormal_of_noData (n : Node) (h : noDataX n = true) : dataIsNormal n = true :=
  dataNormal_of_noData n [] (fun _ _ h => by cases h) h

end Wbxml.Lemmas.Rt
