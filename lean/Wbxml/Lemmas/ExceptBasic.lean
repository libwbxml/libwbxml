/-
  `Except` and `>>=`: what a successful bind says about its halves. Every inversion of a `do` block
  in the lemma modules goes through `bind_eq_ok`; the other lemmas are its consequences in the forms
  that recur.
-/
namespace Wbxml.Lemmas

theorem bind_eq_ok {ε α β : Type} {m : Except ε α} {k : α → Except ε β} {b : β} (h : m >>= k = .ok b) :
    ∃ a, m = .ok a ∧ k a = .ok b := by
  cases m with
  | error e => cases h
  | ok a => exact ⟨a, rfl, h⟩

theorem ok_bind {ε α β : Type} (a : α) (k : α → Except ε β) : (Except.ok a >>= k) = k a := rfl

theorem bind_pure_eq_ok {ε α β : Type} {m : Except ε α} {g : α → β} {b : β}
    (h : (m >>= fun a => pure (g a)) = .ok b) : ∃ a, m = .ok a ∧ b = g a :=
  let ⟨a, ha, hb⟩ := bind_eq_ok h
  ⟨a, ha, (Except.ok.inj hb).symm⟩

theorem bind_eq_error {ε α β : Type} {m : Except ε α} {k : α → Except ε β} {e : ε} (h : m >>= k = .error e) :
    m = .error e ∨ ∃ a, m = .ok a ∧ k a = .error e := by
  cases m with
  | error e' => cases h; exact Or.inl rfl
  | ok a => exact Or.inr ⟨a, rfl, h⟩

theorem map_bind_eq {ε α β γ : Type} (m : Except ε α) (g : α → β) (k : β → Except ε γ) :
    (m.map g) >>= k = m >>= fun a => k (g a) := by
  cases m <;> rfl

theorem bind_map_eq {ε α β γ : Type} (m : Except ε α) (k : α → Except ε β) (g : β → γ) :
    (m >>= k).map g = m >>= fun a => (k a).map g := by
  cases m <;> rfl

theorem map_eq_ok {ε α β : Type} {m : Except ε α} {g : α → β} {b : β} (h : m.map g = .ok b) : ∃ a, m = .ok a ∧ b = g a := by
  cases m with
  | error e => cases h
  | ok a => cases h; exact ⟨a, rfl, rfl⟩

theorem map_eq_error {ε α β : Type} {m : Except ε α} {g : α → β} {e : ε} (h : m.map g = .error e) : m = .error e := by
  cases m with
  | error e' => cases h; rfl
  | ok a => cases h

end Wbxml.Lemmas
