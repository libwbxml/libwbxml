/-
  C18 lemmas: every call of the API inside `pre` keeps `Inv` and never faults, and every call but
  `wbxml_tree_extract_node` keeps "adjacent text siblings have been merged" (`NoAdjText`); lifted to all
  finite histories by induction over the list of calls.  In front of that: allocation, the bridge from the
  executable precondition `pre` to the ghost-level contexts (`AddCtx`), what keeps `NoAdjText` besides
  `addNode_under` (`NoAdjText.of_sub` … `vdel_all`, `alloc_noadj`, `set_pay_noadj`), and the one post-condition
  `Added` of the calls that add a fresh node (`addFresh_added`, `Added.fill`, `step_added`).
-/
import Wbxml.Lemmas.TreeHeapDestroy
import Wbxml.Lemmas.TreeHeapExtract
namespace Wbxml.Model.TreeHeap
open Wbxml Wbxml.Model

theorem Forest.alloc {s : St} {G : BT} (hF : Forest s G) (p : Pay) :
    Forest (s.alloc p).2 (BT.snoc G (.node s.heap.length .nil .nil)) ∧ s.heap.length ∉ G.ids ∧
    (s.alloc p).2.cellAt s.heap.length = some { pay := p } ∧
    (∀ i, i ≠ s.heap.length → (s.alloc p).2.cellAt i = s.cellAt i) := by
  obtain ⟨_, hv, hr, _, _, _, _⟩ := alloc_view s p
  have hfresh : s.heap.length ∉ G.ids := by
    intro h
    obtain ⟨c, hc⟩ := hF.live h
    exact absurd (cellAt_lt hc) (by omega)
  have hother : ∀ i, i ≠ s.heap.length → (s.alloc p).2.cellAt i = s.cellAt i := by
    intro i hi; rw [hv, vset_ne _ _ hi]
  refine ⟨⟨?_, ?_, ?_, ?_⟩, hfresh, by rw [hv]; simp, hother⟩
  · refine (Loc.top_snoc _ G _ none none).mpr ⟨?_, ⟨{ pay := p }, by rw [hv]; simp, rfl, rfl, rfl, rfl, Or.inr rfl⟩,
      trivial, trivial⟩
    apply Loc.mono G none none _ hF.m
    intro i hi par prv f n l
    exact LinkF.congr (hother i (fun e => hfresh (e ▸ hi))) l
  · apply BT.snoc_nodup _ _ hF.nodup (by simp)
    intro j hj hj2
    simp at hj2
    exact hfresh (hj2 ▸ hj)
  · intro i c hc
    rw [BT.snoc_ids]
    by_cases hi : i = s.heap.length
    · right; simp [hi]
    · rw [hother i hi] at hc; exact Or.inl (hF.cover i c hc)
  · intro r hr'
    rw [BT.tops_snoc]; exact Or.inl (hF.root r hr')

theorem AddCtx.fresh {s : St} {G : BT} (hF : Forest s G) {P : Nat} {cP : Cell} (hcP : s.cellAt P = some cP)
    (hbr : cP.pay.isBranch = true) (p : Pay) :
    AddCtx (s.alloc p).2 G .nil .nil P s.heap.length cP { pay := p } := by
  obtain ⟨hF0, hfresh, hca, hother⟩ := hF.alloc p
  have hPG : P ∈ G.ids := hF.cover P cP hcP
  have hPa : P ≠ s.heap.length := fun e => hfresh (e ▸ hPG)
  refine ⟨hF0, ?_, by rw [BT.snoc_nil]; exact hPG, by rw [hother P hPa]; exact hcP, hbr, hca⟩
  intro h
  exact hfresh (BT.tops_sub _ _ (hF.root _ h))

theorem Forest.free_top {s : St} {T T' : BT} {n : Nat} {cn : Cell} (hF : Forest s (T.snoc (.node n .nil T')))
    (hcn : s.cellAt n = some cn) (hr : s.root ≠ some n) :
    ∃ s', s.free n = .ok s' ∧ Forest s' (T.snoc T') ∧ SameMeta s s' ∧ s'.cellAt = vdelAll s.cellAt [n] := by
  obtain ⟨s', e, v, m⟩ := free_step hcn
  have v' : s'.cellAt = vdelAll s.cellAt [n] := by rw [v]; funext j; simp [vdelAll, vdel]
  exact ⟨s', e, hF.after_destroy v' m.1 hr, m, v'⟩

theorem parentOK_some {s : St} {P : Nat} (h : parentOK s (some P) = true) :
    ∃ cP, s.cellAt P = some cP ∧ cP.pay.isBranch = true := by
  unfold parentOK at h
  cases hc : s.cellAt P with
  | none => simp [hc] at h
  | some c => simp [hc] at h; exact ⟨c, rfl, h⟩

theorem isDetached_spec {s : St} {n : Nat} (h : isDetached s n = true) :
    ∃ cn, s.cellAt n = some cn ∧ cn.parent = none ∧ cn.next = none ∧ cn.prev = none ∧ s.root ≠ some n := by
  unfold isDetached at h
  cases hc : s.cellAt n with
  | none => simp [hc] at h
  | some c =>
    simp only [hc, Bool.and_eq_true, Option.isNone_iff_eq_none, bne_iff_ne, ne_eq] at h
    exact ⟨c, rfl, h.1.1.1, h.1.1.2, h.1.2, h.2⟩

theorem idsList_spec {s : St} : ∀ (t : BT) (par prv : Option Nat) (fuel : Nat),
    Match s.cellAt par prv t → t.size + 1 ≤ fuel → idsList s fuel t.rid = .ok t.ids
  | .nil, _, _, fuel, _, hf => by
    cases fuel with
    | zero => omega
    | succ f => rfl
  | .node i ch nx, par, prv, fuel, ⟨⟨c, hc, _, _, hfi, hnx, _⟩, mc, mn⟩, hf => by
    cases fuel with
    | zero => omega
    | succ f =>
      simp only [BT.size] at hf
      have h1 := idsList_spec ch (some i) none f mc (by omega)
      have h2 := idsList_spec nx par (some i) f mn (by omega)
      simp only [BT.rid_node, idsList, deref_of_cellAt hc, hfi, hnx, h1, h2, BT.ids_node]

theorem below_spec {s : St} {T c T' : BT} {n : Nat} (hF : Forest s (T.snoc (.node n c T'))) :
    below s n = .ok c.ids := by
  obtain ⟨cn, hc, _, _, _, hf, _, hm⟩ := Loc.top_at hF.m
  simp only [below, deref_of_cellAt hc]
  rw [hf]
  apply idsList_spec _ _ _ _ hm
  have := hF.sub_size_lt
  unfold St.fuel
  omega

theorem addCtx_of_pre {s : St} {G : BT} (hF : Forest s G) {P n : Nat}
    (h1 : parentOK s (some P) = true) (h2 : isDetached s n = true) (h3 : notBelow s n (some P) = true) :
    ∃ T C T' cP cn, AddCtx s T C T' P n cP cn := by
  obtain ⟨cP, hcP, hbr⟩ := parentOK_some h1
  obtain ⟨cn, hcn, hp, _, _, hr⟩ := isDetached_spec h2
  obtain ⟨T, C, T', hG⟩ := hF.split_detached hcn hp
  subst hG
  unfold notBelow at h3
  rw [below_spec hF] at h3
  simp only [Bool.and_eq_true, bne_iff_ne, ne_eq, Bool.not_eq_true', List.contains_eq_mem, decide_eq_false_iff_not] at h3
  have hPG := hF.cover P cP hcP
  simp only [BT.snoc_ids_eq, BT.ids_node, List.mem_append, List.mem_cons] at hPG
  refine ⟨T, C, T', cP, cn, hF, hr, ?_, hcP, hbr, hcn⟩
  rw [BT.snoc_ids]
  rcases hPG with h | h | h | h
  · exact Or.inl h
  · exact absurd h h3.1
  · exact absurd h (by simpa using h3.2)
  · exact Or.inr h

/-- … and back: the ghost-level context is inside the executable precondition. -/
theorem AddCtx.pre {s : St} {T C T' : BT} {P n : Nat} {cP cn : Cell} (c : AddCtx s T C T' P n cP cn) :
    pre s (.addNode (some P) n) = true := by
  obtain ⟨h1, h2, h3, _⟩ := c.cn_facts
  have hdet : isDetached s n = true := by
    simp only [isDetached, c.hcn, h1, h2, h3, Option.isNone_none, Bool.and_self, Bool.true_and, bne_iff_ne, ne_eq]
    exact c.hroot
  have hnb : notBelow s n (some P) = true := by
    simp only [notBelow, below_spec c.hF, Bool.and_eq_true, bne_iff_ne, ne_eq, Bool.not_eq_true',
      List.contains_eq_mem, decide_eq_false_iff_not]
    exact ⟨c.kids_facts.ne, by simpa using c.kids_facts.notC⟩
  simp only [Model.TreeHeap.pre, parentOK, c.hcP, c.hbr, hdet, hnb, Bool.and_self]

theorem NoAdjText.of_sub {s s' : St} (hsub : ∀ i c', s'.cellAt i = some c' → s.cellAt i = some c')
    (h : NoAdjText s) : NoAdjText s' := by
  intro i j ci cj hci hnx hcj
  exact h i j ci cj (hsub i ci hci) hnx (hsub j cj hcj)

theorem NoAdjText.of_view_eq {s s' : St} (hv : s'.cellAt = s.cellAt) (h : NoAdjText s) : NoAdjText s' :=
  h.of_sub (fun i c' hc' => by rw [hv] at hc'; exact hc')

theorem NoAdjText.vdel_all {s s' : St} (l : List Nat) (hv : s'.cellAt = vdelAll s.cellAt l) (h : NoAdjText s) :
    NoAdjText s' :=
  h.of_sub (fun j c' hc' => by
    rw [hv] at hc'
    simp only [vdelAll] at hc'
    by_cases hj : j ∈ l
    · simp [hj] at hc'
    · simpa [hj] using hc')

/-- A fresh node has no siblings, and nobody points to it. -/
theorem alloc_noadj {s : St} (hI : Inv s) (h : NoAdjText s) (p : Pay) : NoAdjText (s.alloc p).2 := by
  obtain ⟨_, hv, _⟩ := alloc_view s p
  intro i j ci cj hci hnx hcj
  rw [hv] at hci hcj
  by_cases hia : i = s.heap.length
  · subst hia
    simp only [vset_self, Option.some.injEq] at hci; subst hci
    cases hnx
  · rw [vset_ne _ _ hia] at hci
    by_cases hja : j = s.heap.length
    · -- an old cell pointing to the fresh address: impossible, its next sibling would be live
      obtain ⟨cj', hcj', _⟩ := (hI.links i ci hci).2.1 _ hnx
      exact absurd (cellAt_lt hcj') (by omega)
    · rw [vset_ne _ _ hja] at hcj
      exact h i j ci cj hci hnx hcj

theorem set_pay_noadj {s s' : St} {a : Nat} {c : Cell} (hc : s.cellAt a = some c) (c' : Cell)
    (hv : s'.cellAt = vset s.cellAt a c') (hn : c'.next = c.next) (ht : c'.pay.isText = c.pay.isText)
    (h : NoAdjText s) : NoAdjText s' := by
  intro i j ci cj hci hnx hcj
  rw [hv] at hci hcj
  have get : ∀ x cx, vset s.cellAt a c' x = some cx →
      ∃ cx0, s.cellAt x = some cx0 ∧ cx0.next = cx.next ∧ cx0.pay.isText = cx.pay.isText := by
    intro x cx hx
    by_cases hxa : x = a
    · subst hxa
      simp only [vset_self, Option.some.injEq] at hx; subst hx
      exact ⟨c, hc, hn.symm, ht.symm⟩
    · rw [vset_ne _ _ hxa] at hx; exact ⟨cx, hx, rfl, rfl⟩
  obtain ⟨ci0, h1, h2, h3⟩ := get i ci hci
  obtain ⟨cj0, h4, _, h6⟩ := get j cj hcj
  rw [← h3, ← h6]
  exact h i j ci0 cj0 h1 (by rw [h2]; exact hnx) h4

/-- A call changes neither `tree->lang` nor the charset: besides `Inv`, this is what a history needs from
    its earlier calls (the XML calls read `tree->lang`; `absTree` reports both). -/
def Keeps (s s' : St) : Prop := s'.lang = s.lang ∧ s'.charset = s.charset

theorem Keeps.refl (s : St) : Keeps s s := ⟨rfl, rfl⟩
theorem Keeps.trans {a b c : St} (h1 : Keeps a b) (h2 : Keeps b c) : Keeps a c :=
  ⟨h2.1.trans h1.1, h2.2.trans h1.2⟩
theorem SameMeta.keeps {s s' : St} (h : SameMeta s s') : Keeps s s' := ⟨h.2.1, h.2.2.1⟩

theorem inv_create (main : List Lang) (lang cs : Nat) : Inv (create main lang cs) :=
  ⟨.nil, Forest.empty rfl rfl⟩

theorem addFresh_unfold (s : St) (parent : Option Nat) (p : Pay) :
    addFresh s parent p =
      (match addNode (s.alloc p).2 parent s.heap.length with
       | .error e => .error e
       | .ok (ok, s1) =>
         if ok = true then .ok (some s.heap.length, s1)
         else match s1.free s.heap.length with
           | .error e => .error e
           | .ok s2 => .ok (none, s2)) := by
  have hfst : (s.alloc p).1 = s.heap.length := rfl
  simp only [addFresh, bind, Except.bind, pure, Except.pure, hfst]
  cases addNode (s.alloc p).2 parent s.heap.length with
  | error e => rfl
  | ok v =>
    obtain ⟨ok, s1⟩ := v
    cases ok with
    | false => simp; cases s1.free s.heap.length <;> rfl
    | true => simp

/-- The `wbxml_tree_add_*` functions all have the form "node or NULL, state". -/
theorem wrapN_ok {f : Except Err (Option Nat × St)} {r : Ret} {s' : St}
    (e : wrapN f = .ok (r, s')) : ∃ n, f = .ok (n, s') := by
  unfold wrapN at e
  split at e
  · cases e
  · next n s1 => cases e; exact ⟨n, rfl⟩

theorem stepChecked_of {s : St} {op : Op} (hpre : pre s op = true) {x : Ret × St} (h : step s op = .ok x) :
    stepChecked s op = .ok x := by
  unfold stepChecked; rw [if_pos hpre]; exact h

theorem run_cons {s s1 : St} {op : Op} {r : Ret} (rest : List Op) (h : stepChecked s op = .ok (r, s1)) :
    run s (op :: rest) = run s1 rest := by simp only [run, h]

theorem parentOK_curPage (s : St) (page : Nat) (p : Option Nat) :
    parentOK { s with curPage := page } p = parentOK s p := rfl

theorem setPay_spec {s : St} {G : BT} (hF : Forest s G) {a : Nat} {c : Cell} (hc : s.cellAt a = some c)
    (g : Pay → Pay) (hb : (g c.pay).isBranch = c.pay.isBranch) (ht : (g c.pay).isText = c.pay.isText) :
    ∃ s', s.upd a (fun c => { c with pay := g c.pay }) = .ok s' ∧ Forest s' G ∧ SameMeta s s' ∧
      s'.cellAt = vset s.cellAt a { c with pay := g c.pay } ∧ (NoAdjText s → NoAdjText s') := by
  obtain ⟨s', e, v, m⟩ := upd_step hc (fun c => { c with pay := g c.pay }) (fun _ => rfl)
  refine ⟨s', e, hF.of_perm [] ?_ (List.Perm.refl _) (fun i ci hci => ⟨by
      rw [v] at hci
      by_cases hia : i = a
      · exact ⟨c, hia ▸ hc⟩
      · rw [vset_ne _ _ hia] at hci; exact ⟨ci, hci⟩, by simp⟩)
    (fun r hr => hF.root r (m.1 ▸ hr)), m, v, set_pay_noadj hc _ v rfl ht⟩
  -- the links of the cell are those it had
  apply Loc.mono G none none _ hF.m
  intro i hi par prv fi n l
  by_cases hia : i = a
  · subst hia
    refine LinkF.imp (fun _ _ _ ⟨c', hc', h1, h2, h3, h4, h5⟩ => ?_) l
    cases hc.symm.trans hc'
    exact ⟨{ c with pay := g c.pay }, by rw [v]; simp, h1, h2, h3, h4,
      by show (g c.pay).isBranch = true ∨ _; rw [hb]; exact h5⟩
  · exact LinkF.congr (by rw [v, vset_ne _ _ hia]) l

/-- `s' , G'` is `s, G` after a fresh node with payload `p` was offered to `parent`; `r` is the call's answer. -/
structure Added (s : St) (G : BT) (parent : Option Nat) (p : Pay) (r : Option Nat) (s' : St) (G' : BT) : Prop where
  forest : Forest s' G'
  keeps : Keeps s s'
  noadj : NoAdjText s → NoAdjText s'
  cell : ∀ a, r = some a → ∃ c, s'.cellAt a = some c ∧ c.pay.isBranch = p.isBranch
  /-- under a parent: never refused; the chain below `P` becomes `K'`, abstractly `addKid`. -/
  under : ∀ P, parent = some P → r = some s.heap.length ∧ ∃ K', G' = BT.setKids P K' G ∧
    s'.root = s.root ∧ s'.heap.length = s.heap.length + 1 ∧ s.heap.length ∉ G.ids ∧
    absBT s'.cellAt K' = addKid (absBT s.cellAt (BT.kidsOf P G)) (mkNode p []) ∧
    (∀ j, j ∈ G.ids → j ∉ (BT.kidsOf P G).ids → payOf s'.cellAt j = payOf s.cellAt j) ∧
    (p.isText = false → K' = BT.snoc (BT.kidsOf P G) (.node s.heap.length .nil .nil) ∧
       payOf s'.cellAt s.heap.length = p ∧ ∀ j, j ≠ s.heap.length → payOf s'.cellAt j = payOf s.cellAt j)
  /-- as the root: taken iff there is none. -/
  top : parent = none → (s.root ≠ none → r = none) ∧
    (s.root = none → r = some s.heap.length ∧ G' = BT.snoc G (.node s.heap.length .nil .nil) ∧
      s'.root = some s.heap.length ∧ s'.heap.length = s.heap.length + 1 ∧ payOf s'.cellAt s.heap.length = p)

/-- `alloc`, `addNode`, `free` on refusal: the one place where `addNode_under` / `addNode_root` meet `alloc`. -/
theorem addFresh_added {s : St} {G : BT} (hF : Forest s G) (parent : Option Nat) (p : Pay)
    (hpar : parentOK s parent = true) :
    ∃ r s' G', addFresh s parent p = .ok (r, s') ∧ Added s G parent p r s' G' := by
  have hI : Inv s := ⟨G, hF⟩
  obtain ⟨hF0, hfresh, hca, hother⟩ := hF.alloc p
  obtain ⟨ha1, hv0, hr0, hl0, hc0, hp0, hlen0⟩ := alloc_view s p
  have hpay0 : ∀ j, j ≠ s.heap.length → payOf (s.alloc p).2.cellAt j = payOf s.cellAt j := by
    intro j hj; simp only [payOf, hother j hj]
  cases parent with
  | none =>
    have hroot : (s.alloc p).2.root ≠ some s.heap.length := by
      rw [hr0]; intro h
      exact hfresh (BT.tops_sub _ _ (hF.root _ h))
    obtain ⟨b, s1, e1, hF1, hv1, hl1, hc1, hlen1, hb1, hb2⟩ := addNode_root hF0 hca (by rfl)
    cases b with
    | true =>
      -- taken as the root
      obtain ⟨hr, hr1⟩ := hb1 rfl
      refine ⟨some s.heap.length, s1, _, by rw [addFresh_unfold, e1]; simp,
        hF1, ⟨hl1.trans hl0, hc1.trans hc0⟩, fun h => (alloc_noadj hI h p).of_view_eq hv1, ?_,
        (fun P h => by cases h), fun _ => ⟨fun h => absurd hr h, fun _ => ⟨rfl, rfl, hr1, hlen1.trans hlen0, ?_⟩⟩⟩
      · intro a ha; cases ha
        exact ⟨_, by rw [hv1]; exact hca, rfl⟩
      · simp only [payOf, hv1, hca]
    | false =>
      -- refused (there is a root): the fresh node is destroyed again, the shape is the old one
      obtain ⟨hr1, hr⟩ := hb2 rfl
      have hroot1 : s1.root ≠ some s.heap.length := by rw [hr1]; exact hroot
      obtain ⟨s2, e2, hF2, m2, hv2⟩ := hF1.free_top (by rw [hv1]; exact hca) hroot1
      rw [BT.snoc_nil] at hF2
      refine ⟨none, s2, _, ?_, hF2,
        ⟨(m2.2.1.trans hl1).trans hl0, (m2.2.2.1.trans hc1).trans hc0⟩,
        fun h => ((alloc_noadj hI h p).of_view_eq hv1).vdel_all _ hv2, (by intro a ha; cases ha),
        (fun P h => by cases h), fun _ => ⟨fun _ => rfl, fun h => absurd h hr⟩⟩
      rw [addFresh_unfold, e1]
      simp only [Bool.false_eq_true, if_false, e2]
  | some P =>
    -- under a parent: never refused; everything is `addNode_under` for the fresh detached top
    obtain ⟨cP, hcP, hbr⟩ := parentOK_some hpar
    have habs0 : absBT (s.alloc p).2.cellAt (BT.kidsOf P G) = absBT s.cellAt (BT.kidsOf P G) :=
      absBT_frame _ (fun j hj => hpay0 j (fun e => hfresh (e ▸ BT.kidsOf_mem P G j hj)))
    obtain ⟨s', K', h1, m, h3, _, hcell, habs, hfr, hnm, hna⟩ := addNode_under (AddCtx.fresh hF hcP hbr p)
    rw [BT.snoc_nil] at h3 habs hfr hnm
    refine ⟨some s.heap.length, s', _, by rw [addFresh_unfold, h1]; simp,
      h3, ⟨m.2.1.trans hl0, m.2.2.1.trans hc0⟩, fun h => hna (alloc_noadj hI h p),
      fun a ha => by cases ha; exact hcell, ?_, fun h => by cases h⟩
    intro P' hP'; cases hP'
    refine ⟨rfl, K', rfl, m.1.trans hr0, m.2.2.2.2.trans hlen0, hfresh, by rw [habs, habs0]; rfl, ?_, ?_⟩
    · intro j hj hjK
      have hjn : j ≠ s.heap.length := fun e => hfresh (e ▸ hj)
      rw [hfr j hjn hjK, hpay0 j hjn]
    · intro ht
      obtain ⟨e1, e2, e3⟩ := hnm (fun _ _ _ _ => by simp [ht])
      exact ⟨e1, e2, fun j hj => by rw [e3 j hj, hpay0 j hj]⟩

/-- Nothing in `Added` reads `tree->cur_code_page`. -/
theorem Added.of_curPage {s : St} {G : BT} {parent : Option Nat} {p : Pay} {r : Option Nat} {s' : St} {G' : BT}
    {page : Nat} (h : Added { s with curPage := page } G parent p r s' G') : Added s G parent p r s' G' :=
  ⟨h.forest, h.keeps, fun hn => h.noadj (hn.of_view_eq rfl), h.cell, h.under, h.top⟩

/-- The composition rule: the payload of the new node replaced by one of the same kind (attributes, nested tree). -/
theorem Added.fill {s : St} {G : BT} {parent : Option Nat} {p : Pay} {a : Nat} {s1 : St} {G1 : BT}
    (h : Added s G parent p (some a) s1 G1) (g : Pay → Pay) (hnt : p.isText = false)
    (hb : (g p).isBranch = p.isBranch) (ht : (g p).isText = p.isText) :
    ∃ s2, s1.upd a (fun c => { c with pay := g c.pay }) = .ok s2 ∧ Added s G parent (g p) (some a) s2 G1 := by
  obtain ⟨c, hc, _⟩ := h.cell a rfl
  -- the new node is at `s.heap.length` and, not being text, still carries `p`
  have hap : a = s.heap.length ∧ payOf s1.cellAt a = p := by
    cases parent with
    | some P =>
      obtain ⟨hr, K', _, _, _, _, _, _, hn⟩ := h.under P rfl
      cases hr; exact ⟨rfl, (hn hnt).2.1⟩
    | none =>
      have hr : s.root = none := Classical.byContradiction fun hne => by cases (h.top rfl).1 hne
      obtain ⟨hr', _, _, _, hp⟩ := (h.top rfl).2 hr
      cases hr'; exact ⟨rfl, hp⟩
  obtain ⟨ha, hpay⟩ := hap
  have hcp : c.pay = p := by simpa only [payOf, hc] using hpay
  obtain ⟨s2, e, hF2, m, v, hna⟩ := setPay_spec h.forest hc g (by rw [hcp]; exact hb) (by rw [hcp]; exact ht)
  have hself : payOf s2.cellAt a = g p := by rw [v, payOf_vset_self, hcp]
  have hoth : ∀ j, j ≠ a → payOf s2.cellAt j = payOf s1.cellAt j := fun j hj => by rw [v, payOf_vset_ne _ _ hj]
  have hgt : (g p).isText = false := ht.trans hnt
  refine ⟨s2, e, hF2, h.keeps.trans m.keeps, fun hn => hna (h.noadj hn), ?_, ?_, ?_⟩
  · intro a' ha'; cases ha'
    exact ⟨{ c with pay := g p }, by rw [v, vset_self, hcp], rfl⟩
  · intro P hP
    obtain ⟨hr, K', hG, h1, h2, h3, _, h5, hn⟩ := h.under P hP
    obtain ⟨hK, _, ho⟩ := hn hnt
    have hkid : ∀ j, j ∈ (BT.kidsOf P G).ids → j ≠ a := fun j hj e => h3 (ha ▸ e ▸ BT.kidsOf_mem P G j hj)
    refine ⟨hr, K', hG, m.1.trans h1, m.2.2.2.2.trans h2, h3, ?_,
      fun j hj hjK => by rw [hoth j (fun e => h3 (ha ▸ e ▸ hj)), h5 j hj hjK],
      fun _ => ⟨hK, ha ▸ hself, fun j hj => by rw [hoth j (ha ▸ hj), ho j hj]⟩⟩
    have hadd : ∀ ks, addKid ks (mkNode (g p) []) = ks ++ [mkNode (g p) []] := by
      intro ks
      cases hg : g p with
      | text t => rw [hg] at hgt; cases hgt
      | _ => rfl
    have eK : absBT s2.cellAt (BT.kidsOf P G) = absBT s.cellAt (BT.kidsOf P G) :=
      absBT_frame _ (fun j hj => by rw [hoth j (hkid j hj), ho j (ha ▸ hkid j hj)])
    rw [hK, absBT_snoc, hadd, eK]
    simp only [absBT, ← ha, hself]
  · intro hP
    refine ⟨fun hne => (by cases (h.top hP).1 hne), fun hr => ?_⟩
    obtain ⟨hr', hG, h1, h2, _⟩ := (h.top hP).2 hr
    exact ⟨hr', hG, m.1.trans h1, m.2.2.2.2.trans h2, ha ▸ hself⟩

/-- A refusal says nothing of the payload. -/
theorem Added.refused {s : St} {G : BT} {parent : Option Nat} {p : Pay} {s' : St} {G' : BT}
    (h : Added s G parent p none s' G') (p' : Pay) : Added s G parent p' none s' G' :=
  ⟨h.forest, h.keeps, h.noadj, fun a ha => (by cases ha), fun P hP => (by cases (h.under P hP).1),
    fun hP => ⟨(h.top hP).1, fun hr => (by cases ((h.top hP).2 hr).1)⟩⟩

/-- An element call followed by `wbxml_tree_node_add_attrs` on the new node (skipped for an empty list). -/
theorem withAttrs_added {s s1 : St} {G G1 : BT} {parent r : Option Nat} {name : Name}
    (h : Added s G parent (.elt name []) r s1 G1) (attrs : List Attr) :
    ∃ s', (match r with
        | none => (pure (none, s1) : Except Err (Option Nat × St))
        | some n =>
          if attrs.isEmpty = true then pure (some n, s1)
          else do
            let s2 ← addAttrs s1 n attrs
            pure (some n, s2)) = .ok (r, s') ∧
      Added s G parent (.elt name attrs) r s' G1 := by
  cases r with
  | none => exact ⟨s1, rfl, h.refused _⟩
  | some a =>
    by_cases hemp : attrs.isEmpty = true
    · have ha : attrs = [] := by simpa using hemp
      subst ha
      exact ⟨s1, rfl, h⟩
    · obtain ⟨s2, e2, h2⟩ := h.fill (fun q => q.addAttrs attrs) rfl rfl rfl
      exact ⟨s2, by simp only [hemp, if_false, addAttrs, e2, bind, Except.bind, pure, Except.pure, Bool.false_eq_true],
        h2⟩

/-- `wbxml_tree_add_xml_elt_with_attrs`. -/
theorem addXmlEltWithAttrs_added {s : St} {G : BT} (hF : Forest s G) {L : Lang} (hl : s.lang = some L)
    (parent : Option Nat) (name : Bytes) (attrs : List (Bytes × Bytes)) (hpar : parentOK s parent = true) :
    ∃ r s' G', addXmlEltWithAttrs s parent name attrs = .ok (r, s') ∧
      Added s G parent (.elt (xmlEltName L name).1 (attrs.map (xmlAttr L))) r s' G' := by
  have hF0 : Forest { s with curPage := (xmlEltName L name).2 } G :=
    hF.of_view_eq rfl (fun r hr => hF.root r hr)
  obtain ⟨r, s1, G1, e1, h1⟩ := addFresh_added hF0 parent (.elt (xmlEltName L name).1 []) hpar
  obtain ⟨s2, e2, h2⟩ := withAttrs_added h1 (attrs.map (xmlAttr L))
  refine ⟨r, s2, G1, ?_, h2.of_curPage⟩
  have hl1 : s1.lang = some L := by rw [h1.keeps.1]; exact hl
  simp only [List.isEmpty_map] at e2
  simp only [hl] at e1
  simp only [addXmlEltWithAttrs, addXmlElt, hl, e1, bind, Except.bind, hl1]
  cases r <;> exact e2

/-- The payload of the node a `wbxml_tree_add_*` call creates, and the parent it is offered to (the two-node call
    `…_with_attrs_and_text` and the calls on existing nodes aside). -/
def Op.adds (lang : Option Lang) : Op → Option (Option Nat × Pay)
  | .addElt p n => some (p, .elt n [])
  | .addEltAttrs p n a => some (p, .elt n a)
  | .addXmlElt p n => lang.map fun L => (p, .elt (xmlEltName L n).1 [])
  | .addXmlEltAttrs p n a => lang.map fun L => (p, .elt (xmlEltName L n).1 (a.map (xmlAttr L)))
  | .addText p t => some (p, .text t)
  | .addCdata p => some (p, .cdata)
  | .addTree p t => some (p, .tree t.lang t.origCharset t.root)
  | _ => none

/-- Every such call is `Added` with its payload. -/
theorem step_added {s : St} {G : BT} (hF : Forest s G) {op : Op} (hpre : pre s op = true) {parent : Option Nat}
    {p : Pay} (h : op.adds s.lang = some (parent, p)) :
    ∃ r s' G', step s op = .ok (.node r, s') ∧ Added s G parent p r s' G' := by
  cases op with
  | addElt q n =>
    cases h
    obtain ⟨r, s', G', e, hA⟩ := addFresh_added hF parent (.elt n []) hpre
    exact ⟨r, s', G', by simp only [step, addElt, e, wrapN], hA⟩
  | addText q t =>
    cases h
    obtain ⟨r, s', G', e, hA⟩ := addFresh_added hF parent (.text t) hpre
    exact ⟨r, s', G', by simp only [step, addText, e, wrapN], hA⟩
  | addCdata q =>
    cases h
    obtain ⟨r, s', G', e, hA⟩ := addFresh_added hF parent .cdata hpre
    exact ⟨r, s', G', by simp only [step, addCdata, e, wrapN], hA⟩
  | addEltAttrs q n a =>
    cases h
    obtain ⟨r, s1, G1, e, hA⟩ := addFresh_added hF parent (.elt n []) hpre
    obtain ⟨s', e2, hA2⟩ := withAttrs_added hA a
    have e' : addEltWithAttrs s parent n a = .ok (r, s') := by
      simp only [addEltWithAttrs, addElt, e, bind, Except.bind]; exact e2
    exact ⟨r, s', G1, by simp only [step, e', wrapN], hA2⟩
  | addTree q t =>
    cases h
    obtain ⟨r, s1, G1, e, hA⟩ := addFresh_added hF parent (.tree none 0 none) hpre
    cases r with
    | none =>
      exact ⟨none, s1, G1, by simp only [step, addTree, e, bind, Except.bind, pure, Except.pure, wrapN], hA.refused _⟩
    | some a =>
      obtain ⟨s2, e2, hA2⟩ := hA.fill (fun _ => .tree t.lang t.origCharset t.root) rfl rfl rfl
      exact ⟨some a, s2, G1, by simp only [step, addTree, e, bind, Except.bind, pure, Except.pure, e2, wrapN], hA2⟩
  | addXmlElt q n =>
    simp only [pre, Bool.and_eq_true, Option.isSome_iff_exists] at hpre
    obtain ⟨hpar, L, hl⟩ := hpre
    rw [hl] at h; cases h
    have hF0 : Forest { s with curPage := (xmlEltName L n).2 } G := hF.of_view_eq rfl (fun r hr => hF.root r hr)
    obtain ⟨r, s', G', e, hA⟩ := addFresh_added hF0 parent (.elt (xmlEltName L n).1 []) hpar
    simp only [hl] at e
    exact ⟨r, s', G', by simp only [step, addXmlElt, hl, e, wrapN], hA.of_curPage⟩
  | addXmlEltAttrs q n a =>
    simp only [pre, Bool.and_eq_true, Option.isSome_iff_exists] at hpre
    obtain ⟨hpar, L, hl⟩ := hpre
    rw [hl] at h; cases h
    obtain ⟨r, s', G', e, hA⟩ := addXmlEltWithAttrs_added hF hl parent n a hpar
    exact ⟨r, s', G', by simp only [step, e, wrapN], hA⟩
  | _ => cases h

theorem step_inv {s : St} (hI : Inv s) (op : Op) (hpre : pre s op = true) :
    ∃ r s', step s op = .ok (r, s') ∧ Inv s' ∧ Keeps s s' ∧
      (op.isExtract = false → NoAdjText s → NoAdjText s') := by
  -- the calls that add one fresh node are `step_added`
  obtain ⟨G, hF⟩ := hI
  cases hadds : op.adds s.lang with
  | some pp =>
    obtain ⟨r, s', G', e, hA⟩ := step_added hF hpre (parent := pp.1) (p := pp.2) hadds
    exact ⟨_, s', e, ⟨G', hA.forest⟩, hA.keeps, fun _ => hA.noadj⟩
  | none =>
  cases op with
  | addXmlEltAttrsText p name attrs text =>
    simp only [pre, Bool.and_eq_true, Option.isSome_iff_exists] at hpre
    obtain ⟨hpar, lang, hl⟩ := hpre
    obtain ⟨r, s2, G2, e2, h2⟩ := addXmlEltWithAttrs_added hF hl p name attrs hpar
    cases r with
    | none =>
      exact ⟨.node none, s2, by
        simp only [step, addXmlEltWithAttrsAndText, e2, bind, Except.bind, pure, Except.pure, wrapN],
        ⟨G2, h2.forest⟩, h2.keeps, fun _ => h2.noadj⟩
    | some a =>
      by_cases htx : text.isEmpty = true
      · exact ⟨.node (some a), s2, by
          simp only [step, addXmlEltWithAttrsAndText, e2, bind, Except.bind, pure, Except.pure, htx, if_true, wrapN],
          ⟨G2, h2.forest⟩, h2.keeps, fun _ => h2.noadj⟩
      · obtain ⟨c2, hc2, hb2⟩ := h2.cell a rfl
        have hpar2 : parentOK s2 (some a) = true := by
          simp only [parentOK, hc2, hb2]; rfl
        obtain ⟨r3, s3, G3, e3, h3⟩ := addFresh_added h2.forest (some a) (.text text) hpar2
        exact ⟨.node (some a), s3, by
          simp only [step, addXmlEltWithAttrsAndText, e2, bind, Except.bind, pure, Except.pure, htx, if_false,
            addText, e3, wrapN, Bool.false_eq_true],
          ⟨G3, h3.forest⟩, h2.keeps.trans h3.keeps, fun _ h => h3.noadj (h2.noadj h)⟩
  | addNode p n =>
    simp only [pre, Bool.and_eq_true] at hpre
    obtain ⟨⟨h1, h2⟩, h3⟩ := hpre
    cases p with
    | none =>
      obtain ⟨cn, hcn, hp, _, _, _⟩ := isDetached_spec h2
      obtain ⟨b, s', e, hF', hv, hl, hc, _⟩ := addNode_root hF hcn hp
      exact ⟨.bool b, s', by simp only [step, e], ⟨G, hF'⟩, ⟨hl, hc⟩, fun _ h => h.of_view_eq hv⟩
    | some P =>
      obtain ⟨T, C, T', cP, cn, ctx⟩ := addCtx_of_pre hF h1 h2 h3
      obtain ⟨s', K', h⟩ := addNode_under ctx
      exact ⟨.bool true, s', by simp only [step, h.ok], ⟨_, h.forest⟩, h.sameMeta.keeps, fun _ => h.noAdj⟩
  | extract n =>
    simp only [pre, Option.isSome_iff_exists] at hpre
    obtain ⟨cn, hcn⟩ := hpre
    cases hp : cn.parent with
    | none =>
      obtain ⟨s', e, hF', _, _, hl, hc⟩ := extract_top hF hcn hp
      exact ⟨.code 0, s', by simp only [step, e], ⟨G, hF'⟩, ⟨hl, hc⟩, by intro h; cases h⟩
    | some P =>
      obtain ⟨cP, A, c, B, x⟩ := hF.cutCtx hcn hp
      obtain ⟨s', e, h⟩ := extract_cut x hp
      exact ⟨.code 0, s', by simp only [step, e], ⟨_, h.forest x⟩, h.sameMeta.keeps, by intro h; cases h⟩
  | destroy n =>
    simp only [pre] at hpre
    obtain ⟨cn, hcn, hp, _, _, hr⟩ := isDetached_spec hpre
    obtain ⟨T, c, T', hG⟩ := hF.split_detached hcn hp
    subst hG
    obtain ⟨s', e, hv, m⟩ := destroyAll_spec hF
    exact ⟨.unit, s', by simp only [step, e], ⟨_, hF.after_destroy hv m.1 hr⟩, m.keeps,
      fun _ h => h.vdel_all _ hv⟩
  -- `pre` gives a language, so `Op.adds` answers `some` for the two XML calls; the others it always answers
  | addXmlElt p name =>
    simp only [pre, Bool.and_eq_true, Option.isSome_iff_exists] at hpre
    obtain ⟨_, lang, hl⟩ := hpre
    simp [Op.adds, hl] at hadds
  | addXmlEltAttrs p name attrs =>
    simp only [pre, Bool.and_eq_true, Option.isSome_iff_exists] at hpre
    obtain ⟨_, lang, hl⟩ := hpre
    simp [Op.adds, hl] at hadds
  | _ => cases hadds

theorem inv_of_step {s : St} (hI : Inv s) (op : Op) (hpre : pre s op = true) {f : Except Err (Option Nat × St)}
    (hf : step s op = wrapN f) : ∃ r s', f = .ok (r, s') ∧ Inv s' := by
  obtain ⟨r, s', e, hI', _, _⟩ := step_inv hI op hpre
  obtain ⟨n, hn⟩ := wrapN_ok (hf ▸ e)
  exact ⟨n, s', hn, hI'⟩

theorem stepChecked_inv {s : St} (hI : Inv s) (op : Op) :
    ∃ r s', stepChecked s op = .ok (r, s') ∧ Inv s' ∧ Keeps s s' ∧
      (op.isExtract = false → NoAdjText s → NoAdjText s') := by
  unfold stepChecked
  by_cases hpre : pre s op = true
  · simp only [hpre, if_true]; exact step_inv hI op hpre
  · simp only [hpre, if_false, Bool.false_eq_true]; exact ⟨.skipped, s, rfl, hI, Keeps.refl s, fun _ h => h⟩

/-- All finite histories: no fault, no fuel exhaustion, the invariant holds at the end (and, the
    statement being about every prefix too, after every call); without extraction, adjacent text
    siblings stay merged. -/
theorem run_inv : ∀ (ops : List Op) (s : St), Inv s → ∃ s', run s ops = .ok s' ∧ Inv s' ∧ Keeps s s' ∧
    ((∀ op, op ∈ ops → op.isExtract = false) → NoAdjText s → NoAdjText s')
  | [], s, hI => ⟨s, rfl, hI, Keeps.refl s, fun _ h => h⟩
  | op :: rest, s, hI => by
    obtain ⟨r, s1, e1, hI1, k1, n1⟩ := stepChecked_inv hI op
    obtain ⟨s2, e2, hI2, k2, n2⟩ := run_inv rest s1 hI1
    refine ⟨s2, by simp only [run, e1, e2], hI2, k1.trans k2, ?_⟩
    intro hall h
    exact n2 (fun o ho => hall o (by simp [ho])) (n1 (hall op (by simp)) h)

end Wbxml.Model.TreeHeap
