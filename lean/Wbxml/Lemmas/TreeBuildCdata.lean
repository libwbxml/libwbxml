/-
  The CDATA invariants of the WBXML-side tree builder (`Model/Tree.lean`), read off `TreeBuild.Step`, used by
  `Props/C05.lean`:
    * the builder never puts a CDATA frame directly on a CDATA frame (`stackOk`); both stack invariants are
      instances of `buildStep_kinds`;
    * since fix eb6f4c7 (`wbxml_tree_clb_wbxml_start_element` leaves a current CDATA node first): a CDATA
      frame is only ever the top of the stack, on an element frame (`cdataOnlyOnTop`), and no CDATA
      node of the built tree has an element or CDATA child (`Node.noMarkupInCdata`, `CdInv`,
      `treeOfWbxml_noMarkup`).
  The namespace is `Wbxml.Lemmas.XmlPrint`, that of the file these facts shared with the printer's; the
  predicates on built trees `Node.isCharData`, `Node.noMarkupInCdata` / `noMarkupInCdataL` and
  `Tree.noMarkupInCdata` are defined here, in `Wbxml.Model` for the dot notation.
-/
import Wbxml.Lemmas.TreeBuildBasic
namespace Wbxml.Lemmas.XmlPrint
open Wbxml Wbxml.Model

def isCdataKind : FrameKind → Bool
  | .cdata => true
  | _ => false

/-- No CDATA frame sits directly on a CDATA frame. -/
def kindsOk : List FrameKind → Bool
  | a :: b :: rest => !(isCdataKind a && isCdataKind b) && kindsOk (b :: rest)
  | _ => true

def stackOk (b : BState) : Bool := kindsOk (b.stack.map (·.kind))

def allEltKinds (l : List FrameKind) : Bool := l.all (fun k => !isCdataKind k)

/-- A CDATA frame occurs only as the top of the stack (innermost first), and then the frames
    below it are element frames, at least one. -/
def cdataTopKinds : List FrameKind → Bool
  | [] => true
  | .elt _ _ :: r => allEltKinds r
  | .cdata :: r => !r.isEmpty && allEltKinds r

def cdataOnlyOnTop (b : BState) : Bool := cdataTopKinds (b.stack.map (·.kind))

/-- The frame kinds after `BState.leaveCdata`. -/
def leaveKinds : List FrameKind → List FrameKind
  | .cdata :: g :: rest => g :: rest
  | l => l

theorem attach_kinds (b : BState) (n : Node) : (b.attach n).stack.map (·.kind) = b.stack.map (·.kind) := by
  unfold BState.attach
  split
  · rename_i f rest h; simp [h]
  · split <;> simp_all

theorem leaveCdata_kinds (b : BState) :
    b.leaveCdata.stack.map (·.kind) = leaveKinds (b.stack.map (·.kind)) := by
  unfold BState.leaveCdata
  split
  · rename_i f g rest hs
    split
    · rename_i hk; simp [hs, hk, leaveKinds]
    · rename_i n a hk; simp [hs, hk, leaveKinds]
  · rename_i hne
    cases hs : b.stack with
    | nil => rfl
    | cons f r =>
      cases r with
      | nil => cases hk : f.kind <;> simp [hk, leaveKinds]
      | cons g r' => exact absurd hs (hne f g r')

theorem kindsOk_tail (a : FrameKind) (l : List FrameKind) (h : kindsOk (a :: l) = true) : kindsOk l = true := by
  cases l with
  | nil => rfl
  | cons b r => simp only [kindsOk, Bool.and_eq_true] at h; exact h.2

theorem kindsOk_push_elt (n : Name) (a : List Attr) (l : List FrameKind) (h : kindsOk l = true) :
    kindsOk (.elt n a :: l) = true := by
  cases l with
  | nil => rfl
  | cons b r => simp [kindsOk, isCdataKind, h]

theorem kindsOk_leave (l : List FrameKind) (h : kindsOk l = true) : kindsOk (leaveKinds l) = true := by
  fun_cases leaveKinds l
  · exact kindsOk_tail _ _ h
  · exact h

theorem pop_kinds (b : BState) : (TreeBuild.pop b).stack.map (·.kind) = (b.stack.map (·.kind)).tail := by
  unfold TreeBuild.pop
  split
  · rename_i f rest hs; rw [attach_kinds, hs]; rfl
  · rename_i hs; rw [hs]; rfl

theorem buildStep_kinds (I : List FrameKind → Prop) (leave : ∀ l, I l → I (leaveKinds l))
    (push : ∀ n a l, I l → I (.elt n a :: leaveKinds l)) (pop : ∀ k l, I (k :: l) → I l)
    (cd : ∀ n a r, I (.elt n a :: r) → I (.cdata :: .elt n a :: r))
    (main : List Lang) (emb : Nat → Bytes → Option Tree) (b : BState) (e : Event)
    (h : I (b.stack.map (·.kind))) : I ((buildStep main emb b e).stack.map (·.kind)) := by
  have hst := TreeBuild.buildStep_step main emb b e
  generalize buildStep main emb b e = b' at hst ⊢
  cases hst with
  | stay => exact h
  | fail => exact h
  | doc => exact h
  | start n a => simp only [TreeBuild.push, List.map_cons]; rw [leaveCdata_kinds]; exact push n a _ h
  | end_ n =>
    rw [pop_kinds, leaveCdata_kinds]
    have hl := leave _ h
    cases hk : leaveKinds (b.stack.map (·.kind)) with
    | nil => rw [hk] at hl; exact hl
    | cons k l => rw [hk] at hl; exact pop k l hl
  | chars s n => rw [attach_kinds]; exact h
  | cdata s _ ho =>
    obtain ⟨_, f, rest, hs, hk⟩ := ho
    rw [attach_kinds]
    simp only [TreeBuild.push, List.map_cons, hs] at h ⊢
    cases hf : f.kind with
    | cdata => exact absurd hf hk
    | elt n a => rw [hf] at h; exact cd n a _ h

theorem buildStep_stackOk (main : List Lang) (emb : Nat → Bytes → Option Tree) (b : BState) (e : Event)
    (h : stackOk b = true) : stackOk (buildStep main emb b e) = true :=
  buildStep_kinds (kindsOk · = true) kindsOk_leave (fun _ _ l hl => kindsOk_push_elt _ _ _ (kindsOk_leave l hl))
    kindsOk_tail (fun _ _ _ hl => hl) main emb b e h

theorem allElt_cdataTop (l : List FrameKind) (h : allEltKinds l = true) : cdataTopKinds l = true := by
  cases l with
  | nil => rfl
  | cons k r =>
    cases k with
    | elt n a => simpa [cdataTopKinds, allEltKinds, isCdataKind] using h
    | cdata => simp [allEltKinds, isCdataKind] at h

theorem cdataTop_tail (k : FrameKind) (r : List FrameKind) (h : cdataTopKinds (k :: r) = true) :
    allEltKinds r = true := by
  cases k with
  | elt n a => exact h
  | cdata => simp only [cdataTopKinds, Bool.and_eq_true] at h; exact h.2

theorem cdataTop_leave (l : List FrameKind) (h : cdataTopKinds l = true) : allEltKinds (leaveKinds l) = true := by
  fun_cases leaveKinds l
  · exact cdataTop_tail _ _ h
  · rename_i hne
    cases l with
    | nil => rfl
    | cons k r =>
      cases k with
      | elt n a => simpa [cdataTopKinds, allEltKinds, isCdataKind] using h
      | cdata =>
        cases r with
        | nil => simp [cdataTopKinds] at h
        | cons g r' => exact absurd rfl (hne g r')

theorem cdataTop_push_cdata (k : FrameKind) (r : List FrameKind) (hk : isCdataKind k = false)
    (h : cdataTopKinds (k :: r) = true) : cdataTopKinds (.cdata :: k :: r) = true := by
  have ht := cdataTop_tail k r h
  simp only [cdataTopKinds, allEltKinds, List.all_cons, hk, List.isEmpty_cons] 
  simpa [allEltKinds] using ht

theorem leaveCdata_allElt (b : BState) (h : cdataOnlyOnTop b = true) :
    allEltKinds (b.leaveCdata.stack.map (·.kind)) = true := by
  rw [leaveCdata_kinds]; exact cdataTop_leave _ h

theorem buildStep_cdataOnlyOnTop (main : List Lang) (emb : Nat → Bytes → Option Tree) (b : BState) (e : Event)
    (h : cdataOnlyOnTop b = true) : cdataOnlyOnTop (buildStep main emb b e) = true :=
  buildStep_kinds (cdataTopKinds · = true) (fun l hl => allElt_cdataTop _ (cdataTop_leave l hl))
    (fun _ _ l hl => cdataTop_leave l hl) (fun k l hl => allElt_cdataTop _ (cdataTop_tail k l hl))
    (fun _ _ r hl => cdataTop_push_cdata _ r rfl hl) main emb b e h

theorem foldl_cdataOnlyOnTop (main : List Lang) (emb : Nat → Bytes → Option Tree) (events : List Event) (b : BState)
    (h : cdataOnlyOnTop b = true) : cdataOnlyOnTop (events.foldl (buildStep main emb) b) = true :=
  List.foldlRecOn (motive := fun b => cdataOnlyOnTop b = true) events _ h fun b hb e _ =>
    buildStep_cdataOnlyOnTop main emb b e hb

theorem cdataOnlyOnTop_iff (b : BState) :
    cdataOnlyOnTop b = true ↔
      (∀ f ∈ b.stack.tail, isCdataKind f.kind = false) ∧ (∀ f, b.stack = [f] → isCdataKind f.kind = false) := by
  unfold cdataOnlyOnTop
  cases hs : b.stack with
  | nil => simp [cdataTopKinds]
  | cons f r =>
    cases hk : f.kind with
    | elt n a =>
      simp only [List.map_cons, hk, cdataTopKinds, allEltKinds, List.all_map, List.all_eq_true, List.tail_cons,
        List.cons.injEq]
      constructor
      · intro h
        refine ⟨fun g hg => by simpa using h g hg, ?_⟩
        rintro g ⟨rfl, _⟩; simp [hk, isCdataKind]
      · intro h g hg; simpa using h.1 g hg
    | cdata =>
      simp only [List.map_cons, hk, cdataTopKinds, allEltKinds, List.all_map, Bool.and_eq_true, List.all_eq_true,
        List.tail_cons, List.cons.injEq]
      constructor
      · rintro ⟨hne, h⟩
        refine ⟨fun g hg => by simpa using h g hg, ?_⟩
        rintro g ⟨rfl, hr⟩
        subst hr; simp at hne
      · intro h
        refine ⟨?_, fun g hg => by simpa using h.1 g hg⟩
        cases r with
        | nil => have := h.2 f ⟨rfl, rfl⟩; simp [hk, isCdataKind] at this
        | cons g r' => simp

theorem cdataOnlyOnTop_count (b : BState) (h : cdataOnlyOnTop b = true) :
    (b.stack.filter (fun f => isCdataKind f.kind)).length ≤ 1 := by
  have hz : ∀ (l : List Frame), allEltKinds (l.map (·.kind)) = true →
      l.filter (fun f => isCdataKind f.kind) = [] := by
    intro l hl
    simp only [allEltKinds, List.all_map, List.all_eq_true] at hl
    rw [List.filter_eq_nil_iff]
    intro f hf
    simpa using hl f hf
  unfold cdataOnlyOnTop at h
  cases hs : b.stack with
  | nil => simp
  | cons f r =>
    rw [hs] at h
    have := hz r (cdataTop_tail _ _ h)
    rw [List.filter_cons]
    split <;> simp [this]

theorem allElt_kindsOk : ∀ (l : List FrameKind), allEltKinds l = true → kindsOk l = true := by
  intro l
  induction l with
  | nil => intro _; rfl
  | cons a r ih =>
    intro ha
    simp only [allEltKinds, List.all_cons, Bool.and_eq_true, Bool.not_eq_true'] at ha
    cases r with
    | nil => rfl
    | cons c r' =>
      simp only [kindsOk, ha.1, Bool.false_and, Bool.not_false, Bool.true_and]
      exact ih (by simpa [allEltKinds] using ha.2)

theorem cdataTop_kindsOk (l : List FrameKind) (h : cdataTopKinds l = true) : kindsOk l = true := by
  cases l with
  | nil => rfl
  | cons a r =>
    have hr := cdataTop_tail a r h
    cases r with
    | nil => rfl
    | cons c r' =>
      have hc : isCdataKind c = false := by
        simp only [allEltKinds, List.all_cons, Bool.and_eq_true, Bool.not_eq_true'] at hr
        exact hr.1
      simp only [kindsOk, hc, Bool.and_false, Bool.not_false, Bool.true_and]
      exact allElt_kindsOk _ hr

end Wbxml.Lemmas.XmlPrint

namespace Wbxml.Model

/-- Character data: a text node or an embedded document (printed as text of its own). -/
def Node.isCharData : Node → Bool
  | .text _ => true
  | .tree _ _ _ => true
  | _ => false

mutual
/-- No CDATA node anywhere in the sub-tree (embedded documents included) has an element or a
    CDATA node among its children. -/
def Node.noMarkupInCdata : Node → Bool
  | .elt _ _ kids => Node.noMarkupInCdataL kids
  | .text _ => true
  | .cdata kids => kids.all Node.isCharData && Node.noMarkupInCdataL kids
  | .tree _ _ none => true
  | .tree _ _ (some r) => r.noMarkupInCdata
def Node.noMarkupInCdataL : List Node → Bool
  | [] => true
  | n :: r => n.noMarkupInCdata && Node.noMarkupInCdataL r
end

def Tree.noMarkupInCdata (t : Tree) : Bool :=
  match t.root with
  | none => true
  | some r => r.noMarkupInCdata

end Wbxml.Model

namespace Wbxml.Lemmas.XmlPrint
open Wbxml Wbxml.Model

theorem noMarkupInCdataL_eq (l : List Node) : Node.noMarkupInCdataL l = l.all Node.noMarkupInCdata := by
  induction l with
  | nil => rfl
  | cons a r ih => simp [Node.noMarkupInCdataL, ih]

theorem cdata_kids_charData (kids : List Node) (h : (Node.cdata kids).noMarkupInCdata = true) :
    ∀ k ∈ kids, (∃ s, k = .text s) ∨ (∃ l c r, k = .tree l c r) := by
  simp only [Node.noMarkupInCdata, Bool.and_eq_true, List.all_eq_true] at h
  intro k hk
  have := h.1 k hk
  cases k with
  | text s => exact Or.inl ⟨s, rfl⟩
  | tree l c r => exact Or.inr ⟨l, c, r, rfl⟩
  | elt n a ks => simp [Node.isCharData] at this
  | cdata ks => simp [Node.isCharData] at this

/-- An open frame whose children are fine and, for a CDATA frame, character data. -/
def frameOk (f : Frame) : Bool :=
  Node.noMarkupInCdataL f.kids && (!isCdataKind f.kind || f.kids.all Node.isCharData)

theorem close_ok (f : Frame) : f.close.noMarkupInCdata = frameOk f := by
  unfold Frame.close frameOk
  cases hk : f.kind with
  | elt n a => simp [Node.noMarkupInCdata, isCdataKind]
  | cdata => simp [Node.noMarkupInCdata, isCdataKind, Bool.and_comm]

/-- The invariant of the WBXML tree builder as far as CDATA nodes are concerned. -/
structure CdInv (b : BState) : Prop where
  top : cdataOnlyOnTop b = true
  frames : ∀ f ∈ b.stack, frameOk f = true
  root : ∀ r, b.root = some r → r.noMarkupInCdata = true

theorem cdInv_init : CdInv {} :=
  { top := rfl, frames := fun _ h => absurd h List.not_mem_nil, root := fun _ h => by cases h }

theorem frameOk_addKid (f : Frame) (n : Node) (hf : frameOk f = true) (hn : n.noMarkupInCdata = true)
    (hc : n.isCharData = true ∨ isCdataKind f.kind = false) :
    frameOk { f with kids := addKid f.kids n } = true := by
  simp only [frameOk, Bool.and_eq_true, Bool.or_eq_true, Bool.not_eq_true'] at hf ⊢
  refine ⟨?_, ?_⟩
  · rw [noMarkupInCdataL_eq, List.all_eq_true] at hf ⊢
    exact Rt.addKid_all _ _ (fun _ => rfl) hf.1 hn
  · rcases hc with hc | hc
    · rcases hf.2 with h2 | h2
      · exact Or.inl h2
      · exact Or.inr (List.all_eq_true.mpr (Rt.addKid_all _ _ (fun _ => rfl) (List.all_eq_true.mp h2) hc))
    · exact Or.inl hc

theorem attach_cdInv {b : BState} {n : Node} (h : CdInv b) (hn : n.noMarkupInCdata = true)
    (hc : n.isCharData = true ∨ allEltKinds (b.stack.map (·.kind)) = true) : CdInv (b.attach n) := by
  refine ⟨?_, ?_, ?_⟩
  · unfold cdataOnlyOnTop; rw [attach_kinds]; exact h.top
  · unfold BState.attach
    split
    · rename_i f rest hs
      intro g hg
      simp only [List.mem_cons] at hg
      rcases hg with hg | hg
      · rw [hg]
        refine frameOk_addKid f n (h.frames f (by rw [hs]; simp)) hn ?_
        rcases hc with hc | hc
        · exact Or.inl hc
        · rw [hs] at hc
          simp only [List.map_cons, allEltKinds, List.all_cons, Bool.and_eq_true, Bool.not_eq_true'] at hc
          exact Or.inr hc.1
      · exact h.frames g (by rw [hs]; simp [hg])
    · split
      · exact h.frames
      · exact h.frames
  · unfold BState.attach
    split
    · exact h.root
    · split
      · intro r hr
        simp only [Option.some.injEq] at hr
        exact hr ▸ hn
      · exact h.root

theorem pop_cdInv {b : BState} (h : CdInv b) : CdInv (TreeBuild.pop b) := by
  unfold TreeBuild.pop
  split
  · rename_i f rest hs
    -- below any top only element frames remain, so the closed frame may be attached
    have ht : allEltKinds (rest.map (·.kind)) = true := by
      have := h.top
      unfold cdataOnlyOnTop at this
      rw [hs] at this
      exact cdataTop_tail _ _ this
    exact attach_cdInv ⟨allElt_cdataTop _ ht, fun g hg => h.frames g (by rw [hs]; exact List.mem_cons_of_mem _ hg), h.root⟩
      (by rw [close_ok]; exact h.frames f (by rw [hs]; simp)) (Or.inr ht)
  · exact h

theorem leaveCdata_cdInv {b : BState} (h : CdInv b) : CdInv b.leaveCdata := by
  rcases TreeBuild.leaveCdata_cases b with he | ⟨_, _, _, _, _, he⟩ <;> rw [he]
  · exact h
  · exact pop_cdInv h

theorem push_cdInv {b : BState} (h : CdInv b) (k : FrameKind) (hk : cdataTopKinds (k :: b.stack.map (·.kind)) = true) :
    CdInv { b with stack := { kind := k, kids := [] } :: b.stack } := by
  refine ⟨hk, ?_, h.root⟩
  intro g hg
  simp only [List.mem_cons] at hg
  rcases hg with hg | hg
  · rw [hg]; simp [frameOk, Node.noMarkupInCdataL]
  · exact h.frames g hg

/-- What the embedded-document parser hands back has no markup inside CDATA nodes. -/
def EmbOk (emb : Nat → Bytes → Option Tree) : Prop := ∀ cs s t, emb cs s = some t → t.noMarkupInCdata = true

theorem tree_node_ok (t : Tree) (h : t.noMarkupInCdata = true) :
    (Node.tree t.lang t.origCharset t.root).noMarkupInCdata = true := by
  unfold Tree.noMarkupInCdata at h
  cases hr : t.root with
  | none => rfl
  | some r => rw [hr] at h; simpa [Node.noMarkupInCdata] using h

theorem tree_mk_ok (l : Option Lang) (c : Nat) (r : Option Node) (h : ∀ x, r = some x → x.noMarkupInCdata = true) :
    ({ lang := l, origCharset := c, root := r } : Tree).noMarkupInCdata = true := by
  cases r with
  | none => rfl
  | some x => exact h x rfl

theorem buildStep_cdInv (main : List Lang) (emb : Nat → Bytes → Option Tree) (hemb : EmbOk emb) (b : BState)
    (e : Event) (h : CdInv b) : CdInv (buildStep main emb b e) := by
  have hst := TreeBuild.buildStep_step main emb b e
  generalize buildStep main emb b e = b' at hst ⊢
  cases hst with
  | stay => exact h
  | fail => exact ⟨h.top, h.frames, h.root⟩
  | doc => exact ⟨h.top, h.frames, h.root⟩
  | start n a => exact push_cdInv (leaveCdata_cdInv h) (.elt n a) (leaveCdata_allElt b h.top)
  | end_ n => exact pop_cdInv (leaveCdata_cdInv h)
  | chars s n _ _ hn =>
    rcases hn with ⟨rfl, _⟩ | ⟨_, t, ht, rfl⟩
    · exact attach_cdInv h rfl (Or.inl rfl)
    · exact attach_cdInv h (tree_node_ok t (hemb _ _ _ ht)) (Or.inl rfl)
  | cdata s _ ho =>
    obtain ⟨_, f, rest, hs, hk⟩ := ho
    refine attach_cdInv (push_cdInv h .cdata ?_) rfl (Or.inl rfl)
    have ht := h.top
    unfold cdataOnlyOnTop at ht
    rw [hs] at ht ⊢
    refine cdataTop_push_cdata _ _ ?_ ht
    cases hf : f.kind with
    | cdata => exact absurd hf hk
    | elt n a => show isCdataKind f.kind = false; rw [hf]; rfl

theorem foldl_cdInv (main : List Lang) (emb : Nat → Bytes → Option Tree) (hemb : EmbOk emb) (events : List Event)
    (b : BState) (h : CdInv b) : CdInv (events.foldl (buildStep main emb) b) :=
  List.foldlRecOn events _ h fun b hb e _ => buildStep_cdInv main emb hemb b e hb

/-- `wbxml_tree_from_wbxml`: in the tree it returns (embedded documents included) no CDATA node has
    an element or a CDATA node among its children. -/
theorem treeOfWbxml_noMarkup (main : List Lang) : ∀ (f lang cs : Nat) (bs : Bytes) (t : Tree),
    treeOfWbxml main f lang cs bs = .ok t → t.noMarkupInCdata = true
  | 0, _, _, _, _, h => by simp [treeOfWbxml] at h
  | f + 1, lang, cs, bs, t, h => by
    obtain ⟨f', b, hf, _, hb, _, rfl⟩ := TreeBuild.treeOfWbxml_ok h
    cases hf
    have hemb : EmbOk (TreeBuild.embOf main f) := fun cs' s t' ht =>
      treeOfWbxml_noMarkup main f 0 cs' s t' (TreeBuild.embOf_some ht)
    exact tree_mk_ok _ _ _ (hb ▸ foldl_cdInv main _ hemb _ {} cdInv_init).root

end Wbxml.Lemmas.XmlPrint
