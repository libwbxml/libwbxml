/-
  Output lengths of the typed decoders the parser calls on an opaque (`decodeOpaqueContent`,
  `decodeOpaqueAttrValue`): base64 four octets for three, an SI / EMN date-time at most 28 octets, a
  Wireless-Village integer at most 10 digits and date-time at most 16 octets; so typed content of `k`
  octets stays within `2k + 25` octets (a round constant, not a tight one). The size bound of C01 (`W2XSize`) charges payloads with these.

  The two Wireless-Village lengths are read off the codecs' descriptions of the parser's copies
  (`ParseSer.decodeWvInteger_spec`, `EncW.decodeWvDatetime_eq_typed` with `EncW.wvFields_lt`). Base64 and the
  SI / EMN date-time are counted on the parser's functions themselves (`b64EncodeGo_length`,
  `decodeDatetime_length_le`): the codec modules state no length of their outputs.
-/
import Wbxml.Lemmas.ParserSafeBasic
import Wbxml.Lemmas.TypedWvInt
import Wbxml.Lemmas.TypedDatetime
import Wbxml.Lemmas.TypedWvDate

namespace Wbxml.Lemmas.W2X
open Wbxml Wbxml.Model Wbxml.Lemmas.ParserSafe

theorem decNat_length_le : ∀ (k n : Nat), n < 10 ^ k → (Typed.decNat n).length ≤ max k 1
  | 0, n, h => by
    rw [Lemmas.Typed.decNat_length 0 n (by simp at h ⊢; omega) (.inl rfl)]; omega
  | k + 1, n, h => by
    by_cases hk : k = 0 ∨ 10 ^ k ≤ n
    · rw [Lemmas.Typed.decNat_length k n h hk]; omega
    · have := decNat_length_le k n (by omega); omega

theorem natDigits_length_le (k n : Nat) (h : n < 10 ^ k) : (natDigits n).length ≤ max k 1 := by
  rw [EncW.natDigits_eq_decNat]; exact decNat_length_le k n h

/-- Base64: four octets for every three, rounded up. -/
theorem b64EncodeGo_length : ∀ (s : Bytes), 3 * (b64EncodeGo s).length ≤ 4 * s.length + 8
  | a :: b :: c :: r => by
    have := b64EncodeGo_length r
    simp only [b64EncodeGo, List.length_cons]; omega
  | [a, b] => by simp [b64EncodeGo]
  | [a] => by simp [b64EncodeGo]
  | [] => by simp [b64EncodeGo]

theorem b64EncodeGo_length_le (s : Bytes) : (b64EncodeGo s).length ≤ 2 * s.length + 2 := by
  cases s with
  | nil => simp [b64EncodeGo]
  | cons a r =>
    have := b64EncodeGo_length (a :: r)
    omega

theorem b64Value_len (d : Bytes) : OkE (fun o => o.length ≤ 2 * d.length + 2) (decodeBase64Value d) := by
  unfold decodeBase64Value
  split
  · exact OkE.error
  · exact OkE.pure (b64EncodeGo_length_le d)

theorem ite_len_le {c : Prop} [Decidable c] {a b : Bytes} {k : Nat} (ha : a.length ≤ k) (hb : b.length ≤ k) :
    (if c then a else b).length ≤ k := by split <;> assumption

/-- An SI / EMN date-time attribute value is at most 28 octets. -/
theorem decodeDatetime_length_le (d : Bytes) : OkE (fun o => o.length ≤ 28) (decodeDatetime d) := by
  unfold decodeDatetime
  extract_lets h len h1 h2 h3 h4 h5 h6
  split
  · exact OkE.error
  · rename_i hc
    refine OkE.pure ?_
    have hlen : len ≤ 14 := by
      simp only [Bool.or_eq_true, decide_eq_true_eq, not_or, Nat.not_lt, beq_iff_eq] at hc
      omega
    -- three separators, up to two colons, up to eight octets of padding, `Z`
    have e3 : h3.length = len + 3 := by simp only [h3, h2, h1, EncW.insertAt_length, len]
    have e4 : h4.length ≤ len + 4 := by
      simp only [h4]; split
      · rw [EncW.insertAt_length]; omega
      · omega
    have e5 : h5.length ≤ len + 5 := by
      simp only [h5]; split
      · rw [EncW.insertAt_length]; omega
      · omega
    -- every branch of the padding cascade appends at most eight octets
    have e6 : h6.length ≤ h5.length + 8 :=
      ite_len_le (by simp) (ite_len_le (by simp) (ite_len_le (by simp) (Nat.le_add_right _ _)))
    simp only [List.length_append, List.length_cons, List.length_nil]
    omega

/-- A Wireless-Village integer prints at most ten digits: the decoder accepts 32-bit values only. -/
theorem decodeWvInteger_len (d : Bytes) : OkE (fun o => o.length ≤ 10) (decodeWvInteger d) := by
  rw [ParseSer.decodeWvInteger_spec]
  split
  · refine OkE.pure ?_
    have := natDigits_length_le 10 (Lemmas.Typed.beNat d) (by omega)
    omega
  · exact OkE.error

theorem padNat_length_le {w n : Nat} (hw : 1 ≤ w) (h : n < 10 ^ w) : (Typed.padNat w n).length ≤ w := by
  have := decNat_length_le w n h
  simp only [Typed.padNat, List.length_append, List.length_replicate]
  omega

/-- A Wireless-Village date-time: the six fields are in the range of their widths (`wvFields_lt`), so the text
    is that of `Typed.wvDateText`, sixteen octets at most. -/
theorem decodeWvDatetime_len (d : Bytes) : OkE (fun o => o.length ≤ 16) (decodeWvDatetime d) := by
  rw [EncW.decodeWvDatetime_eq_typed]
  unfold Typed.decodeWvDate
  split
  · rename_i b0 b1 b2 b3 b4 b5
    obtain ⟨hy, hmo, hd, hh, hmi, hs⟩ := EncW.wvFields_lt b0.toNat b1.toNat b2.toNat b3.toNat b4.toNat
    generalize Typed.wvFields b0.toNat b1.toNat b2.toNat b3.toNat b4.toNat = f at hy hmo hd hh hmi hs
    refine OkE.pure ?_
    have l1 := padNat_length_le (w := 4) (n := f.year) (by omega) (by omega)
    have l2 := padNat_length_le (w := 2) (n := f.month) (by omega) (by omega)
    have l3 := padNat_length_le (w := 2) (n := f.day) (by omega) (by omega)
    have l4 := padNat_length_le (w := 2) (n := f.hour) (by omega) (by omega)
    have l5 := padNat_length_le (w := 2) (n := f.minute) (by omega) (by omega)
    have l6 := ite_len_le (c := f.second ≠ 0) (padNat_length_le (w := 2) (n := f.second) (by omega) (by omega))
      (b := []) (Nat.zero_le 2)
    -- the zone prints as `Z`, as nothing, or as its letter
    have lz : (Typed.wvZoneText b5).length ≤ 1 :=
      ite_len_le (Nat.le_refl 1) (ite_len_le (Nat.zero_le 1) (Nat.le_refl 1))
    simp only [Typed.wvDateText, List.length_append, List.length_cons, List.length_nil]
    omega
  · exact OkE.error

/-- **Typed content**: what an opaque of `k` octets decodes to is at most `2k + 25` octets. -/
theorem decodeOpaqueContent_len (l : Nat) (cur : Option TagRow) (d : Bytes) :
    OkE (fun o => o.length ≤ 2 * d.length + 25) (decodeOpaqueContent l cur d) := by
  rcases decodeOpaqueContent_cases l cur d with h | h | h | h <;> rw [h]
  · exact OkE.pure (by omega)
  · exact OkE.mono (decodeWvInteger_len d) fun o h => by omega
  · exact OkE.mono (decodeWvDatetime_len d) fun o h => by omega
  · exact OkE.mono (b64Value_len d) fun o h => by omega

theorem decodeOpaqueAttrValue_len (l : Nat) (d : Bytes) :
    OkE (fun o => o.length ≤ 2 * d.length + 2) (decodeOpaqueAttrValue l d) := by
  unfold decodeOpaqueAttrValue
  split
  · exact b64Value_len d
  · exact OkE.pure (by omega)

end Wbxml.Lemmas.W2X
