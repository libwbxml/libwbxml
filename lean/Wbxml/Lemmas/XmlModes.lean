/-
  XML printer (not the WBXML encoder), generation modes (C07): two runs of `Model/EncXml.lean` on the same tree under
  different generation modes (compact / indented with any width / canonical) produce the same
  sequence of chunks

      mk bs     markup, byte-identical in both runs
      txt s     character data `s`, written `xmlEscape (gen == 2) s` (canonical also escapes LF, TAB)
      ws a b    white space between markup: `a` in the first run, `b` in the second, both made of
                spaces and line feeds only

  provided the two modes take the same white-space decisions on text: both are not canonical, or
  white space is kept. The printer is a map over a token list that does not depend on the generation
  mode (`xmlNode_toks`, `Lemmas/EncXmlToks.lean`); under that proviso both runs ask for the same
  list (`tk_xcfgOf`), so they fail alike or write the renderings of one list, and a token is a chunk
  (`chunkOf`). Embedded documents are inside that list, cut at the first NUL as tokens (`cutToks`).
-/
import Wbxml.Lemmas.EncXmlToks
namespace Wbxml.Lemmas.EncW
open Wbxml Wbxml.Model Wbxml.Spec Wbxml.Lemmas.XmlPrint

inductive XChunk where
  | mk (bs : Bytes)
  | txt (s : Bytes)
  | ws (a b : Bytes)

def rA (g : Nat) : XChunk → Bytes
  | .mk bs => bs
  | .txt s => xmlEscape (g == 2) s
  | .ws a _ => a

def rB (g : Nat) : XChunk → Bytes
  | .mk bs => bs
  | .txt s => xmlEscape (g == 2) s
  | .ws _ b => b

def WsOk (ch : List XChunk) : Prop := ∀ a b, XChunk.ws a b ∈ ch → a.all isBlankB = true ∧ b.all isBlankB = true

theorem WsOk.append {x y : List XChunk} (hx : WsOk x) (hy : WsOk y) : WsOk (x ++ y) := by
  intro a b h
  rcases List.mem_append.mp h with h | h
  · exact hx a b h
  · exact hy a b h

/-- The chunks of `xml_fill_header`. -/
def headerChunks (lang : Lang) (ga gb : Nat) : List XChunk :=
  [.mk b!"<?xml version=\"1.0\"?>",
   .ws (if ga == 1 then newLine else []) (if gb == 1 then newLine else []),
   .mk (b!"<!DOCTYPE " ++ lang.pub.root.getD [] ++
    (match lang.pub.xmlId with
     | some p => if p.isEmpty then b!" SYSTEM" else b!" PUBLIC \"" ++ p ++ b!"\""
     | none => b!" SYSTEM") ++
    b!" \"" ++ lang.pub.dtd.getD [] ++ b!"\">"),
   .ws (if ga == 1 then newLine else []) (if gb == 1 then newLine else [])]

theorem headerChunks_render (lang : Lang) (ga gb : Nat) :
    (headerChunks lang ga gb).flatMap (rA ga) = xmlHeader lang ga ∧
    (headerChunks lang ga gb).flatMap (rB gb) = xmlHeader lang gb ∧ WsOk (headerChunks lang ga gb) := by
  -- both sides are the same pieces, differently bracketed
  have hA : (headerChunks lang ga gb).flatMap (rA ga) = xmlHeader lang ga := by
    simp only [headerChunks, xmlHeader, List.flatMap_cons, List.flatMap_nil, rA, List.append_assoc, List.append_nil]
    rfl
  have hB : (headerChunks lang ga gb).flatMap (rB gb) = xmlHeader lang gb := by
    simp only [headerChunks, xmlHeader, List.flatMap_cons, List.flatMap_nil, rB, List.append_assoc, List.append_nil]
    rfl
  refine ⟨hA, hB, ?_⟩
  intro a b h
  simp only [headerChunks, List.mem_cons, XChunk.ws.injEq, List.mem_nil_iff, or_false, reduceCtorEq, false_or] at h
  rcases h with ⟨rfl, rfl⟩ | ⟨rfl, rfl⟩ <;> exact ⟨nl_blank _, nl_blank _⟩

/-- The result of `wbxml_tree_to_xml` under two generation modes. -/
def SimX (ga gb : Nat) (ra rb : Except Err Bytes) : Prop :=
  match ra, rb with
  | .ok xa, .ok xb => ∃ ch, xa = ch.flatMap (rA ga) ∧ xb = ch.flatMap (rB gb) ∧ WsOk ch
  | .error ea, .error eb => ea = eb
  | _, _ => False

/-- The printer options `wbxml_tree_to_xml` derives from its parameter block. `Rt.xcfgOf`
    (`Lemmas/RtReads.lean`) is the same function, word for word: a file that imports both modules and opens
    both namespaces (`Props/C07.lean`) has to qualify the name. So is `W2XCfg.xcfg` (`Lemmas/EncXmlToks.lean`),
    with which `treeToXml_toks` is stated. -/
def xcfgOf (cfg : W2XCfg) (lang : Lang) : XCfg :=
  { lang := lang, gen := cfg.gen, delta := if cfg.gen == 1 then cfg.indent else 1,
    ignoreEmpty := !cfg.keepWs, removeBlanks := !cfg.keepWs }

/-- The two runs of C07 ask for the same token list. -/
theorem tk_xcfgOf (cfgA cfgB : W2XCfg) (lang : Lang) (hk : cfgA.keepWs = cfgB.keepWs)
    (hc : (cfgA.gen != 2) = (cfgB.gen != 2) ∨ cfgA.keepWs = true) : (xcfgOf cfgA lang).tk = (xcfgOf cfgB lang).tk := by
  simp only [XCfg.tk, xcfgOf, ← hk]
  rcases hc with h | h
  · rw [h]
  · simp [h]

/-- Markup and character data are chunks as they are; indentation and line feeds are white space. -/
def chunkOf (ca cb : XCfg) : XTok → XChunk
  | .mk bs => .mk bs
  | .txt s => .txt s
  | t => .ws (t.render ca) (t.render cb)

theorem chunkOf_render (ca cb : XCfg) (ts : List XTok) :
    (ts.map (chunkOf ca cb)).flatMap (rA ca.gen) = renderToks ca ts ∧
    (ts.map (chunkOf ca cb)).flatMap (rB cb.gen) = renderToks cb ts ∧ WsOk (ts.map (chunkOf ca cb)) := by
  have hA : (fun t => rA ca.gen (chunkOf ca cb t)) = XTok.render ca := by funext t; cases t <;> rfl
  have hB : (fun t => rB cb.gen (chunkOf ca cb t)) = XTok.render cb := by funext t; cases t <;> rfl
  refine ⟨by rw [List.flatMap_map, hA]; rfl, by rw [List.flatMap_map, hB]; rfl, fun a b h => ?_⟩
  obtain ⟨t, _, ht⟩ := List.mem_map.mp h
  cases t with
  | mk bs => cases ht
  | txt s => cases ht
  | sp k => injection ht with h1 h2; subst h1 h2; exact ⟨sp_blank _ _, sp_blank _ _⟩
  | nl => injection ht with h1 h2; subst h1 h2; exact ⟨nl_blank _, nl_blank _⟩

theorem treeToXml_sim (cfgA cfgB : W2XCfg) (fuel : Nat) (t : Tree) (hk : cfgA.keepWs = cfgB.keepWs)
    (hc : (cfgA.gen != 2) = (cfgB.gen != 2) ∨ cfgA.keepWs = true) :
    SimX cfgA.gen cfgB.gen (treeToXml cfgA fuel t) (treeToXml cfgB fuel t) := by
  rw [treeToXml_toks, treeToXml_toks]
  cases hl : t.lang with
  | none => rfl
  | some lang =>
    cases hr : t.root with
    | none => rfl
    | some root =>
      -- `treeToXml_toks` has `cfg.xcfg lang`, which unfolds to `xcfgOf cfg lang`
      show SimX _ _ ((xtoks (xcfgOf cfgA lang).tk .none fuel root 0 false false none).map _)
        ((xtoks (xcfgOf cfgB lang).tk .none fuel root 0 false false none).map _)
      rw [tk_xcfgOf cfgA cfgB lang hk hc]
      cases xtoks (xcfgOf cfgB lang).tk .none fuel root 0 false false none with
      | error e => rfl
      | ok r =>
        obtain ⟨h1, h2, h3⟩ := headerChunks_render lang cfgA.gen cfgB.gen
        obtain ⟨g1, g2, g3⟩ := chunkOf_render (xcfgOf cfgA lang) (xcfgOf cfgB lang) r.1
        refine ⟨headerChunks lang cfgA.gen cfgB.gen ++ r.1.map (chunkOf (xcfgOf cfgA lang) (xcfgOf cfgB lang)), ?_, ?_,
          h3.append g3⟩
        · rw [List.flatMap_append, h1]
          show _ = _ ++ (r.1.map (chunkOf (xcfgOf cfgA lang) (xcfgOf cfgB lang))).flatMap (rA (xcfgOf cfgA lang).gen)
          rw [g1]; rfl
        · rw [List.flatMap_append, h2]
          show _ = _ ++ (r.1.map (chunkOf (xcfgOf cfgA lang) (xcfgOf cfgB lang))).flatMap (rB (xcfgOf cfgB lang).gen)
          rw [g2]; rfl

end Wbxml.Lemmas.EncW
