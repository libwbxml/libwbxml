/-
  C18 lemmas: concrete documents — two on which `api_tree_equals_parsed_partial` applies
  (WML, SyncML), and one for every kind of event `plainEvents` excludes, where the tree the XML front
  end builds and the tree the document-order API history builds really differ.
  The checks are Bool-valued (`Tree` / `X2TRes` have no decidable equality) and evaluated by the kernel in
  `Props/C18.lean`; `parsedLangIs_of_id` reduces "the parsed tree has language `L`" to a comparison of
  identifiers.
-/
import Wbxml.Lemmas.TreeHeapXml
import Wbxml.Lemmas.TreeHeapWitness
import Wbxml.Lemmas.X2WTree
import Wbxml.Lemmas.GenMain
import Wbxml.Gen.Tables
import Wbxml.Model.EncWbxml
import Wbxml.Model.EncXml
namespace Wbxml.Model.TreeHeap
open Wbxml Wbxml.Model
open Wbxml.Lemmas.GenMain (gen_ids_pairwise)

/-- The front end answers a tree of language `L`. -/
def parsedLangIs (r : X2TRes) (L : Lang) : Bool :=
  match r with
  | .ok t => t.lang == some L
  | _ => false

/-- Both byte strings exist and differ. -/
def bytesDiffer (a b : Except Err Bytes) : Bool :=
  match a, b with
  | .ok x, .ok y => x != y
  | _, _ => false

/-- Both byte strings exist, are not empty, and are equal. -/
def bytesAgree (a b : Except Err Bytes) : Bool :=
  match a, b with
  | .ok x, .ok y => x == y && !x.isEmpty
  | _, _ => false

/-- The tree the document-order API history of `es` builds on the empty tree of language `L`. -/
def apiTree (L : Lang) (cs : Nat) (es : List XEvent) : Except Err Tree :=
  match run { lang := some L, charset := cs } (apiHistoryOf es) with
  | .ok s => absTree s
  | .error e => .error e

/-- Parsed tree and API-built tree both exist and give DIFFERENT XML and WBXML bytes (default options). -/
def sidesDiffer (r : X2TRes) (L : Lang) (es : List XEvent) : Bool :=
  match r with
  | .ok t =>
    (match apiTree L t.origCharset es with
     | .ok t' =>
       bytesDiffer (treeToWbxml {} t) (treeToWbxml {} t') &&
       bytesDiffer (treeToXml { main := Gen.main } 100 t) (treeToXml { main := Gen.main } 100 t')
     | .error _ => false)
  | _ => false

/-- Parsed tree and API-built tree both exist and give the SAME non-empty XML and WBXML bytes. -/
def sidesAgree (r : X2TRes) (L : Lang) (es : List XEvent) : Bool :=
  match r with
  | .ok t =>
    (match apiTree L t.origCharset es with
     | .ok t' =>
       bytesAgree (treeToWbxml {} t) (treeToWbxml {} t') &&
       bytesAgree (treeToXml { main := Gen.main } 100 t) (treeToXml { main := Gen.main } 100 t')
     | .error _ => false)
  | _ => false

/-! ### WML: attributes, nested elements, text in pieces, a CDATA section, a processing instruction -/

def wmlXml : Bytes :=
  b!"<?xml version=\"1.0\" encoding=\"UTF-8\"?><!DOCTYPE wml PUBLIC \"-//WAPFORUM//DTD WML 1.2//EN\" \"http://www.wapforum.org/DTD/wml12.dtd\"><wml><card id=\"a\" title=\"T\"><p>hi <b>there</b>!?</p><?x y?><p><![CDATA[xy]]></p></card></wml>"

def wmlEvents : List XEvent := [
  .xmlDecl (some b!"1.0") (some b!"UTF-8"),
  .doctype (some b!"http://www.wapforum.org/DTD/wml12.dtd") (some b!"-//WAPFORUM//DTD WML 1.2//EN"),
  .startElt b!"wml" [] 0,
  .startElt b!"card" [(b!"id", b!"a"), (b!"title", b!"T")] 0,
  .startElt b!"p" [] 0, .chars b!"hi ", .startElt b!"b" [] 0, .chars b!"there", .endElt b!"b" 0,
  .chars b!"!", .chars b!"?", .endElt b!"p" 0,
  .pi,
  .startElt b!"p" [] 0, .startCdata, .chars b!"x", .chars b!"y", .endCdata, .endElt b!"p" 0,
  .endElt b!"card" 0, .endElt b!"wml" 0]

def wmlEnv : List (Bytes × ExpatRun) := [(wmlXml, { ok := true, events := wmlEvents })]

/-! ### SyncML 1.2: namespaces (two code pages), a literal attribute, nesting, text -/

/-- Only the key under which the run below is filed in `env`: the conversion reads the events of the run, never
    these octets. -/
def syncXml : Bytes := b!"<SyncML xmlns=\"SYNCML:SYNCML1.2\">...</SyncML>"

def syncEvents : List XEvent := [
  .startElt b!"SYNCML:SYNCML1.2|SyncML" [] 0,
  .startElt b!"SYNCML:SYNCML1.2|SyncHdr" [] 0,
  .startElt b!"SYNCML:SYNCML1.2|VerDTD" [] 0, .chars b!"1.2", .endElt b!"SYNCML:SYNCML1.2|VerDTD" 0,
  .startElt b!"SYNCML:SYNCML1.2|Meta" [(b!"id", b!"m1")] 0,
  .startElt b!"syncml:metinf|MaxMsgSize" [] 0, .chars b!"10", .chars b!"00", .endElt b!"syncml:metinf|MaxMsgSize" 0,
  .endElt b!"SYNCML:SYNCML1.2|Meta" 0,
  .endElt b!"SYNCML:SYNCML1.2|SyncHdr" 0,
  .startElt b!"SYNCML:SYNCML1.2|SyncBody" [] 0,
  .startElt b!"SYNCML:SYNCML1.2|Final" [] 0, .endElt b!"SYNCML:SYNCML1.2|Final" 0,
  .endElt b!"SYNCML:SYNCML1.2|SyncBody" 0,
  .endElt b!"SYNCML:SYNCML1.2|SyncML" 0]

def syncEnv : List (Bytes × ExpatRun) := [(syncXml, { ok := true, events := syncEvents })]

/-! ### Excluded: an attribute in the XML namespace (`attrPlain`) -/

def xmlLangXml : Bytes := b!"<wml xml:lang=\"en\"/>"

def xmlLangEvents : List XEvent := [
  .startElt b!"wml" [(xmlNsUri ++ b!"lang", b!"en")] 0, .endElt b!"wml" 0]

def xmlLangEnv : List (Bytes × ExpatRun) := [(xmlLangXml, { ok := true, events := xmlLangEvents })]

/-! ### Excluded: character data below an element called `Data` (`textPlain`, SyncML) -/

def dataXml : Bytes := b!"<SyncML><Add><Item><Data>x</Data></Item></Add></SyncML>"

def dataEvents : List XEvent := [
  .startElt b!"SyncML" [] 0, .startElt b!"Add" [] 0, .startElt b!"Item" [] 0, .startElt b!"Data" [] 0,
  .chars b!"x",
  .endElt b!"Data" 0, .endElt b!"Item" 0, .endElt b!"Add" 0, .endElt b!"SyncML" 0]

def dataEnv : List (Bytes × ExpatRun) := [(dataXml, { ok := true, events := dataEvents })]

/-! ### Excluded: character data below a binary-flagged element (`textPlain`, ActiveSync) -/

def mimeXml : Bytes := b!"<SendMail xmlns=\"ComposeMail:\"><MIME>QUJD</MIME></SendMail>"

def mimeEvents : List XEvent := [
  .doctype none (some b!"-//MICROSOFT//DTD ActiveSync//EN"),
  .startElt b!"ComposeMail:|SendMail" [] 0, .startElt b!"ComposeMail:|MIME" [] 0,
  .chars b!"QUJD",
  .endElt b!"ComposeMail:|MIME" 0, .endElt b!"ComposeMail:|SendMail" 0]

def mimeEnv : List (Bytes × ExpatRun) := [(mimeXml, { ok := true, events := mimeEvents })]

/-! ### Excluded: an embedded DevInf document (`embeddedName`, SyncML) -/

def devinfXml : Bytes := b!"<SyncML><DevInf></DevInf></SyncML>"

def devinfEvents : List XEvent := [
  .startElt b!"SyncML" [] 0, .startElt devinfName [] 8, .endElt devinfName 16, .endElt b!"SyncML" 24]

/-- The document the front end cuts out of the input and parses on its own (DevInf 1.2). -/
def devinfSubXml : Bytes := embeddedDoc devinfXml 8 16 false Gen.lang16

def devinfSubEvents : List XEvent := [
  .doctype Gen.lang16.pub.dtd Gen.lang16.pub.xmlId, .startElt b!"DevInf" [] 0, .endElt b!"DevInf" 0]

def devinfEnv : List (Bytes × ExpatRun) :=
  [(devinfXml, { ok := true, events := devinfEvents }), (devinfSubXml, { ok := true, events := devinfSubEvents })]

/-! ### Shapes Expat does not report — a CDATA section as the whole document: both sides agree -/

def cdataRootEvents : List XEvent := [.doctype none (some b!"-//WAPFORUM//DTD WML 1.2//EN"), .startCdata, .chars b!"x", .endCdata]

def cdataRootEnv : List (Bytes × ExpatRun) := [(b!"x", { ok := true, events := cdataRootEvents })]

theorem parsedLangIs_inv {r : X2TRes} {L : Lang} (h : parsedLangIs r L = true) : ∃ t, r = .ok t ∧ t.lang = some L := by
  cases r with
  | ok t => exact ⟨t, rfl, by simpa [parsedLangIs] using h⟩
  | err e => simp [parsedLangIs] at h
  | need d => simp [parsedLangIs] at h

def parsedLangId (r : X2TRes) : Option Nat :=
  match r with
  | .ok t => t.lang.map (·.id)
  | _ => none

/-- `parsedLangIs` from the identifier alone: the language of a delivered tree is an entry of the
    table, and the table's identifiers are distinct — so the kernel compares two numbers, not two
    language tables. `i` is the place of `L` in `Gen.main`. -/
theorem parsedLangIs_of_id {env : List (Bytes × ExpatRun)} {f : Nat} {xml : Bytes} {L : Lang} (i : Nat)
    (hL : Gen.main[i]? = some L) (h : parsedLangId (treeOfXml Gen.main env f xml) = some L.id) :
    parsedLangIs (treeOfXml Gen.main env f xml) L = true := by
  cases hr : treeOfXml Gen.main env f xml with
  | err e => rw [hr] at h; cases h
  | need d => rw [hr] at h; cases h
  | ok t =>
    rw [hr] at h
    cases hl : t.lang with
    | none => simp [parsedLangId, hl] at h
    | some l =>
      have hid : l.id = L.id := by simpa [parsedLangId, hl] using h
      have hmem := Lemmas.X2W.treeOfXml_lang_mem Gen.main env f xml t hr l hl
      have e := Wbxml.Model.find?_self (f := Lang.id) gen_ids_pairwise hmem
      rw [hid, Wbxml.Model.find?_self (f := Lang.id) gen_ids_pairwise (List.mem_of_getElem? hL)] at e
      simp [parsedLangIs, hl, Option.some.inj e]

/-! ### Extract + re-insert where the side condition fails -/

def rootKidCount (s : St) : Nat :=
  match absTree s with
  | .ok t => (match t.root with
    | some (.elt _ _ ks) => ks.length
    | _ => 0)
  | .error _ => 0

/-- On `adjWitnessState` (root with the adjacent text children 1 = "a", 3 = "b"): node 3 is the last child
    of the root, its previous sibling is text; extracting and re-adding it merges the two. -/
def reinsertMergeCheck : Bool :=
  (match adjWitnessState.cellAt 3 with
   | some c => c.parent == some 0 && c.next == none && c.prev == some 1 && c.pay.isText
   | none => false) &&
  (match adjWitnessState.cellAt 1 with
   | some c => c.pay.isText
   | none => false) &&
  rootKidCount adjWitnessState == 2 &&
  (match run adjWitnessState [.extract 3, .addNode (some 0) 3] with
   | .ok s' => rootKidCount s' == 1
   | .error _ => false)

end Wbxml.Model.TreeHeap
