/-
  C19 — `search_char`, `search`, `search_cstr` against the reference.
-/
import Wbxml.Lemmas.BufOps
namespace Wbxml.Model
open Wbxml Wbxml.Spec.Seq

theorem firstMatch_single (ch : UInt8) (xs : Bytes) :
    firstMatch [ch] xs = xs.findIdx? (· == ch) := by
  induction xs with
  | nil => simp [firstMatch]
  | cons x xs ih =>
    simp only [firstMatch, List.isPrefixOf, Bool.and_true, List.findIdx?_cons, ih]
    by_cases h : x = ch
    · subst h; simp
    · have h' : ¬ ch = x := fun e => h e.symm
      simp [h, h']

/-- The recursion the C loop runs, as a property of the reference alone: go to the next occurrence
    of the needle's first byte; the needle is there, or the search goes on one byte further. -/
theorem firstMatch_findIdx (first : UInt8) (rest xs : Bytes) :
    firstMatch (first :: rest) xs =
      match xs.findIdx? (· == first) with
      | none => none
      | some k =>
        if (first :: rest).isPrefixOf (xs.drop k) then some k
        else (firstMatch (first :: rest) (xs.drop (k + 1))).map (· + (k + 1)) := by
  induction xs with
  | nil => simp [firstMatch]
  | cons x xs ih =>
    by_cases hx : x = first
    · subst hx
      simp [firstMatch, List.findIdx?_cons]
    · have hb : (first == x) = false := by simpa using fun e => hx e.symm
      have hb' : (x == first) = false := by simpa using hx
      simp only [firstMatch, List.isPrefixOf, hb, Bool.false_and, Bool.false_eq_true, if_false, ih,
        List.findIdx?_cons, hb']
      cases xs.findIdx? (· == first) with
      | none => rfl
      | some k =>
        simp only [Option.map_some, List.drop_succ_cons]
        split
        · rfl
        · simp only [Option.map_map]
          congr 1
theorem isPrefixOf_short (ys xs : Bytes) (h : xs.length < ys.length) : ys.isPrefixOf xs = false := by
  cases hh : ys.isPrefixOf xs with
  | false => rfl
  | true =>
    have := (List.isPrefixOf_iff_prefix.mp hh).length_le
    omega

theorem firstMatch_short (ys xs : Bytes) (h : xs.length < ys.length) : firstMatch ys xs = none := by
  induction xs with
  | nil => cases ys <;> simp_all [firstMatch]
  | cons x xs ih =>
    simp only [firstMatch, isPrefixOf_short ys (x :: xs) h, Bool.false_eq_true, if_false,
      ih (by simp at h; omega), Option.map_none]

theorem isPrefixOf_iff_take (ys xs : Bytes) :
    ys.isPrefixOf xs = true ↔ xs.take ys.length = ys := by
  rw [List.isPrefixOf_iff_prefix, List.prefix_iff_eq_take]
  exact ⟨fun e => e.symm, fun e => e.symm⟩

theorem firstMatch_here (ys xs : Bytes) (h : ys.isPrefixOf xs = true) : firstMatch ys xs = some 0 := by
  cases xs with
  | nil => cases ys <;> simp_all [firstMatch]
  | cons x xs => simp [firstMatch, h]

namespace Buf

theorem searchChar_spec {b : Buf} {c : Bytes} (h : View b c) (ch : UInt8) (pos : Nat) :
    b.searchChar ch pos = .ok (Spec.Seq.search c [ch] pos) := by
  unfold searchChar Spec.Seq.search
  by_cases hp : pos ≥ b.len
  · simp only [hp, if_true]
    by_cases hgt : pos > c.length
    · simp [hgt]
    · have : pos = c.length := by rw [h.2] at hp; omega
      subst this
      simp [firstMatch]
  · obtain ⟨m, hm, hread⟩ := h.read pos (b.len - pos) (by omega) (by omega)
    rw [List.take_of_length_le (by rw [List.length_drop, h.2]; omega)] at hread
    have hng : ¬ pos > c.length := by rw [← h.2]; omega
    simp only [hp, if_false, hm, hread, hng, firstMatch_single]
    cases (c.drop pos).findIdx? (· == ch) with
    | none => rfl
    | some k => simp [Nat.add_comm]

theorem search_at_most (c nd : Bytes) (pos : Nat) (h : c.length - pos < nd.length) (hp : pos ≤ c.length) :
    Spec.Seq.search c nd pos = none := by
  have : ¬ pos > c.length := by omega
  simp [Spec.Seq.search, this, firstMatch_short nd (c.drop pos) (by simp; omega)]

theorem searchLoop_spec {to : Buf} {c : Bytes} (h : View to c) (first : UInt8) (rest : Bytes)
    (fuel pos : Nat) (hf : c.length + 1 ≤ fuel + pos) (hp : pos ≤ c.length) :
    searchLoop to (first :: rest) first fuel pos = .ok (Spec.Seq.search c (first :: rest) pos) := by
  induction fuel generalizing pos with
  | zero => omega
  | succ f ih =>
    have hng : ¬ pos > c.length := by omega
    unfold searchLoop
    rw [searchChar_spec h first pos]
    simp only [Spec.Seq.search, hng, if_false, firstMatch_single, firstMatch_findIdx first rest (c.drop pos)]
    cases hfi : (c.drop pos).findIdx? (· == first) with
    | none => rfl
    | some k =>
      have hkl : pos + k < c.length := by
        have := (List.findIdx?_eq_some_iff_getElem.mp hfi).1
        simp only [List.length_drop] at this
        omega
      simp only [Option.map_some, h.2, List.drop_drop, Nat.add_comm k pos]
      by_cases hroom : c.length - (pos + k) ≥ (first :: rest).length
      · obtain ⟨m, hm, hread⟩ := h.read (pos + k) (first :: rest).length (by rw [h.2]; omega) (by rw [h.2]; omega)
        simp only [hroom, if_true, hm, hread]
        have hpre := isPrefixOf_iff_take (first :: rest) (c.drop (pos + k))
        by_cases hmt : (c.drop (pos + k)).take (first :: rest).length = first :: rest
        · simp only [hmt, if_true, hpre.mpr hmt, Option.map_some, Nat.add_comm k pos]
        · have hno : (first :: rest).isPrefixOf (c.drop (pos + k)) = false :=
            Bool.eq_false_iff.mpr (mt hpre.mp hmt)
          have hng2 : ¬ pos + (k + 1) > c.length := by omega
          simp only [hmt, if_false, hno, Bool.false_eq_true]
          rw [ih (pos + k + 1) (by omega) (by omega)]
          simp only [Spec.Seq.search, Nat.add_assoc, hng2, if_false, Option.map_map]
          congr 2
          funext x
          simp only [Function.comp]
          omega
      · have hshort := firstMatch_short (first :: rest) (c.drop (pos + (k + 1))) (by rw [List.length_drop]; omega)
        have hno := isPrefixOf_short (first :: rest) (c.drop (pos + k)) (by rw [List.length_drop]; omega)
        simp only [hroom, if_false, hno, Bool.false_eq_true, hshort, Option.map_none]
theorem searchBytes_spec {to : Buf} {c : Bytes} (h : View to c) (nd : Bytes) (pos : Nat) :
    to.searchBytes nd pos = .ok (Spec.Seq.search c nd pos) := by
  unfold searchBytes
  cases nd with
  | nil =>
    simp only [h.2, Spec.Seq.search]
    by_cases hp : pos > c.length
    · simp [hp]
    · have : firstMatch [] (c.drop pos) = some 0 := firstMatch_here [] _ (by simp [List.isPrefixOf])
      simp [hp, this]
  | cons first rest =>
    simp only [h.2]
    by_cases hbig : (first :: rest).length > c.length
    · simp only [hbig, if_true]
      by_cases hp : pos > c.length
      · simp [Spec.Seq.search, hp]
      · rw [search_at_most c _ pos (by omega) (by omega)]
    · simp only [hbig, if_false]
      by_cases hr : rest = []
      · subst hr; simp only [if_true]; exact searchChar_spec h first pos
      · simp only [hr, if_false]
        by_cases hp : pos > c.length
        · -- the loop fails at once: search_char refuses the position
          have : Spec.Seq.search c (first :: rest) pos = none := by simp [Spec.Seq.search, hp]
          unfold searchLoop
          rw [searchChar_spec h first pos]
          simp [Spec.Seq.search, hp]
        · exact searchLoop_spec h first rest _ pos (by omega) (by omega)

theorem search_spec {to : Buf} {c : Bytes} (h : View to c) (a : Arg) (pos : Nat) :
    ∃ o, ofArg a = .ok o ∧ to.search o pos = .ok (searchArg c a.bytes pos) := by
  rcases ofArg_spec a with ⟨hn, ho⟩ | ⟨s, bs, hb, ho, hv⟩
  · exact ⟨none, ho, by simp [Buf.search, hn, searchArg]⟩
  · exact ⟨some s, ho, by simp only [Buf.search, contents_view hv, hb, searchArg]; exact searchBytes_spec h bs pos⟩

theorem searchCstr_spec {to : Buf} {c : Bytes} (h : View to c) (s : Option Bytes) (pos : Nat) :
    to.searchCstr s pos = .ok (searchArg c (s.map cstr) pos) := by
  cases s with
  | none => rfl
  | some s => simp only [searchCstr, cstrOf_eq, Option.map_some, searchArg]; exact searchBytes_spec h _ pos

end Buf
end Wbxml.Model
