/- Positional notation: the value of a big-endian string of digits (`horner`) and the C loop that
   writes the digits of a value downwards into a fixed number of slots (`digitsBE`).
   `wbxml_buffer_append_mb_uint_32` (base 128, two models of it) and `wbxml_encode_wv_integer`
   (base 256) are that loop; the accumulations of `parse_mb_uint32` and `decode_wv_integer` are `horner`. -/
import Wbxml.Prim.Basic
namespace Wbxml.Lemmas.Digits
open Wbxml

def horner (b : Nat) (val : α → Nat) (acc : Nat) (l : List α) : Nat := l.foldl (fun a c => a * b + val c) acc

theorem horner_append (b : Nat) (val : α → Nat) (acc : Nat) (l m : List α) :
    horner b val acc (l ++ m) = horner b val (horner b val acc l) m := List.foldl_append ..

theorem horner_cons (b : Nat) (val : α → Nat) (acc : Nat) (c : α) (l : List α) :
    horner b val acc (c :: l) = horner b val (acc * b + val c) l := rfl

theorem le_horner (b : Nat) (hb : 0 < b) (val : α → Nat) (acc : Nat) (l : List α) : acc ≤ horner b val acc l := by
  induction l generalizing acc with
  | nil => exact Nat.le_refl _
  | cons c cs ih =>
    exact Nat.le_trans (Nat.le_trans (Nat.le_mul_of_pos_right acc hb) (Nat.le_add_right ..)) (ih _)

theorem horner_lt (b : Nat) (val : α → Nat) (hv : ∀ c, val c < b) (l : List α) :
    ∀ acc j, acc < b ^ j → horner b val acc l < b ^ (j + l.length) := by
  induction l with
  | nil => intro acc j h; exact h
  | cons c cs ih =>
    intro acc j h
    rw [horner_cons, List.length_cons, ← Nat.add_assoc, Nat.add_right_comm]
    apply ih
    have := hv c
    calc acc * b + val c < (acc + 1) * b := by rw [Nat.add_mul, Nat.one_mul]; omega
      _ ≤ b ^ j * b := Nat.mul_le_mul_right b h
      _ = b ^ (j + 1) := (Nat.pow_succ ..).symm

/-- `for (i = k - 1; v > 0 && i >= 0; i--) { out[i] = v % b; v /= b; }`: the digits written. -/
def digitsBE (b : Nat) : Nat → Nat → List Nat
  | 0, _ => []
  | k + 1, v => if v > 0 then digitsBE b k (v / b) ++ [v % b] else []

/-- Any loop with the two equations of the C `for` writes `digitsBE` in front of what was there. -/
theorem loop_eq_digits {L : Nat → Nat → Bytes → Bytes} {b : Nat} {f : Nat → UInt8}
    (h0 : ∀ v acc, L 0 v acc = acc)
    (hs : ∀ k v acc, L (k + 1) v acc = if v > 0 then L k (v / b) (f (v % b) :: acc) else acc) :
    ∀ k v acc, L k v acc = (digitsBE b k v).map f ++ acc := by
  intro k
  induction k with
  | zero => intro v acc; rw [h0]; rfl
  | succ k ih =>
    intro v acc
    rw [hs, digitsBE]
    split
    · rw [ih]; simp
    · rfl

theorem digitsBE_spec (b : Nat) (hb : 1 < b) (k : Nat) : ∀ v, v < b ^ k →
    (∀ j, v < b ^ j → (digitsBE b k v).length ≤ j) ∧ v < b ^ (digitsBE b k v).length ∧
    (digitsBE b k v).head? ≠ some 0 ∧ (∀ d ∈ digitsBE b k v, d < b) ∧
    horner b id 0 (digitsBE b k v) = v := by
  induction k with
  | zero => intro v hv; simp [digitsBE, horner] at hv ⊢; omega
  | succ k ih =>
    intro v hv
    have hb0 : 0 < b := by omega
    by_cases h0 : v = 0
    · subst h0; simp [digitsBE, horner]
    · obtain ⟨hmin, hlt, hhd, hd, hval⟩ :=
        ih (v / b) (by rw [Nat.div_lt_iff_lt_mul hb0, ← Nat.pow_succ]; exact hv)
      rw [digitsBE, if_pos (by omega)]
      refine ⟨?_, ?_, ?_, ?_, ?_⟩
      · intro j hj
        cases j with
        | zero => simp at hj; omega
        | succ j =>
          have := hmin j (by rw [Nat.div_lt_iff_lt_mul hb0, ← Nat.pow_succ]; exact hj)
          simp; omega
      · rw [List.length_append, List.length_singleton, Nat.pow_succ, ← Nat.div_lt_iff_lt_mul hb0]; exact hlt
      · cases hp : digitsBE b k (v / b) with
        | nil =>
          rw [hp] at hlt
          have : v / b = 0 := by simpa using hlt
          have : v % b = v := Nat.mod_eq_of_lt ((Nat.div_eq_zero_iff_lt hb0).mp this)
          simp; omega
        | cons x t => rw [hp] at hhd; simpa using hhd
      · intro d hd'
        rcases List.mem_append.mp hd' with h | h
        · exact hd d h
        · rw [List.mem_singleton.mp h]; exact Nat.mod_lt _ hb0
      · rw [horner_append, hval]
        show v / b * b + v % b = v
        rw [Nat.mul_comm]; exact Nat.div_add_mod v b

theorem digitsBE_length_le (b : Nat) : ∀ (k v : Nat), (digitsBE b k v).length ≤ k
  | 0, _ => Nat.le_refl _
  | k + 1, v => by
    rw [digitsBE]
    split
    · simp only [List.length_append, List.length_singleton]; exact Nat.succ_le_succ (digitsBE_length_le b k _)
    · exact Nat.zero_le _

end Wbxml.Lemmas.Digits
