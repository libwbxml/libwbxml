/-
  WBXML encoder proofs, grammar side: list-valued collectors over `Spec.Doc`

    `refs*`  every string-table index a document uses (STR_T references, literal tag names,
             literal attribute names),
    `opqs*`  the payload of every OPAQUE token (content and attribute values),

  with their equations, the `append` laws for `serItems` / `evItems` / `wfItems` and for the attribute
  side (`serAVals`, `avalsText`, `wfAVals`, `serAttrs`, `evAttrs`, `wfAttrs`), and the singleton laws.
-/
import Wbxml.Lemmas.SpecWbxml
namespace Wbxml.Lemmas.EncW
open Wbxml Wbxml.Model Wbxml.Spec Wbxml.Lemmas.ParseSer

def refsStr : Str → List Nat
  | .inl _ => []
  | .tbl off => [off]

def refsAVal : AVal → List Nat
  | .str s => refsStr s
  | _ => []

def refsAVals : List AVal → List Nat
  | [] => []
  | v :: vs => refsAVal v ++ refsAVals vs

def refsAStart : AStart → List Nat
  | .tok _ _ => []
  | .lit off => [off]

def refsAttr (a : Attribute) : List Nat := refsAStart a.start ++ refsAVals a.vals

def refsAttrs : List Attribute → List Nat
  | [] => []
  | a :: as => refsAttr a ++ refsAttrs as

def refsTag : Tag → List Nat
  | .tok _ => []
  | .lit off => [off]

mutual
def refsElem : Elem → List Nat
  | .mk _ tag attrs content => refsTag tag ++ (refsAttrs attrs ++ refsContent content)
def refsContent : Option (List Item) → List Nat
  | none => []
  | some items => refsItems items
def refsItems : List Item → List Nat
  | [] => []
  | it :: rest => refsItem it ++ refsItems rest
def refsItem : Item → List Nat
  | .elem e => refsElem e
  | .str s => refsStr s
  | .entity _ => []
  | .opaque _ => []
  | .ext _ _ => []
  | .pi a => refsAttr a
end

def refsDoc (d : Doc) : List Nat :=
  (match d.hdr.pubid with | .str idx => [idx] | .num _ => []) ++
    (refsAttrs d.pre ++ (refsElem d.root ++ refsAttrs d.post))

theorem refsElem_mk (sw tag attrs content) :
    refsElem (.mk sw tag attrs content) = refsTag tag ++ (refsAttrs attrs ++ refsContent content) := by rw [refsElem]
theorem refsContent_none : refsContent none = [] := by rw [refsContent]
theorem refsContent_some (items) : refsContent (some items) = refsItems items := by rw [refsContent]
theorem refsItems_nil : refsItems [] = [] := by rw [refsItems]
theorem refsItems_cons (it rest) : refsItems (it :: rest) = refsItem it ++ refsItems rest := by rw [refsItems]
theorem refsItem_elem (e) : refsItem (.elem e) = refsElem e := by rw [refsItem]
theorem refsItem_str (s) : refsItem (.str s) = refsStr s := by rw [refsItem]
theorem refsItem_opaque (d) : refsItem (.opaque d) = [] := by rw [refsItem]
theorem refsItem_ext (sw x) : refsItem (.ext sw x) = [] := by rw [refsItem]

theorem refsItems_append (a b : List Item) : refsItems (a ++ b) = refsItems a ++ refsItems b := by
  induction a with
  | nil => simp [refsItems_nil]
  | cons x xs ih => simp [refsItems_cons, ih]

theorem refsAVals_append (a b : List AVal) : refsAVals (a ++ b) = refsAVals a ++ refsAVals b := by
  induction a with
  | nil => simp [refsAVals]
  | cons x xs ih => simp [refsAVals, ih]

theorem refsAttrs_append (a b : List Attribute) : refsAttrs (a ++ b) = refsAttrs a ++ refsAttrs b := by
  induction a with
  | nil => simp [refsAttrs]
  | cons x xs ih => simp [refsAttrs, ih]

def opqsAVal : AVal → List Bytes
  | .opaque d => [d]
  | _ => []

def opqsAVals : List AVal → List Bytes
  | [] => []
  | v :: vs => opqsAVal v ++ opqsAVals vs

def opqsAttr (a : Attribute) : List Bytes := opqsAVals a.vals

def opqsAttrs : List Attribute → List Bytes
  | [] => []
  | a :: as => opqsAttr a ++ opqsAttrs as

mutual
def opqsElem : Elem → List Bytes
  | .mk _ _ attrs content => opqsAttrs attrs ++ opqsContent content
def opqsContent : Option (List Item) → List Bytes
  | none => []
  | some items => opqsItems items
def opqsItems : List Item → List Bytes
  | [] => []
  | it :: rest => opqsItem it ++ opqsItems rest
def opqsItem : Item → List Bytes
  | .elem e => opqsElem e
  | .str _ => []
  | .entity _ => []
  | .opaque d => [d]
  | .ext _ _ => []
  | .pi a => opqsAttr a
end

def opqsDoc (d : Doc) : List Bytes := opqsAttrs d.pre ++ (opqsElem d.root ++ opqsAttrs d.post)

theorem opqsElem_mk (sw tag attrs content) :
    opqsElem (.mk sw tag attrs content) = opqsAttrs attrs ++ opqsContent content := by rw [opqsElem]
theorem opqsContent_none : opqsContent none = [] := by rw [opqsContent]
theorem opqsContent_some (items) : opqsContent (some items) = opqsItems items := by rw [opqsContent]
theorem opqsItems_nil : opqsItems [] = [] := by rw [opqsItems]
theorem opqsItems_cons (it rest) : opqsItems (it :: rest) = opqsItem it ++ opqsItems rest := by rw [opqsItems]
theorem opqsItem_elem (e) : opqsItem (.elem e) = opqsElem e := by rw [opqsItem]
theorem opqsItem_str (s) : opqsItem (.str s) = [] := by rw [opqsItem]
theorem opqsItem_opaque (d) : opqsItem (.opaque d) = [d] := by rw [opqsItem]
theorem opqsItem_ext (sw x) : opqsItem (.ext sw x) = [] := by rw [opqsItem]

theorem opqsItems_append (a b : List Item) : opqsItems (a ++ b) = opqsItems a ++ opqsItems b := by
  induction a with
  | nil => simp [opqsItems_nil]
  | cons x xs ih => simp [opqsItems_cons, ih]

theorem opqsAVals_append (a b : List AVal) : opqsAVals (a ++ b) = opqsAVals a ++ opqsAVals b := by
  induction a with
  | nil => simp [opqsAVals]
  | cons x xs ih => simp [opqsAVals, ih]

theorem serItems_append (a b : List Item) : serItems (a ++ b) = serItems a ++ serItems b := by
  induction a with
  | nil => simp [serItems_nil]
  | cons x xs ih => simp [serItems_cons, ih]

theorem serAVals_append (a b : List AVal) : serAVals (a ++ b) = serAVals a ++ serAVals b := by
  induction a with
  | nil => simp [serAVals]
  | cons x xs ih => simp [serAVals, ih]

theorem serAttrs_append (a b : List Attribute) : serAttrs (a ++ b) = serAttrs a ++ serAttrs b := by
  induction a with
  | nil => simp [serAttrs]
  | cons x xs ih => simp [serAttrs, ih]

theorem evItems_append_pages (c : Ctx) (own) (pg : Pages) (a b : List Item) :
    (evItems c own pg (a ++ b)).2 = (evItems c own (evItems c own pg a).2 b).2 := by
  induction a generalizing pg with
  | nil => simp [evItems_nil]
  | cons x xs ih => simp only [List.cons_append, evItems_cons, ih]

theorem wfItems_append (c : Ctx) (own slot) (pg : Pages) (a b : List Item) :
    wfItems c own slot pg (a ++ b) =
      (wfItems c own slot pg a && wfItems c own (slotEnd slot a) (evItems c own pg a).2 b) := by
  induction a generalizing pg slot with
  | nil => simp [wfItems, evItems_nil, slotEnd]
  | cons x xs ih => simp only [List.cons_append, wfItems_cons, ih, evItems_cons, slotEnd, Bool.and_assoc]

theorem avalsText_append (c : Ctx) (ap : Nat) (a b : List AVal) :
    avalsText c ap (a ++ b) =
      ((avalsText c ap a).1 ++ (avalsText c (avalsText c ap a).2 b).1, (avalsText c (avalsText c ap a).2 b).2) := by
  induction a generalizing ap with
  | nil => simp [avalsText]
  | cons x xs ih => simp only [List.cons_append, avalsText, ih, List.append_assoc]

theorem wfAVals_append (c : Ctx) (ap : Nat) (a b : List AVal) :
    wfAVals c ap (a ++ b) = (wfAVals c ap a && wfAVals c (avalsText c ap a).2 b) := by
  induction a generalizing ap with
  | nil => simp [wfAVals, avalsText]
  | cons x xs ih => simp only [List.cons_append, wfAVals, ih, avalsText, Bool.and_assoc]

theorem astartName_page (c : Ctx) (ap : Nat) (a : AStart) :
    (astartName c ap a).2.2 = match a with | .tok sw _ => swPage sw ap | .lit _ => ap := by
  cases a with
  | tok sw t => simp only [astartName]; split <;> rfl
  | lit off => rfl

theorem evAttr_page (c : Ctx) (ap : Nat) (a : Attribute) :
    (evAttr c ap a).2 = (avalsText c (astartName c ap a.start).2.2 a.vals).2 := rfl

theorem evAttrs_nil (c : Ctx) (ap : Nat) : evAttrs c ap [] = ([], ap) := rfl
theorem evAttrs_cons_page (c : Ctx) (ap : Nat) (a : Attribute) (as : List Attribute) :
    (evAttrs c ap (a :: as)).2 = (evAttrs c (evAttr c ap a).2 as).2 := rfl

theorem evAttrs_append_page (c : Ctx) (ap : Nat) (a b : List Attribute) :
    (evAttrs c ap (a ++ b)).2 = (evAttrs c (evAttrs c ap a).2 b).2 := by
  induction a generalizing ap with
  | nil => rfl
  | cons x xs ih => simp only [List.cons_append, evAttrs_cons_page, ih]

theorem wfAttrs_append (c : Ctx) (ap : Nat) (a b : List Attribute) :
    wfAttrs c ap (a ++ b) = (wfAttrs c ap a && wfAttrs c (evAttrs c ap a).2 b) := by
  induction a generalizing ap with
  | nil => simp [wfAttrs, evAttrs_nil]
  | cons x xs ih => simp only [List.cons_append, wfAttrs, ih, evAttrs_cons_page, Bool.and_assoc]

theorem refsItems_single (it : Item) : refsItems [it] = refsItem it := by
  rw [refsItems_cons, refsItems_nil, List.append_nil]
theorem opqsItems_single (it : Item) : opqsItems [it] = opqsItem it := by
  rw [opqsItems_cons, opqsItems_nil, List.append_nil]
theorem serItems_single (it : Item) : serItems [it] = serItem it := by
  rw [serItems_cons, serItems_nil, List.append_nil]
theorem evItems_single_pages (ctx own pg) (it : Item) : (evItems ctx own pg [it]).2 = (evItem ctx own pg it).2 := by
  rw [evItems_cons, evItems_nil]
theorem evItems_single_events (ctx own pg) (it : Item) : (evItems ctx own pg [it]).1 = (evItem ctx own pg it).1 := by
  rw [evItems_cons, evItems_nil, List.append_nil]
theorem wfItems_single (ctx own slot pg) (it : Item) : wfItems ctx own slot pg [it] = wfItem ctx own slot pg it := by
  rw [wfItems_cons, wfItems, Bool.and_true]

end Wbxml.Lemmas.EncW
