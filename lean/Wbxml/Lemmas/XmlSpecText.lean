/-
  The specification reader `Spec/Xml.lean` on what the printer model writes for character data and
  attribute values: `xmlEscape` is read back exactly in content (`reads_escape`) and, between double
  quotes, as `attNorm` of the value (`areads_escape`); a CDATA node as the printer writes it —
  `<![CDATA[` `cdataText s` `]]>` — is read as the character data `eolNorm s` (`reads_cdata`); and both
  written forms are UTF-8 for XML characters whenever the data is (`xmlChars_escape`,
  `xmlChars_cdataText`): they only touch or insert ASCII octets.
-/
import Wbxml.Lemmas.XmlSpecLex
import Wbxml.Lemmas.XmlPrint
namespace Wbxml.Lemmas.XmlSpec
open Wbxml Wbxml.Model Wbxml.Spec Wbxml.Spec.Xml Wbxml.Lemmas.EncW

-- The eight references the printer writes, by evaluation: the reader stops at the `;`, in front of `r`.
theorem ref_lt (r : Bytes) : reference (b!"lt;" ++ r) = some ([60], r) := rfl
theorem ref_gt (r : Bytes) : reference (b!"gt;" ++ r) = some ([62], r) := rfl
theorem ref_amp (r : Bytes) : reference (b!"amp;" ++ r) = some ([38], r) := rfl
theorem ref_quot (r : Bytes) : reference (b!"quot;" ++ r) = some ([34], r) := rfl
theorem ref_apos (r : Bytes) : reference (b!"apos;" ++ r) = some ([39], r) := rfl
theorem ref_13 (r : Bytes) : reference (b!"#13;" ++ r) = some ([13], r) := rfl
theorem ref_10 (r : Bytes) : reference (b!"#10;" ++ r) = some ([10], r) := rfl
theorem ref_9 (r : Bytes) : reference (b!"#9;" ++ r) = some ([9], r) := rfl

theorem addText_nil (R : List XItem) : addText [] R = R := by
  cases R with
  | nil => rfl
  | cons x r => cases x <;> rfl

theorem addText_append (s t : Bytes) (R : List XItem) : addText s (addText t R) = addText (s ++ t) R := by
  cases R with
  | nil =>
    cases t with
    | nil => simp [addText]
    | cons b t => simp [addText]
  | cons x r =>
    cases x with
    | text u => simp [addText]
    | elem n a k =>
      cases t with
      | nil => simp [addText]
      | cons b t => simp [addText]

/-- `content` reads `bs` as `r`, with any budget that exceeds the number of octets. -/
def Reads (bs : Bytes) (r : List XItem × Bytes) : Prop := ∀ f, bs.length < f → content f bs = some r

/-- No `>` before the next `<`. -/
def gtFree : Bytes → Bool
  | [] => true
  | b :: r => if b == 60 then true else if b == 62 then false else gtFree r

theorem gtFree_93 (X : Bytes) (h : gtFree (93 :: X) = true) : (X.take 2 == [93, 62]) = false := by
  match X with
  | [] => rfl
  | [a] => simp
  | a :: b :: r =>
    simp only [gtFree] at h
    simp only [List.take_succ_cons, List.take_zero]
    by_cases ha : a = 93
    · subst ha
      by_cases hb : b = 62
      · subst hb; simp at h
      · simp [hb]
    · simp [ha]

theorem reads_plain (a : UInt8) (X : Bytes) (R : List XItem) (rest' : Bytes) (h60 : a ≠ 60) (h38 : a ≠ 38) (h13 : a ≠ 13)
    (hg : gtFree (a :: X) = true) (h : Reads X (R, rest')) : Reads (a :: X) (addText [a] R, rest') := by
  intro f hf
  cases f with
  | zero => simp at hf
  | succ f =>
    have hX := h f (by simp at hf; omega)
    have h93 : (a == 93 && X.take 2 == [93, 62]) = false := by
      by_cases ha : a = 93
      · subst ha; simp [gtFree_93 X hg]
      · simp [ha]
    simp [content, h60, h38, h13, h93, hX]

theorem reads_ref (body c X : Bytes) (R : List XItem) (rest' : Bytes) (hr : reference (body ++ X) = some (c, X))
    (h : Reads X (R, rest')) : Reads (38 :: (body ++ X)) (addText c R, rest') := by
  intro f hf
  cases f with
  | zero => simp at hf
  | succ f =>
    have hX := h f (by simp at hf; omega)
    simp [content, hr, hX]


theorem gtFree_esc1 (c : Bool) (a : UInt8) (X : Bytes) : gtFree (esc1 c a ++ X) = gtFree X :=
  esc1_elim (motive := fun _ e => gtFree (e ++ X) = gtFree X) c rfl rfl rfl rfl rfl rfl (fun _ => rfl) (fun _ => rfl)
    (fun ch h60 h62 _ _ _ _ _ => by simp [gtFree, h60, h62]) a

theorem gtFree_escape (c : Bool) (s X : Bytes) : gtFree (xmlEscape c s ++ X) = gtFree X := by
  induction s with
  | nil => rfl
  | cons a s ih => rw [xmlEscape_cons, List.append_assoc, gtFree_esc1, ih]

theorem reads_esc1 (c : Bool) (a : UInt8) (X : Bytes) (R : List XItem) (rest' : Bytes) (hg : gtFree X = true)
    (h : Reads X (R, rest')) : Reads (esc1 c a ++ X) (addText [a] R, rest') :=
  esc1_elim (motive := fun a e => Reads (e ++ X) (addText [a] R, rest')) c
    (reads_ref b!"lt;" _ X R rest' (ref_lt X) h) (reads_ref b!"gt;" _ X R rest' (ref_gt X) h)
    (reads_ref b!"amp;" _ X R rest' (ref_amp X) h) (reads_ref b!"quot;" _ X R rest' (ref_quot X) h)
    (reads_ref b!"apos;" _ X R rest' (ref_apos X) h) (reads_ref b!"#13;" _ X R rest' (ref_13 X) h)
    (fun _ => reads_ref b!"#10;" _ X R rest' (ref_10 X) h) (fun _ => reads_ref b!"#9;" _ X R rest' (ref_9 X) h)
    (fun ch h60 h62 h38 _ _ h13 _ =>
      reads_plain ch X R rest' h60 h38 h13 (by simp [gtFree, h60, h62, hg]) h) a

/-- **Escaped character data is read back exactly**, joined to the character data that follows. -/
theorem reads_escape (c : Bool) (s X : Bytes) (R : List XItem) (rest' : Bytes) (hg : gtFree X = true)
    (h : Reads X (R, rest')) : Reads (xmlEscape c s ++ X) (addText s R, rest') := by
  induction s with
  | nil => simpa [xmlEscape, addText_nil] using h
  | cons a s ih =>
    rw [xmlEscape_cons, List.append_assoc]
    have := reads_esc1 c a (xmlEscape c s ++ X) (addText s R) rest' (by rw [gtFree_escape, hg]) ih
    rwa [addText_append] at this


/-- `attValue` (double-quoted) reads `bs` as `r`, with any budget that exceeds the number of octets. -/
def AReads (bs : Bytes) (r : Bytes × Bytes) : Prop := ∀ f, bs.length < f → attValue 34 f bs = some r

theorem areads_end (rest : Bytes) : AReads (34 :: rest) ([], rest) := by
  intro f hf
  cases f with
  | zero => simp at hf
  | succ f => simp [attValue]

theorem areads_ref (body c Y V rest : Bytes) (hr : reference (body ++ Y) = some (c, Y)) (h : AReads Y (V, rest)) :
    AReads (38 :: (body ++ Y)) (c ++ V, rest) := by
  intro f hf
  cases f with
  | zero => simp at hf
  | succ f =>
    have hY := h f (by simp at hf; omega)
    simp [attValue, hr, hY]

/-- §3.3.3 for one literal octet. -/
def attNorm1 (a : UInt8) : UInt8 := if a == 10 || a == 9 then 32 else a

theorem areads_plain (a : UInt8) (Y V rest : Bytes) (h34 : a ≠ 34) (h60 : a ≠ 60) (h38 : a ≠ 38) (h13 : a ≠ 13)
    (h : AReads Y (V, rest)) : AReads (a :: Y) (attNorm1 a :: V, rest) := by
  intro f hf
  cases f with
  | zero => simp at hf
  | succ f =>
    have hY := h f (by simp at hf; omega)
    by_cases hw : (a == 10 || a == 9) = true
    · simp [attValue, h34, h60, h38, h13, hw, hY, attNorm1]
    · simp only [Bool.not_eq_true] at hw
      simp [attValue, h34, h60, h38, h13, hw, hY, attNorm1]

/-- What a reader gets for an attribute value the printer escaped: in canonical generation the
    value itself; otherwise the value with literal TAB and LF replaced by spaces (§3.3.3) — CR is
    always written as a character reference and kept. -/
def attNorm (canonical : Bool) (v : Bytes) : Bytes := if canonical then v else v.map attNorm1

theorem attNorm_cons (c : Bool) (a : UInt8) (v : Bytes) :
    attNorm c (a :: v) = (if c then a else attNorm1 a) :: attNorm c v := by
  cases c <;> simp [attNorm]

theorem areads_esc1 (c : Bool) (a : UInt8) (Y V rest : Bytes) (h : AReads Y (V, rest)) :
    AReads (esc1 c a ++ Y) ((if c then a else attNorm1 a) :: V, rest) := by
  refine esc1_elim (motive := fun a e => AReads (e ++ Y) ((if c then a else attNorm1 a) :: V, rest)) c
    ?_ ?_ ?_ ?_ ?_ ?_ ?_ ?_ ?_ a
  · cases c <;> exact areads_ref b!"lt;" _ Y V rest (ref_lt Y) h
  · cases c <;> exact areads_ref b!"gt;" _ Y V rest (ref_gt Y) h
  · cases c <;> exact areads_ref b!"amp;" _ Y V rest (ref_amp Y) h
  · cases c <;> exact areads_ref b!"quot;" _ Y V rest (ref_quot Y) h
  · cases c <;> exact areads_ref b!"apos;" _ Y V rest (ref_apos Y) h
  · cases c <;> exact areads_ref b!"#13;" _ Y V rest (ref_13 Y) h
  · rintro rfl; exact areads_ref b!"#10;" _ Y V rest (ref_10 Y) h
  · rintro rfl; exact areads_ref b!"#9;" _ Y V rest (ref_9 Y) h
  · intro ch h60 _ h38 h34 _ h13 hc
    have hp := areads_plain ch Y V rest h34 h60 h38 h13 h
    cases c with
    | false => exact hp
    | true =>
      -- neither LF nor TAB: §3.3.3 leaves the octet alone
      have : attNorm1 ch = ch := by simp [attNorm1, (hc rfl).1, (hc rfl).2]
      rwa [this] at hp

/-- **An escaped attribute value between double quotes is read back** as `attNorm` of the value. -/
theorem areads_escape (c : Bool) (v rest : Bytes) : AReads (xmlEscape c v ++ 34 :: rest) (attNorm c v, rest) := by
  induction v with
  | nil => simpa [xmlEscape, attNorm] using areads_end rest
  | cons a v ih =>
    rw [xmlEscape_cons, List.append_assoc, attNorm_cons]
    exact areads_esc1 c a _ _ rest ih

/-- A value written as it is (a namespace name from the tables): no quote, `<`, `&`, TAB, LF, CR. -/
def isPlainAtt (b : UInt8) : Bool := b != 34 && b != 60 && b != 38 && b != 13 && b != 10 && b != 9

theorem areads_raw (v rest : Bytes) (hv : v.all isPlainAtt = true) : AReads (v ++ 34 :: rest) (v, rest) := by
  induction v with
  | nil => exact areads_end rest
  | cons a v ih =>
    simp only [List.all_cons, Bool.and_eq_true] at hv
    have ha := hv.1
    simp only [isPlainAtt, Bool.and_eq_true, bne_iff_ne, ne_eq] at ha
    have := areads_plain a _ _ rest ha.1.1.1.1.1 ha.1.1.1.1.2 ha.1.1.1.2 ha.1.1.2 (ih hv.2)
    have h1 : attNorm1 a = a := by simp [attNorm1, ha.1.2, ha.2]
    rwa [h1] at this

/-- §2.11 on character data written as it is (inside a CDATA section): CR LF and a lone CR are read as LF. -/
def eolNorm : Bytes → Bytes
  | [] => []
  | b :: r =>
    if b == 13 then
      match r with
      | 10 :: r' => 10 :: eolNorm r'
      | r' => 10 :: eolNorm r'
    else b :: eolNorm r

theorem eolNorm_cons (b : UInt8) (r : Bytes) (h : b ≠ 13) : eolNorm (b :: r) = b :: eolNorm r := by
  rw [eolNorm.eq_def]; simp [h]

theorem eolNorm_crlf (r : Bytes) : eolNorm (13 :: 10 :: r) = 10 :: eolNorm r := by
  rw [eolNorm.eq_def]; simp

theorem eolNorm_cr (r : Bytes) (h : ∀ r1, r ≠ 10 :: r1) : eolNorm (13 :: r) = 10 :: eolNorm r := by
  rw [eolNorm.eq_def]
  -- `h` discharges the side condition of the second alternative
  simp only [beq_self_eq_true, ↓reduceIte]

theorem cdSect_plain (b : UInt8) (Y : Bytes) (h13 : b ≠ 13) (h93 : (b == 93 && Y.take 2 == [93, 62]) = false) :
    cdSect (b :: Y) = (cdSect Y).map fun dr => (b :: dr.1, dr.2) := by
  rw [cdSect.eq_def]
  simp [h13, h93]

theorem cdSect_end (X : Bytes) : cdSect (93 :: 93 :: 62 :: X) = some ([], X) := by
  rw [cdSect.eq_def]; simp

theorem cdSect_crlf (Y : Bytes) : cdSect (13 :: 10 :: Y) = (cdSect Y).map fun dr => (10 :: dr.1, dr.2) := by
  rw [cdSect.eq_def]; simp

theorem cdSect_cr (Y : Bytes) (h : ∀ r, Y ≠ 10 :: r) : cdSect (13 :: Y) = (cdSect Y).map fun dr => (10 :: dr.1, dr.2) := by
  rw [cdSect.eq_def]
  simp only [beq_iff_eq]
  have e1 : ((13 : UInt8) == 93 && List.take 2 Y == [93, 62]) = false := by simp
  simp only [e1, Bool.false_eq_true, ↓reduceIte]

/-- What `content` does after `<![CDATA[`, with the character data `pre` already collected. -/
def cdGo (f : Nat) (pre : Bytes) (Y : Bytes) : Option (List XItem × Bytes) :=
  (cdSect Y).bind fun dr => (content f dr.2).map fun ir => (addText (pre ++ dr.1) ir.1, ir.2)

theorem content_cdata (f : Nat) (Y : Bytes) :
    content (f + 1) (b!"<![CDATA[" ++ Y) = cdGo f [] Y := by
  show content (f + 1) (60 :: 33 :: 91 :: 67 :: 68 :: 65 :: 84 :: 65 :: 91 :: Y) = _
  simp only [content, cdGo]
  simp [strip]
  cases cdSect Y with
  | none => rfl
  | some dr =>
    simp only [Option.bind_some]
    cases content f dr.2 <;> rfl

theorem cdGo_map (f : Nat) (pre : Bytes) (b : UInt8) (Y Z : Bytes)
    (h : cdSect Z = (cdSect Y).map fun dr => (b :: dr.1, dr.2)) : cdGo f pre Z = cdGo f (pre ++ [b]) Y := by
  simp only [cdGo, h]
  cases cdSect Y with
  | none => simp
  | some dr => simp


theorem cdataText_cons (b : UInt8) (r : Bytes) (h : ¬(b = 93 ∧ ∃ r', r = 93 :: 62 :: r')) :
    cdataText (b :: r) = b :: cdataText r := by
  rw [cdataText.eq_2]  -- the clause for an octet that does not begin `]]>`
  intro r' hb hr
  exact h ⟨hb, r', hr⟩

theorem cdataText_take2 (r X : Bytes) (h : (cdataText r ++ 93 :: 93 :: 62 :: X).take 2 = [93, 62]) :
    ∃ r', r = 93 :: 62 :: r' := by
  have e := List.take_append_drop 2 (cdataText r ++ 93 :: 93 :: 62 :: X)
  rw [h] at e
  exact Wbxml.Lemmas.XmlPrint.cdataText_93_62 r (62 :: X) _ e.symm

/-- **A CDATA node's text is read back** (line ends normalised), whatever `]]>` it contains: `cdataText`
    ends the section after `]]` and opens a new one, and the reader joins adjacent sections. -/
theorem cdGo_cdataText (X : Bytes) (R : List XItem) (rest' : Bytes) (hX : Reads X (R, rest')) :
    ∀ (n : Nat) (s pre : Bytes) (f : Nat), s.length ≤ n → (cdataText s ++ 93 :: 93 :: 62 :: X).length < f →
      cdGo f pre (cdataText s ++ 93 :: 93 :: 62 :: X) = some (addText (pre ++ eolNorm s) R, rest') := by
  -- the end of the run of sections
  have hend : ∀ (pre : Bytes) (f : Nat), (93 :: 93 :: 62 :: X).length < f →
      cdGo f pre (93 :: 93 :: 62 :: X) = some (addText pre R, rest') := fun pre f hf => by
    have hc := hX f (by simp at hf; omega)
    simp [cdGo, cdSect_end, hc]
  -- on a bound for the length of `s`: `]]>` and CR LF go on three and two octets further
  intro n
  induction n with
  | zero =>
    intro s pre f hs hf
    cases s with
    | nil => simpa [cdataText, eolNorm] using hend pre f hf
    | cons _ _ => simp at hs
  | succ n ih =>
    intro s pre f hs hf
    cases s with
    | nil => simpa [cdataText, eolNorm] using hend pre f hf
    | cons b r =>
      by_cases h93 : b = 93 ∧ ∃ r', r = 93 :: 62 :: r'
      · -- `]]>`: the section ends after `]]`, the next one starts with `>`
        obtain ⟨rfl, r', rfl⟩ := h93
        have hct : cdataText (93 :: 93 :: 62 :: r') ++ 93 :: 93 :: 62 :: X =
            93 :: 93 :: 93 :: 93 :: 62 :: (b!"<![CDATA[" ++ 62 :: (cdataText r' ++ 93 :: 93 :: 62 :: X)) := by
          simp [cdataText]
        rw [hct] at hf ⊢
        cases f with
        | zero => simp at hf
        | succ f' =>
        rw [cdGo_map _ pre 93 _ _ (cdSect_plain 93 _ (by decide) (by simp)),
          cdGo_map _ (pre ++ [93]) 93 _ _ (cdSect_plain 93 _ (by decide) (by simp))]
        simp only [cdGo, cdSect_end, Option.bind_some]
        rw [content_cdata, cdGo_map _ [] 62 _ _ (cdSect_plain 62 _ (by decide) (by simp)),
          ih r' ([] ++ [62]) f' (by simp at hs; omega) (by simp only [List.length_cons, List.length_append] at hf ⊢; omega),
          eolNorm_cons 93 _ (by decide), eolNorm_cons 93 _ (by decide), eolNorm_cons 62 _ (by decide)]
        simp [addText_append]
      · rw [cdataText_cons b r h93] at hf ⊢
        have hlen : (cdataText r ++ 93 :: 93 :: 62 :: X).length < f := by
          simp only [List.length_cons, List.length_append] at hf ⊢; omega
        by_cases h13 : b = 13
        · subst h13
          by_cases h10 : ∃ r1, r = 10 :: r1
          · obtain ⟨r1, rfl⟩ := h10
            rw [cdataText_cons 10 r1 (by simp)] at hlen ⊢
            rw [List.cons_append, List.cons_append, cdGo_map f pre 10 _ _ (cdSect_crlf _),
              ih r1 (pre ++ [10]) f (by simp at hs; omega) (by simp only [List.cons_append, List.length_cons] at hlen; omega), eolNorm_crlf]
            simp
          · have hY : ∀ r'', cdataText r ++ 93 :: 93 :: 62 :: X ≠ 10 :: r'' := by
              intro r'' hY
              have hh := Wbxml.Lemmas.XmlPrint.cdataText_head r (93 :: 93 :: 62 :: X)
              rw [hY] at hh
              cases r with
              | nil => simp at hh
              | cons a r2 =>
                simp only [List.head?_cons, List.cons_append, Option.some.injEq] at hh
                exact h10 ⟨r2, by rw [hh]⟩
            rw [List.cons_append, cdGo_map f pre 10 _ _ (cdSect_cr _ hY),
              ih r (pre ++ [10]) f (Nat.le_of_succ_le_succ hs) hlen, eolNorm_cr r fun r1 h => h10 ⟨r1, h⟩]
            simp
        · -- a `]` that is not the first of `]]>` in `s` is not the first of a `]]>` written either
          have ht : (b == 93 && (cdataText r ++ 93 :: 93 :: 62 :: X).take 2 == [93, 62]) = false := by
            by_cases hb : b = 93
            · subst hb
              cases hq : (cdataText r ++ 93 :: 93 :: 62 :: X).take 2 == [93, 62] with
              | false => rfl
              | true => exact absurd ⟨rfl, cdataText_take2 r X (by simpa using hq)⟩ h93
            · simp [hb]
          rw [List.cons_append, cdGo_map f pre b _ _ (cdSect_plain b _ h13 ht),
            ih r (pre ++ [b]) f (Nat.le_of_succ_le_succ hs) hlen, eolNorm_cons b r h13]
          simp

theorem reads_cdata (s X : Bytes) (R : List XItem) (rest' : Bytes) (hX : Reads X (R, rest')) :
    Reads (b!"<![CDATA[" ++ (cdataText s ++ 93 :: 93 :: 62 :: X)) (addText (eolNorm s) R, rest') := by
  intro f hf
  cases f with
  | zero => simp at hf
  | succ f =>
    rw [content_cdata]
    have := cdGo_cdataText X R rest' hX s.length s [] f (Nat.le_refl _)
      (by simp only [List.length_cons, List.length_append] at hf ⊢; omega)
    simpa using this

theorem xmlChars_cons_ascii (b : UInt8) (r : Bytes) (hb : b.toNat < 0x80) :
    xmlChars (b :: r) = (isChar b.toNat && xmlChars r) := allCp_ascii isChar b r hb

theorem escSafe_high (b : UInt8) (h : 0x80 ≤ b.toNat) : escSafe b = true := by
  simp only [escSafe, Bool.not_eq_eq_eq_not, Bool.not_true, Bool.or_eq_false_iff, beq_eq_false_iff_ne]
  refine ⟨⟨⟨⟨⟨⟨⟨?_, ?_⟩, ?_⟩, ?_⟩, ?_⟩, ?_⟩, ?_⟩, ?_⟩ <;> (rintro rfl; exact absurd h (by decide))

theorem xmlChars_esc1 (c : Bool) (a : UInt8) : a.toNat < 0x80 → isChar a.toNat = true → xmlChars (esc1 c a) = true :=
  esc1_elim (motive := fun a e => a.toNat < 0x80 → isChar a.toNat = true → xmlChars e = true) c
    (fun _ _ => by decide) (fun _ _ => by decide) (fun _ _ => by decide) (fun _ _ => by decide)
    (fun _ _ => by decide) (fun _ _ => by decide) (fun _ _ _ => by decide) (fun _ _ _ => by decide)
    (fun ch _ _ _ _ _ _ _ ha hc => by rw [xmlChars_cons_ascii ch [] ha, hc]; rfl) a

theorem xmlChars_escape (c : Bool) (s : Bytes) (h : xmlChars s = true) : xmlChars (xmlEscape c s) = true := by
  revert h
  refine allCp_induct isChar (fun s => xmlChars (xmlEscape c s) = true) rfl ?_ ?_ s
  · intro a r ha hp _ ih
    rw [xmlEscape_cons]
    exact xmlChars_append _ _ (xmlChars_esc1 c a ha hp) ih
  · intro ch cp r _ hch hd _ hp _ ih
    rw [xmlEscape_append, xmlEscape_safe c ch (List.all_eq_true.mpr fun b hb => escSafe_high b (hch b hb))]
    exact allCp_multi isChar ch cp hd hp _ ih

theorem cdataText_high (ch r : Bytes) (h : ∀ b ∈ ch, 0x80 ≤ b.toNat) : cdataText (ch ++ r) = ch ++ cdataText r := by
  induction ch with
  | nil => rfl
  | cons b t ih =>
    have hb : b ≠ 93 := fun e => absurd (e ▸ h b List.mem_cons_self) (by decide)
    rw [List.cons_append, cdataText_cons b _ (fun hh => hb hh.1), ih (fun x hx => h x (List.mem_cons_of_mem _ hx))]
    rfl

theorem xmlChars_cdataText (s : Bytes) (h : xmlChars s = true) : xmlChars (cdataText s) = true := by
  revert h
  refine allCp_induct isChar (fun s => xmlChars (cdataText s) = true) rfl ?_ ?_ s
  · intro a r ha hp _ ih
    by_cases h93 : a = 93 ∧ ∃ r', r = 93 :: 62 :: r'
    · obtain ⟨rfl, r', rfl⟩ := h93
      rw [cdataText_cons 93 _ (by simp), cdataText_cons 62 _ (by simp),
        xmlChars_cons_ascii 93 _ (by decide), xmlChars_cons_ascii 62 _ (by decide)] at ih
      simp only [Bool.and_eq_true] at ih
      show xmlChars (b!"]]]]><![CDATA[>" ++ cdataText r') = true
      exact xmlChars_append _ _ (by decide) ih.2.2
    · rw [cdataText_cons a r h93, xmlChars_cons_ascii a _ ha, hp, ih]; rfl
  · intro ch cp r _ hch hd _ hp _ ih
    rw [cdataText_high ch r hch]
    exact allCp_multi isChar ch cp hd hp _ ih

end Wbxml.Lemmas.XmlSpec
