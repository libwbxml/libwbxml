/-
  Lexical lemmas about the specification reader `Spec/Xml.lean` (literal strings, white space, UTF-8
  decoding, names) — facts about the reader alone, for all inputs.
-/
import Wbxml.Spec.Xml
namespace Wbxml.Lemmas.XmlSpec
open Wbxml Wbxml.Spec Wbxml.Spec.Xml

theorem strip_append (p r : Bytes) : strip p (p ++ r) = some r := by
  induction p with
  | nil => rfl
  | cons a p ih => simp [strip, ih]

theorem strip_self (p : Bytes) : strip p p = some [] := by
  have := strip_append p []
  simpa using this

theorem skipS_cons_of_not (b : UInt8) (r : Bytes) (h : isS b = false) : skipS (b :: r) = b :: r := by
  simp [skipS, List.dropWhile, h]

theorem skipS_nil : skipS [] = [] := rfl

theorem decode_ascii (a : UInt8) (r : Bytes) (h : a.toNat < 0x80) :
    decode (a :: r) = (decode r).map (a.toNat :: ·) := by
  rw [decode.eq_def]; simp [h]

/-- All characters of a UTF-8 octet sequence satisfy `p` (and the sequence is well-formed UTF-8). -/
def allCp (p : Nat → Bool) (bs : Bytes) : Bool :=
  match decode bs with
  | some cs => cs.all p
  | none => false

theorem allCp_cons_map (p : Nat → Bool) (c : Nat) (x : Bytes) (r : Bytes)
    (hd : decode x = (decode r).map (c :: ·)) (h : allCp p x = true) : p c = true ∧ allCp p r = true := by
  unfold allCp at h ⊢
  rw [hd] at h
  cases hr : decode r with
  | none => simp [hr] at h
  | some cs => simpa [hr] using h

theorem isTail_ge (b : UInt8) (h : isTail b = true) : 0x80 ≤ b.toNat := by
  simp [isTail] at h; exact h.1

theorem allCp_induct (p : Nat → Bool) (P : Bytes → Prop) (nil : P [])
    (ascii : ∀ a r, a.toNat < 0x80 → p a.toNat = true → allCp p r = true → P r → P (a :: r))
    (multi : ∀ ch c r, ch ≠ [] → (∀ b ∈ ch, 0x80 ≤ b.toNat) →
      (∀ t, decode (ch ++ t) = (decode t).map (c :: ·)) → 0x80 ≤ c → p c = true → allCp p r = true → P r → P (ch ++ r)) :
    ∀ s, allCp p s = true → P s := by
  intro s
  -- the cases of `decode`: 1 the empty string, 2 an octet below 0x80, 4 / 7 / 10 a well-formed form of
  -- two / three / four octets; in the others `decode` is `none`
  fun_induction decode s with
  | case1 => intro _; exact nil
  | case2 a r h ih =>
    intro hs
    obtain ⟨h1, h2⟩ := allCp_cons_map p _ _ r (decode_ascii a r h) hs
    exact ascii a r h h1 h2 (ih h2)
  | case4 a h1 h2 h3 b r hb ih =>
    intro hs
    have hd : ∀ t, decode ([a, b] ++ t) = (decode t).map (((a.toNat - 0xC0) * 64 + tailBits b) :: ·) := by
      intro t; show decode (a :: b :: t) = _; rw [decode.eq_def]; simp [h1, h2, h3, hb]
    obtain ⟨h4, h5⟩ := allCp_cons_map p _ _ r (hd r) hs
    have hb' := isTail_ge b hb
    exact multi [a, b] ((a.toNat - 0xC0) * 64 + tailBits b) r (by simp) (by intro x hx; simp at hx; rcases hx with rfl | rfl <;> omega) hd
      (by unfold tailBits; omega) h4 h5 (ih h5)
  | case7 a h1 h2 h3 h4 b c r hb ih =>
    intro hs
    have hd : ∀ t, decode ([a, b, c] ++ t) = (decode t).map ((((a.toNat - 0xE0) * 64 + tailBits b) * 64 + tailBits c) :: ·) := by
      intro t; show decode (a :: b :: c :: t) = _; rw [decode.eq_def]; simp [h1, h2, h3, h4, hb]
    obtain ⟨h5, h6⟩ := allCp_cons_map p _ _ r (hd r) hs
    simp only [Bool.and_eq_true, Bool.or_eq_true, bne_iff_ne, ne_eq, decide_eq_true_eq] at hb
    have hb1 := isTail_ge b hb.1.1.1
    have hc1 := isTail_ge c hb.1.1.2
    exact multi [a, b, c] (((a.toNat - 0xE0) * 64 + tailBits b) * 64 + tailBits c) r (by simp) (by intro x hx; simp at hx; rcases hx with rfl | rfl | rfl <;> omega) hd
      (by unfold tailBits; omega) h5 h6 (ih h6)
  | case10 a h1 h2 h3 h4 h5 b c d r hb ih =>
    intro hs
    have hd : ∀ t, decode ([a, b, c, d] ++ t) =
        (decode t).map (((((a.toNat - 0xF0) * 64 + tailBits b) * 64 + tailBits c) * 64 + tailBits d) :: ·) := by
      intro t; show decode (a :: b :: c :: d :: t) = _; rw [decode.eq_def]; simp [h1, h2, h3, h4, h5, hb]
    obtain ⟨h6, h7⟩ := allCp_cons_map p _ _ r (hd r) hs
    simp only [Bool.and_eq_true, Bool.or_eq_true, bne_iff_ne, ne_eq, decide_eq_true_eq] at hb
    have hb1 := isTail_ge b hb.1.1.1.1
    exact multi [a, b, c, d] ((((a.toNat - 0xF0) * 64 + tailBits b) * 64 + tailBits c) * 64 + tailBits d) r (by simp)
      (by intro x hx; simp at hx; rcases hx with rfl | rfl | rfl | rfl
          · omega
          · exact hb1
          · exact isTail_ge _ hb.1.1.1.2
          · exact isTail_ge _ hb.1.1.2) hd
      (by unfold tailBits; omega) h6 h7 (ih h7)
  | _ =>
    intro hs
    exfalso
    unfold allCp at hs
    rw [decode.eq_def] at hs
    simp [*] at hs


theorem xmlChars_eq (bs : Bytes) : xmlChars bs = allCp isChar bs := rfl

theorem allCp_nil (p : Nat → Bool) : allCp p [] = true := by simp [allCp, decode]

theorem allCp_ascii (p : Nat → Bool) (a : UInt8) (r : Bytes) (h : a.toNat < 0x80) :
    allCp p (a :: r) = (p a.toNat && allCp p r) := by
  unfold allCp
  rw [decode_ascii a r h]
  cases decode r <;> simp

theorem allCp_append (p : Nat → Bool) (a b : Bytes) (h : allCp p a = true) : allCp p (a ++ b) = allCp p b := by
  revert h
  refine allCp_induct p (fun a => allCp p (a ++ b) = allCp p b) rfl ?_ ?_ a
  · intro x r hx hp _ ih
    rw [List.cons_append, allCp_ascii p x _ hx, hp, ih]; rfl
  · intro ch c r _ _ hd _ hp _ ih
    rw [List.append_assoc]
    unfold allCp at ih ⊢
    rw [hd]
    cases hr : decode (r ++ b) with
    | none => rw [hr] at ih; simp [← ih]
    | some cs => rw [hr] at ih; simp [hp, ← ih]

theorem allCp_multi (p : Nat → Bool) (ch : Bytes) (c : Nat) (hd : ∀ t, decode (ch ++ t) = (decode t).map (c :: ·))
    (hp : p c = true) (Y : Bytes) (hY : allCp p Y = true) : allCp p (ch ++ Y) = true := by
  unfold allCp at hY ⊢
  rw [hd]
  cases hr : decode Y with
  | none => rw [hr] at hY; simp at hY
  | some cs => rw [hr] at hY; simp [hp, hY]

theorem allCp_mono (p q : Nat → Bool) (hpq : ∀ c, p c = true → q c = true) (s : Bytes) (h : allCp p s = true) :
    allCp q s = true := by
  revert h
  refine allCp_induct p (fun s => allCp q s = true) (allCp_nil q) ?_ ?_ s
  · intro a r ha hp _ ih
    rw [allCp_ascii q a r ha, hpq _ hp, ih]; rfl
  · intro ch c r _ _ hd _ hp _ ih
    exact allCp_multi q ch c hd (hpq _ hp) r ih

theorem allCp_of_ascii (p : Nat → Bool) (s : Bytes) (h : ∀ b ∈ s, b.toNat < 0x80 ∧ p b.toNat = true) :
    allCp p s = true := by
  induction s with
  | nil => exact allCp_nil p
  | cons a r ih =>
    rw [allCp_ascii p a r (h a List.mem_cons_self).1, (h a List.mem_cons_self).2,
      ih (fun b hb => h b (List.mem_cons_of_mem _ hb))]; rfl

theorem xmlChars_append (a b : Bytes) (ha : xmlChars a = true) (hb : xmlChars b = true) : xmlChars (a ++ b) = true :=
  (allCp_append isChar a b ha).trans hb

theorem nameStart_nameChar (c : Nat) (h : isNameStartChar c = true) : isNameChar c = true := by
  simp [isNameChar, h]

theorem nameChar_char (c : Nat) (h : isNameChar c = true) : isChar c = true := by
  simp only [isNameChar, isNameStartChar, isChar, Bool.or_eq_true, Bool.and_eq_true, decide_eq_true_eq, beq_iff_eq] at h ⊢
  omega

theorem isName_decode (n : Bytes) (h : isName n = true) :
    ∃ c cs, decode n = some (c :: cs) ∧ isNameStartChar c = true ∧ cs.all isNameChar = true := by
  unfold isName at h
  split at h
  · rename_i c cs hd
    simp only [Bool.and_eq_true] at h
    exact ⟨c, cs, hd, h.1, h.2⟩
  · cases h

theorem isName_allCp (n : Bytes) (h : isName n = true) : allCp isNameChar n = true := by
  obtain ⟨c, cs, hd, hc, hcs⟩ := isName_decode n h
  simp [allCp, hd, nameStart_nameChar c hc, hcs]

theorem isName_xmlChars (n : Bytes) (h : isName n = true) : xmlChars n = true :=
  allCp_mono isNameChar isChar nameChar_char n (isName_allCp n h)

theorem allCp_nameBytes (n : Bytes) (h : allCp isNameChar n = true) : n.all isNameByte = true := by
  revert h
  refine allCp_induct isNameChar (fun n => n.all isNameByte = true) rfl ?_ ?_ n
  · intro a r _ hp _ ih
    simp [isNameByte, hp, ih]
  · intro ch c r _ hch _ _ _ _ ih
    rw [List.all_append, ih, Bool.and_true, List.all_eq_true]
    intro b hb
    simp [isNameByte, hch b hb]

/-- The first octet of a Name is an ASCII NameStartChar or starts a multi-octet character. -/
def isNameStartByte (b : UInt8) : Bool := decide (0x80 ≤ b.toNat) || isNameStartChar b.toNat

theorem isName_head (n : Bytes) (h : isName n = true) : ∃ a r, n = a :: r ∧ isNameStartByte a = true := by
  cases n with
  | nil => simp [isName, decode] at h
  | cons a r =>
    refine ⟨a, r, rfl, ?_⟩
    by_cases ha : a.toNat < 0x80
    · obtain ⟨c, cs, hd, hc, _⟩ := isName_decode _ h
      rw [decode_ascii a r ha] at hd
      cases hr : decode r with
      | none => simp [hr] at hd
      | some x =>
        simp only [hr, Option.map_some, Option.some.injEq, List.cons.injEq] at hd
        simp [isNameStartByte, hd.1, hc]
    · simp only [isNameStartByte, Bool.or_eq_true, decide_eq_true_eq]; left; omega

/-- [5] Name in front of something that cannot continue a name. -/
theorem name_append (n rest : Bytes) (hn : isName n = true) (hr : ∀ b r, rest = b :: r → isNameByte b = false) :
    name (n ++ rest) = some (n, rest) := by
  have hall := allCp_nameBytes n (isName_allCp n hn)
  have htw : (n ++ rest).takeWhile isNameByte = n := by
    rw [List.takeWhile_append_of_pos (by simpa using hall)]
    cases rest with
    | nil => simp
    | cons b r => simp [List.takeWhile, hr b r rfl]
  simp [name, htw, hn]

end Wbxml.Lemmas.XmlSpec
