/-
  Round trip (C03): the normalisation `normNode` a tree undergoes on its way through
  `wbxml_tree_to_wbxml` and back through `wbxml_tree_from_wbxml`, as an executable function on trees; its
  idempotence (outside SyncML, and in every language for trees without adjacent text); its view is the
  source view `srcToks`; it is in normal form (`nfNode`) and its own canonical form (`canon`), and does not see `canon`
  of its argument (`normNode_canon`); `normKidsAcc` over `++` and a last child.
-/
import Wbxml.Lemmas.RtText
import Wbxml.Lemmas.RtNf
namespace Wbxml.Lemmas.Rt
open Wbxml Wbxml.Model Wbxml.Spec Wbxml.Lemmas.EncW

/-- Names are compared as XML names read as C strings: token or literal does not matter. -/
def normName (n : Name) : Name := .literal (cstrOf n.xmlName)

/-- The attribute as a reader of the WBXML document reports it: XML name, value read as a C string
    with the trailing NUL the handlers get. -/
def normAttr (a : Attr) : Attr := { name := .literal (cstrOf a.name.xmlName), value := withNul (cstrOf a.value) }

/-- All attributes, or none for a language without attribute table (they are not encoded). -/
def normAttrs (c : WCfg) (attrs : List Attr) : List Attr := if c.lang.attrs.isSome then attrs.map normAttr else []

mutual
/-- **The normalisation of C03 as a function on trees**: names → XML names; attribute values →
    C strings; character data → `normText` (white space trimmed / white-space-only text dropped
    unless kept, cut at the first NUL, SyncML media types); empty text dropped; adjacent text merged.
    CDATA sections and embedded documents (outside the plain fragment) are left as they are. -/
def normNode (c : WCfg) : Node → Node
  | .elt name attrs kids => .elt (normName name) (normAttrs c attrs) (normKidsAcc c kids [])
  | .text s => .text (normText c s)
  | .cdata kids => .cdata kids
  | .tree l cs r => .tree l cs r
def normKidsAcc (c : WCfg) : List Node → List Node → List Node
  | [], acc => acc
  | k :: rest, acc => normKidsAcc c rest (addN acc (normNode c k))
end

def normTree (c : WCfg) (t : Tree) : Tree := { t with root := t.root.map (normNode c) }

theorem normNode_elt (c name attrs kids) : normNode c (.elt name attrs kids) =
    .elt (normName name) (normAttrs c attrs) (normKidsAcc c kids []) := by rw [normNode]
theorem normNode_text (c s) : normNode c (.text s) = .text (normText c s) := by rw [normNode]
theorem normNode_cdata (c kids) : normNode c (.cdata kids) = .cdata kids := by rw [normNode]
theorem normNode_tree (c l cs r) : normNode c (.tree l cs r) = .tree l cs r := by rw [normNode]
theorem normKidsAcc_nil (c acc) : normKidsAcc c [] acc = acc := by rw [normKidsAcc]
theorem normKidsAcc_cons (c k rest acc) :
    normKidsAcc c (k :: rest) acc = normKidsAcc c rest (addN acc (normNode c k)) := by rw [normKidsAcc]

theorem normName_idem (n : Name) : normName (normName n) = normName n := by
  simp only [normName, Name.xmlName, cstrOf_idem]

theorem normAttr_idem (a : Attr) : normAttr (normAttr a) = normAttr a := by
  simp only [normAttr, AName.xmlName, cstrOf_idem, cstrOf_withNul _ (nulFree_cstrOf a.value)]

theorem normAttrs_idem (c : WCfg) (attrs : List Attr) : normAttrs c (normAttrs c attrs) = normAttrs c attrs := by
  unfold normAttrs
  split
  · simp only [List.map_map]
    congr 1
    funext a
    exact normAttr_idem a
  · rfl
theorem normKidsAcc_fixed (c : WCfg) : ∀ (K acc : List Node), (∀ k ∈ K, normNode c k = k ∧ nonEmptyText k = true) →
    noAdj K = true → (lastText acc && headText K) = false → normKidsAcc c K acc = acc ++ K
  | [], acc, _, _, _ => by rw [normKidsAcc_nil, List.append_nil]
  | k :: K, acc, h, hadj, ha => by
    rw [noAdj] at hadj
    simp only [Bool.and_eq_true, Bool.not_eq_true'] at hadj
    obtain ⟨hk, hne⟩ := h k (List.mem_cons_self ..)
    rw [normKidsAcc_cons, hk, addN_snoc acc k hne (by simpa [headText] using ha),
      normKidsAcc_fixed c K (acc ++ [k]) (fun x hx => h x (List.mem_cons_of_mem _ hx)) hadj.2
        (by rw [lastText_snoc]; exact hadj.1), List.append_assoc]
    rfl

/-- What `normNode` leaves alone: solid text; other nodes that are their own normal form. -/
def StableN (c : WCfg) (k : Node) : Prop :=
  match k with
  | .text t => Solid c t
  | k => normNode c k = k

/-- What `normNode` delivers: as `StableN`, or an empty text node (dropped by `addN`). -/
def NOut (c : WCfg) (k : Node) : Prop :=
  match k with
  | .text t => t = [] ∨ Solid c t
  | k => normNode c k = k

structure Stable (c : WCfg) (K : List Node) : Prop where
  nodes : ∀ k ∈ K, StableN c k
  adj : noAdj K = true

theorem Stable.nil (c : WCfg) : Stable c [] := ⟨fun _ h => (by cases h), rfl⟩

theorem Stable.snoc {c : WCfg} {K : List Node} {k : Node} (h : Stable c K) (hk : StableN c k)
    (ha : (lastText K && isText k) = false) : Stable c (K ++ [k]) :=
  ⟨fun x hx => by
      rcases List.mem_append.mp hx with hx | hx
      · exact h.nodes x hx
      · simp only [List.mem_singleton] at hx; subst hx; exact hk,
   by rw [noAdj_snoc, h.adj, ha]; rfl⟩

theorem addN_stable {c : WCfg} {acc : List Node} {n : Node} (h : Stable c acc) (hn : NOut c n) :
    Stable c (addN acc n) := by
  cases n with
  | text t =>
    simp only [addN, addChars]
    rcases hn with rfl | hs
    · exact h
    · have hne : t.isEmpty = false := List.isEmpty_eq_false_iff.mpr hs.ne
      simp only [hne, Bool.false_eq_true, ↓reduceIte]
      cases hl : lastText acc with
      | false =>
        rw [addKid_text_after _ _ hl]
        exact h.snoc hs (by rw [hl]; rfl)
      | true =>
        obtain ⟨pre, t0, rfl⟩ := lastText_split acc hl
        rw [addKid_text_merge]
        have h0 : Solid c t0 := h.nodes (.text t0) (by simp)
        have hadj := h.adj
        rw [noAdj_snoc] at hadj
        simp only [Bool.and_eq_true, isText, Bool.and_true, Bool.not_eq_true'] at hadj
        refine ⟨?_, by rw [noAdj_snoc, hadj.1]; simp [isText, hadj.2]⟩
        intro x hx
        rcases List.mem_append.mp hx with hx | hx
        · exact h.nodes x (List.mem_append_left _ hx)
        · simp only [List.mem_singleton] at hx; subst hx; exact h0.append hs
  | _ => rw [addN_snoc acc _ rfl (Bool.and_false _)]; exact h.snoc hn (Bool.and_false _)

/-- As `StableN`, the text also a fixed point of the media-type rewriting (`SolidS`; outside SyncML the same
    thing, `Stable.toS`): the vocabulary in which both idempotence developments are closed. -/
def StableNS (c : WCfg) (k : Node) : Prop :=
  match k with
  | .text t => SolidS c t
  | k => normNode c k = k

/-- What `normNode` delivers, in that vocabulary: as `StableNS`, or an empty text node (dropped by `addN`). -/
def NOutS (c : WCfg) (k : Node) : Prop :=
  match k with
  | .text t => t = [] ∨ SolidS c t
  | k => normNode c k = k

structure StableS (c : WCfg) (K : List Node) : Prop where
  nodes : ∀ k ∈ K, StableNS c k
  adj : noAdj K = true

theorem StableS.snoc {c : WCfg} {K : List Node} {k : Node} (h : StableS c K) (hk : StableNS c k)
    (ha : (lastText K && isText k) = false) : StableS c (K ++ [k]) :=
  ⟨fun x hx => by
      rcases List.mem_append.mp hx with hx | hx
      · exact h.nodes x hx
      · simp only [List.mem_singleton] at hx; subst hx; exact hk,
   by rw [noAdj_snoc, h.adj, ha]; rfl⟩

theorem addN_stableS {c : WCfg} {acc : List Node} {n : Node} (h : StableS c acc) (hn : NOutS c n)
    (hm : isText n = true → lastText acc = false) : StableS c (addN acc n) := by
  cases n with
  | text t =>
    rcases hn with rfl | hs
    · exact h
    · have hadj : (lastText acc && isText (.text t)) = false := by rw [hm rfl]; rfl
      rw [addN_snoc acc _ (by cases t with | nil => exact absurd rfl hs.sol.ne | cons _ _ => rfl) hadj]
      exact h.snoc hs hadj
  | _ => rw [addN_snoc acc _ rfl (Bool.and_false _)]; exact h.snoc hn (Bool.and_false _)

theorem normKidsAcc_stableS (c : WCfg) (K acc : List Node) (h : StableS c K)
    (ha : (lastText acc && headText K) = false) : normKidsAcc c K acc = acc ++ K := by
  refine normKidsAcc_fixed c K acc (fun k hk => ?_) h.adj ha
  have hst := h.nodes k hk
  cases k with
  | text t =>
    have hsol : SolidS c t := hst
    exact ⟨by rw [normNode_text, normText_of_solidS c t hsol],
      by cases t with | nil => exact absurd rfl hsol.sol.ne | cons _ _ => rfl⟩
  | _ => exact ⟨hst, rfl⟩

theorem Stable.toS {c : WCfg} {K : List Node} (hs : isSyncml c.lang.id = false) (h : Stable c K) : StableS c K :=
  ⟨fun k hk => by
    have := h.nodes k hk
    cases k with
    | text t => exact Solid.toS hs this
    | _ => exact this, h.adj⟩

theorem NOut.toS {c : WCfg} {k : Node} (hs : isSyncml c.lang.id = false) (h : NOut c k) : NOutS c k := by
  cases k with
  | text t => exact h.imp id (Solid.toS hs)
  | _ => exact h

mutual
/-- Every text node outside CDATA sections and embedded documents is NUL-free (what an XML parser
    delivers). -/
def textsNulFree : Node → Bool
  | .elt _ _ kids => textsNulFreeL kids
  | .text s => nulFree s
  | .cdata _ => true
  | .tree _ _ _ => true
def textsNulFreeL : List Node → Bool
  | [] => true
  | k :: r => textsNulFree k && textsNulFreeL r
end

mutual
theorem normNode_out (c : WCfg) (hs : isSyncml c.lang.id = false) : ∀ (n : Node), textsNulFree n = true →
    NOut c (normNode c n)
  | .elt name attrs kids, h => by
    rw [textsNulFree] at h
    rw [normNode_elt]
    show normNode c _ = _
    have hK := normKids_out c hs kids [] h (Stable.nil c)
    rw [normNode_elt, normName_idem, normAttrs_idem, normKidsAcc_stableS c _ [] (hK.toS hs) rfl, List.nil_append]
  | .text s, h => by
    rw [textsNulFree] at h
    rw [normNode_text]
    exact (normText_solidS c s h).imp id (·.sol)
  | .cdata kids, _ => by rw [normNode_cdata]; exact normNode_cdata c kids
  | .tree l cs r, _ => by rw [normNode_tree]; exact normNode_tree c l cs r
theorem normKids_out (c : WCfg) (hs : isSyncml c.lang.id = false) : ∀ (kids acc : List Node),
    textsNulFreeL kids = true → Stable c acc → Stable c (normKidsAcc c kids acc)
  | [], acc, _, ha => by rw [normKidsAcc_nil]; exact ha
  | k :: rest, acc, h, ha => by
    rw [textsNulFreeL, Bool.and_eq_true] at h
    rw [normKidsAcc_cons]
    exact normKids_out c hs rest _ h.2 (addN_stable ha (normNode_out c hs k h.1))
end

theorem normNode_fix_of_out (c : WCfg) (n : Node) (ho : NOutS c (normNode c n)) :
    normNode c (normNode c n) = normNode c n := by
  cases n with
  | elt name attrs kids => rw [normNode_elt] at ho ⊢; exact ho
  | text s =>
    rw [normNode_text] at ho ⊢
    rw [normNode_text]
    rcases ho with h0 | hsol
    · rw [h0, normText_nil c]
    · rw [normText_of_solidS c _ hsol]
  | cdata kids => rw [normNode_cdata, normNode_cdata]
  | tree l cs r => rw [normNode_tree, normNode_tree]

/-- **Idempotence of the normalisation** (`normNode c ∘ normNode c = normNode c`) for every tree
    whose text nodes are NUL-free, outside the three SyncML languages (see the counterexamples in
    `Props/C03.lean`: a NUL in a text node, and two adjacent SyncML text nodes that spell a media
    type only after they have been merged). -/
theorem normNode_idem (c : WCfg) (hs : isSyncml c.lang.id = false) (n : Node) (h : textsNulFree n = true) :
    normNode c (normNode c n) = normNode c n :=
  normNode_fix_of_out c n ((normNode_out c hs n h).toS hs)

/-! ### Idempotence in every language, for trees without adjacent text nodes

  In the SyncML languages `normText` rewrites the DevInf / DM-tree media types, and a text that
  only becomes such a type after the reader has merged two text nodes is rewritten by the SECOND
  pass (`norm_not_idempotent_syncml`). A tree without adjacent text siblings — what both tree
  builders deliver — never has anything merged, and the normalisation is idempotent there in
  every language. -/

mutual
/-- No two adjacent text siblings anywhere outside CDATA sections and embedded documents. -/
def mergedNode : Node → Bool
  | .elt _ _ kids => noAdj kids && mergedL kids
  | .text _ => true
  | .cdata _ => true
  | .tree _ _ _ => true
def mergedL : List Node → Bool
  | [] => true
  | k :: r => mergedNode k && mergedL r
end

theorem isText_normNode (c : WCfg) (n : Node) : isText (normNode c n) = isText n := by
  cases n with
  | elt nm a ks => rw [normNode_elt]; rfl
  | text s => rw [normNode_text]; rfl
  | cdata ks => rw [normNode_cdata]
  | tree l cs r => rw [normNode_tree]

theorem lastText_addN_nontext (acc : List Node) (n : Node) (h : isText n = false) : lastText (addN acc n) = false := by
  have hne : nonEmptyText n = true := by
    cases n with
    | text s => cases h
    | _ => rfl
  rw [addN_snoc acc n hne (by rw [h, Bool.and_false]), lastText_snoc, h]

mutual
theorem normNode_outS (c : WCfg) : ∀ (n : Node), textsNulFree n = true → mergedNode n = true → NOutS c (normNode c n)
  | .elt name attrs kids, h, hm => by
    rw [textsNulFree] at h
    rw [mergedNode, Bool.and_eq_true] at hm
    rw [normNode_elt]
    show normNode c _ = _
    have hK := normKids_outS c kids [] h hm.1 hm.2 ⟨fun _ hx => (by cases hx), rfl⟩ (fun hl => by cases hl)
    rw [normNode_elt, normName_idem, normAttrs_idem, normKidsAcc_stableS c _ [] hK rfl, List.nil_append]
  | .text s, h, _ => by
    rw [textsNulFree] at h
    rw [normNode_text]
    exact normText_solidS c s h
  | .cdata kids, _, _ => by rw [normNode_cdata]; exact normNode_cdata c kids
  | .tree l cs r, _, _ => by rw [normNode_tree]; exact normNode_tree c l cs r
theorem normKids_outS (c : WCfg) : ∀ (kids acc : List Node), textsNulFreeL kids = true → noAdj kids = true →
    mergedL kids = true → StableS c acc → (lastText acc = true → headText kids = false) →
    StableS c (normKidsAcc c kids acc)
  | [], acc, _, _, _, ha, _ => by rw [normKidsAcc_nil]; exact ha
  | k :: rest, acc, h, hadj, hm, ha, hinv => by
    rw [textsNulFreeL, Bool.and_eq_true] at h
    rw [mergedL, Bool.and_eq_true] at hm
    rw [noAdj] at hadj
    simp only [Bool.and_eq_true, Bool.not_eq_true'] at hadj
    rw [normKidsAcc_cons]
    have hno : isText (normNode c k) = true → lastText acc = false := by
      intro ht
      rw [isText_normNode] at ht
      exact lastText_before_text ht hinv
    refine normKids_outS c rest _ h.2 hadj.2 hm.2 (addN_stableS ha (normNode_outS c k h.1 hm.1) hno) ?_
    intro hl
    cases hk : isText k with
    | true => simpa [hk] using hadj.1
    | false =>
      rw [lastText_addN_nontext acc _ (by rw [isText_normNode]; exact hk)] at hl
      cases hl
end

/-- **Idempotence of the normalisation in every language** (SyncML included) for trees with
    NUL-free text and without adjacent text siblings. -/
theorem normNode_idem_merged (c : WCfg) (n : Node) (h : textsNulFree n = true) (hm : mergedNode n = true) :
    normNode c (normNode c n) = normNode c n :=
  normNode_fix_of_out c n (normNode_outS c n h hm)

def nameNulFree : Name → Bool
  | .token r => nulFree r.name
  | .literal _ => true

def anameNulFree : AName → Bool
  | .token r => nulFree r.name
  | .literal _ => true

mutual
/-- The names of the token rows used in the tree are NUL-free (true of every table row of the
    library: `tagSemOk`, `attrNameSemOk`); attribute names only matter for a language with an
    attribute table. -/
def namesOk (l : Lang) : Node → Bool
  | .elt n a kids => nameNulFree n && a.all (fun x => l.attrs.isNone || anameNulFree x.name) && namesOkL l kids
  | .text _ => true
  | .cdata _ => true
  | .tree _ _ _ => true
def namesOkL (l : Lang) : List Node → Bool
  | [] => true
  | k :: r => namesOk l k && namesOkL l r
end

theorem cstr_xmlName (n : Name) (h : nameNulFree n = true) : cstrOf n.xmlName = n.cName := by
  cases n with
  | token r => exact cstrOf_of_nulFree _ h
  | literal s => rfl

theorem cstr_axmlName (n : AName) (h : anameNulFree n = true) : cstrOf n.xmlName = n.cName := by
  cases n with
  | token r => exact cstrOf_of_nulFree _ h
  | literal s => rfl

theorem normAttrs_view (c : WCfg) (attrs : List Attr)
    (h : attrs.all (fun x => c.lang.attrs.isNone || anameNulFree x.name) = true) :
    (normAttrs c attrs).map attrView = srcAttrsView c attrs := by
  unfold normAttrs srcAttrsView
  split
  · rename_i hsome
    rw [List.map_map]
    apply List.map_congr_left
    intro a ha
    rw [List.all_eq_true] at h
    have h1 := h a ha
    have hnone : c.lang.attrs.isNone = false := by
      cases hx : c.lang.attrs with
      | none => rw [hx] at hsome; cases hsome
      | some _ => rfl
    rw [hnone, Bool.false_or] at h1
    show ((cstrOf a.name.xmlName, withNul (cstrOf a.value)) : Bytes × Bytes) = (a.name.cName, withNul (cstrOf a.value))
    rw [cstr_axmlName a.name h1]
  · rfl

mutual
theorem ntoks_normNode (c : WCfg) : ∀ (n : Node), plainNode n = true → namesOk c.lang n = true →
    ntoks (normNode c n) = srcToks c n
  | .elt name attrs kids, hp, hn => by
    rw [plainNode] at hp
    rw [namesOk, Bool.and_eq_true, Bool.and_eq_true] at hn
    rw [normNode_elt, ntoks_elt, srcToks, ntoksL_normKidsAcc c kids [] hp hn.2, ntoksL_nil, List.nil_append,
      normAttrs_view c attrs hn.1.2]
    have : (normName name).xmlName = name.cName := cstr_xmlName name hn.1.1
    rw [this]
  | .text s, _, _ => by rw [normNode_text, ntoks_text, srcToks]
  | .cdata kids, hp, _ => by rw [plainNode] at hp; cases hp
  | .tree l cs r, hp, _ => by rw [plainNode] at hp; cases hp
theorem ntoksL_normKidsAcc (c : WCfg) : ∀ (kids acc : List Node), plainNodes kids = true → namesOkL c.lang kids = true →
    ntoksL (normKidsAcc c kids acc) = ntoksL acc ++ srcToksL c kids
  | [], acc, _, _ => by rw [normKidsAcc_nil, srcToksL, List.append_nil]
  | k :: rest, acc, hp, hn => by
    rw [plainNodes, Bool.and_eq_true] at hp
    rw [namesOkL, Bool.and_eq_true] at hn
    rw [normKidsAcc_cons, ntoksL_normKidsAcc c rest _ hp.2 hn.2, ntoksL_addN, ntoks_normNode c k hp.1 hn.1, srcToksL,
      List.append_assoc]
end

mutual
theorem namesOk_of_over (l : Lang) (hts : tagSemOk l = true) (han : attrNameSemOk l = true) :
    ∀ (n : Node), nodeOver l n = true → namesOk l n = true
  | .elt name attrs kids, h => by
    rw [nodeOver, Bool.and_eq_true, Bool.and_eq_true] at h
    rw [namesOk, Bool.and_eq_true, Bool.and_eq_true]
    refine ⟨⟨?_, ?_⟩, namesOkL_of_over l hts han kids h.2⟩
    · have := nameOver_nulFree l name h.1.1 hts
      cases name with
      | token r => exact this
      | literal s => rfl
    · rw [List.all_eq_true] at h ⊢
      intro a ha
      cases hat : l.attrs with
      | none => rfl
      | some tbl =>
        have := attrOver_nulFree l a tbl hat (h.1.2 a ha) han
        cases hn : a.name with
        | token r => rw [hn] at this; exact this
        | literal s => rfl
  | .text s, _ => by rw [namesOk]
  | .cdata kids, _ => by rw [namesOk]
  | .tree lg cs r, _ => by rw [namesOk]
theorem namesOkL_of_over (l : Lang) (hts : tagSemOk l = true) (han : attrNameSemOk l = true) :
    ∀ (ks : List Node), nodesOver l ks = true → namesOkL l ks = true
  | [], _ => by rw [namesOkL]
  | k :: r, h => by
    rw [nodesOver, Bool.and_eq_true] at h
    rw [namesOkL, namesOk_of_over l hts han k h.1, namesOkL_of_over l hts han r h.2]; rfl
end
mutual
theorem nf_normNode (c : WCfg) : ∀ (n : Node), plainNode n = true → isText n = false → nfNode (normNode c n) = true
  | .elt name attrs kids, hp, _ => by
    rw [plainNode] at hp
    rw [normNode_elt, nfNode]; exact nf_normKidsAcc c kids [] hp nfKids_nil
  | .text s, _, ht => by cases ht
  | .cdata kids, hp, _ => by rw [plainNode] at hp; cases hp
  | .tree l cs r, hp, _ => by rw [plainNode] at hp; cases hp
theorem nf_normKidsAcc (c : WCfg) : ∀ (kids acc : List Node), plainNodes kids = true → nfKids acc = true →
    nfKids (normKidsAcc c kids acc) = true
  | [], acc, _, h => by rw [normKidsAcc_nil]; exact h
  | k :: rest, acc, hp, h => by
    rw [plainNodes, Bool.and_eq_true] at hp
    rw [normKidsAcc_cons]
    refine nf_normKidsAcc c rest _ hp.2 ?_
    cases k with
    | text s => rw [normNode_text]; exact nfKids_addChars acc _ h
    | elt nm a ks =>
      have := nf_normNode c (.elt nm a ks) hp.1 rfl
      rw [normNode_elt] at this ⊢
      exact nfKids_addKid acc _ h this
    | _ => have := hp.1; rw [plainNode] at this; cases this
end
theorem normAttrs_canon (c : WCfg) (attrs : List Attr) : (normAttrs c attrs).map canonAttr = normAttrs c attrs := by
  unfold normAttrs
  split
  · rw [List.map_map]; rfl
  · rfl

mutual
theorem canon_normNode (c : WCfg) : ∀ (n : Node), canon (normNode c n) = normNode c n
  | .elt name attrs kids => by
    rw [normNode_elt, canon_elt, normAttrs_canon,
      canonL_fixed _ (canon_normKidsAcc c kids [] (fun _ h => by cases h))]
    rfl
  | .text s => by rw [normNode_text, canon_text]
  | .cdata kids => by rw [normNode_cdata, canon]
  | .tree l cs r => by rw [normNode_tree, canon]
theorem canon_normKidsAcc (c : WCfg) : ∀ (kids acc : List Node), (∀ k ∈ acc, canon k = k) →
    ∀ k ∈ normKidsAcc c kids acc, canon k = k
  | [], acc, h => by rw [normKidsAcc_nil]; exact h
  | k :: rest, acc, h => by
    rw [normKidsAcc_cons]
    exact canon_normKidsAcc c rest _ (addN_all acc _ canon_text h (canon_normNode c k))
end

theorem normKidsAcc_append (wc : WCfg) : ∀ (A B acc : List Node),
    normKidsAcc wc (A ++ B) acc = normKidsAcc wc B (normKidsAcc wc A acc)
  | [], B, acc => by rw [List.nil_append, normKidsAcc_nil]
  | a :: A, B, acc => by rw [List.cons_append, normKidsAcc_cons, normKidsAcc_cons, normKidsAcc_append wc A B]

theorem normKidsAcc_snoc (wc : WCfg) (A : List Node) (x : Node) :
    normKidsAcc wc (A ++ [x]) [] = addN (normKidsAcc wc A []) (normNode wc x) := by
  rw [normKidsAcc_append, normKidsAcc_cons, normKidsAcc_nil]

mutual
theorem normNode_canon (wc : WCfg) : ∀ (n : Node), normNode wc (canon n) = normNode wc n
  | .elt name attrs kids => by
    rw [canon_elt, normNode_elt, normNode_elt, normKidsAcc_canonL wc kids []]
    have : normAttrs wc (attrs.map canonAttr) = normAttrs wc attrs := by
      unfold normAttrs
      split
      · rw [List.map_map]; rfl
      · rfl
    rw [this]
    rfl
  | .text s => by rw [canon_text]
  | .cdata kids => by rw [canon]
  | .tree l cs r => by rw [canon]
theorem normKidsAcc_canonL (wc : WCfg) : ∀ (ks acc : List Node),
    normKidsAcc wc (canonL ks) acc = normKidsAcc wc ks acc
  | [], acc => by rw [canonL_nil]
  | k :: r, acc => by
    rw [canonL_cons, normKidsAcc_cons, normKidsAcc_cons, normNode_canon wc k, normKidsAcc_canonL wc r]
end

end Wbxml.Lemmas.Rt
