/-
  C01, bounds, printer half: the XML text `treeToXml` writes is bounded by a fixed polynomial in the
  size and depth of the tree, the indentation step and two table constants.

  * `xcost δ N I n`: a structural upper bound of what `xmlNode` appends for the node `n` when the
    indentation level is `I`, the indentation step `δ` (0 unless `gen = 1`) and the namespace names
    of the current language are at most `N` octets long.
  * `xtoks_cost`: the tokens of the pure printer `xtoks` (`Lemmas/EncXmlToks`), written under any
    configuration, take at most `xcost …` octets; `xmlNode` appends exactly these.
  * `xcost_le`: `xcost δ N I n ≤ (18 + Nmax) * n.size + 2 * (δ * (n.size * (I + n.eltDepth)))`
    (`eltDepth`: element nesting — text and CDATA nodes are not indented).
  * `treeToXml_length_le`.
-/
import Wbxml.Lemmas.EncXmlToks
import Wbxml.Lemmas.W2XSize

namespace Wbxml.Lemmas.W2X
open Wbxml Wbxml.Model Wbxml.Model.Flow
open Wbxml.Lemmas.XmlPrint (nsDecl)

theorem flatMap_length_le {α β : Type} (f : α → List β) (k : Nat) (h : ∀ a, (f a).length ≤ k) :
    ∀ (l : List α), (l.flatMap f).length ≤ k * l.length
  | [] => by simp
  | a :: l => by
    have := flatMap_length_le f k h l
    have := h a
    simp only [List.flatMap_cons, List.length_append, List.length_cons, Nat.mul_add, Nat.mul_one]
    omega

/-- Escaping multiplies the length by at most 6 (`&quot;`, `&apos;`). -/
theorem xmlEscape_length_le (canonical : Bool) (s : Bytes) : (xmlEscape canonical s).length ≤ 6 * s.length :=
  flatMap_length_le _ 6
    (esc1_elim (motive := fun _ e => e.length ≤ 6) canonical (by decide) (by decide) (by decide) (by decide)
      (by decide) (by decide) (fun _ => by decide) (fun _ => by decide) (fun _ _ _ _ _ _ _ _ => by simp)) s

theorem b64Char_safe (n : Nat) : escSafe (b64Char n) = true := by
  unfold b64Char
  have : ∀ k : Fin 64, escSafe (b64Alphabet.getD k.val 0) = true := by decide
  exact this ⟨n % 64, Nat.mod_lt _ (by omega)⟩

theorem b64EncodeGo_safe (s : Bytes) : (b64EncodeGo s).all escSafe = true :=
  b64EncodeGo_all escSafe b64Char_safe (by decide) s

/-- A CDATA section's text: every `]]>` (3 octets) becomes 15. -/
theorem cdataText_length_le : ∀ (s : Bytes), (cdataText s).length ≤ 5 * s.length := by
  intro s
  fun_induction cdataText s with
  | case1 r ih => simp only [List.length_append, List.length_cons, List.length_nil]; omega
  | case2 b r _ ih => simp only [List.length_cons]; omega
  | case3 => simp

def nsLenMax : List NsRow → Nat
  | [] => 0
  | r :: rs => max r.ns.length (nsLenMax rs)

/-- Longest namespace name of a language. -/
def langNs (l : Lang) : Nat :=
  match l.ns with
  | some ns => nsLenMax ns
  | none => 0

theorem nsOfPageX_length_le : ∀ (ns : List NsRow) (page : Nat) (n : Bytes),
    nsOfPageX ns page = some n → n.length ≤ nsLenMax ns
  | [], _, _, h => by simp [nsOfPageX] at h
  | r :: rs, page, n, h => by
    unfold nsOfPageX at h
    rw [List.find?_cons] at h
    split at h
    · simp only [Option.map_some, Option.some.injEq] at h
      subst h; simp only [nsLenMax]; omega
    · have := nsOfPageX_length_le rs page n h
      simp only [nsLenMax]; omega

theorem spaces_length (n : Nat) : (spaces n).length = n := by simp [spaces]

theorem nsDecl_length_le (c : XCfg) (p : Parent) (name : Name) : (nsDecl c p name).length ≤ langNs c.lang + 9 := by
  unfold nsDecl
  dsimp only
  split
  · rename_i pg ns hpg hns
    split
    · rename_i n hn
      have := nsOfPageX_length_le ns pg n hn
      have hl : langNs c.lang = nsLenMax ns := by unfold langNs; rw [hns]
      simp only [List.length_append, List.length_cons, List.length_nil]
      omega
    · simp
  · simp

mutual
/-- Upper bound of the octets `xmlNode` appends for a node: `δ` indentation step (0 unless `gen = 1`),
    `N` longest namespace name of the current language, `I` indentation level. -/
def xcost (δ N I : Nat) : Node → Nat
  | .elt n a kids => 2 * (I * δ) + 2 * n.size + N + 18 + 6 * attrsSize a + xcostL δ N (I + 1) kids
  | .text s => 6 * s.length + 2
  | .cdata kids => 12 + xcostL δ N I kids
  | .tree none _ _ => 0
  | .tree (some _) _ none => 0
  | .tree (some l) _ (some r) => xcost δ (langNs l) I r
def xcostL (δ N I : Nat) : List Node → Nat
  | [] => 0
  | n :: rest => xcost δ N I n + xcostL δ N I rest
end

mutual
theorem xcost_mono (δ : Nat) {I J : Nat} (h : I ≤ J) : ∀ (N : Nat) (n : Node), xcost δ N I n ≤ xcost δ N J n
  | N, .elt n a kids => by
    have := xcostL_mono δ (Nat.add_le_add_right h 1) N kids
    have := Nat.mul_le_mul_right δ h
    simp only [xcost]; omega
  | _, .text s => by simp only [xcost]; omega
  | N, .cdata kids => by
    have := xcostL_mono δ h N kids
    simp only [xcost]; omega
  | _, .tree none _ _ => by simp only [xcost]; omega
  | _, .tree (some _) _ none => by simp only [xcost]; omega
  | _, .tree (some l) _ (some r) => by
    have := xcost_mono δ h (langNs l) r
    simp only [xcost]; omega
theorem xcostL_mono (δ : Nat) {I J : Nat} (h : I ≤ J) : ∀ (N : Nat) (ns : List Node), xcostL δ N I ns ≤ xcostL δ N J ns
  | _, [] => by simp only [xcostL]; omega
  | N, n :: rest => by
    have := xcost_mono δ h N n
    have := xcostL_mono δ h N rest
    simp only [xcostL]; omega
end

def effD (c : XCfg) : Nat := if c.gen == 1 then c.delta.toNat else 0

theorem render_sp (c : XCfg) (k : UInt8) : (XTok.render c (.sp k)).length = k.toNat * effD c := by
  show (if c.gen == 1 then spaces (k.toNat * c.delta.toNat) else []).length = _
  unfold effD; split <;> simp [spaces_length]

theorem render_nl (c : XCfg) : (XTok.render c .nl).length ≤ 1 := by
  show (if c.gen == 1 then newLine else []).length ≤ 1
  split <;> simp [newLine]

theorem attrToks_cost (c : XCfg) : ∀ attrs : List Attr, (renderToks c (attrs.flatMap attrToks)).length ≤ 6 * attrsSize attrs
  | [] => by simp [renderToks_nil]
  | a :: rest => by
    have ih := attrToks_cost c rest
    have h1 := cstrOf_length_le a.name.xmlName
    have h2 := xmlEscape_length_le (c.gen == 2) (cstrOf a.value)
    have h3 := cstrOf_length_le a.value
    rw [aname_xml_size] at h1
    simp only [List.flatMap_cons, renderToks_append, attrToks, renderToks_cons, renderToks_nil, XTok.render,
      List.length_append, List.length_cons, List.length_nil, attrsSize, Attr.size] at ih ⊢
    omega

theorem openToks_cost (c : XCfg) (lang : Lang) (p : Parent) (name : Name) (attrs : List Attr) (kids : List Node)
    (ind : UInt8) : (renderToks c (openToks lang p name attrs kids ind)).length ≤
      ind.toNat * effD c + name.size + langNs lang + 13 + 6 * attrsSize attrs := by
  have h1 := nsDecl_length_le { lang := lang, gen := 0, delta := 0, ignoreEmpty := false, removeBlanks := false } p name
  have h2 : (renderToks c (if lang.attrs.isSome then attrs.flatMap attrToks else [])).length ≤ 6 * attrsSize attrs := by
    split
    · exact attrToks_cost c attrs
    · simp [renderToks_nil]
  have h3 : (if kids.isEmpty then b!"/>" else ([62] : Bytes)).length ≤ 2 := by split <;> simp
  have h4 : (renderToks c (if kids.isEmpty || haveChildElt kids then [.nl] else [])).length ≤ 1 := by
    split
    · simpa [renderToks_cons, renderToks_nil] using render_nl c
    · simp [renderToks_nil]
  have h5 := render_sp c ind
  simp only [openToks, renderToks_append, renderToks_cons, renderToks_nil, List.length_append, XTok.render, nsDeclL,
    List.length_cons, List.length_nil, name_xml_size] at h1 h2 h3 h4 h5 ⊢
  omega

theorem closeToks_cost (c : XCfg) (name : Name) (kids : List Node) (ind : UInt8) (ic : Bool) :
    (renderToks c (closeToks name kids ind ic)).length ≤ ind.toNat * effD c + name.size + 5 := by
  have h1 : (renderToks c (if haveChildElt kids then (if ic then [.nl] else []) ++ [.sp ind] else [])).length ≤
      1 + ind.toNat * effD c := by
    have := render_nl c
    have := render_sp c ind
    split
    · split <;> simp only [renderToks_append, renderToks_cons, renderToks_nil, List.length_append,
        List.length_nil, List.nil_append] <;> omega
    · simp [renderToks_nil]
  have h2 := render_nl c
  have h3 : (XTok.render c (.mk (b!"</" ++ name.xmlName ++ [62]))).length = name.size + 3 := by
    show (b!"</" ++ name.xmlName ++ [62]).length = _
    simp only [List.length_append, List.length_cons, List.length_nil, name_xml_size]; omega
  simp only [closeToks, renderToks_append, renderToks_cons, renderToks_nil, List.length_append, List.length_nil]
    at h1 ⊢
  omega

/-- Text: escaped, base64 (never escaped), or CDATA text; blank stripping and the `+wbxml → +xml`
    relabelling only shorten. -/
theorem textTok_cost (c : XCfg) {langId : Nat} {d1 d2 cd : Bool} {cur : Option TagRow} {s : Bytes} {t : XTok}
    (h : textTok langId d1 d2 cd cur s = .ok (some t)) : (t.render c).length ≤ 6 * s.length + 2 := by
  unfold textTok at h
  dsimp only at h
  generalize hs1 : (if d2 = true then stripBlanks s else s) = s1 at h
  have h1 : s1.length ≤ s.length := by
    rw [← hs1]
    exact ite_len_le (stripBlanks_length_le s) (Nat.le_refl _)
  have h3 := EncW.textStr_length_le langId cur s1
  generalize EncW.textStr langId cur s1 = s3 at h h3
  split at h; · cases h
  split at h
  · cases h
    have := cdataText_length_le s1
    show (cdataText s1).length ≤ _
    omega
  split at h
  · split at h
    · cases h
    · cases h
      show (xmlEscape _ _).length ≤ _
      rw [xmlEscape_safe _ _ (b64EncodeGo_safe s3)]
      have := b64EncodeGo_length_le s3
      omega
  · cases h
    have := xmlEscape_length_le (c.gen == 2) s3
    show (xmlEscape _ _).length ≤ _
    omega

/-- **What `xmlNode` appends is at most `xcost`**: one induction over the pure printer `xtoks`; `c` says how the
    tokens are written, `k` which language's namespace names occur in them. -/
theorem xtoks_cost (c : XCfg) (f : Nat) :
    (∀ (k : TokCfg) (p : Parent) (n : Node) (ind : UInt8) (ic cd : Bool) (cur : Option TagRow) (r : TR),
        xtoks k p f n ind ic cd cur = .ok r →
        (renderToks c r.1).length ≤ xcost (effD c) (langNs k.lang) ind.toNat n) ∧
    (∀ (k : TokCfg) (p : Parent) (ns : List Node) (ind : UInt8) (ic cd : Bool) (cur : Option TagRow) (r : TR),
        xtoksL k p f ns ind ic cd cur = .ok r →
        (renderToks c r.1).length ≤ xcostL (effD c) (langNs k.lang) ind.toNat ns) := by
  induction f with
  | zero => exact ⟨fun _ _ _ _ _ _ _ _ h => (by rw [xtoks] at h; cases h), fun _ _ _ _ _ _ _ _ h => (by rw [xtoksL] at h; cases h)⟩
  | succ f ih =>
    refine ⟨fun k p n ind ic cd cur r h => ?_, fun k p ns ind ic cd cur r h => ?_⟩
    · cases n with
      | elt name attrs kids =>
        rw [xtoks] at h
        obtain ⟨a, ha, h⟩ := bind_eq_ok h
        cases h
        have k1 := ih.2 _ _ _ _ _ _ _ a ha
        -- the children are written at most one level deeper
        have hI : (if haveChildElt kids then ind + 1 else ind).toNat ≤ ind.toNat + 1 := by
          split
          · rw [UInt8.toNat_add]; exact Nat.mod_le _ _
          · omega
        have k2 := xcostL_mono (effD c) hI (langNs k.lang) kids
        have o := openToks_cost c k.lang p name attrs kids ind
        have e : (renderToks c (if kids.isEmpty then [] else closeToks name kids ind a.2.1)).length ≤
            ind.toNat * effD c + name.size + 5 := by
          split
          · simp [renderToks_nil]
          · exact closeToks_cost c name kids ind _
        simp only [xcost, renderToks_append, List.length_append]
        omega
      | text s =>
        rw [xtoks] at h
        obtain ⟨x, hx, rfl⟩ := map_eq_ok h
        cases x with
        | none => simp [renderToks_nil]
        | some t =>
          have := textTok_cost c hx
          simpa [xcost, renderToks_cons, renderToks_nil] using this
      | cdata kids =>
        rw [xtoks] at h
        obtain ⟨a, ha, h⟩ := bind_eq_ok h
        cases h
        have k1 := ih.2 _ _ _ _ _ _ _ a ha
        simp only [xcost, renderToks_cons, renderToks_append, renderToks_nil, XTok.render, List.length_append,
          List.length_cons, List.length_nil] at k1 ⊢
        omega
      | tree l cs r0 =>
        cases l with
        | none => rw [xtoks] at h; cases h
        | some l =>
          cases r0 with
          | none => rw [xtoks] at h; cases h
          | some r0 =>
            rw [xtoks] at h
            obtain ⟨a, ha, h⟩ := bind_eq_ok h
            cases h
            have k1 := ih.1 _ _ _ _ _ _ _ a ha
            have := cstrOf_length_le (renderToks c a.1)
            rw [cut_renderToks] at this
            simp only [xcost]
            exact Nat.le_trans this k1
    · cases ns with
      | nil => rw [xtoksL] at h; cases h; simp [renderToks_nil]
      | cons n rest =>
        rw [xtoksL] at h
        obtain ⟨a, ha, h⟩ := bind_eq_ok h
        obtain ⟨b, hb, h⟩ := bind_eq_ok h
        cases h
        have k1 := ih.1 _ _ _ _ _ _ _ a ha
        have k2 := ih.2 _ _ _ _ _ _ _ b hb
        simp only [xcostL, renderToks_append, List.length_append]
        omega

mutual
/-- Every embedded document's language satisfies `P`. -/
def langsOk (P : Lang → Bool) : Node → Bool
  | .elt _ _ kids => langsOkL P kids
  | .text _ => true
  | .cdata kids => langsOkL P kids
  | .tree none _ none => true
  | .tree none _ (some r) => langsOk P r
  | .tree (some l) _ none => P l
  | .tree (some l) _ (some r) => P l && langsOk P r
def langsOkL (P : Lang → Bool) : List Node → Bool
  | [] => true
  | n :: rest => langsOk P n && langsOkL P rest
end

theorem langsOkL_iff (P : Lang → Bool) : ∀ (ns : List Node), langsOkL P ns = true ↔ ∀ k ∈ ns, langsOk P k = true
  | [] => by simp [langsOkL]
  | n :: rest => by
    simp only [langsOkL, Bool.and_eq_true, langsOkL_iff P rest, List.mem_cons, forall_eq_or_imp]

theorem size_tree_none (l : Option Lang) (cs : Nat) : (Node.tree l cs none).size = 1 := X2W.size_tree_none l cs
theorem sizeL_nil : Node.sizeL [] = 0 := X2W.sizeL_nil
theorem ind_mono (δ : Nat) {s s' x x' : Nat} (hs : s ≤ s') (hx : x ≤ x') : δ * (s * x) ≤ δ * (s' * x') :=
  Nat.mul_le_mul_left δ (Nat.mul_le_mul hs hx)

theorem ind_elt (δ I X SL S : Nat) (hS : 1 + SL ≤ S) (hX : I ≤ X) : I * δ + δ * (SL * X) ≤ δ * (S * X) := by
  have h1 : δ * ((1 + SL) * X) ≤ δ * (S * X) := ind_mono δ hS (Nat.le_refl _)
  have h2 : δ * ((1 + SL) * X) = δ * X + δ * (SL * X) := by rw [Nat.add_mul, Nat.one_mul, Nat.mul_add]
  have h3 : δ * I ≤ δ * X := Nat.mul_le_mul_left δ hX
  rw [Nat.mul_comm I δ]
  omega

theorem ind_cons (δ a b x y m : Nat) (hx : x ≤ m) (hy : y ≤ m) : δ * (a * x) + δ * (b * y) ≤ δ * ((a + b) * m) := by
  have h1 : δ * (a * x) ≤ δ * (a * m) := ind_mono δ (Nat.le_refl _) hx
  have h2 : δ * (b * y) ≤ δ * (b * m) := ind_mono δ (Nat.le_refl _) hy
  rw [Nat.add_mul, Nat.mul_add]
  omega

mutual
theorem xcost_le (δ K A : Nat) (hA : 18 + K ≤ A) : ∀ (N I : Nat) (n : Node), N ≤ K →
    langsOk (fun l => decide (langNs l ≤ K)) n = true →
    xcost δ N I n ≤ A * n.size + 2 * (δ * (n.size * (I + n.eltDepth)))
  | N, I, .elt name a kids, hN, hl => by
    simp only [langsOk] at hl
    have ih := xcostL_le δ K A hA N (I + 1) kids hN hl
    have e1 := ind_elt δ I (I + (1 + Node.eltDepthL kids)) (Node.sizeL kids)
      (1 + name.size + attrsSize a + Node.sizeL kids) (by omega) (by omega)
    have e2 : A * (1 + name.size + attrsSize a + Node.sizeL kids) =
        A + A * name.size + A * attrsSize a + A * Node.sizeL kids := by
      simp only [Nat.mul_add, Nat.mul_one]
    have e3 : 2 * name.size ≤ A * name.size := Nat.mul_le_mul_right _ (by omega)
    have e4 : 6 * attrsSize a ≤ A * attrsSize a := Nat.mul_le_mul_right _ (by omega)
    have e5 : I + 1 + Node.eltDepthL kids = I + (1 + Node.eltDepthL kids) := by omega
    rw [e5] at ih
    simp only [xcost, X2W.size_elt, Node.eltDepth]
    omega
  | N, I, .text s, _, _ => by
    have e1 : A * (1 + s.length) = A + A * s.length := by simp only [Nat.mul_add, Nat.mul_one]
    have e2 : 6 * s.length ≤ A * s.length := Nat.mul_le_mul_right _ (by omega)
    simp only [xcost, X2W.size_text]
    omega
  | N, I, .cdata kids, hN, hl => by
    simp only [langsOk] at hl
    have ih := xcostL_le δ K A hA N I kids hN hl
    have e1 := ind_mono δ (s := Node.sizeL kids) (s' := 1 + Node.sizeL kids) (x := I + Node.eltDepthL kids)
      (x' := I + Node.eltDepthL kids) (by omega) (by omega)
    have e2 : A * (1 + Node.sizeL kids) = A + A * Node.sizeL kids := by simp only [Nat.mul_add, Nat.mul_one]
    simp only [xcost, X2W.size_cdata, Node.eltDepth]
    omega
  | _, _, .tree none _ _, _, _ => by simp only [xcost]; omega
  | _, _, .tree (some _) _ none, _, _ => by simp only [xcost]; omega
  | N, I, .tree (some l) cs (some r), _, hl => by
    simp only [langsOk, Bool.and_eq_true, decide_eq_true_eq] at hl
    have ih := xcost_le δ K A hA (langNs l) I r hl.1 hl.2
    have e1 := ind_mono δ (s := r.size) (s' := 1 + r.size) (x := I + r.eltDepth)
      (x' := I + r.eltDepth) (by omega) (by omega)
    have e2 : A * (1 + r.size) = A + A * r.size := by simp only [Nat.mul_add, Nat.mul_one]
    simp only [xcost, X2W.size_tree_some, Node.eltDepth]
    omega
theorem xcostL_le (δ K A : Nat) (hA : 18 + K ≤ A) : ∀ (N I : Nat) (ns : List Node), N ≤ K →
    langsOkL (fun l => decide (langNs l ≤ K)) ns = true →
    xcostL δ N I ns ≤ A * Node.sizeL ns + 2 * (δ * (Node.sizeL ns * (I + Node.eltDepthL ns)))
  | _, _, [], _, _ => by simp only [xcostL]; omega
  | N, I, n :: rest, hN, hl => by
    simp only [langsOkL, Bool.and_eq_true] at hl
    have ih1 := xcost_le δ K A hA N I n hN hl.1
    have ih2 := xcostL_le δ K A hA N I rest hN hl.2
    have e1 := ind_cons δ n.size (Node.sizeL rest) (I + n.eltDepth) (I + Node.eltDepthL rest)
      (I + max n.eltDepth (Node.eltDepthL rest)) (by omega) (by omega)
    have e2 : A * (n.size + Node.sizeL rest) = A * n.size + A * Node.sizeL rest := Nat.mul_add _ _ _
    simp only [xcostL, X2W.sizeL_cons, Node.eltDepthL]
    omega
end

/-- Octets of the XML declaration and DOCTYPE line of a language, without the two newlines. -/
def hdrLen (l : Lang) : Nat :=
  47 + (l.pub.root.getD []).length + (l.pub.xmlId.getD []).length + (l.pub.dtd.getD []).length

theorem xmlHeader_length_le (l : Lang) (gen : Nat) : (xmlHeader l gen).length ≤ hdrLen l + 2 := by
  have hn : (if gen == 1 then newLine else ([] : Bytes)).length ≤ 1 := by split <;> simp [newLine]
  unfold xmlHeader hdrLen
  cases hx : l.pub.xmlId with
  | none =>
    simp only [List.length_append, List.length_cons, List.length_nil, Option.getD_none] at hn ⊢
    omega
  | some p =>
    by_cases hp : p.isEmpty = true
    · simp only [hp, if_true, List.length_append, List.length_cons, List.length_nil, Option.getD_some] at hn ⊢
      omega
    · simp only [hp, if_false, List.length_append, List.length_cons, List.length_nil, Option.getD_some,
        Bool.false_eq_true] at hn ⊢
      omega

/-- The indentation step of a conversion: the `indent` parameter in indented mode, nothing otherwise. -/
def indentOf (cfg : W2XCfg) : Nat := if cfg.gen == 1 then cfg.indent.toNat else 0

/-- **Output ≤ tree** — `K` bounds the namespace names of the languages that occur (the document's and
    the embedded documents'). -/
theorem treeToXml_length_le (cfg : W2XCfg) (fuel : Nat) (t : Tree) (xml : Bytes) (K : Nat)
    (hK : langsOk (fun l => decide (langNs l ≤ K)) (.tree t.lang t.origCharset t.root) = true)
    (h : treeToXml cfg fuel t = .ok xml) :
    ∃ l, t.lang = some l ∧
      xml.length ≤ (18 + K) * t.size + 2 * (indentOf cfg * (t.size * t.eltDepth)) + hdrLen l + 2 := by
  obtain ⟨lang, root, r, hl, hr, hr', rfl⟩ := treeToXml_ok_toks h
  refine ⟨lang, hl, ?_⟩
  generalize hc : cfg.xcfg lang = c at hr' ⊢
  have k2 : _ ≤ xcost (effD c) (langNs c.lang) 0 root := (xtoks_cost c fuel).1 _ _ _ _ _ _ _ r hr'
  rw [hl, hr] at hK
  simp only [langsOk, Bool.and_eq_true, decide_eq_true_eq] at hK
  have hlang : c.lang = lang := by rw [← hc]; rfl
  have heff : effD c = indentOf cfg := by
    rw [← hc]; unfold effD indentOf W2XCfg.xcfg; dsimp only
    split
    · rfl
    · rfl
  have k3 := xcost_le (effD c) K (18 + K) (Nat.le_refl _) (langNs c.lang) 0 root (by rw [hlang]; exact hK.1) hK.2
  have hh := xmlHeader_length_le lang cfg.gen
  have e1 := ind_mono (indentOf cfg) (s := root.size) (s' := 1 + root.size) (x := 0 + root.eltDepth)
    (x' := root.eltDepth) (by omega) (by omega)
  have e2 : (18 + K) * (1 + root.size) = (18 + K) + (18 + K) * root.size := by
    simp only [Nat.mul_add, Nat.mul_one]
  have hs : t.size = 1 + root.size := by
    unfold Tree.size Tree.sizeW; rw [hr]; exact X2W.size_tree_some _ _ _
  have hd : t.eltDepth = root.eltDepth := by
    unfold Tree.eltDepth; rw [hr]; simp only [Node.eltDepth]
  rw [heff] at k3
  rw [heff] at k2
  simp only [List.length_append]
  rw [hs, hd]
  omega

end Wbxml.Lemmas.W2X
