/-
  The encoder's attribute look-up `wbxml_tables_get_attr_from_xml` (`Model.encAttrGo`, one scan with a
  remembered best row) in closed form: the first row with the name and exactly the value; otherwise the
  first row with the longest non-empty proper value prefix; otherwise the first row with the name and no
  value (`encAttr_choice`). What the encoder (`EncW.encAttr_spec`), the table checks (`encAttr_exact`,
  `encAttr_nil` in `Lemmas/Tables.lean`) and the round trip (`startRow_literal`) need of the scan is read off
  the three look-ups; only `encAttrGo_of_grownFrom` (`Lemmas/Compat.lean`: rows of other names are passed over)
  walks it again.
-/
import Wbxml.Model.Tables
namespace Wbxml.Lemmas.Rt
open Wbxml Wbxml.Model

def isExactRow (name value : Bytes) (r : AttrRow) : Bool := r.name == name && r.value == some value

/-- `0` for an empty value prefix too: it is never chosen for its length. -/
def preLenOf (name value : Bytes) (r : AttrRow) : Nat :=
  if r.name == name then
    match r.value with
    | some v => if v.length < value.length && isPrefixOf v value then v.length else 0
    | none => 0
  else 0

def isNullRow (name : Bytes) (r : AttrRow) : Bool := r.name == name && r.value.isNone

def maxFrom (name value : Bytes) (m : Nat) (rows : List AttrRow) : Nat :=
  rows.foldl (fun m r => max m (preLenOf name value r)) m

/-- The scan of `wbxml_tables_get_attr_from_xml` in closed form, from a scan state. -/
def attrChoice (name value : Bytes) (rows : List AttrRow) (st : AttrScan) : Option (AttrRow × Nat) :=
  match rows.find? (isExactRow name value) with
  | some e => some (e, value.length)
  | none =>
    if st.comp < maxFrom name value st.comp rows then
      (rows.find? (fun r => preLenOf name value r == maxFrom name value st.comp rows)).map
        (fun r => (r, maxFrom name value st.comp rows))
    else
      match st.found with
      | some f => some (f, st.comp)
      | none => (rows.find? (isNullRow name)).map (fun r => (r, st.comp))

theorem maxFrom_ge (name value : Bytes) : ∀ (rows : List AttrRow) (m : Nat), m ≤ maxFrom name value m rows
  | [], m => Nat.le_refl m
  | r :: rs, m => by
    unfold maxFrom
    rw [List.foldl_cons]
    exact Nat.le_trans (Nat.le_max_left _ _) (maxFrom_ge name value rs _)

theorem maxFrom_cons (name value : Bytes) (r : AttrRow) (rs : List AttrRow) (m : Nat) :
    maxFrom name value m (r :: rs) = maxFrom name value (max m (preLenOf name value r)) rs := rfl

theorem attrChoice_skip (name value : Bytes) (r : AttrRow) (rs : List AttrRow) (st : AttrScan)
    (hex : isExactRow name value r = false) (hle : preLenOf name value r ≤ st.comp)
    (hnull : st.found = none → isNullRow name r = false) :
    attrChoice name value (r :: rs) st = attrChoice name value rs st := by
  unfold attrChoice
  rw [List.find?_cons, hex, maxFrom_cons, Nat.max_eq_left hle]
  cases hx : rs.find? (isExactRow name value) with
  | some e => rfl
  | none =>
    by_cases hm : st.comp < maxFrom name value st.comp rs
    · rw [if_pos hm, if_pos hm, List.find?_cons]
      have : (preLenOf name value r == maxFrom name value st.comp rs) = false := by
        simp only [beq_eq_false_iff_ne, ne_eq]; omega
      rw [this]
    · rw [if_neg hm, if_neg hm]
      cases hf : st.found with
      | some f => rfl
      | none => simp only; rw [List.find?_cons, hnull hf]

/-- The first row without value is remembered, and answers when nothing covers a prefix. -/
theorem attrChoice_null (name value : Bytes) (r : AttrRow) (rs : List AttrRow) (st : AttrScan)
    (hn : (r.name == name) = true) (hv : r.value = none) (hf : st.found = none) :
    attrChoice name value (r :: rs) st = attrChoice name value rs { st with found := some r } := by
  have hex : isExactRow name value r = false := by simp [isExactRow, hv]
  have hpl : preLenOf name value r = 0 := by simp [preLenOf, hn, hv]
  have hnull : isNullRow name r = true := by simp [isNullRow, hn, hv]
  unfold attrChoice
  rw [List.find?_cons, hex, maxFrom_cons, hpl, Nat.max_zero]
  cases hx : rs.find? (isExactRow name value) with
  | some e => rfl
  | none =>
    by_cases hm : st.comp < maxFrom name value st.comp rs
    · rw [if_pos hm, if_pos hm, List.find?_cons]
      have : (preLenOf name value r == maxFrom name value st.comp rs) = false := by
        rw [hpl]; simp only [beq_eq_false_iff_ne, ne_eq]; omega
      rw [this]
    · rw [if_neg hm, if_neg hm, List.find?_cons, hnull, hf]
      rfl

/-- A row whose value is a longer proper prefix than the one reached takes over; it answers unless a later
    row covers still more (the first of the longest wins: later rows of the same length change nothing). -/
theorem attrChoice_better (name value : Bytes) (r : AttrRow) (rs : List AttrRow) (st : AttrScan) (v : Bytes)
    (hn : (r.name == name) = true) (hv : r.value = some v) (he : (v == value) = false)
    (h1 : v.length < value.length) (h2 : st.comp < v.length) (h3 : isPrefixOf v value = true) :
    attrChoice name value (r :: rs) st = attrChoice name value rs { found := some r, comp := v.length } := by
  have hex : isExactRow name value r = false := by
    simp only [isExactRow, hn, hv, Bool.true_and]
    simp only [beq_eq_false_iff_ne, ne_eq, Option.some.injEq]
    exact fun e => by rw [e, beq_self_eq_true] at he; cases he
  have hpl : preLenOf name value r = v.length := by
    simp only [preLenOf, hn, hv, if_true, h1, h3, decide_true, Bool.and_self]
  unfold attrChoice
  rw [List.find?_cons, hex, maxFrom_cons, hpl, Nat.max_eq_right (Nat.le_of_lt h2)]
  cases hx : rs.find? (isExactRow name value) with
  | some e => rfl
  | none =>
    have hge := maxFrom_ge name value rs v.length
    rw [if_pos (Nat.lt_of_lt_of_le h2 hge), List.find?_cons, hpl]
    by_cases hm : v.length < maxFrom name value v.length rs
    · rw [if_pos hm]
      have : (v.length == maxFrom name value v.length rs) = false := by
        simp only [beq_eq_false_iff_ne, ne_eq]; omega
      rw [this]
    · rw [if_neg hm]
      have hq : maxFrom name value v.length rs = v.length := by omega
      rw [hq]
      simp only [beq_self_eq_true, Option.map_some]

/-- The scan is the closed form: one case of `attrChoice` per branch of `encAttrGo`. -/
theorem encAttrGo_eq_choice (name value : Bytes) : ∀ (rows : List AttrRow) (st : AttrScan),
    encAttrGo name value rows st = attrChoice name value rows st
  | [], st => by
    unfold encAttrGo attrChoice maxFrom
    simp only [List.find?_nil, List.foldl_nil, Nat.lt_irrefl, if_false, Option.map_none]
    cases st.found <;> rfl
  | r :: rs, st => by
    have ih := encAttrGo_eq_choice name value rs
    unfold encAttrGo
    by_cases hn : (r.name == name) = true
    · rw [if_pos hn]
      cases hv : r.value with
      | none =>
        rw [ih]
        cases hf : st.found with
        | none =>
          simp only [Option.isNone_none, if_true]
          exact (attrChoice_null name value r rs st hn hv hf).symm
        | some f =>
          simp only [Option.isNone_some, Bool.false_eq_true, if_false]
          exact (attrChoice_skip name value r rs st (by simp [isExactRow, hv]) (by simp [preLenOf, hn, hv])
            (fun h0 => by rw [hf] at h0; cases h0)).symm
      | some v =>
        simp only
        by_cases he : (v == value) = true
        · rw [if_pos he]
          unfold attrChoice
          rw [List.find?_cons, show isExactRow name value r = true by
            simp only [isExactRow, hn, hv, Bool.true_and, beq_iff_eq, Option.some.injEq]; exact beq_iff_eq.mp he]
        · rw [if_neg he]
          by_cases hc : (v.length < value.length && st.comp < v.length && isPrefixOf v value) = true
          · rw [if_pos hc, ih]
            simp only [Bool.and_eq_true, decide_eq_true_eq] at hc
            exact (attrChoice_better name value r rs st v hn hv (by simpa using he) hc.1.1 hc.1.2 hc.2).symm
          · rw [if_neg hc, ih]
            have hle : preLenOf name value r ≤ st.comp := by
              simp only [preLenOf, hn, hv, if_true]
              split
              · rename_i h2
                simp only [Bool.and_eq_true, decide_eq_true_eq] at h2
                simp only [Bool.and_eq_true, decide_eq_true_eq, not_and] at hc
                by_cases h3 : st.comp < v.length
                · exact absurd h2.2 (hc ⟨h2.1, h3⟩)
                · omega
              · exact Nat.zero_le _
            exact (attrChoice_skip name value r rs st (by
                simp only [isExactRow, hn, hv, Bool.true_and, beq_eq_false_iff_ne, ne_eq, Option.some.injEq]
                exact fun e => he (beq_iff_eq.mpr e)) hle (fun _ => by simp [isNullRow, hv])).symm
    · rw [if_neg hn, ih]
      have hn' : (r.name == name) = false := by simpa using hn
      exact (attrChoice_skip name value r rs st (by simp [isExactRow, hn'])
        (by simp [preLenOf, hn']) (fun _ => by simp [isNullRow, hn'])).symm

/-- **Which start row `wbxml_tables_get_attr_from_xml(name, value)` picks**, in closed form: the FIRST
    row (table order) with that name whose value is exactly `value`, wherever it stands; otherwise,
    if some row with that name has a non-empty proper prefix of `value` as its value, the FIRST row
    with the LONGEST such prefix (covering that many octets); otherwise the first row with that name
    and no value (covering nothing); otherwise none. -/
theorem encAttr_choice (attrs : List AttrRow) (name value : Bytes) :
    encAttr attrs name value =
      match attrs.find? (isExactRow name value) with
      | some e => some (e, value.length)
      | none =>
        if 0 < maxFrom name value 0 attrs then
          (attrs.find? (fun r => preLenOf name value r == maxFrom name value 0 attrs)).map
            (fun r => (r, maxFrom name value 0 attrs))
        else (attrs.find? (isNullRow name)).map (fun r => (r, 0)) := by
  unfold encAttr
  rw [encAttrGo_eq_choice]
  rfl

theorem preLenOf_pos {name value : Bytes} {r : AttrRow} (h : 0 < preLenOf name value r) :
    r.name = name ∧ ∃ v, r.value = some v ∧ v <+: value ∧ preLenOf name value r = v.length := by
  unfold preLenOf at h ⊢
  split at h
  · rename_i hn
    cases hv : r.value with
    | none => rw [hv] at h; cases h
    | some v =>
      rw [hv] at h
      simp only at h ⊢
      split at h
      · rename_i hp
        simp only [Bool.and_eq_true, Model.isPrefixOf] at hp
        exact ⟨eq_of_beq hn, v, rfl, List.isPrefixOf_iff_prefix.mp hp.2, by simp [hn, hp.1, hp.2, Model.isPrefixOf]⟩
      · cases h
  · cases h

theorem maxFrom_nil_value (name : Bytes) : ∀ (rows : List AttrRow), maxFrom name [] 0 rows = 0
  | [] => rfl
  | r :: rs => by
    have : preLenOf name [] r = 0 := by
      unfold preLenOf
      split
      · cases r.value <;> simp
      · rfl
    rw [maxFrom_cons, this, Nat.max_self, maxFrom_nil_value name rs]

end Wbxml.Lemmas.Rt
