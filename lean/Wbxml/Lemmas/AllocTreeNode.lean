/-
  C16 — tree building on the ledger: `wbxml_tree_add_node` for an element or CDATA node (a
  new open node) and for a text node (appended, or joined with the text node before it).
-/
import Wbxml.Lemmas.AllocTreeCtx
import Wbxml.Lemmas.ListBasic
namespace Wbxml.Model.Alloc
open Wbxml

/-- The context with `node` as the innermost open node (`current`). -/
def pushFrame (c : TCtx) (kind : NKind) (node : ANode) : TCtx := { c with frames := ⟨kind, node, []⟩ :: c.frames }

theorem pushFrame_perm (c : TCtx) (kind : NKind) (node : ANode) :
    (pushFrame c kind node).owned.Perm (c.owned ++ node.owned) := by
  simp only [pushFrame, TCtx.owned, List.flatMap_cons, Frame.owned, List.flatMap_nil, List.append_nil]
  perm_count

theorem pushFrame_ok (c : TCtx) (kind : NKind) (node : ANode) (h : c.ok) (hn : nodeOk node) (hk : kind ≠ .text)
    (hr : c.frames = [] → c.root = none) : (pushFrame c kind node).ok := by
  refine ⟨fun _ => ?_, h.2.1, ?_⟩
  · by_cases hf : c.frames = []
    · exact hr hf
    · exact h.1 hf
  · intro f hf
    simp only [pushFrame, List.mem_cons] at hf
    rcases hf with rfl | hf
    · exact ⟨hn, hk, by simp⟩
    · exact h.2.2 f hf

theorem addOpen_spec (c : TCtx) (kind : NKind) (node : ANode) (s : Ledger)
    (hl : ∀ i ∈ c.owned ++ node.owned, i ∈ s.live) :
    Good (addOpen c kind node) s (fun r s' => s' = s ∧
      ((r.2 = false ∧ r.1 = c) ∨
       (r.2 = true ∧ r.1 = pushFrame c kind node ∧ (c.frames = [] → c.root = none)))) := by
  have hC : ∀ {i}, i ∈ c.owned → i ∈ s.live := fun h => hl _ (List.mem_append_left _ h)
  have hnl : node.hdr ∈ s.live := hl _ (List.mem_append_right _ (hdr_mem_owned node))
  unfold addOpen
  refine Good.deref hnl ?_
  rcases hf : c.frames with _ | ⟨f, rest⟩
  · refine Good.deref (hC (tree_mem_owned c)) ?_
    cases hr : c.root with
    | some k => exact good_ret.2 ⟨rfl, .inl ⟨rfl, rfl⟩⟩
    | none => exact good_ret.2 ⟨rfl, .inr ⟨rfl, by simp [pushFrame, hf, hr], fun _ => rfl⟩⟩
  · have hfm : f ∈ c.frames := hf ▸ List.mem_cons_self
    refine Good.deref (hC (frame_mem_owned c hfm (List.mem_append_left _ (hdr_mem_owned f.node)))) ?_
    refine Good.bind_read (walkKids_spec f.kids s fun k hk => hC (frame_mem_owned c hfm (kid_hdr_mem f hk))) fun _ => ?_
    exact Good.deref hnl (good_ret.2 ⟨rfl, .inr ⟨rfl, by simp [pushFrame, hf], nofun⟩⟩)

/-- What the context owns apart from the last closed child of the head frame. -/
def ctxRest (c : TCtx) (f : Frame) (rest : List Frame) (init : List Kid) : List Nat :=
  c.tree :: (ownedKidOpt c.root ++ ((f.node.owned ++ init.flatMap Kid.owned) ++ rest.flatMap Frame.owned))

/-- The context with the closed children of its head frame replaced. -/
def setKids (c : TCtx) (f : Frame) (rest : List Frame) (kids : List Kid) : TCtx :=
  { c with frames := { f with kids := kids } :: rest }

theorem setKids_perm (c : TCtx) (f : Frame) (rest : List Frame) (init : List Kid) (k : Kid) :
    (setKids c f rest (init ++ [k])).owned.Perm (k.owned ++ ctxRest c f rest init) := by
  simp only [setKids, ctxRest, TCtx.owned, List.flatMap_cons, Frame.owned, List.flatMap_append, List.flatMap_nil,
    List.append_nil]
  perm_count

theorem setKids_self (c : TCtx) (f : Frame) (rest : List Frame) (hf : c.frames = f :: rest) : setKids c f rest f.kids = c := by
  cases c; simp only [setKids] at hf ⊢; simp [hf]

theorem setKids_ok (c : TCtx) (f : Frame) (rest : List Frame) (hf : c.frames = f :: rest) (h : c.ok) (kids : List Kid)
    (hk : ∀ k ∈ kids, k.ok) : (setKids c f rest kids).ok := by
  have hfo := h.2.2 f (by simp [hf])
  refine ⟨fun _ => h.1 (by simp [hf]), h.2.1, ?_⟩
  intro x hx
  simp only [setKids, List.mem_cons] at hx
  rcases hx with rfl | hx
  · exact ⟨hfo.1, hfo.2.1, hk⟩
  · exact h.2.2 x (by simp [hf, hx])

/-- The closed child a text node becomes (`addText` of the model builds it inline). -/
def mkText (n : ANode) : Kid := ⟨.text, n, [], s!"({headSig .text n})"⟩

theorem mkText_ok (n : ANode) (h : nodeOk n) : (mkText n).ok := ⟨h, fun _ => rfl⟩

theorem mkText_owned (n : ANode) : (mkText n).owned = n.owned := by simp [mkText, Kid.owned]

theorem ctxRest_self (c : TCtx) (f : Frame) (rest : List Frame) (hf : c.frames = f :: rest) :
    c.owned = ctxRest c f rest f.kids := by
  rw [TCtx.owned_cons c f rest hf]; rfl

theorem kid_mem_ctxRest (c : TCtx) (f : Frame) (rest : List Frame) {init : List Kid} {k : Kid} (hk : k ∈ init) :
    k.node.hdr ∈ ctxRest c f rest init := by
  simp only [ctxRest, List.mem_cons, List.mem_append, List.mem_flatMap]
  exact Or.inr (Or.inr (Or.inl (Or.inr ⟨k, hk, List.mem_append_left _ (hdr_mem_owned k.node)⟩)))

theorem setKids_snoc_ok (c : TCtx) (f : Frame) (rest : List Frame) (hf : c.frames = f :: rest) (h : c.ok) (init : List Kid)
    (k : Kid) (hi : ∀ x ∈ init, x.ok) (hk : k.ok) : (setKids c f rest (init ++ [k])).ok :=
  setKids_ok c f rest hf h _ (List.forall_mem_append.2 ⟨hi, fun _ hx => List.mem_singleton.1 hx ▸ hk⟩)

/-- Appending `mkText n` after the closed children `init` keeps `ok` and, up to order, the blocks owned. -/
theorem appendText (c : TCtx) (f : Frame) (rest : List Frame) (hf : c.frames = f :: rest) (h : c.ok) (n : ANode)
    (hn : nodeOk n) (init : List Kid) (hi : ∀ k ∈ init, k.ok) (hp : c.owned.Perm (ctxRest c f rest init)) :
    (setKids c f rest (init ++ [mkText n])).ok ∧ (c.owned ++ n.owned).Perm (setKids c f rest (init ++ [mkText n])).owned := by
  refine ⟨setKids_snoc_ok c f rest hf h init _ hi (mkText_ok n hn), ?_⟩
  refine ((hp.append_right _).trans List.perm_append_comm).trans ?_
  rw [← mkText_owned n]
  exact (setKids_perm c f rest init (mkText n)).symm

/-! ### Joining two text nodes

  The content buffer changes hands, so the blocks of a node are split into its content buffer and
  the node without content. -/

theorem ANode.content_perm (n : ANode) :
    n.owned.Perm (ownedBufOpt n.content ++ ({ n with content := none } : ANode).owned) := by
  rw [ANode.owned_eq, ANode.owned_eq]
  simp only [ownedBufOpt]
  perm_count

theorem setKids_leaf_perm (c : TCtx) (f : Frame) (rest : List Frame) (init : List Kid) (k : Kid) (hb : k.below = []) :
    (setKids c f rest (init ++ [k])).owned.Perm
      (ownedBufOpt k.node.content ++ (({ k.node with content := none } : ANode).owned ++ ctxRest c f rest init)) := by
  refine (setKids_perm c f rest init k).trans ?_
  rw [← List.append_assoc, Kid.owned, hb, List.append_nil]
  exact (ANode.content_perm k.node).append_right _

theorem perm_join {K N D B S T R : List Nat} (hK : K.Perm (D ++ (S ++ R))) (hN : N.Perm (B ++ T)) :
    (K ++ N).Perm (D ++ (B ++ (S ++ (T ++ R)))) := by
  refine (hK.append hN).trans ?_
  perm_count

/-- The text node is appended, or joined with the text node before it (whose buffer grows and is
    handed over to the new node, the old node being destroyed). -/
theorem addText_tri (c : TCtx) (node : ANode) (hok : c.ok) (hn : nodeOk node) :
    Spec [] (c.owned ++ node.owned) (addText c node) (fun r => if r.2 then r.1.owned else r.1.owned ++ node.owned)
      (fun r => r.1.tree = c.tree ∧ r.1.error = c.error ∧ r.1.ok) (fun r => r.2 = false) := by
  have hnl : node.hdr ∈ c.owned ++ node.owned := List.mem_append_right _ (hdr_mem_owned node)
  unfold addText
  refine .deref (.inl hnl) ?_
  rcases hf : c.frames with _ | ⟨f, rest⟩
  · refine .deref (.inl (List.mem_append_left _ (tree_mem_owned c))) ?_
    cases hr : c.root with
    | some k => exact .ret (.refl _) ⟨rfl, rfl, rfl, hok⟩ nofun
    | none =>
      have hperm : (c.owned ++ node.owned).Perm ({ c with root := some (mkText node), frames := [] } : TCtx).owned := by
        simp only [TCtx.owned, hf, hr, ownedKidOpt, mkText_owned, List.flatMap_nil, List.append_nil]
        perm_count
      exact .ret hperm ⟨rfl, rfl, rfl, fun h => absurd rfl h, fun k hk => Option.some.inj hk ▸ mkText_ok node hn, fun _ h => nomatch h⟩ nofun
  · have hfm : f ∈ c.frames := hf ▸ List.mem_cons_self
    have hfo := hok.2.2 f hfm
    have hlive : ∀ {k : Kid}, k ∈ f.kids → k.node.hdr ∈ c.owned ++ node.owned :=
      fun hk => List.mem_append_left _ (frame_mem_owned c hfm (kid_hdr_mem f hk))
    refine .deref (.inl (List.mem_append_left _ (frame_mem_owned c hfm (List.mem_append_left _ (hdr_mem_owned f.node))))) ?_
    refine .walkKids (fun k hk => .inl (hlive hk)) ?_
    cases hlast : f.kids.getLast? with
    | none =>
      have hk0 : f.kids = [] := List.getLast?_eq_none_iff.1 hlast
      have hp : c.owned.Perm (ctxRest c f rest []) := by rw [ctxRest_self c f rest hf, hk0]
      have ⟨o, p⟩ := appendText c f rest hf hok node hn [] (fun _ h => nomatch h) hp
      exact .ret p ⟨rfl, rfl, rfl, o⟩ nofun
    | some last =>
      have hsplit := Lemmas.getLast_split f.kids last hlast
      have hlm : last ∈ f.kids := List.mem_of_getLast? hlast
      have hlo := hfo.2.2 last hlm
      refine .deref (.inl hnl) (.deref (.inl (hlive hlm)) ?_)
      by_cases hkt : last.kind = .text
      · rw [if_pos hkt]
        have hbelow : last.below = [] := hlo.2 hkt
        cases hcont : last.node.content with
        | none => exact .ret (.refl _) ⟨rfl, rfl, rfl, hok⟩ nofun
        | some dest =>
          have hdok : dest.ok := hlo.1 dest hcont
          have hinit : ∀ k ∈ f.kids.dropLast, k.ok := fun k hk => hfo.2.2 k (List.dropLast_subset _ hk)
          -- held: the joined buffer, the new node's buffer, the two nodes without content, the rest
          have hcp := setKids_leaf_perm c f rest f.kids.dropLast last hbelow
          rw [← hsplit, setKids_self c f rest hf, hcont] at hcp
          refine (bufAppend_tri (ownedBufOpt node.content) dest node.content hdok fun i hi => .inr
            (hdr_mem_ownedBufOpt hi)).call (perm_join hcp (ANode.content_perm node))
            (fun i hi => .inr (List.mem_append_left _ hi)) fun ⟨dest', ok⟩ ⟨_, _, hko⟩ => ?_
          cases ok with
          | false =>
            have hlast' : ({ last with node := { last.node with content := some dest' } } : Kid).ok :=
              ⟨fun b hb' => Option.some.inj hb' ▸ hko hdok, fun _ => hbelow⟩
            exact .ret (perm_join (setKids_leaf_perm c f rest _ { last with node := { last.node with content := some dest' } } hbelow)
                (ANode.content_perm node)).symm
              ⟨rfl, rfl, rfl, setKids_snoc_ok c f rest hf hok _ _ hinit hlast'⟩ fun _ => rfl
          | true =>
            refine .deref (.inl (List.mem_append_right _ (List.mem_append_right _
              (List.mem_append_left _ (hdr_mem_owned { last.node with content := none }))))) ?_
            have hprev : ∀ {β : Type} {k : Unit → Prog β} {O F Q E}, (∀ i ∈ ctxRest c f rest f.kids.dropLast, i ∈ O) →
                Tri [] O F (k ()) Q E → Tri [] O F (Prog.bind (match f.kids.dropLast.getLast? with
                  | none => Prog.ret ()
                  | some prev => deref (some prev.node.hdr)) k) Q E := fun hO hk => by
              cases hp : f.kids.dropLast.getLast? with
              | none => exact hk
              | some prev => exact .deref (.inl (hO _ (kid_mem_ctxRest c f rest (List.mem_of_getLast? hp)))) hk
            refine hprev (fun i hi => List.mem_append_right _ (List.mem_append_right _ (List.mem_append_right _
              (List.mem_append_right _ hi)))) ?_
            -- the new node's own buffer goes, then the old node, whose buffer has been handed over
            refine .release (bufDestroy_frees node.content) ((List.perm_append_comm_assoc _ _ _).trans List.perm_append_comm) ?_
            refine .release (nodeDestroy_frees (some { last.node with content := none }))
              ((List.perm_append_comm_assoc _ _ _).trans List.perm_append_comm) ?_
            have hnode' : nodeOk ({ node with content := some dest' } : ANode) := fun b hb' => Option.some.inj hb' ▸ hko hdok
            exact .ret (setKids_leaf_perm c f rest _ (mkText { node with content := some dest' }) rfl).symm
              ⟨rfl, rfl, rfl, setKids_snoc_ok c f rest hf hok _ _ hinit (mkText_ok _ hnode')⟩ (by simp)
      · rw [if_neg hkt]
        refine .deref (.inl (hlive hlm)) ?_
        have hp : c.owned.Perm (ctxRest c f rest f.kids) := by rw [ctxRest_self c f rest hf]
        have ⟨o, p⟩ := appendText c f rest hf hok node hn f.kids hfo.2.2 hp
        exact .ret p ⟨rfl, rfl, rfl, o⟩ nofun

end Wbxml.Model.Alloc
