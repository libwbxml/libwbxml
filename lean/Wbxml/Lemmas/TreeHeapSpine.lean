/-
  C18 lemmas: the shape of a document under construction: a *spine* of open nodes, each with the chain of its
  closed children, the innermost open node last in every chain.
-/
import Wbxml.Lemmas.TreeHeapShape
namespace Wbxml.Model.TreeHeap
open Wbxml Wbxml.Model

/-- The shape of an open document: the list has the open nodes innermost first, each with the chain
    of its CLOSED children; `child` is what hangs below the innermost one after them. -/
def spineAux (child : BT) : List (Nat × BT) → BT
  | [] => child
  | (a, C) :: rest => spineAux (.node a (BT.snoc C child) .nil) rest

/-- The addresses `spineAux child` adds to those of `child` (`mem_spineAux`). -/
def spineIds : List (Nat × BT) → List Nat
  | [] => []
  | (a, C) :: rest => a :: (C.ids ++ spineIds rest)

theorem mem_spineAux (j : Nat) : ∀ (rest : List (Nat × BT)) (child : BT),
    j ∈ (spineAux child rest).ids ↔ j ∈ child.ids ∨ j ∈ spineIds rest
  | [], child => by simp [spineAux, spineIds]
  | (a, C) :: rest, child => by
    simp only [spineAux, spineIds, mem_spineAux j rest, BT.mem_node, BT.snoc_ids_eq, List.mem_append, List.mem_cons,
      BT.ids_nil, List.not_mem_nil, or_false]
    simp only [or_assoc, or_left_comm]

theorem nodup_spineAux : ∀ (rest : List (Nat × BT)) (child : BT), (spineAux child rest).ids.Nodup →
    child.ids.Nodup ∧ (∀ j, j ∈ child.ids → j ∉ spineIds rest)
  | [], child, h => ⟨h, fun j _ hj => by simp [spineIds] at hj⟩
  | (a, C) :: rest, child, h => by
    obtain ⟨h1, h2⟩ := nodup_spineAux rest _ h
    obtain ⟨hi1, _, hcn, _, _⟩ := BT.nodup_node.mp h1
    rw [BT.snoc_ids_eq] at hi1 hcn
    have hcn' := List.nodup_append.mp hcn
    refine ⟨hcn'.2.1, ?_⟩
    intro j hj hjs
    simp only [spineIds, List.mem_cons, List.mem_append] at hjs
    rcases hjs with hjs | hjs | hjs
    · exact hi1 (by rw [← hjs]; exact List.mem_append.mpr (Or.inr hj))
    · exact hcn'.2.2 j hjs j hj rfl
    · exact h2 j (BT.mem_node.mpr (Or.inr (Or.inl (by rw [BT.snoc_ids_eq]; exact List.mem_append.mpr (Or.inr hj))))) hjs

theorem setKids_spineAux (P : Nat) (k : BT) : ∀ (rest : List (Nat × BT)) (child child' : BT),
    BT.setKids P k child = child' → P ∉ spineIds rest →
    BT.setKids P k (spineAux child rest) = spineAux child' rest
  | [], child, child', h, _ => h
  | (a, C) :: rest, child, child', h, hP => by
    simp only [spineIds, List.mem_cons, List.mem_append, not_or] at hP
    have haP : ¬ a = P := fun e => hP.1 e.symm
    apply setKids_spineAux P k rest _ _ _ hP.2.2
    simp only [BT.setKids, haP, if_false, BT.setKids_snoc P k child C hP.2.1, h]

theorem spineAux_tops : ∀ (rest : List (Nat × BT)) (a : Nat) (K : BT),
    ∃ r K', spineAux (.node a K .nil) rest = .node r K' .nil
  | [], a, K => ⟨a, K, rfl⟩
  | (a', C) :: rest, a, K => spineAux_tops rest a' (BT.snoc C (.node a K .nil))

theorem spine_kidsOf (a : Nat) (C : BT) (rs : List (Nat × BT)) (hnd : (spineAux (.node a C .nil) rs).ids.Nodup) :
    BT.kidsOf a (spineAux (.node a C .nil) rs) = C := by
  have ha : a ∉ spineIds rs := (nodup_spineAux rs _ hnd).2 a (by simp)
  have h1 : BT.setKids a C (spineAux (.node a C .nil) rs) = spineAux (.node a C .nil) rs :=
    setKids_spineAux a C rs _ _ (by simp [BT.setKids]) ha
  have hmem : a ∈ (spineAux (.node a C .nil) rs).ids := (mem_spineAux a rs _).mpr (Or.inl (by simp))
  have := BT.kidsOf_setKids a C _ hmem hnd
  rw [h1] at this; exact this

theorem spine_setKids (a : Nat) (C K' : BT) (rs : List (Nat × BT)) (hnd : (spineAux (.node a C .nil) rs).ids.Nodup) :
    BT.setKids a K' (spineAux (.node a C .nil) rs) = spineAux (.node a K' .nil) rs :=
  setKids_spineAux a K' rs _ _ (by simp [BT.setKids]) ((nodup_spineAux rs _ hnd).2 a (by simp))

theorem spineAux_nil_cons (a : Nat) (C : BT) (rs : List (Nat × BT)) :
    spineAux .nil ((a, C) :: rs) = spineAux (.node a C .nil) rs := by
  simp [spineAux]

end Wbxml.Model.TreeHeap
