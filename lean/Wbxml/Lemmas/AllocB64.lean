/-
  C16 — the two steps the base64 conversions share (`parse_opaque` with `decode_base64_value` in the
  parser, `wbxml_buffer_encode_base64` in the XML printer, `wbxml_buffer_decode_base64` in the XML
  call-backs): the result block of `wbxml_base64_encode`, and the rewrite of a buffer in place.
-/
import Wbxml.Model.AllocParseLoop
import Wbxml.Lemmas.AllocCont
namespace Wbxml.Model.Alloc
open Wbxml

theorem EB64ENC_ne_OK : EB64ENC ≠ OK := by decide
theorem EPUBID_ne_OK : EPUBID ≠ OK := by decide

theorem b64Encode_tri (len : Nat) : Spec [] [] (b64Encode len) Option.toList (fun _ => True) (· = none) := by
  unfold b64Encode
  exact .ite (fun _ => .ret (.refl _) ⟨rfl, trivial⟩ nofun) fun _ => malloc_tri

/-- `wbxml_buffer_delete(b, 0, len)` then `wbxml_buffer_append_data(b, d)`: the emptied buffer is the
    same object, so this is a step of `b`. -/
theorem bufRewrite_tri (b : ABuf) (d : Bytes) (hok : b.ok) : BufSpec [] b (bufAppendData { b with bytes := [] } (some d)) :=
  have hok0 : ({ b with bytes := [] } : ABuf).ok := fun hs hd => ⟨(hok hs hd).1, rfl⟩
  (bufAppendData_tri { b with bytes := [] } (some d) hok0).mono id
    (fun _ B ⟨e, h1, h2, k⟩ => ⟨B, .refl _, e, h1, h2, fun _ => k hok0⟩) fun _ _ _ => id

end Wbxml.Model.Alloc
