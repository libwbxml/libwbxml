/-
  C15 — lemmas about the life-cycle machine (`Model/Objects.lean`), for ARBITRARY bodies, and the
  bridge from the Bool facts that `Props/C15` evaluates over `Gen.Fields` to `Machine.Sound` and to
  the history theorems of `machineOf o` / `machineOfK o` for an arbitrary object class `o`; and the
  comparison of names as numbers (`keyBEq_eq`) with which `Props/C15` evaluates.
-/
import Wbxml.Model.Objects
import Wbxml.Lemmas.KeyBits
set_option linter.unusedSectionVars false
namespace Wbxml.Model.Objects
open Wbxml.Gen.Fields

namespace Machine
variable {F V D R : Type} [DecidableEq F] (M : Machine F V D R)

theorem run_keeps_settings (m : F → V) (d : D) (f : F) (h : M.setting f = true) :
    (M.run m d).1 f = m f := by
  simp only [run, h, if_true]

theorem run_result_eq (m m' : F → V) (d : D) (h : m = m') : (M.run m d).2 = (M.run m' d).2 := by
  subst h; rfl

theorem reapply_reinit (hS : M.Sound) (m s : F → V) (hm : ∀ f, M.setting f = true → m f = s f) :
    M.reapply s (M.reinit m) = M.created s := by
  funext f
  cases hk : M.sticky f with
  | true => simp [reapply, created, user, hk]
  | false =>
    cases hs : M.setting f with
    | true => simp [reapply, reinit, created, user, hk, hs, hS.keeps f hs, hm f hs]
    | false => simp [reapply, reinit, created, user, hk, hs, hS.restores f hs hk]

theorem reapply_id (hns : ∀ f, M.sticky f = false) (s m : F → V) : M.reapply s m = m := by
  funext f; simp only [reapply, hns f]; simp

theorem reinit_eq_created (hS : M.Sound) (hns : ∀ f, M.sticky f = false) (m s : F → V)
    (hm : ∀ f, M.setting f = true → m f = s f) : M.reinit m = M.created s := by
  have := M.reapply_reinit hS m s hm
  rwa [M.reapply_id hns] at this

theorem created_setting (s : F → V) (f : F) (h : M.setting f = true) : M.created s f = s f := by
  simp only [created, user, h, Bool.true_or, if_true]

theorem run_created_setting (s : F → V) (d : D) (f : F) (hf : M.setting f = true) :
    (M.run (M.created s) d).1 f = s f := by
  rw [M.run_keeps_settings _ d f hf, M.created_setting s f hf]

theorem setUser_agree (m s : F → V) (g : F) (v : V) (hm : ∀ f, M.setting f = true → m f = s f) :
    ∀ f, M.setting f = true → M.setUser m g v f = M.setUser s g v f := by
  intro f hf
  unfold setUser
  cases hu : M.user g with
  | false => simpa using hm f hf
  | true =>
    simp only [if_true, upd]
    by_cases hfg : f = g
    · simp [hfg]
    · simp [hfg, hm f hf]

/-- Parser / converter style: re-initialisation inside every run, no sticky fields. -/
theorem pexec_history_free (hS : M.Sound) (hns : ∀ f, M.sticky f = false) :
    ∀ (ops : List (POp F V D)) (m s : F → V), (∀ f, M.setting f = true → m f = s f) →
      (M.pexec m ops).2 = M.pfresh s ops := by
  intro ops
  induction ops with
  | nil => intro m s _; rfl
  | cons op rest ih =>
    intro m s hm
    cases op with
    | set g v =>
      simp only [pexec, pstep, pfresh]
      exact ih _ _ (M.setUser_agree m s g v hm)
    | doc d =>
      simp only [pexec, pstep, pfresh]
      rw [M.reinit_eq_created hS hns m s hm, M.reinit_eq_created hS hns _ s (M.created_setting s),
        ih _ s (M.run_created_setting s d)]

theorem settings_persist (hS : M.Sound) :
    ∀ (ops : List (POp F V D)) (m s : F → V), (∀ f, M.setting f = true → m f = s f) →
      ∀ f, M.setting f = true → (M.pexec m ops).1 f = M.userAfter s ops f := by
  intro ops
  induction ops with
  | nil => intro m s hm f hf; exact hm f hf
  | cons op rest ih =>
    intro m s hm f hf
    cases op with
    | set g v =>
      simp only [pexec, pstep, userAfter]
      exact ih _ _ (M.setUser_agree m s g v hm) f hf
    | doc d =>
      simp only [pexec, pstep, userAfter]
      refine ih _ s ?_ f hf
      intro f' hf'
      rw [M.run_keeps_settings _ d f' hf']
      simp only [reinit, hS.keeps f' hf']
      exact hm f' hf'

theorem setUser_created (s : F → V) (g : F) (v : V) :
    M.setUser (M.created s) g v = M.created (M.setUser s g v) := by
  funext f
  unfold setUser
  cases hu : M.user g with
  | false => simp
  | true =>
    simp only [if_true, created, upd]
    by_cases hfg : f = g
    · subst hfg; simp [hu]
    · simp [hfg]

/-- Encoder style: explicit reset between runs; the user re-applies the sticky settings after every
    reset. -/
theorem eexec_history_free (hS : M.Sound) :
    ∀ (ops : List (EOp F V D)) (s : F → V), (M.eexec (M.created s) s ops).2 = M.efresh s ops := by
  intro ops
  induction ops with
  | nil => intro s; rfl
  | cons op rest ih =>
    intro s
    cases op with
    | set g v =>
      simp only [eexec, efresh]
      rw [M.setUser_created]
      exact ih _
    | enc d =>
      simp only [eexec, efresh]
      rw [M.reapply_reinit hS _ s (M.run_created_setting s d), ih s]

theorem eexec_eq_eexecPlain (hns : ∀ f, M.sticky f = false) :
    ∀ (ops : List (EOp F V D)) (m s : F → V), M.eexec m s ops = M.eexecPlain m ops := by
  intro ops
  induction ops with
  | nil => intro m s; rfl
  | cons op rest ih =>
    intro m s
    cases op with
    | set g v => simp only [eexec, eexecPlain, ih]
    | enc d => simp only [eexec, eexecPlain, M.reapply_id hns, ih]

/-- Full strength for a class without sticky fields: re-applying them is then the identity
    (`eexec_eq_eexecPlain`), so nothing need be re-applied after a reset. -/
theorem eexecPlain_history_free (hS : M.Sound) (hns : ∀ f, M.sticky f = false) :
    ∀ (ops : List (EOp F V D)) (s : F → V), (M.eexecPlain (M.created s) ops).2 = M.efresh s ops := by
  intro ops s
  rw [← M.eexec_eq_eexecPlain hns ops _ s]
  exact M.eexec_history_free hS ops s

end Machine


namespace Machine
section kinds
variable {F V D R K : Type} [DecidableEq F] (M : Machine F V (K × D) R) (keeps : K → F → Bool) (re : K → Bool)

theorem runK_keeps_settings (m : F → V) (k : K) (d : D) (f : F) (h : M.setting f = true) :
    (M.runK keeps m k d).1 f = m f := by
  simp only [runK]
  split
  · rfl
  · exact M.run_keeps_settings m (k, d) f h

theorem runK_keeps (m : F → V) (k : K) (d : D) (f : F) (h : keeps k f = true) :
    (M.runK keeps m k d).1 f = m f := by
  simp only [runK, h, if_true]

theorem reinit_runK (hS : M.Sound) (hst : ∀ f, M.sticky f = true → M.reinitAssign f = none)
    (s : F → V) (k : K) (d : D) (hkk : ∀ f, M.sticky f = true → keeps k f = true) :
    M.reinit (M.runK keeps (M.created s) k d).1 = M.created s := by
  funext f
  cases hs : M.setting f with
  | true =>
    simp only [reinit, hS.keeps f hs]
    exact M.runK_keeps_settings keeps _ k d f hs
  | false =>
    cases hk : M.sticky f with
    | true =>
      simp only [reinit, hst f hk]
      exact M.runK_keeps keeps _ k d f (hkk f hk)
    | false =>
      simp only [reinit, hS.restores f hs hk, created, user, hs, hk, Bool.or_false]
      simp

theorem after_runK (hS : M.Sound) (hst : ∀ f, M.sticky f = true → M.reinitAssign f = none)
    (s : F → V) (k : K) (d : D) (hk : ∀ f, M.sticky f = true → re k = false → keeps k f = true) :
    (if re k then M.reapply s (M.reinit (M.runK keeps (M.created s) k d).1)
     else M.reinit (M.runK keeps (M.created s) k d).1) = M.created s := by
  cases hr : re k with
  | true =>
    simp only [if_true]
    refine M.reapply_reinit hS _ s fun f hf => ?_
    rw [M.runK_keeps_settings keeps _ k d f hf, M.created_setting s f hf]
  | false =>
    simp only [Bool.false_eq_true, if_false]
    exact M.reinit_runK keeps hS hst s k d (fun f hf => hk f hf hr)

/-- Mixed run kinds: reset after every run, the sticky setters called again only after the kinds
    `re` names. -/
theorem kexec_history_free (hS : M.Sound) (hst : ∀ f, M.sticky f = true → M.reinitAssign f = none) :
    ∀ (ops : List (KOp F V D K)) (s : F → V),
      (∀ k ∈ kindsOf ops, ∀ f, M.sticky f = true → re k = false → keeps k f = true) →
      (M.kexec keeps re (M.created s) s ops).2 = M.kfresh keeps s ops := by
  intro ops
  induction ops with
  | nil => intro s _; rfl
  | cons op rest ih =>
    intro s hk
    cases op with
    | set g v =>
      simp only [kexec, kfresh]
      rw [M.setUser_created]
      exact ih _ hk
    | run k d =>
      simp only [kexec, kfresh]
      rw [M.after_runK keeps re hS hst s k d (hk k List.mem_cons_self),
          ih s fun k' hk' => hk k' (List.mem_cons_of_mem _ hk')]

theorem kexec_never (m s : F → V) :
    ∀ ops : List (KOp F V D K), M.kexec keeps (fun _ => false) m s ops = M.kexecPlain keeps m ops := by
  intro ops
  induction ops generalizing m s with
  | nil => rfl
  | cons op rest ih =>
    cases op with
    | set g v => simp only [kexec, kexecPlain, ih]
    | run k d => simp [kexec, kexecPlain, ih]

theorem kexecPlain_history_free (hS : M.Sound) (hst : ∀ f, M.sticky f = true → M.reinitAssign f = none)
    (ops : List (KOp F V D K)) (s : F → V)
    (hall : ∀ k ∈ kindsOf ops, ∀ f, M.sticky f = true → keeps k f = true) :
    (M.kexecPlain keeps (M.created s) ops).2 = M.kfresh keeps s ops := by
  rw [← M.kexec_never keeps _ s]
  exact M.kexec_history_free keeps _ hS hst ops s fun k hk f hf _ => hall k hk f hf

end kinds
end Machine

theorem assignedValue_some_mem {stores : List Store} {field v : String}
    (h : assignedValue stores field = some v) : ∃ s ∈ stores, s.field = field := by
  unfold assignedValue at h
  cases hl : (stores.filter (fun s => s.field == field)).getLast? with
  | none => simp only [hl] at h; cases h
  | some l =>
    have hmem : l ∈ stores.filter (fun s => s.field == field) := List.mem_of_getLast? hl
    rw [List.mem_filter] at hmem
    exact ⟨l, hmem.1, by simpa using hmem.2⟩

theorem reinitValue_none_of_all {o : Obj} {p : String → Bool}
    (h : (reinitStores o).all (fun s => p s.field) = true) {f : String} (hf : p f = false) :
    reinitValue o f = none := by
  cases hv : reinitValue o f with
  | none => rfl
  | some v =>
    obtain ⟨s, hs, hsf⟩ := assignedValue_some_mem hv
    have := List.all_eq_true.mp h s (List.mem_filter.mp hs).1
    rw [hsf, hf] at this
    cases this

theorem mem_sticky {o : Obj} {f : String} : isSticky o f = true ↔ f ∈ stickyList o := by
  simp [isSticky]

theorem restores_of_not_sticky {o : Obj} {f : String} (hd : f ∈ derived o) (hs : f ∉ stickyList o) :
    restores o f = true := by
  cases h : restores o f with
  | true => rfl
  | false => exact absurd (List.mem_filter.2 ⟨hd, by simp [h]⟩) hs

theorem not_sticky_of_complete (o : Obj) (h : ∀ f ∈ derived o, restores o f = true) (f : String) :
    isSticky o f = false := by
  rw [← Bool.not_eq_true, mem_sticky]
  intro hf
  obtain ⟨hd, hr⟩ := List.mem_filter.1 hf
  simp [h f hd] at hr

/-- The Bool fact that `Props/C15` closes by evaluation gives `Sound` for every body. -/
theorem machineOf_sound {D R : Type} (o : Obj) (body : (String → String) → D → (String → String) × R)
    (hkeep : reinitKeepsSettings o = true) :
    (machineOf o body).Sound := by
  refine ⟨?keeps, ?restores, ?sticky_derived⟩
  case keeps =>
    exact fun f hf => reinitValue_none_of_all (p := (derived o).contains) hkeep
      (by simpa [machineOf, isSetting] using hf)
  case restores =>
    intro f hf hk
    simp only [machineOf] at hf hk ⊢
    have hr : restores o f = true :=
      restores_of_not_sticky (by simpa [isSetting] using hf) (by simpa [← mem_sticky] using hk)
    unfold restores at hr
    unfold initOf
    split at hr
    · rename_i a b h1 h2
      simp only [h1, h2, show a = b by simpa using hr]
    · cases hr
  case sticky_derived =>
    intro f hk
    simp only [machineOf] at hk ⊢
    simp [isSetting, (List.mem_filter.mp (mem_sticky.1 hk)).1]

/-! ### The history theorems for the machine of an object class

  `Props/C15` instantiates these with the object classes of the tree under test; the hypotheses are
  the Bool facts it evaluates over the tables. -/

theorem machineOf_history {D R : Type} (o : Obj) (body : (String → String) → D → (String → String) × R)
    (hkeep : reinitKeepsSettings o = true) (hall : ∀ f ∈ derived o, restores o f = true)
    (ops : List (Machine.POp String String D)) (s : String → String) :
    ((machineOf o body).pexec ((machineOf o body).created s) ops).2 = (machineOf o body).pfresh s ops ∧
    ∀ f, isSetting o f = true →
      ((machineOf o body).pexec ((machineOf o body).created s) ops).1 f = (machineOf o body).userAfter s ops f :=
  have hS := machineOf_sound o body hkeep
  have hc := (machineOf o body).created_setting s
  ⟨(machineOf o body).pexec_history_free hS (not_sticky_of_complete o hall) ops _ s hc,
   (machineOf o body).settings_persist hS ops _ s hc⟩

theorem reinitAssign_none_of_leaves (o : Obj) (h : reinitLeavesSticky o = true) (f : String)
    (hf : isSticky o f = true) : reinitValue o f = none :=
  reinitValue_none_of_all (p := fun f => !(stickyList o).contains f) h (congrArg not hf)

/-- One pass over what a run writes decides the field-by-field statement. -/
theorem keepsAll_iff (o : Obj) (k l : List String) :
    keepsAll o k l = true ↔ ∀ f ∈ l, keepsNet o k f = true := by
  simp only [keepsAll, keepsNet, List.all_eq_true, Bool.not_eq_true', ← Bool.not_eq_true, List.contains_iff_mem]
  exact ⟨fun h f hf hw => h f hw hf, fun h f hw hf => h f hf hw⟩

theorem reapplyAfter_eq_false {o : Obj} {k : List String} :
    reapplyAfter o k = false ↔ ∀ f ∈ stickyList o, keepsNet o k f = true := by
  simp [reapplyAfter]

theorem reapplyAfter_of_written {o : Obj} {k : List String} {f : String} (hf : f ∈ stickyList o)
    (hw : keepsNet o k f = false) : reapplyAfter o k = true :=
  List.any_eq_true.2 ⟨f, hf, by simp [hw]⟩

theorem keepsNet_of_not_reapply (o : Obj) (k : List String) (f : String)
    (hf : isSticky o f = true) (hr : reapplyAfter o k = false) : keepsNet o k f = true :=
  reapplyAfter_eq_false.1 hr f (mem_sticky.1 hf)

theorem machineOfK_history {D R : Type} (o : Obj)
    (body : List String → (String → String) → D → (String → String) × R)
    (hkeep : reinitKeepsSettings o = true) (hleaves : reinitLeavesSticky o = true)
    (ops : List (Machine.KOp String String D (List String))) (s : String → String) :
    ((machineOfK o body).kexec (keepsNet o) (reapplyAfter o) ((machineOfK o body).created s) s ops).2
      = (machineOfK o body).kfresh (keepsNet o) s ops ∧
    ((∀ k ∈ Machine.kindsOf ops, reapplyAfter o k = false) →
      ((machineOfK o body).kexecPlain (keepsNet o) ((machineOfK o body).created s) ops).2
        = (machineOfK o body).kfresh (keepsNet o) s ops) :=
  have hS := machineOf_sound o _ hkeep
  have hst := reinitAssign_none_of_leaves o hleaves
  ⟨(machineOfK o body).kexec_history_free (keepsNet o) (reapplyAfter o) hS hst ops s
     fun k _ f hf hr => keepsNet_of_not_reapply o k f hf hr,
   fun h => (machineOfK o body).kexecPlain_history_free (keepsNet o) hS hst ops s
     fun k hk f hf => keepsNet_of_not_reapply o k f hf (h k hk)⟩

/-! ### Names compared as numbers

  In the kernel two String literals are compared by encoding both, octet by octet, at every
  comparison, and the analyses of `Model/Objects.lean` compare each name with many others. `keyBEq` compares the
  numbers of the names: the kernel computes the number of a literal once per declaration and
  compares two numbers in one step. It is the test the analyses use (`keyBEq_eq`), so an
  evaluation may unfold an analysis down to its tests and put `keyBEq` for them. -/

def bkey (s : String) : Nat := nameKey s.toByteArray.data.toList

theorem bkey_inj {a b : String} (h : bkey a = bkey b) : a = b :=
  String.toByteArray_inj.1 (ByteArray.ext (Array.toList_inj.1 (nameKey_inj h)))

@[instance_reducible] def keyBEq : BEq String := ⟨fun a b => bkey a == bkey b⟩

theorem keyBEq_eq : keyBEq = (instBEqOfDecidableEq : BEq String) := by
  unfold keyBEq instBEqOfDecidableEq
  congr
  funext a b
  by_cases h : a = b
  · simp [h]
  · simpa [h] using fun e => h (bkey_inj e)

end Wbxml.Model.Objects
