/-
  WBXML encoder proofs: `parse_text` / `wbxml_encode_value_element_buffer` (content context) write a
  list of content items of the grammar that are not elements, processing instructions or entities (`Leaf`): inline strings, string-table
  references, Wireless-Village extension tokens, opaque data (`encContentValueW_run`, `encTextW_spec`;
  which OPAQUE: `TypedOut`, `TextOut`). The character data a text node stands for is defined here:
  `normText` (documented normalisations) and `vText` (typed content included), with the reader's view
  `TextViewT`.
-/
import Wbxml.Lemmas.EncWAttrRead
namespace Wbxml.Lemmas.EncW
open Wbxml Wbxml.Model Wbxml.Spec Wbxml.Lemmas.ParseSer
open Wbxml.Model.Codec (mbEncode)

/-- The payload `p` of the single OPAQUE a typed text is written as, and which rule made it. -/
def TypedOut (c : WCfg) (parent : Option Name) (s : Bytes) (cur : Option TagRow) (p : Bytes) : Prop :=
  (isWv c.lang.id = true ∧ ∃ t, cur = some t ∧
     ((Typed.wvEncKind t.page t.token = .integer ∧ p.length ≤ 4) ∨
      (Typed.wvEncKind t.page t.token = .dateTime ∧ p.length = 6))) ∨
  (c.lang.id = 1801 ∧ ∃ r, parent = some (.token r) ∧ isKvRow c.lang.id r = true ∧
     Codec.b64DecodeE (b64TextW s) = .ok p)

theorem wvContentW_some' (c : WCfg) (s : Bytes) (st st1 : WSt) (hs : nulFree s = true)
    (h : wvContentW c s st = .ok (some st1)) :
    ∃ it, Leaf c st.strtbl it ∧ st1 = st.emit (serItem it) ∧
      (opqsItem it = [] ∨ ∃ p, it = .opaque p ∧ ∃ t, st.curTag = some t ∧
        ((Typed.wvEncKind t.page t.token = .integer ∧ p.length ≤ 4) ∨
         (Typed.wvEncKind t.page t.token = .dateTime ∧ p.length = 6))) := by
  have hext : (match c.lang.exts with
      | none => pure none
      | some exts =>
        match encExt exts s with
        | some r => pure (some (st.emit (extW r.token)))
        | none => pure none : Except Err (Option WSt)) = .ok (some st1) →
      ∃ it, Leaf c st.strtbl it ∧ st1 = st.emit (serItem it) ∧ opqsItem it = [] := by
    intro h
    split at h
    · cases h
    · rename_i exts hexts
      split at h
      · rename_i r hr
        have h' : (Except.ok (some (st.emit (extW r.token))) : Except Err (Option WSt)) = .ok (some st1) := h
        injection h' with h'; injection h' with h'
        refine ⟨.ext none (.tbl 0 (r.token % 256)), .ext _ (by simp [hexts]) (Nat.mod_lt _ (by decide)), ?_, opqsItem_ext _ _⟩
        rw [← h', serItem_extT0]; rfl
      · cases h
  unfold wvContentW at h
  cases hct : st.curTag with
  | none =>
    rw [hct] at h
    obtain ⟨it, h1, h2, h3⟩ := hext h
    exact ⟨it, h1, h2, Or.inl h3⟩
  | some t =>
    rw [hct] at h
    simp only at h
    cases hk : Typed.wvEncKind t.page t.token with
    | integer =>
      rw [hk] at h
      cases hx : Typed.encodeWvInt s with
      | error e => rw [hx] at h; cases h
      | ok r =>
        rw [hx] at h
        cases r with
        | none => cases h
        | some item =>
          have h' : (Except.ok (some (st.emit item)) : Except Err (Option WSt)) = .ok (some st1) := h
          injection h' with h'; injection h' with h'
          obtain ⟨p, rfl, hp⟩ := encodeWvInt_shape s item hx
          exact ⟨.opaque p, .opq p, by rw [← h', serItem_opaque], Or.inr ⟨p, rfl, t, rfl, Or.inl ⟨hk, hp⟩⟩⟩
    | dateTime =>
      rw [hk] at h
      obtain ⟨item, hi, rfl⟩ := bind_ok_someO _ (fun item : Typed.WvItem => st.emit item.bytes) _ h
      rcases encodeWvDate_shape s item hi with hb | ⟨p, hb, hp⟩
      · exact ⟨.str (.inl s), .inl s hs, by rw [hb, serItem_str], Or.inl (opqsItem_str _)⟩
      · exact ⟨.opaque p, .opq p, by rw [hb, serItem_opaque], Or.inr ⟨p, rfl, t, rfl, Or.inr ⟨hk, hp⟩⟩⟩
    | other =>
      rw [hk] at h
      obtain ⟨it, h1, h2, h3⟩ := hext h
      exact ⟨it, h1, h2, Or.inl h3⟩

theorem drmrelContentW_some' (parent : Option Name) (s : Bytes) (st st1 : WSt)
    (h : drmrelContentW parent s st = .ok (some st1)) :
    ∃ p, st1 = st.emit (serItem (.opaque p)) ∧ ∃ r, parent = some (.token r) ∧
      (r.page == 0 && r.token == 0x0C) = true ∧ Codec.b64DecodeE (b64TextW s) = .ok p := by
  unfold drmrelContentW at h
  split at h
  · rename_i r
    split at h
    · rename_i hr
      obtain ⟨d, hd, rfl⟩ := bind_ok_someO _ (fun d => st.emit (opaqueW d)) _ h
      exact ⟨d, by rw [serItem_opq], r, rfl, hr, hd⟩
    · cases h
  · cases h

theorem wvContentW_some (c : WCfg) (s : Bytes) (st st1 : WSt) (hs : nulFree s = true)
    (h : wvContentW c s st = .ok (some st1)) :
    ∃ it, Leaf c st.strtbl it ∧ st1 = st.emit (serItem it) := by
  obtain ⟨it, h1, h2, _⟩ := wvContentW_some' c s st st1 hs h
  exact ⟨it, h1, h2⟩

theorem drmrelContentW_some (c : WCfg) (parent : Option Name) (s : Bytes) (st st1 : WSt)
    (h : drmrelContentW parent s st = .ok (some st1)) :
    ∃ it, Leaf c st.strtbl it ∧ st1 = st.emit (serItem it) := by
  obtain ⟨p, hp, _⟩ := drmrelContentW_some' parent s st st1 h
  exact ⟨.opaque p, .opq p, hp⟩

theorem opqs_velts_all (l : List VElt) : opqsItems (l.flatMap itemsOfVElt) = [] := by
  induction l with
  | nil => simp [opqsItems_nil]
  | cons e es ih =>
    rw [List.flatMap_cons, opqsItems_append, ih, List.append_nil]
    cases e with
    | str s =>
      simp only [itemsOfVElt]
      split
      · rw [opqsItems_cons, opqsItem_str, opqsItems_nil]; rfl
      · rw [opqsItems_nil]
    | ref o => simp only [itemsOfVElt]; rw [opqsItems_cons, opqsItem_str, opqsItems_nil]; rfl
    | ext r => simp only [itemsOfVElt]; rw [opqsItems_cons, opqsItem_ext, opqsItems_nil]; rfl
    | tok r => simp only [itemsOfVElt]; rw [opqsItems_nil]

theorem nulFree_ite {p : Prop} [Decidable p] {x y : Bytes} (hx : nulFree x = true) (hy : nulFree y = true) :
    nulFree (if p then x else y) = true := by split <;> assumption

theorem nulFree_syncmlTypeText (id : Nat) (s : Bytes) (hs : nulFree s = true) :
    nulFree (syncmlTypeText id s) = true :=
  nulFree_ite (nulFree_ite rfl (nulFree_ite rfl hs)) hs

theorem encContentValueW_cases (c : WCfg) (parent : Option Name) (s : Bytes) (st st' : WSt)
    (h : encContentValueW c parent s st = .ok st') :
    (s = [] ∧ st' = st) ∨ s ≠ [] ∧
      ((isWv c.lang.id = true ∧ wvContentW c s st = .ok (some st')) ∨
       ((c.lang.id == 1801) = true ∧ drmrelContentW parent s st = .ok (some st')) ∨
       ((isWv c.lang.id = true → wvContentW c s st = .ok none) ∧
        ((c.lang.id == 1801) = true → drmrelContentW parent s st = .ok none) ∧
        (do let l : List VElt := [.str (syncmlTypeText c.lang.id s)]
            let l := match c.lang.exts with
              | some exts => splitByExts exts l
              | none => l
            let l ← (if c.useStrtbl = true then splitByStrtbl st.strtbl l else pure l)
            pure (emitVElts st l) : Except Err WSt) = .ok st')) := by
  unfold encContentValueW at h
  split at h
  · rename_i he
    exact .inl ⟨List.isEmpty_iff.mp he, (Except.ok.inj h).symm⟩
  · rename_i hne
    refine .inr ⟨fun e => hne (by rw [e]; rfl), ?_⟩
    obtain ⟨r1, hwv, h⟩ := bind_eq_ok h
    cases r1 with
    | some st1 =>
      cases Except.ok.inj h
      split at hwv
      · exact .inl ⟨‹_›, hwv⟩
      · cases hwv
    | none =>
      obtain ⟨r2, hdr, h⟩ := bind_eq_ok h
      cases r2 with
      | some st1 =>
        cases Except.ok.inj h
        split at hdr
        · exact .inr (.inl ⟨‹_›, hdr⟩)
        · cases hdr
      | none => exact .inr (.inr ⟨fun hw => by rwa [if_pos hw] at hwv, fun hd => by rwa [if_pos hd] at hdr, h⟩)

theorem syncmlTypeText_nil (id : Nat) : syncmlTypeText id [] = [] := by
  unfold syncmlTypeText
  cases isSyncml id <;> rfl

/-- What a reader reads back is claimed where both typed pre-passes declined and the language has no
    extension table (no `langOk` needed): the generic passes then leave strings and table references
    only. -/
theorem encContentValueW_run (c : WCfg) (parent : Option Name) (s : Bytes) (st st' : WSt)
    (hs : nulFree s = true) (h : encContentValueW c parent s st = .ok st') :
    ∃ items, st' = st.emit (serItems items) ∧ (∀ it ∈ items, Leaf c st.strtbl it) ∧
      ((opqsItems items = [] ∧
          ((isWv c.lang.id = true → wvContentW c s st = .ok none) →
           ((c.lang.id == 1801) = true → drmrelContentW parent s st = .ok none) → c.lang.exts = none →
           ∀ ctx : Ctx, Resolves ctx.tbl st.strtbl → ∀ own pg,
             (s ≠ [] → charsCat (evItems ctx own pg items).1 = syncmlTypeText c.lang.id s) ∧
             (evItems ctx own pg items).1.flatMap toks = (syncmlTypeText c.lang.id s).map .ch)) ∨
       ∃ p, items = [.opaque p] ∧ s ≠ [] ∧ TypedOut c parent s st.curTag p) := by
  have one : ∀ it : Item, st.emit (serItem it) = st.emit (serItems [it]) := fun it => by
    rw [serItems_single]
  rcases encContentValueW_cases c parent s st st' h with ⟨rfl, rfl⟩ | ⟨hsne, ⟨hisWv, hwv⟩ | ⟨hisD, hdr⟩ | ⟨_, _, h⟩⟩
  · exact ⟨[], by rw [serItems_nil, emit_nil], nofun, Or.inl ⟨opqsItems_nil, fun _ _ _ _ _ _ _ =>
      ⟨fun hne => absurd rfl hne, by rw [evItems_nil, syncmlTypeText_nil]; rfl⟩⟩⟩
  · obtain ⟨it, hit, rfl, hk⟩ := wvContentW_some' c s st st' hs hwv
    refine ⟨[it], one it, List.forall_mem_singleton.mpr hit, ?_⟩
    rcases hk with hk | ⟨p, rfl, t, ht, hk⟩
    · exact Or.inl ⟨by rw [opqsItems_cons, hk, opqsItems_nil]; rfl, fun hw _ _ => by rw [hw hisWv] at hwv; cases hwv⟩
    · exact Or.inr ⟨p, rfl, hsne, Or.inl ⟨hisWv, t, ht, hk⟩⟩
  · obtain ⟨p, rfl, r, hpar, hr, hdec⟩ := drmrelContentW_some' parent s st st' hdr
    have hid : c.lang.id = 1801 := by simpa using hisD
    refine ⟨[.opaque p], one _, List.forall_mem_singleton.mpr (.opq p),
      Or.inr ⟨p, rfl, hsne, Or.inr ⟨hid, r, hpar, ?_, hdec⟩⟩⟩
    simp only [isKvRow, hid, beq_self_eq_true, Bool.true_and]
    simpa using hr
  · -- the generic passes keep every piece a NUL-free string, an extension token or a table reference;
    -- without an extension table only strings and references are left
    let Q : VElt → Prop := fun e => notTok e ∧ (c.lang.exts = none → strOrRef e)
    have hstart : ∀ e ∈ (match c.lang.exts with
        | some exts => splitByExts exts [VElt.str (syncmlTypeText c.lang.id s)]
        | none => [VElt.str (syncmlTypeText c.lang.id s)]), VOk c st.strtbl e ∧ Q e := by
      have h0 : ∀ e ∈ [VElt.str (syncmlTypeText c.lang.id s)], VOk c st.strtbl e ∧ Q e := by
        intro e he
        simp only [List.mem_cons, List.mem_nil_iff, or_false] at he
        subst he
        exact ⟨nulFree_syncmlTypeText _ _ hs, trivial, fun _ => trivial⟩
      cases hx : c.lang.exts with
      | none => exact h0
      | some exts =>
        exact splitByExts_all (fun e => VOk c st.strtbl e ∧ Q e) ⟨rfl, trivial, fun _ => trivial⟩ exts
          (fun r hr => ⟨⟨exts, hx, hr⟩, trivial, fun hn => by rw [hx] at hn; cases hn⟩) _ h0
    obtain ⟨l, rfl, hl, hcat⟩ := strtblPass_spec c st st' Q
      (fun _ _ _ => ⟨⟨trivial, fun _ => trivial⟩, trivial, fun _ => trivial⟩) (fun _ => ⟨trivial, fun _ => trivial⟩)
      _ hstart h
    refine ⟨_, emitVElts_content l (fun e he => (hl e he).2.1) st,
      fun it hit => (by
        obtain ⟨e, he, hit⟩ := List.mem_flatMap.mp hit
        exact itemsOfVElt_leaf c _ e (hl e he).1 it hit),
      Or.inl ⟨opqs_velts_all l, fun _ _ hx ctx hres own pg => ?_⟩⟩
    have hcat' : l.flatMap (vval ctx.tbl) = syncmlTypeText c.lang.id s := by
      rw [hcat ctx.tbl hres, hx]
      simp [vval]
    have hv := evItems_velts ctx own pg l (fun e he => (hl e he).2.2 hx)
    exact ⟨fun _ => by rw [hv.1, hcat'], by rw [hv.2, hcat']⟩

theorem encContentValueW_spec (c : WCfg) (parent : Option Name) (s : Bytes) (st st' : WSt)
    (hs : nulFree s = true) (h : encContentValueW c parent s st = .ok st') :
    ∃ items, st' = st.emit (serItems items) ∧ ∀ it ∈ items, Leaf c st.strtbl it := by
  obtain ⟨items, h1, h2, _⟩ := encContentValueW_run c parent s st st' hs h
  exact ⟨items, h1, h2⟩

theorem langOk_noexts {l : Lang} (h : langOk l = true) (hw : isWv l.id = false) : l.exts = none := by
  cases hx : l.exts with
  | none => rfl
  | some x =>
    have := langOk_exts h (by simp [hx])
    rw [hw] at this; cases this

/-- The character data a text node stands for after the documented normalisations: white-space-only
    text dropped and blanks trimmed unless white space is kept, the text read as a C string, the
    SyncML `+xml` media types written as `+wbxml`. -/
def normText (c : WCfg) (s : Bytes) : Bytes :=
  if c.ignoreEmpty && s.all isSpaceC then []
  else syncmlTypeText c.lang.id (cstrOf (if c.removeBlanks then stripBlanks s else s))

/-- In DRMREL the base64 pre-pass takes a text exactly under a `ds:KeyValue` token element. -/
theorem drmrelContentW_kv (l : Lang) (hid : l.id = 1801) (parent : Option Name) (s : Bytes) (st : WSt) :
    drmrelContentW parent s st =
      if kvPar l parent then (do let d ← Codec.b64DecodeE (b64TextW s); pure (some (st.emit (opaqueW d)))) else pure none := by
  unfold drmrelContentW
  cases parent with
  | none => rfl
  | some nm =>
    cases nm with
    | literal x => rfl
    | token r => simp only [kvPar, isKvRow, hid, beq_self_eq_true, Bool.true_and]

/-- **The character data a reader gets for a text node**, as a function of the source text, the name
    of the enclosing element and the encoder's `current_tag` (every language but Wireless Village):
    the raw octets under a binary-flagged tag (ActiveSync); under a DRMREL `ds:KeyValue` token
    element the base64 text `decode_base64_value` makes of the octets the encoder's base64 decoder
    makes of the text (RFC 4648 re-encoding, C12); `normText` otherwise. No option other than the
    white-space policy is looked at. -/
def vText (c : WCfg) (parent : Option Name) (cur : Option TagRow) (s : Bytes) : Bytes :=
  if isBinaryTag cur then s
  else if kvPar c.lang parent && !textSilent c s then
    match Codec.b64DecodeE (b64TextW (textArg c s)) with
    | .ok p => (match decodeBase64Value p with | .ok b => b | .error _ => [])
    | .error _ => normText c s
  else normText c s

/-- `own` is the reader's own tag at the place of the text: same page and token as `current_tag` / as
    the parent's row — the two hypotheses on `own` are what the fields `cur` and `par` of `Pos`
    (`Lemmas/EncWPos.lean`) provide. Nothing is claimed for Wireless Village. -/
def TextViewT (c : WCfg) (parent : Option Name) (s : Bytes) (st : WSt) (items : List Item) : Prop :=
  isWv c.lang.id = false → langOk c.lang = true → typedLangOk c.lang = true → st.inCdata = false →
  ∀ ctx : Ctx, ctx.lang = c.lang → Resolves ctx.tbl st.strtbl → ∀ own : Option TagRow,
    (∀ r, st.curTag = some r → ∃ r', own = some r' ∧ r'.page = r.page ∧ r'.token = r.token ∧
      ∃ tags, c.lang.tags = some tags ∧ r ∈ tags) →
    (∀ r0, parent = some (.token r0) → ∃ r', own = some r' ∧ r'.page = r0.page ∧ r'.token = r0.token) →
    ∀ pg, (evItems ctx own pg items).1.flatMap toks = (vText c parent st.curTag s).map .ch

theorem opaque_toks (ctx : Ctx) (own : Option TagRow) (pg : Pages) (d b : Bytes)
    (h : (opaqueText ctx own d).getD [] = b) :
    (evItems ctx own pg [.opaque d]).1.flatMap toks = b.map .ch := by
  rw [evItems_cons, evItems_nil, evItem_opaque]
  simp only [List.append_nil, h, toks_charsEv]

/-- Which OPAQUE the items of a text node contain: what typed well-formedness has to look at. -/
def TextOut (c : WCfg) (parent : Option Name) (s : Bytes) (st : WSt) (items : List Item) : Prop :=
  opqsItems items = [] ∨ (isBinaryTag st.curTag = true ∧ items = [.opaque s]) ∨
  ∃ p, items = [.opaque p] ∧ textSilent c s = false ∧ st.inCdata = false ∧ TypedOut c parent (textArg c s) st.curTag p

theorem TextOut.plain {c : WCfg} {parent : Option Name} {s : Bytes} {st : WSt} {items : List Item}
    (h : TextOut c parent s st items) (hnw : isWv c.lang.id = false) (hnd : (c.lang.id == 1801) = false)
    (hnb : isBinaryTag st.curTag = false) : opqsItems items = [] := by
  rcases h with h | ⟨hb, _⟩ | ⟨p, _, _, _, ⟨hw, _⟩ | ⟨hid, _⟩⟩
  · exact h
  · rw [hnb] at hb; cases hb
  · rw [hnw] at hw; cases hw
  · rw [hid] at hnd; cases hnd

theorem encContentValueW_kv (c : WCfg) (parent : Option Name) (a : Bytes) (st st' : WSt)
    (hw : isWv c.lang.id = false) (hk : kvPar c.lang parent = true)
    (h : encContentValueW c parent a st = .ok st') :
    (a = [] ∧ st' = st) ∨ (a ≠ [] ∧ ∃ p, Codec.b64DecodeE (b64TextW a) = .ok p ∧ st' = st.emit (opaqueW p)) := by
  have hid := kvPar_id _ _ hk
  rcases encContentValueW_cases c parent a st st' h with h0 | ⟨hne, ⟨hw', _⟩ | ⟨_, hd⟩ | ⟨_, hd, _⟩⟩
  · exact .inl h0
  · rw [hw] at hw'; cases hw'
  · rw [drmrelContentW_kv c.lang hid, if_pos hk] at hd
    obtain ⟨p, hp, rfl⟩ := bind_ok_someO _ (fun d => st.emit (opaqueW d)) _ hd
    exact .inr ⟨hne, p, hp, rfl⟩
  · have hd := hd (by simp [hid])
    rw [drmrelContentW_kv c.lang hid, if_pos hk] at hd
    obtain ⟨d, _, hd⟩ := bind_eq_ok hd
    cases hd

/-- `StrInv` makes the in-place writes of `parse_text` invisible: no string-table element shares a
    content buffer. -/
theorem encTextW_cases (c : WCfg) (parent : Option Name) (s : Bytes) (st st' : WSt) (hinv : StrInv st)
    (h : encTextW c parent s st = .ok st') :
    (isBinaryTag st.curTag = true ∧ st' = ({ st with textNo := st.textNo + 1 } : WSt).emit (opaqueW s)) ∨
    isBinaryTag st.curTag = false ∧
      ((st.inCdata = true ∧ ∃ cd, st' = { st with textNo := st.textNo + 1, cdata := some cd }) ∨
       st.inCdata = false ∧
        (((c.ignoreEmpty && s.all isSpaceC) = true ∧ st' = { st with textNo := st.textNo + 1 }) ∨
         ((c.ignoreEmpty && s.all isSpaceC) = false ∧
           encContentValueW c parent (textArg c s) { st with textNo := st.textNo + 1 } = .ok st'))) := by
  have hA : ∀ k s', ({ st with textNo := st.textNo + 1 } : WSt).aliasWrite k s' = { st with textNo := st.textNo + 1 } :=
    fun k s' => aliasWrite_eq _ k s' hinv.noAlias
  unfold encTextW at h
  simp only [hA, ite_self] at h
  cases hb : isBinaryTag st.curTag with
  | true =>
    simp only [hb, ↓reduceIte] at h
    exact .inl ⟨rfl, (Except.ok.inj h).symm⟩
  | false =>
    simp only [hb, Bool.false_eq_true, ↓reduceIte] at h
    refine .inr ⟨rfl, ?_⟩
    cases hcd : st.inCdata with
    | true =>
      simp only [hcd, Bool.not_true, Bool.false_and, Bool.false_eq_true, ↓reduceIte] at h
      split at h
      · cases h
      · exact .inl ⟨rfl, _, (Except.ok.inj h).symm⟩
    | false =>
      simp only [hcd, Bool.not_false, Bool.true_and, Bool.false_eq_true, ↓reduceIte] at h
      refine .inr ⟨rfl, ?_⟩
      cases hsk : (c.ignoreEmpty && s.all isSpaceC) with
      | true => simp only [hsk, ↓reduceIte] at h; exact .inl ⟨rfl, (Except.ok.inj h).symm⟩
      | false => simp only [hsk, Bool.false_eq_true, ↓reduceIte] at h; exact .inr ⟨rfl, h⟩

theorem encTextW_spec (c : WCfg) (parent : Option Name) (s : Bytes) (st st' : WSt) (hinv : StrInv st)
    (h : encTextW c parent s st = .ok st') :
    ∃ items, (∀ it ∈ items, Leaf c st.strtbl it) ∧ st'.out = st.out ++ serItems items ∧
      st'.tagPage = st.tagPage ∧ st'.attrPage = st.attrPage ∧ st'.strtbl = st.strtbl ∧
      st'.strtblLen = st.strtblLen ∧ st'.inCdata = st.inCdata ∧
      TextOut c parent s st items ∧ TextViewT c parent s st items := by
  rcases encTextW_cases c parent s st st' hinv h with ⟨hbin, rfl⟩ | ⟨hnb, ⟨hcd1, cd, rfl⟩ | ⟨hcd0, ⟨hskip, rfl⟩ | ⟨hskip0, h⟩⟩⟩
  · refine ⟨[.opaque s], List.forall_mem_singleton.mpr (.opq s),
      by rw [serItems_single, serItem_opq]; rfl, rfl, rfl, rfl, rfl, rfl, Or.inr (Or.inl ⟨hbin, rfl⟩), ?_⟩
    intro _ _ htl _ ctx hlang _ own hcur _ pg
    cases hct : st.curTag with
    | none => rw [hct] at hbin; cases hbin
    | some r =>
      obtain ⟨r', hown, hpage, htok, tags, ht, hm⟩ := hcur r hct
      have hu : typedOpt ctx.lang.id own = false := by
        rw [hown, hlang]
        exact typedOpt_binary htl ht hm (by rw [← hct]; exact hbin) hpage htok
      rw [opaque_toks ctx own pg s s (by rw [opaqueText_untyped ctx own s hu]; rfl)]
      rw [← hct]
      simp only [vText, hbin, ↓reduceIte]
  · exact ⟨[], nofun, by rw [serItems_nil, List.append_nil], rfl, rfl, rfl, rfl, rfl, Or.inl opqsItems_nil,
      fun _ _ _ hcd => (by rw [hcd1] at hcd; cases hcd)⟩
  · refine ⟨[], nofun, by rw [serItems_nil, List.append_nil], rfl, rfl, rfl, rfl, rfl, Or.inl opqsItems_nil, ?_⟩
    intro _ _ _ _ ctx _ _ own _ _ pg
    rw [evItems_nil]
    simp [vText, hnb, textSilent, normText, hskip]
  · have hsil : textSilent c s = (textArg c s).isEmpty := by simp only [textSilent, hskip0, Bool.false_or]
    have hnorm : normText c s = syncmlTypeText c.lang.id (textArg c s) := by
      simp only [normText, hskip0, Bool.false_eq_true, ↓reduceIte, textArg]
    by_cases hk : isWv c.lang.id = false ∧ kvPar c.lang parent = true
    · have hid := kvPar_id _ _ hk.2
      rcases encContentValueW_kv c parent _ _ st' hk.1 hk.2 h with ⟨ha, hst⟩ | ⟨ha, p, hdec, hst⟩
      · subst hst
        refine ⟨[], nofun, by rw [serItems_nil, List.append_nil], rfl, rfl, rfl, rfl, rfl, Or.inl opqsItems_nil, ?_⟩
        intro _ _ _ _ ctx _ _ own _ _ pg
        have : textSilent c s = true := by rw [hsil, ha]; rfl
        simp only [vText, hnb, Bool.false_eq_true, ↓reduceIte, this, Bool.not_true, Bool.and_false, hnorm, ha,
          syncmlTypeText_nil]
        rfl
      · subst hst
        have hsilF : textSilent c s = false := by
          rw [hsil]
          cases hx : textArg c s with
          | nil => exact absurd hx ha
          | cons _ _ => rfl
        obtain ⟨r, hpar, hkvr⟩ := kvPar_token _ _ hk.2
        refine ⟨[.opaque p], List.forall_mem_singleton.mpr (.opq p),
          by rw [serItems_single, serItem_opq]; rfl, rfl, rfl, rfl, rfl, rfl,
          Or.inr (Or.inr ⟨p, rfl, hsilF, hcd0, Or.inr ⟨hid, r, hpar, hkvr, hdec⟩⟩), ?_⟩
        intro _ _ _ _ ctx hlang _ own _ hparO pg
        obtain ⟨r', hown, hpage, htok⟩ := hparO r hpar
        have hot : (opaqueText ctx own p).getD [] = (match decodeBase64Value p with | .ok b => b | .error _ => []) := by
          rw [hown]
          simp only [opaqueText, hlang, decodeOpaqueContent_kv _ r r' hkvr hpage htok]
          cases decodeBase64Value p <;> rfl
        rw [opaque_toks ctx own pg p _ hot]
        simp only [vText, hnb, Bool.false_eq_true, ↓reduceIte, hk.2, hsilF, Bool.not_false, Bool.and_self, hdec]
    · -- no `ds:KeyValue` text outside Wireless Village: no typed pre-pass takes it and a reader reads it
      -- back; for Wireless Village, or tables outside `langOk`, nothing is claimed about the view
      obtain ⟨items, hst, hleaf, hcls⟩ := encContentValueW_run c parent _ _ st' (nulFree_cstrOf _) h
      subst hst
      refine ⟨items, hleaf, rfl, rfl, rfl, rfl, rfl, rfl, ?_, ?_⟩
      · rcases hcls with ⟨hno, _⟩ | ⟨p, hp1, hp2, hp3⟩
        · exact Or.inl hno
        · refine Or.inr (Or.inr ⟨p, hp1, ?_, hcd0, hp3⟩)
          simp only [textSilent, hskip0, Bool.false_or, List.isEmpty_eq_false_iff]
          exact hp2
      · intro hnw hl _ _ ctx _ hres own _ _ pg
        have hkvF : kvPar c.lang parent = false := Bool.eq_false_iff.mpr fun hkv => hk ⟨hnw, hkv⟩
        rcases hcls with ⟨_, hrd⟩ | ⟨p, _, _, ⟨hw, _⟩ | ⟨_, r, hpar, hkr, _⟩⟩
        · rw [(hrd (fun hw => by rw [hnw] at hw; cases hw)
            (fun hid => by rw [drmrelContentW_kv c.lang (by simpa using hid), hkvF]; rfl) (langOk_noexts hl hnw)
            ctx hres own pg).2]
          simp only [vText, hnb, Bool.false_eq_true, ↓reduceIte, hkvF, Bool.false_and, hnorm]
          rfl
        · rw [hnw] at hw; cases hw
        · have : kvPar c.lang parent = true := by rw [hpar]; exact hkr
          rw [hkvF] at this; cases this

end Wbxml.Lemmas.EncW
