/-
  C02: the contract of `xml2wbxml`. What is assumed — of Expat (`WfDoc`, `EnvWf`: an accepted document is a
  prolog, one root element with balanced content `Content`, an epilog, and its names are XML names), of the
  language table (`MainOk`), of the trees of embedded documents (`SubOk`) — and what is promised (`ResOk`).
-/
import Wbxml.Model.X2W
import Wbxml.Lemmas.XCallbacks
import Wbxml.Lemmas.X2WNames
namespace Wbxml.Lemmas.X2W
open Wbxml Wbxml.Model

def MainOk (main : List Lang) : Prop := ∀ l ∈ main, langNames l = true

/-- Expat reports XML names: the local part of an element name and every attribute name is a
    non-empty C string (no leading NUL). -/
def xnameOk (name : Bytes) : Bool := !(cstrOf (localName name)).isEmpty
def xattrsOk (attrs : List (Bytes × Bytes)) : Bool := attrs.all (fun p => !(cstrOf p.1).isEmpty)

def isCharsEv : XEvent → Bool
  | .chars _ => true
  | _ => false

def isPrologEv : XEvent → Bool
  | .xmlDecl _ _ => true
  | .doctype _ _ => true
  | .pi => true
  | _ => false

def isPiEv : XEvent → Bool
  | .pi => true
  | _ => false

/-- Balanced element content: character data, processing instructions, CDATA sections (holding
    character data only) and elements whose end tag carries the name of the start tag. -/
inductive Content : List XEvent → Prop
  | nil : Content []
  | chars (s : Bytes) {rest : List XEvent} : Content rest → Content (.chars s :: rest)
  | pi {rest : List XEvent} : Content rest → Content (.pi :: rest)
  | cdata {inner rest : List XEvent} : inner.all isCharsEv = true → Content rest →
      Content (.startCdata :: (inner ++ .endCdata :: rest))
  | elt (name : Bytes) (attrs : List (Bytes × Bytes)) (i j : Nat) {inner rest : List XEvent} :
      xnameOk name = true → xattrsOk attrs = true → Content inner → Content rest →
      Content (.startElt name attrs i :: (inner ++ .endElt name j :: rest))

/-- The event sequence of a document Expat accepted. -/
def WfDoc (evs : List XEvent) : Prop :=
  ∃ pro name attrs i j inner epi,
    evs = pro ++ .startElt name attrs i :: (inner ++ .endElt name j :: epi) ∧
    pro.all isPrologEv = true ∧ xnameOk name = true ∧ xattrsOk attrs = true ∧ Content inner ∧
    epi.all isPiEv = true

/-- What is assumed of Expat: when it reports success the events form a document. -/
def EnvWf (env : List (Bytes × ExpatRun)) : Prop := ∀ p ∈ env, p.2.ok = true → WfDoc p.2.events

/-- Names in an event sequence are XML names (follows from `WfDoc`). -/
def evNamed : XEvent → Bool
  | .startElt name attrs _ => xnameOk name && xattrsOk attrs
  | _ => true

theorem evNamed_of_not_start {P : XEvent → Bool} (hP : ∀ n a i, P (.startElt n a i) = false) :
    ∀ (l : List XEvent), l.all P = true → l.all evNamed = true
  | [], _ => rfl
  | e :: l, h => by
    simp only [List.all_cons, Bool.and_eq_true] at h ⊢
    refine ⟨?_, evNamed_of_not_start hP l h.2⟩
    cases e with
    | startElt n a i => rw [hP] at h; exact absurd h.1 Bool.false_ne_true
    | _ => rfl

theorem content_named : ∀ {evs : List XEvent}, Content evs → evs.all evNamed = true := by
  intro evs h
  induction h with
  | nil => rfl
  | chars s _ ih => exact ih
  | pi _ ih => exact ih
  | @cdata inner rest hin _ ih =>
    simp only [List.all_cons, List.all_append, Bool.and_eq_true, evNamed, true_and]
    exact ⟨evNamed_of_not_start (fun _ _ _ => rfl) inner hin, ih⟩
  | elt name attrs i j hn ha _ _ ih1 ih2 =>
    simp only [List.all_cons, List.all_append, Bool.and_eq_true, evNamed, true_and]
    exact ⟨⟨hn, ha⟩, ih1, ih2⟩

theorem wfDoc_named {evs : List XEvent} (h : WfDoc evs) : evs.all evNamed = true := by
  obtain ⟨pro, name, attrs, i, j, inner, epi, rfl, hp, hn, ha, hc, he⟩ := h
  simp only [List.all_cons, List.all_append, Bool.and_eq_true, evNamed, true_and]
  exact ⟨evNamed_of_not_start (fun _ _ _ => rfl) pro hp, ⟨hn, ha⟩, content_named hc,
    evNamed_of_not_start (fun _ _ _ => rfl) epi he⟩

/-- What the builder may assume of the trees of embedded documents. -/
def SubOk (sub : Bytes → Option (Except Nat Tree)) : Prop :=
  ∀ doc, (∀ t, sub doc = some (.ok t) → treeOk t = true) ∧ (∀ e, sub doc = some (.error e) → e ≠ 0)

/-- What `treeOfXml` promises: a tree the encoder is total on, a non-zero error code, or a request. -/
def ResOk : X2TRes → Prop
  | .ok t => treeOk t = true
  | .err c => c ≠ 0
  | .need _ => True

end Wbxml.Lemmas.X2W
