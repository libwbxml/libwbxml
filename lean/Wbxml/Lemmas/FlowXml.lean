/-
  The XML instance of the flow model (`xmlEnc`) against the XML generation model: batch encoding of
  whole nodes is `xmlNodes` over the sibling list (read off the printer's normal form, `Lemmas/EncXmlToks`).
-/
import Wbxml.Lemmas.Flow
import Wbxml.Lemmas.EncXmlToks
namespace Wbxml.Model.Flow
open Wbxml Wbxml.Model Wbxml.Lemmas.XmlPrint

theorem xmlNode_fuel (c : XCfg) (p : Parent) (n : Node) (st : XSt) {f : Nat} (h : needNode n ≤ f) :
    xmlNode c p f n st ≠ .error .fuel := by
  intro he
  rcases xmlNode_error he with ⟨_, _, hlt⟩ | he | he | ⟨he, _⟩
  · omega
  all_goals cases he

theorem toXSt_ofXSt (st : XSt) (h : st.inCdata = false) : sh st.out (XFl.ofXSt st).toXSt = st := by
  cases st
  simp only [XFl.toXSt, XFl.ofXSt, sh, List.append_nil] at h ⊢
  simp only [h]

/-- From any state between two calls: the sibling list run on one encoder is batch encoding, put
    behind what is already in the output. -/
theorem xmlNodes_batch (c : XCfg) (ns : List Node) (st : XSt) (hst : st.inCdata = false) :
    xmlNodes c .none (needList ns) ns st =
      (match batch (xmlEnc c) (XFl.ofXSt st) (ns.map (fun n => Item.node n true)) with
       | .ok (b, x) => .ok (sh (st.out ++ b) x.toXSt)
       | .error e => .error e) := by
  induction ns generalizing st with
  | nil =>
    simp only [needList, xmlNodes_nil, List.map_nil, batch, List.append_nil]
    rw [toXSt_ofXSt st hst]
  | cons n rest ih =>
    simp only [needList, List.map_cons]
    rw [xmlNodes_cons, xmlNode_mono c .none n st _ (Nat.le_max_left _ _)]
    -- the node, started behind an empty output
    have hsh : xmlNode c .none (needNode n) n st = shE st.out (xmlNode c .none (needNode n) n (XFl.ofXSt st).toXSt) := by
      rw [← xmlNode_sh c .none (needNode n) n st.out (XFl.ofXSt st).toXSt, toXSt_ofXSt st hst]
    rw [hsh]
    cases hk : xmlNode c .none (needNode n) n (XFl.ofXSt st).toXSt with
    | error e =>
      have hi : (xmlEnc c).item (XFl.ofXSt st) (.node n true) = .error e := by
        simp only [xmlEnc, xmlItemSt, hk]
      simp only [shE, bind, Except.bind, batch_cons_err (xmlEnc c) _ _ _ hi]
    | ok st1 =>
      have hi : (xmlEnc c).item (XFl.ofXSt st) (.node n true) = .ok (st1.out, XFl.ofXSt st1) := by
        simp only [xmlEnc, xmlItemSt, hk]
      have hc1 : st1.inCdata = false := xmlNode_inCdata rfl hk
      have hc1' : (sh st.out st1).inCdata = false := hc1
      simp only [shE, bind, Except.bind]
      rw [xmlNodes_mono c .none rest _ _ (Nat.le_max_right _ _), ih (sh st.out st1) hc1',
          batch_cons_ok (xmlEnc c) _ _ _ hi, show XFl.ofXSt (sh st.out st1) = XFl.ofXSt st1 from rfl]
      cases batch (xmlEnc c) (XFl.ofXSt st1) (rest.map (fun n => Item.node n true)) with
      | error e => rfl
      | ok r => obtain ⟨b', x⟩ := r; simp [sh, List.append_assoc]

theorem batch_xmlNodes (c : XCfg) (ns : List Node) :
    batch (xmlEnc c) {} (ns.map (fun n => Item.node n true))
      = (match xmlNodes c .none (needList ns) ns {} with
         | .ok st => .ok (st.out, XFl.ofXSt st)
         | .error e => .error e) := by
  have h := xmlNodes_batch c ns {} rfl
  rw [h]
  have h0 : XFl.ofXSt ({} : XSt) = ({} : XFl) := rfl
  rw [h0]
  cases batch (xmlEnc c) {} (ns.map (fun n => Item.node n true)) with
  | error e => rfl
  | ok r =>
    obtain ⟨b, x⟩ := r
    simp [sh, XFl.toXSt, XFl.ofXSt]

end Wbxml.Model.Flow
