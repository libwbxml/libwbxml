/-
  C16 — specifications of the collecting functions of the string-table chain:
  `wbxml_strtbl_collect_strings`, `wbxml_buffer_split_words_real`, the word-moving loop of
  `wbxml_strtbl_collect_words` and `wbxml_strtbl_collect_words` itself.
-/
import Wbxml.Lemmas.AllocStrtbl
namespace Wbxml.Model.Alloc
open Wbxml

/-- The text nodes `wbxml_strtbl_collect_strings` appends: not blank and longer than
    `WBXML_ENCODER_STRING_TABLE_MIN`. -/
def collectable (t : ABuf) : Bool := !(t.bytes.all Spec.Seq.ws) && decide (t.len > STRTBL_MIN)

/-- `wbxml_list_append` makes exactly one request, and returns FALSE only when that request failed. -/
theorem listAppend_req {ι : Type} (l : AList ι) (item : ι) (s : Ledger) (hl : l.hdr ∈ s.live) :
    Good (listAppend l item) s (fun r s' => s'.next = s.next + 1 ∧ (r.2 = false → s.hits < s'.hits)) := by
  unfold Good listAppend
  simp only [bind_eq, pure_eq, deref, malloc, Prog.bind, run, hl, if_true]
  by_cases hf : s.fails (s.next + 1) = true <;> simp [hf]

/-- The two tests of `wbxml_strtbl_collect_strings` as one. -/
theorem collectStrings_cons (strings : AList ABuf) (t : ABuf) (rest : List ABuf) :
    collectStrings strings (t :: rest) = Prog.bind (deref (some t.hdr)) fun _ =>
      if collectable t then Prog.bind (listAppend strings t) fun r => collectStrings r.1 rest
      else collectStrings strings rest := by
  conv => lhs; unfold collectStrings
  cases hb : t.bytes.all Spec.Seq.ws <;> simp [collectable, hb]

/-- `wbxml_strtbl_collect_strings` (a failed `wbxml_list_append` is ignored on purpose): never a
    fault; the list gains exactly one cell per string it now refers to — a sub-sequence of the
    collectable text nodes, all of them when no request failed — and nothing else is allocated or
    released.  It makes exactly one request per collectable text node. -/
theorem collectStrings_spec (texts : List ABuf) (strings : AList ABuf) (s : Ledger) (wf : s.WF)
    (hs : strings.hdr ∈ s.live) (hl : ∀ t ∈ texts, t.hdr ∈ s.live) :
    Good (collectStrings strings texts) s (fun r s' =>
      r.hdr = strings.hdr ∧ ∃ newc : List (Nat × ABuf), r.cells = strings.cells ++ newc ∧
        Clean s s' [] (newc.map (·.1)) ∧ (newc.map (·.2)).Sublist (texts.filter collectable) ∧
        (s'.hits = s.hits → newc.map (·.2) = texts.filter collectable) ∧
        s'.next = s.next + (texts.filter collectable).length) := by
  induction texts generalizing strings s with
  | nil =>
    exact ⟨by simp, [], by simp, by simpa using Clean.id wf (.nil s), by simp, by simp, by simp⟩
  | cons t rest ih =>
    have hrest : ∀ x ∈ rest, x.hdr ∈ s.live := fun x hx => hl x (by simp [hx])
    rw [collectStrings_cons]
    refine Good.deref (hl t (by simp)) ?_
    cases hc : collectable t with
    | false =>
      simp only [Bool.false_eq_true, if_false, List.filter_cons, hc]
      exact ih strings s wf hs hrest
    | true =>
      simp only [if_true, List.filter_cons, hc]
      refine Good.bind ((listAppend_spec strings t s wf hs).and (listAppend_req strings t s hs)) ?_
      rintro ⟨l1, ok⟩ s1 ⟨⟨eh, h1, hcase⟩, hn1, hf1⟩
      -- either way one request was made and the list struct and the text nodes are still live
      have c1 : ∃ P, Clean s s1 [] P := hcase.elim (fun h => ⟨_, h.2.2⟩) fun ⟨_, _, _, c⟩ => ⟨_, c⟩
      obtain ⟨_, c1'⟩ := c1
      have keepL : ∀ i, i ∈ s.live → i ∈ s1.live := fun i hi => c1'.stays hi List.not_mem_nil
      refine (ih l1 s1 c1'.wf (eh ▸ keepL _ hs) (fun x hx => keepL _ (hrest x hx))).mono ?_
      intro r s2 ⟨e2, newc, hc2, c2, sub2, all2, n2⟩
      rcases hcase with ⟨hok, rfl, c1⟩ | ⟨hok, cid, hcells, c1⟩
      · refine ⟨e2, newc, hc2, by simpa using Clean.trans_prod c1 c2, sub2.cons _, fun hh => ?_, by simp only [List.length_cons]; omega⟩
        exfalso; have := hf1 hok; have := c2.hits; omega
      · refine ⟨e2.trans eh, (cid, t) :: newc, by rw [hc2, hcells]; simp, by simpa using Clean.trans_prod c1 c2,
          sub2.cons_cons _, fun hh => ?_, by simp only [List.length_cons]; omega⟩
        have := c1.hits; have := c2.hits
        simp only [List.map_cons]
        rw [all2 (by omega)]

/-- Blocks of a list of buffers that owns its items (the list of words). -/
abbrev bufListOwned (l : Option (AList ABuf)) : List Nat := listOwned ABuf.owned l

theorem bufListOwned_snoc {list l2 : AList ABuf} {cid : Nat} {word : ABuf} (eh : l2.hdr = list.hdr)
    (hcells : l2.cells = list.cells ++ [(cid, word)]) :
    bufListOwned (some l2) = bufListOwned (some list) ++ (cid :: word.owned) := by
  simp [bufListOwned, listOwned, eh, hcells, cellsOwned]

theorem splitWordsLoop_tri (ws : List Bytes) (list : AList ABuf) :
    Spec [] (bufListOwned (some list)) (splitWordsLoop list ws) bufListOwned (fun _ => True) (· = none) := by
  induction ws generalizing list with
  | nil => exact .ret (.refl _) ⟨rfl, trivial⟩ False.elim
  | cons w rest ih =>
    unfold splitWordsLoop
    refine (bufCreate_tri (some w) SPLIT_BLOCK).make nofun fun word _ => ?_
    rcases word with _ | word <;> dsimp only
    · exact .release (listDestroy_frees ABuf.owned _ buf_destroys (some list)) (Fr := []) (by simp [ownedBufOpt])
        (.ret (.refl _) ⟨rfl, trivial⟩ fun _ => rfl)
    refine (listAppend_tri list word).callQ (Fr := bufListOwned (some list) ++ word.owned) (.refl _)
      (fun i hi => .inr (by rw [List.mem_singleton.1 hi]; simp [bufListOwned, listOwned])) ?_
    rintro ⟨l2, ok⟩ B ⟨eh, ⟨rfl, rfl, rfl⟩ | ⟨rfl, cid, hcells, rfl⟩⟩
    · simp only [Bool.not_false, if_true]
      refine .release (bufDestroy_frees (some word)) (Fr := bufListOwned (some l2)) (.refl _) ?_
      exact .release (listDestroy_frees ABuf.owned _ buf_destroys (some l2)) (Fr := []) (.refl _)
        (.ret (.refl _) ⟨rfl, trivial⟩ fun _ => rfl)
    · simp only [Bool.not_true, Bool.false_eq_true, if_false]
      exact ((ih l2).perm (by rw [bufListOwned_snoc eh hcells]; perm_count)).lower (by simp)

/-- `wbxml_buffer_split_words_real` (repaired): the list of words with the words it owns, or NULL with
    everything released; NULL whenever a request failed. -/
theorem splitWords_tri (b : ABuf) : Spec [b.hdr] [] (splitWords b) bufListOwned (fun _ => True) (· = none) := by
  unfold splitWords
  refine .deref (.inr List.mem_cons_self) ((listCreate_tri (ι := ABuf)).make nofun fun list hc => ?_)
  rcases list with _ | list <;> dsimp only
  · exact .ret (.refl _) ⟨rfl, trivial⟩ fun _ => rfl
  · exact (((splitWordsLoop_tri _ list).perm (by simp [bufListOwned, listOwned, hc list rfl, cellsOwned])).borrow nofun).lower
      (by simp)

/-- `while ((word = wbxml_list_extract_first(temp_list)) != NULL) wbxml_list_append(list, word)`: the
    words move from `temp_list` to `list`; on a failed append the word in hand, the rest of
    `temp_list` (with its struct) and `list` are all released. -/
theorem moveWords_tri (cells : List (Nat × ABuf)) (tHdr : Nat) (list : AList ABuf) :
    Spec [] ((tHdr :: cellsOwned ABuf.owned cells) ++ bufListOwned (some list)) (moveWords tHdr list cells)
      (fun r => match r with | none => [] | some l => tHdr :: bufListOwned (some l)) (fun _ => True) (· = none) := by
  induction cells generalizing list with
  | nil => exact .ret (.refl _) ⟨rfl, trivial⟩ False.elim
  | cons x rest ih =>
    obtain ⟨c, word⟩ := x
    unfold moveWords
    refine .deref (.inl List.mem_cons_self) (.deref (.inl (by simp [cellsOwned_cons])) ?_)
    refine .release (Frees.free (some c)) (Fr := bufListOwned (some list) ++ ((tHdr :: cellsOwned ABuf.owned rest) ++ word.owned))
      (by simp only [cellsOwned_cons]; perm_count) ?_
    refine (listAppend_tri list word).callQ (.refl _) (fun i hi => .inr (by rw [List.mem_singleton.1 hi]; simp)) ?_
    rintro ⟨l2, ok⟩ B ⟨eh, ⟨rfl, rfl, rfl⟩ | ⟨rfl, cid, hcells, rfl⟩⟩
    · simp only [Bool.not_false, if_true]
      refine .release (bufDestroy_frees (some word)) (Fr := bufListOwned (some l2) ++ (tHdr :: cellsOwned ABuf.owned rest))
        (by simp only [ownedBufOpt, bufListOwned, listOwned]; perm_count) ?_
      refine .release (listDestroy_frees ABuf.owned _ buf_destroys (some (⟨tHdr, rest⟩ : AList ABuf))) (.refl _) ?_
      exact .release (listDestroy_frees ABuf.owned _ buf_destroys (some l2)) (Fr := []) (.refl _)
        (.ret (.refl _) ⟨rfl, trivial⟩ fun _ => rfl)
    · simp only [Bool.not_true, Bool.false_eq_true, if_false]
      exact ((ih l2).perm (by
        rw [bufListOwned_snoc eh hcells]; simp only [bufListOwned, listOwned]; perm_count)).lower (by simp)

/-- The blocks `wbxml_strtbl_collect_words` reads: the elements and their strings. -/
def eltReads (elts : List StrElt) : List Nat := elts.flatMap fun x => [x.hdr, x.string.hdr]

/-- The `for` loop of `wbxml_strtbl_collect_words`. The elements are only read. -/
theorem collectWordsLoop_tri (elts : List StrElt) (list : Option (AList ABuf)) :
    Spec (eltReads elts) (bufListOwned list) (collectWordsLoop list elts) (fun r => bufListOwned r.2)
      (fun r => r.1 ≠ OK → r.2 = none) (fun r => r.1 ≠ OK) := by
  induction elts generalizing list with
  | nil => exact .ret (.refl _) ⟨rfl, fun h => absurd rfl h⟩ False.elim
  | cons elt rest ih =>
    -- the recursive call: the remaining elements are among those read
    have hrec : ∀ {F : Prop} (l : Option (AList ABuf)), ¬ F → Tri (eltReads (elt :: rest)) (bufListOwned l) F
        (collectWordsLoop l rest) (fun r B => B = bufListOwned r.2 ∧ (r.1 ≠ OK → r.2 = none)) (fun r => r.1 ≠ OK) :=
      fun l hF => ((ih l).borrow fun i hi => by simp only [eltReads, List.flatMap_cons]; exact List.mem_append_right _ hi).lower
        fun f => hF f
    unfold collectWordsLoop
    refine .deref (.inr (by simp [eltReads])) ?_
    have hstr : ∀ i ∈ [elt.string.hdr], i ∈ eltReads (elt :: rest) ∨ i ∈ bufListOwned list := fun i hi => .inl (by
      simp_all [eltReads])
    rcases list with _ | list <;> dsimp only
    · refine (splitWords_tri elt.string).make hstr fun l _ => ?_
      rcases l with _ | l <;> dsimp only
      · exact .ret (.refl _) ⟨rfl, fun _ => rfl⟩ fun _ => ENOMEM_ne_OK
      · exact hrec (some l) (by simp)
    · refine (splitWords_tri elt.string).make hstr fun tmp _ => ?_
      rcases tmp with _ | tmp <;> dsimp only
      · exact .release (listDestroy_frees ABuf.owned _ buf_destroys (some list)) (Fr := []) (by simp [listOwned_none])
          (.ret (.refl _) ⟨rfl, fun _ => rfl⟩ fun _ => ENOMEM_ne_OK)
      refine (moveWords_tri tmp.cells tmp.hdr list).step (List.perm_append_comm) nofun fun l2 _ => ?_
      rcases l2 with _ | l2 <;> dsimp only
      · exact .ret (.refl _) ⟨rfl, fun _ => rfl⟩ fun _ => ENOMEM_ne_OK
      refine .release (listDestroy_frees (fun _ => ([] : List Nat)) _ nop_destroys (some (⟨tmp.hdr, []⟩ : AList ABuf)))
        (Fr := bufListOwned (some l2)) (List.perm_append_singleton _ _).symm ?_
      exact hrec (some l2) (by simp)

/-- `wbxml_strtbl_collect_words` (repaired): the list of words of all the elements' strings, or an
    error with everything released; an error whenever a request failed.  The elements are only
    read. -/
theorem collectWords_tri (elements : AList StrElt) :
    Spec (elements.hdr :: eltReads elements.items) [] (collectWords elements) (fun r => bufListOwned r.2)
      (fun r => r.1 ≠ OK → r.2 = none) (fun r => r.1 ≠ OK) := by
  unfold collectWords
  exact .deref (.inr List.mem_cons_self) ((collectWordsLoop_tri elements.items none).borrow fun i hi => List.mem_cons_of_mem _ hi)

theorem eltReads_live {elements : AList StrElt} {s : Ledger} (hh : elements.hdr ∈ s.live)
    (hl : ∀ x ∈ elements.items, x.hdr ∈ s.live ∧ x.string.hdr ∈ s.live) :
    ∀ i ∈ elements.hdr :: eltReads elements.items, i ∈ s.live ∧ i ∉ ([] : List Nat) := by
  intro i hi
  refine ⟨?_, nofun⟩
  simp only [eltReads, List.mem_cons, List.mem_flatMap, List.not_mem_nil, or_false] at hi
  rcases hi with rfl | ⟨x, hx, rfl | rfl⟩
  · exact hh
  · exact (hl x hx).1
  · exact (hl x hx).2

end Wbxml.Model.Alloc
