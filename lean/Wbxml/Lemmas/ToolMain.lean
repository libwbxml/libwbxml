/-
  C20 — lemmas about `main` of the tools: the read loop delivers the whole input for every `fread`
  schedule, the option switch cannot fault on events that honour the scanner contract, and every run
  is either a "no conversion" run with a fixed shape or exactly `convAndWrite` on the designated input.
-/
import Wbxml.Lemmas.ToolGetopt
import Wbxml.Model.ToolMain
namespace Wbxml.Model.Tool
open Wbxml

/-- glibc's `realloc` answers NULL only for `realloc(non-NULL, 0)`: never when something is asked for, and
    never on the first call. -/
theorem reallocNull_false (t : Tool) (m : Nat) (p : Bool) (h : p = true → 0 < m) : reallocNull t m p = false := by
  cases t with
  | x2w => rfl
  | w2x =>
    cases p with
    | false => simp [reallocNull]
    | true =>
      have := h rfl
      simp only [reallocNull, Bool.and_true, beq_eq_false_iff_ne, ne_eq]
      omega

/-- `p` says that the pointer is non-NULL, which it is only after a non-empty block was stored
    (`p = true → acc ≠ []`): that keeps `realloc(p, 0)` out of reach. -/
theorem readLoop_spec (t : Tool) : ∀ (n : Nat) (sched : List Nat) (rest acc : Bytes) (p : Bool),
    rest.length < n → (p = true → acc ≠ []) → readLoop t n sched rest acc p = .data (acc ++ rest) := by
  intro n
  induction n with
  | zero => intro _ _ _ _ h; omega
  | succ n ih =>
    intro sched rest acc p hn hp
    -- the loop body for any block size `k` (1000, or what the `fread` schedule allows)
    have hk : ∀ k, 1 ≤ k →
        (if rest.length < k then
          (if reallocNull t (acc.length + rest.length) p then ReadR.noMem else .data (acc ++ rest))
        else (if reallocNull t (acc.length + k) p then ReadR.noMem
              else readLoop t n sched.tail (rest.drop k) (acc ++ rest.take k) true)) = .data (acc ++ rest) := by
      intro k hk1
      have hacc : p = true → 0 < acc.length := fun h => List.length_pos_iff.mpr (hp h)
      split
      · rw [reallocNull_false _ _ _ (fun h => by have := hacc h; omega)]
        rfl
      · rename_i hge
        rw [reallocNull_false _ _ _ (fun _ => by omega)]
        have hne : acc ++ rest.take k ≠ [] := by
          intro h
          have := congrArg List.length h
          simp only [List.length_append, List.length_take, List.length_nil] at this
          omega
        rw [ih sched.tail (rest.drop k) (acc ++ rest.take k) true (by simp only [List.length_drop]; omega) (fun _ => hne)]
        simp [List.append_assoc]
    cases sched with
    | nil => exact hk 1000 (by decide)
    | cons j s => exact hk (min (j + 1) 1000) (by omega)

/-- Whatever pieces `fread` delivers, the bytes handed on are the input. -/
theorem readAll_spec (t : Tool) (sched : List Nat) (content : Bytes) :
    readAll t sched content = .data content := by
  have := readLoop_spec t (content.length + 1) sched content [] false (Nat.lt_succ_self _) (by intro h; cases h)
  simpa [readAll] using this

/-- Lines printed by the scanner: each starts with `argv[0]: `. -/
def GetoptLines (argv : Argv) (ls : List Line) : Prop :=
  ∀ l ∈ ls, ∃ a0 r, argv.head? = some a0 ∧ l = .getopt (a0 ++ b!": " ++ r)

theorem GetoptLines.not_failed {argv : Argv} {pre : List Line} (hg : GetoptLines argv pre) (t' : Tool) (x : Bytes) :
    Line.failed t' x ∉ pre := by
  intro hm
  obtain ⟨_, _, _, he⟩ := hg _ hm
  cases he

theorem ite_ne {α : Type} {c : Prop} [Decidable c] {a b x : α} (ha : a ≠ x) (hb : b ≠ x) :
    (if c then a else b) ≠ x := by
  split <;> assumption

theorem EvOK.no_arg {opts : Bytes} {argv : Argv} {e : Ev} (he : EvOK opts argv e) (harg : e.arg = none)
    (c : UInt8) (h63 : c ≠ 63) (hl : optLookup opts c = some true) : (e.opt == c) = false := by
  cases hc : e.opt == c with
  | false => rfl
  | true =>
    have hc := beq_iff_eq.mp hc
    have := he.1 (hc ▸ h63) (hc ▸ hl)
    rw [harg] at this
    cases this

/- The switch faults only where it hands a NULL `optarg` to `atoi`/`strcmp`: with an argument every
   case continues, without one the event is none of the options declared with `:`. -/

theorem w2xApply_safe (argv : Argv) (s : OptSt W2XCfg) (e : Ev) (he : EvOK (toolOpts .w2x) argv e) :
    ∀ x, w2xApply s e ≠ .crash x := by
  intro x
  unfold w2xApply
  cases harg : e.arg with
  | some a =>
    exact ite_ne (nomatch ·) <| ite_ne (nomatch ·) <| ite_ne (nomatch ·) <| ite_ne (nomatch ·) <|
      ite_ne (nomatch ·) <| ite_ne (nomatch ·) (nomatch ·)
  | none =>
    simp only [he.no_arg harg 105 (by decide) (by decide), he.no_arg harg 108 (by decide) (by decide),
      he.no_arg harg 99 (by decide) (by decide), he.no_arg harg 109 (by decide) (by decide),
      Bool.false_eq_true, if_false]
    exact ite_ne (nomatch ·) <| ite_ne (nomatch ·) (nomatch ·)

theorem x2wApply_safe (argv : Argv) (s : OptSt X2WCfg) (e : Ev) (he : EvOK (toolOpts .x2w) argv e) :
    ∀ x, x2wApply s e ≠ .crash x := by
  intro x
  unfold x2wApply
  cases harg : e.arg with
  | some a =>
    exact ite_ne (nomatch ·) <| ite_ne (nomatch ·) <| ite_ne (nomatch ·) <| ite_ne (nomatch ·) <|
      ite_ne (nomatch ·) (nomatch ·)
  | none =>
    simp only [he.no_arg harg 118 (by decide) (by decide), Bool.false_eq_true, if_false]
    exact ite_ne (nomatch ·) <| ite_ne (nomatch ·) <| ite_ne (nomatch ·) <| ite_ne (nomatch ·) (nomatch ·)

theorem runOpts_spec {α : Type} (argv : Argv) (opts : Bytes) (apply : OptSt α → Ev → OptR α)
    (hsafe : ∀ s e, EvOK opts argv e → ∀ x, apply s e ≠ .crash x) :
    ∀ (evs : List Ev) (s : OptSt α) (errs : List Line), (∀ e ∈ evs, EvOK opts argv e) → GetoptLines argv errs →
      (∃ s' errs', runOpts apply evs s errs = .ok s' errs' ∧ GetoptLines argv errs') ∨
      (∃ errs', runOpts apply evs s errs = .help errs' ∧ GetoptLines argv errs') := by
  intro evs
  induction evs with
  | nil => intro s errs _ hg; exact .inl ⟨s, errs, rfl, hg⟩
  | cons e es ih =>
    intro s errs hev hg
    have he := hev e (List.mem_cons_self ..)
    have hg' : GetoptLines argv (errs ++ e.err.map Line.getopt) := by
      intro l hl
      rcases List.mem_append.mp hl with hl | hl
      · exact hg l hl
      · obtain ⟨m, hm, rfl⟩ := List.mem_map.mp hl
        obtain ⟨a0, r, h0, rfl⟩ := he.2 m hm
        exact ⟨a0, r, h0, rfl⟩
    unfold runOpts
    cases hap : apply s e with
    | cont s' => exact ih s' _ (fun x hx => hev x (List.mem_cons_of_mem _ hx)) hg'
    | help => exact .inr ⟨_, rfl, hg'⟩
    | crash x => exact absurd hap (hsafe s e he x)

/-- The operand `argv[optind]` designates `input`: stdin for `-`, else the file of that name. -/
def InputIs (w : World) (sr : ScanRes) (input : Bytes) : Prop :=
  ∃ name, sr.argv[sr.optind]? = some name ∧
    ((name = b!"-" ∧ w.stdin = .file input) ∨ (name ≠ b!"-" ∧ w.openR name = .file input))

/-- The message block that ends a run in which the library is not called. -/
def UsageTail (ls : List Line) : Prop :=
  ls = [.help] ∨ ls = [.missingArgs, .help] ∨ (∃ n, ls = [.failedOpenIn n]) ∨ (∃ n, ls = [.readError n])

theorem afterOpts_cases (t : Tool) (lib : Lib) (w : World) (p : Params) (output : Option Bytes)
    (sr : ScanRes) (errs : List Line) (h1 : 1 ≤ sr.optind) :
    (∃ ls, UsageTail ls ∧ afterOpts t lib w p output sr errs = mkOut 0 [] (errs ++ ls) [] none) ∨
    (∃ input, InputIs w sr input ∧
      afterOpts t lib w p output sr errs = convAndWrite t lib w p output input errs) := by
  unfold afterOpts
  by_cases hge : sr.optind ≥ sr.argv.length
  · exact .inl ⟨_, .inr (.inl rfl), by simp [hge]⟩
  · have hl : sr.optind < sr.argv.length := by omega
    obtain ⟨name, hname⟩ : ∃ name, sr.argv[sr.optind]? = some name := ⟨_, List.getElem?_eq_getElem hl⟩
    obtain ⟨a1, ha1⟩ : ∃ a1, sr.argv[1]? = some a1 := ⟨_, List.getElem?_eq_getElem (show 1 < sr.argv.length by omega)⟩
    simp only [hge, if_false, argvAt_some hname, argvAt_some ha1]
    by_cases hdash : name = b!"-"
    · have hb : (name == b!"-") = true := by simp [hdash]
      simp only [hb, if_true]
      cases hs : w.stdin with
      | fail => cases t <;> exact .inl ⟨_, .inr (.inr (.inr ⟨_, rfl⟩)), rfl⟩
      | dir => cases t <;> exact .inl ⟨_, .inr (.inr (.inr ⟨_, rfl⟩)), rfl⟩
      | file content =>
        refine .inr ⟨content, ⟨name, hname, .inl ⟨hdash, hs⟩⟩, ?_⟩
        simp [readAll_spec]
    · have hb : (name == b!"-") = false := by simp [hdash]
      simp only [hb, Bool.false_eq_true, if_false]
      cases hs : w.openR name with
      | fail => exact .inl ⟨_, .inr (.inr (.inl ⟨name, rfl⟩)), rfl⟩
      | dir => cases t <;> exact .inl ⟨_, .inr (.inr (.inr ⟨_, rfl⟩)), rfl⟩
      | file content =>
        refine .inr ⟨content, ⟨name, hname, .inr ⟨hdash, hs⟩⟩, ?_⟩
        simp [readAll_spec]

theorem toolMain_cases (t : Tool) (lib : Lib) (w : World) (argv : Argv) (sr : ScanRes)
    (hok : ScanOK (toolOpts t) argv sr) :
    (∃ pre ls, GetoptLines argv pre ∧ UsageTail ls ∧ toolMain t lib w sr = mkOut 0 [] (pre ++ ls) [] none) ∨
    (∃ pre p output input, GetoptLines argv pre ∧ InputIs w sr input ∧
      toolMain t lib w sr = convAndWrite t lib w p output input pre) := by
  have hnil : GetoptLines argv [] := by intro l hl; cases hl
  cases t with
  | w2x =>
    simp only [toolMain, w2xMain]
    rcases runOpts_spec argv (toolOpts .w2x) w2xApply (w2xApply_safe argv) sr.evs ⟨{}, none⟩ [] hok.evs hnil with
      ⟨s', errs', hr, hg⟩ | ⟨errs', hr, hg⟩
    · rw [hr]
      rcases afterOpts_cases .w2x lib w (.w2x s'.cfg) s'.output sr errs' hok.optind with ⟨ls, hu, h⟩ | ⟨i, hi, h⟩
      · exact .inl ⟨errs', ls, hg, hu, h⟩
      · exact .inr ⟨errs', _, _, i, hg, hi, h⟩
    · rw [hr]
      exact .inl ⟨errs', [.help], hg, .inl rfl, rfl⟩
  | x2w =>
    simp only [toolMain, x2wMain]
    rcases runOpts_spec argv (toolOpts .x2w) x2wApply (x2wApply_safe argv) sr.evs ⟨{}, none⟩ [] hok.evs hnil with
      ⟨s', errs', hr, hg⟩ | ⟨errs', hr, hg⟩
    · rw [hr]
      rcases afterOpts_cases .x2w lib w (.x2w s'.cfg) s'.output sr errs' hok.optind with ⟨ls, hu, h⟩ | ⟨i, hi, h⟩
      · exact .inl ⟨errs', ls, hg, hu, h⟩
      · exact .inr ⟨errs', _, _, i, hg, hi, h⟩
    · rw [hr]
      exact .inl ⟨errs', [.help], hg, .inl rfl, rfl⟩

/-- What a run that reaches the conversion leaves behind, as a function of the library's answer:
    on failure the code (mod 256) and the "failed" line, nothing written; on success exit 0,
    "<tool> succeeded", at most one line about the output, stdout empty or the result, at most one
    file, holding the result if it was stored. -/
def ConvShape (t : Tool) (lib : Lib) (pre : List Line) (p : Params) (i : Bytes) (o : Out) : Prop :=
  (∃ c, lib.conv p i = .error c ∧ o = ⟨c % 256, [], pre ++ [.failed t (lib.errStr c)], [], some (p, i)⟩) ∨
  (∃ res so files tail, lib.conv p i = .ok res ∧ o = ⟨0, so, pre ++ .succeeded t :: tail, files, some (p, i)⟩ ∧
    (so = [] ∨ so = res) ∧ (files = [] ∨ ∃ path c, files = [⟨path, if c then res else [], c⟩]) ∧
    (∀ l ∈ tail, (∃ q, l = .failedOpenOut q) ∨ (∃ q, l = .writeError q)))

theorem ConvShape.call {t : Tool} {lib : Lib} {pre : List Line} {p : Params} {i : Bytes} {o : Out}
    (h : ConvShape t lib pre p i o) : o.call = some (p, i) := by
  rcases h with ⟨_, _, rfl⟩ | ⟨_, _, _, _, _, rfl, _⟩ <;> rfl

theorem convAndWrite_shape (t : Tool) (lib : Lib) (w : World) (p : Params) (output : Option Bytes) (i : Bytes)
    (pre : List Line) : ∃ o, convAndWrite t lib w p output i pre = .done o ∧ ConvShape t lib pre p i o := by
  have hwr : ∀ (sk : Sink) (n : Nat) (path : Bytes), ∀ l ∈ (if (fwriteShort sk n || flushFails sk n) = true
      then [Line.writeError path] else []), (∃ q, l = .failedOpenOut q) ∨ (∃ q, l = .writeError q) := by
    intro sk n path l hl
    split at hl
    · exact .inr ⟨path, List.mem_singleton.mp hl⟩
    · cases hl
  have hso : ∀ (sk : Sink) (res : Bytes), (if stored sk res = true then res else []) = [] ∨
      (if stored sk res = true then res else []) = res := by
    intro sk res
    split
    · exact .inr rfl
    · exact .inl rfl
  unfold convAndWrite
  cases hl : lib.conv p i with
  | error c => exact ⟨_, rfl, .inl ⟨c, hl, rfl⟩⟩
  | ok res =>
    cases output with
    | none => exact ⟨_, rfl, .inr ⟨res, [], [], [], hl, by simp, .inl rfl, .inl rfl, by intro l hl; cases hl⟩⟩
    | some path =>
      by_cases hb : (path == b!"-") = true
      · simp only [hb, if_true]
        exact ⟨_, rfl, .inr ⟨res, if stored w.stdout res then res else [], [],
          if (fwriteShort w.stdout res.length || flushFails w.stdout res.length) then [.writeError path] else [],
          hl, by simp, hso _ _, .inl rfl, hwr _ _ _⟩⟩
      · simp only [hb]
        cases hw : w.openW path with
        | fail =>
          refine ⟨_, rfl, .inr ⟨res, [], [], [.failedOpenOut path], hl, by simp, .inl rfl, .inl rfl, ?_⟩⟩
          intro l hl
          exact .inl ⟨_, List.mem_singleton.mp hl⟩
        | ok sk =>
          exact ⟨_, rfl, .inr ⟨res, [], [⟨path, if stored sk res then res else [], stored sk res⟩],
            if (fwriteShort sk res.length || flushFails sk res.length) then [.writeError path] else [],
            hl, by simp, .inl rfl, .inr ⟨path, stored sk res, rfl⟩, hwr _ _ _⟩⟩

theorem scan_ok (t : Tool) (g : Getopt) (argv : Argv) (hn : NulFree argv) :
    ∃ sr, scan g (toolOpts t) argv = .ok sr ∧ ScanOK (toolOpts t) argv sr := by
  cases g with
  | att => exact attScan_ok _ argv hn
  | gnu => exact ⟨_, rfl, gnuScan_ok _ argv⟩

/-- Every run ends with an exit status and is of one of two kinds: nothing is converted (exit 0,
    nothing on stdout, no file opened for writing, the scanner's messages followed by help /
    "Missing arguments"+help / "Failed to open" / "Error while reading"), or the designated input,
    read completely, is converted and the rest is `ConvShape`. -/
def RunShape (t : Tool) (g : Getopt) (lib : Lib) (w : World) (argv : Argv) (o : Out) : Prop :=
  ∃ pre, GetoptLines argv pre ∧
    ((∃ ls, UsageTail ls ∧ o = ⟨0, [], pre ++ ls, [], none⟩) ∨
     (∃ sr p i, scan g (toolOpts t) argv = .ok sr ∧ InputIs w sr i ∧ ConvShape t lib pre p i o))

theorem tool_shape (t : Tool) (g : Getopt) (lib : Lib) (w : World) (argv : Argv) (hn : NulFree argv) :
    ∃ o, tool t g lib w argv = .done o ∧ RunShape t g lib w argv o := by
  obtain ⟨sr, hs, hok⟩ := scan_ok t g argv hn
  simp only [tool, hs]
  rcases toolMain_cases t lib w argv sr hok with ⟨pre, ls, hg, hu, h⟩ | ⟨pre, p, output, i, hg, hi, h⟩
  · exact ⟨_, h, pre, hg, .inl ⟨ls, hu, rfl⟩⟩
  · obtain ⟨o, ho, hsh⟩ := convAndWrite_shape t lib w p output i pre
    exact ⟨o, h.trans ho, pre, hg, .inr ⟨sr, p, i, hs, hi, hsh⟩⟩

theorem shape_of_done {t : Tool} {g : Getopt} {lib : Lib} {w : World} {argv : Argv} (hn : NulFree argv)
    {o : Out} (h : tool t g lib w argv = .done o) : RunShape t g lib w argv o := by
  obtain ⟨o', h', hs⟩ := tool_shape t g lib w argv hn
  cases h.symm.trans h'
  exact hs

end Wbxml.Model.Tool
