/-
  `parse_ser`: the normal form `st` of parser states used by all "consumes exactly" lemmas,
  facts about single octets (which octets the dispatching code can take for a global token; the token
  and the two flags of a tag octet; the masks as arithmetic are in `Lemmas/CodecBits.lean`),
  `mb_u_int32`, `termstr`, string-table references and `[switchPage]`.

  Every production lemma has the shape
      F (st c ver (ser x ++ suf) tp ap cur) = .ok (value x, st c ver suf tp' ap' cur)
  i.e. the parser function consumes exactly `ser x`, leaves `suf` untouched and returns what the
  specification assigns to `x`.
-/
import Wbxml.Spec.Wbxml
import Wbxml.Lemmas.CodecMb
import Wbxml.Lemmas.Bytes
import Wbxml.Lemmas.ExceptBasic
namespace Wbxml.Lemmas.ParseSer
open Wbxml Wbxml.Model Wbxml.Spec

def tblOpt (c : Ctx) : Option Bytes := if c.tbl.isEmpty then none else some c.tbl

/-- Parser state during the body, in normal form: `c` is what the header fixed. -/
abbrev st (c : Ctx) (ver : Nat) (rest : Bytes) (tp ap : Nat) (cur : Option TagRow) : PState :=
  { rest := rest, strtbl := tblOpt c, lang := some c.lang,
    charset := c.charset, version := ver, tagPage := tp, attrPage := ap, curTag := cur }

theorem byte_toNat (n : Nat) (h : n < 256) : (byte n).toNat = n := by
  rw [byte, UInt8.toNat_ofNat']; omega

theorem byte_beq (n : Nat) (h : n < 256) (b : UInt8) : (byte n == b) = (n == b.toNat) := by
  rw [Bool.eq_iff_iff]; simp [byte, Lemmas.Codec.ofNat_eq_iff n b h]

theorem beq_eq_toNat_beq (a b : UInt8) : (a == b) = (a.toNat == b.toNat) := by
  rw [Bool.eq_iff_iff]; simp [UInt8.toNat_inj]

/-- The global tokens the parser dispatches on (`SWITCH_PAGE`, `END`, `ENTITY`, `STR_I`, `PI`, `STR_T`,
    `OPAQUE`, `EXT_*`) all have low six bits below 4. Tag tokens (with any flag bits), the four literal
    tags, attribute-start and attribute-value tokens do not, so none of them is taken for a global token. -/
theorem not_global (b : UInt8) (h : 4 ≤ b.toNat % 64) :
    (b == 0) = false ∧ (b == 1) = false ∧ (b == 2) = false ∧ (b == 3) = false ∧ (b == 0x43) = false ∧
    (b == 0x83) = false ∧ (b == 0xC3) = false ∧ isExtToken b = false := by
  simp only [isExtToken, beq_eq_toNat_beq, UInt8.toNat_ofNat, Bool.or_eq_false_iff, beq_eq_false_iff_ne]
  omega

/-- The extension tokens are `0x40`, `0x80`, `0xC0` plus 0, 1 or 2: no other global token. -/
theorem extTok_facts (b : UInt8) (h : isExtToken b = true) :
    (b == 0) = false ∧ (b == 1) = false ∧ (b == 2) = false ∧ (b == 3) = false ∧
    (b == 0x83) = false ∧ (b == 0xC3) = false ∧ (b == 0x43) = false := by
  simp only [isExtToken, beq_eq_toNat_beq, UInt8.toNat_ofNat, Bool.or_eq_true, beq_iff_eq] at h
  simp only [beq_eq_toNat_beq, UInt8.toNat_ofNat, beq_eq_false_iff_ne]
  omega

/-- The test of bit 7 (`is_attr_value`). -/
theorem hi_bit (b : UInt8) : (b.toNat &&& 0x80 == 0x80) = decide (128 ≤ b.toNat) := by
  have := b.toNat_lt
  rw [Lemmas.Codec.and_128, Bool.eq_iff_iff, beq_iff_eq, decide_eq_true_eq]; omega

theorem tagByte_arith (t x y : Nat) (ht : t < 64) (hx : x < 2) (hy : y < 2) :
    t + (128 * x + 64 * y) < 256 ∧ (t + (128 * x + 64 * y)) % 64 = t ∧
    (t + (128 * x + 64 * y)) / 128 % 2 = x ∧ (t + (128 * x + 64 * y)) / 64 % 2 = y := by
  omega

theorem tagFlags_eq (a c : Bool) : tagFlags a c = 128 * a.toNat + 64 * c.toNat := by
  cases a <;> cases c <;> rfl

theorem toNat_mul_ne_zero (a : Bool) (k : Nat) (hk : 0 < k) : (a.toNat * k != 0) = a := by
  cases a <;> simp <;> omega

/-- The masks of `parse_tag` / `parse_element` recover the token and the two flags of a tag octet. -/
theorem tagByte_bits (t : Nat) (ht : t < 64) (a c : Bool) :
    (byte (t + tagFlags a c)).toNat % 64 = t ∧
    (byte (t + tagFlags a c)).toNat &&& 0x3F = t ∧
    ((byte (t + tagFlags a c)).toNat &&& 0x80 != 0) = a ∧
    ((byte (t + tagFlags a c)).toNat &&& 0x40 != 0) = c := by
  obtain ⟨h0, h1, h2, h3⟩ := tagByte_arith t a.toNat c.toNat ht (Bool.toNat_lt a) (Bool.toNat_lt c)
  rw [tagFlags_eq, byte_toNat _ h0, Lemmas.Codec.and_63, Lemmas.Codec.and_128, Lemmas.Codec.and_64, h1, h2, h3]
  exact ⟨rfl, rfl, toNat_mul_ne_zero a 128 (by decide), toNat_mul_ne_zero c 64 (by decide)⟩

theorem tagByte_literal (t : Nat) (ht : t < 64) (a c : Bool) :
    (byte (t + tagFlags a c) == 0x04 || byte (t + tagFlags a c) == 0x84 ||
      byte (t + tagFlags a c) == 0x44 || byte (t + tagFlags a c) == 0xC4) = decide (t = 4) := by
  obtain ⟨h0, -⟩ := tagByte_arith t a.toNat c.toNat ht (Bool.toNat_lt a) (Bool.toNat_lt c)
  rw [tagFlags_eq, Bool.eq_iff_iff]
  simp only [beq_eq_toNat_beq, byte_toNat _ h0, UInt8.toNat_ofNat, Bool.or_eq_true, beq_iff_eq, decide_eq_true_eq]
  omega

theorem mbLoop_ser (v : Nat) (hv : v < 4294967296) (suf : Bytes) :
    Model.mbLoop 5 0 (mb v ++ suf) = .ok (v, suf) := by
  rw [ParserBridge.mbLoop_eq]; exact Lemmas.Codec.mbDecode_mbEncode v suf hv

theorem parseMb_ser (c : Ctx) (ver : Nat) (v : Nat) (hv : v < 4294967296) (suf : Bytes) (tp ap : Nat) (cur) :
    parseMb (st c ver (mb v ++ suf) tp ap cur) = .ok (v, st c ver suf tp ap cur) := by
  simp only [parseMb, mbLoop_ser v hv]
  rfl

/-- `wbxml_charset_conv_term` on available bytes that contain a terminator. -/
theorem convTerm_of_mem (cs : Nat) (hcs : cs = 3 ∨ cs = 106) (l : Bytes) (h : (0 : UInt8) ∈ l) :
    convTerm cs l = .ok (l.takeWhile (· != 0), (l.takeWhile (· != 0)).length + 1) := by
  have h1 : ¬ (cstrLen l + 1 > l.length) := by have := cstrLen_lt_of_mem l h; omega
  have h2 : (cs == 1000 || cs == 1015) = false := by rcases hcs with rfl | rfl <;> rfl
  have h3 : (cs == 3 || cs == 106) = true := by rcases hcs with rfl | rfl <;> rfl
  simp only [convTerm, h2, Bool.false_eq_true, ↓reduceIte, h1, h3, cstrLen_take]
  rw [cstrLen_eq_takeWhile]

theorem csOk_iff (c : Ctx) : csOk c = true ↔ (c.charset = 3 ∨ c.charset = 106) := by
  simp [csOk]

theorem parseTermstr_ser (c : Ctx) (ver : Nat) (hcs : csOk c = true) (s : Bytes) (hs : nulFree s = true)
    (suf : Bytes) (tp ap : Nat) (cur) :
    parseTermstr (st c ver (s ++ 0 :: suf) tp ap cur) = .ok (s, st c ver suf tp ap cur) := by
  have hm : (0 : UInt8) ∈ s ++ 0 :: suf := by simp
  simp only [parseTermstr, convTerm_of_mem c.charset ((csOk_iff c).mp hcs) _ hm, takeWhile_nulFree s hs suf]
  have e : List.drop (s.length + 1) (s ++ 0 :: suf) = suf := by
    rw [show s ++ 0 :: suf = (s ++ [0]) ++ suf by simp, show s.length + 1 = (s ++ [0]).length by simp,
      List.drop_left]
  simp only [bind, Except.bind, pure, Except.pure, e]

theorem mem_of_getLast? (l : Bytes) (b : UInt8) (h : l.getLast? = some b) : b ∈ l :=
  List.mem_of_getLast? h

theorem zero_mem_drop (tbl : Bytes) (off : Nat) (hoff : off < tbl.length)
    (hlast : tbl.getLast? = some 0) : (0 : UInt8) ∈ tbl.drop off := by
  apply List.mem_of_getLast?
  rw [List.getLast?_drop]
  simp [hlast]; omega

/-- `get_strtbl_reference`: an offset inside a table that ends with a terminator yields the string that
    starts there. -/
theorem strtblRef_of (s : PState) (tbl : Bytes) (h1 : s.strtbl = some tbl) (hcs : s.charset = 3 ∨ s.charset = 106)
    (off : Nat) (hoff : off < tbl.length) (hlast : tbl.getLast? = some 0) :
    strtblRef s off = .ok (strAt tbl off) := by
  have hm := zero_mem_drop tbl off hoff hlast
  have hn : ¬ (off ≥ tbl.length) := by omega
  simp only [strtblRef, h1, hn, ↓reduceIte, convTerm_of_mem s.charset hcs _ hm, strAt]
  rfl

theorem strtblRef_ser (c : Ctx) (ver : Nat) (hc : c.ok = true) (hcs : csOk c = true) (off : Nat)
    (hoff : off < c.tbl.length) (rest : Bytes) (tp ap : Nat) (cur) :
    strtblRef (st c ver rest tp ap cur) off = .ok (strAt c.tbl off) := by
  have hne : c.tbl.isEmpty = false := by
    cases h : c.tbl with
    | nil => simp [h] at hoff
    | cons _ _ => rfl
  simp only [Ctx.ok, Bool.and_eq_true, Bool.or_eq_true, hne, Bool.false_eq_true, false_or, beq_iff_eq] at hc
  exact strtblRef_of _ c.tbl (by simp only [tblOpt, hne, Bool.false_eq_true, ↓reduceIte]) ((csOk_iff c).mp hcs) off
    hoff hc.2

theorem off_lt (c : Ctx) (hc : c.ok = true) (off : Nat) (hoff : off < c.tbl.length) : off < 4294967296 := by
  simp only [Ctx.ok, Bool.and_eq_true, decide_eq_true_eq] at hc
  omega

theorem cstrLen_strAt (tbl : Bytes) (off : Nat) : cstrLen (strAt tbl off) = (strAt tbl off).length :=
  cstrLen_of_no_nul _ fun b hb => by
    simpa using List.all_eq_true.mp (List.all_takeWhile (l := tbl.drop off) (p := (· != 0))) b hb

@[simp] theorem isToken_cons (c : Ctx) (ver) (b : UInt8) (r : Bytes) (tp ap cur) (t : UInt8) :
    isToken (st c ver (b :: r) tp ap cur) t = (b == t) := by
  simp [isToken]

@[simp] theorem isToken_nil (c : Ctx) (ver) (tp ap cur) (t : UInt8) :
    isToken (st c ver [] tp ap cur) t = false := by
  simp [isToken]

@[simp] theorem skip1_cons (what : String) (c : Ctx) (ver) (b : UInt8) (r : Bytes) (tp ap cur) :
    skip1 what (st c ver (b :: r) tp ap cur) = .ok (st c ver r tp ap cur) := rfl

@[simp] theorem parseU8_cons (c : Ctx) (ver) (b : UInt8) (r : Bytes) (tp ap cur) :
    parseU8 (st c ver (b :: r) tp ap cur) = .ok (b, st c ver r tp ap cur) := rfl

@[simp] theorem peekAt_zero (c : Ctx) (ver) (b : UInt8) (r : Bytes) (tp ap cur) :
    peekAt (st c ver (b :: r) tp ap cur) 0 = some b := rfl

@[simp] theorem peekAt_two (c : Ctx) (ver) (b1 b2 b3 : UInt8) (r : Bytes) (tp ap cur) :
    peekAt (st c ver (b1 :: b2 :: b3 :: r) tp ap cur) 2 = some b3 := rfl

theorem parseSwitchPage_ser (tagSpace : Bool) (c : Ctx) (ver) (p : Nat) (hp : p < 256) (r : Bytes) (tp ap cur) :
    parseSwitchPage tagSpace (st c ver (0x00 :: byte p :: r) tp ap cur) =
      .ok (st c ver r (bif tagSpace then p else tp) (bif tagSpace then ap else p) cur) := by
  cases tagSpace <;> simp [parseSwitchPage, byte_toNat p hp, bind, Except.bind, pure, Except.pure]

/-- `[switchPage]` in front of an octet that is not `SWITCH_PAGE`: the first step of every production that
    may begin with a page switch, in the shape it has inside the parser functions' `do` blocks (the rest of
    the block, `k`, stands in both branches). -/
theorem optSwitch_bind {α : Type} (k : PState → Except Err α) (tagSpace : Bool) (c : Ctx) (ver) (sw : Option Nat)
    (hsw : wfSw sw = true) (b : UInt8) (hb : (b == 0) = false) (r : Bytes) (tp ap cur) :
    (if isToken (st c ver (serSw sw ++ b :: r) tp ap cur) 0x00 = true
      then parseSwitchPage tagSpace (st c ver (serSw sw ++ b :: r) tp ap cur) >>= k
      else pure (st c ver (serSw sw ++ b :: r) tp ap cur) >>= k)
    = k (st c ver (b :: r) (bif tagSpace then swPage sw tp else tp) (bif tagSpace then ap else swPage sw ap) cur) := by
  cases sw with
  | none => simp only [serSw, List.nil_append, isToken_cons, hb, Bool.false_eq_true, ↓reduceIte, swPage,
      Option.getD_none, Bool.cond_self]; rfl
  | some p =>
    have hp : p < 256 := by simpa [wfSw] using hsw
    simp only [serSw, List.cons_append, List.nil_append, isToken_cons, beq_self_eq_true, ↓reduceIte,
      parseSwitchPage_ser tagSpace c ver p hp, swPage, Option.getD_some, ok_bind]

theorem optSwitch_tag (c : Ctx) (ver) (sw : Option Nat) (hsw : wfSw sw = true) (b : UInt8) (hb : b ≠ 0)
    (r : Bytes) (tp ap cur) :
    (if isToken (st c ver (serSw sw ++ b :: r) tp ap cur) 0x00 = true
      then parseSwitchPage true (st c ver (serSw sw ++ b :: r) tp ap cur)
      else pure (st c ver (serSw sw ++ b :: r) tp ap cur))
    = .ok (st c ver (b :: r) (swPage sw tp) ap cur) := by
  have h := optSwitch_bind pure true c ver sw hsw b (by simpa using hb) r tp ap cur
  simp only [bind_pure] at h
  exact h

theorem optSwitch_attr (c : Ctx) (ver) (sw : Option Nat) (hsw : wfSw sw = true) (b : UInt8) (hb : b ≠ 0)
    (r : Bytes) (tp ap cur) :
    (if isToken (st c ver (serSw sw ++ b :: r) tp ap cur) 0x00 = true
      then parseSwitchPage false (st c ver (serSw sw ++ b :: r) tp ap cur)
      else pure (st c ver (serSw sw ++ b :: r) tp ap cur))
    = .ok (st c ver (b :: r) tp (swPage sw ap) cur) := by
  have h := optSwitch_bind pure false c ver sw hsw b (by simpa using hb) r tp ap cur
  simp only [bind_pure] at h
  exact h

end Wbxml.Lemmas.ParseSer
