/- The C bit operators on `Nat` as arithmetic, under the simp attribute `bit_arith`: a shift is a
   multiplication or division by a power of two, a mask of low bits a remainder, a single-bit mask
   the bit in its place, and the C `|` of a value whose low `k` bits are clear with a value below
   `2^k` is their sum (side condition for `simp (disch := omega)`). Also: bytes built from numbers. -/
import Wbxml.Lemmas.BitsAttr
namespace Wbxml.Lemmas.Codec
open Wbxml

attribute [bit_arith] Nat.shiftLeft_eq Nat.shiftRight_eq_div_pow

@[bit_arith] theorem or_mul_pow (a b k : Nat) (h : b < 2 ^ k) : a * 2 ^ k ||| b = a * 2 ^ k + b := by
  rw [← Nat.shiftLeft_eq, ← Nat.shiftLeft_add_eq_or_of_lt h]

/-! Masks of low bits, for the literals the C sources use (`Nat.and_two_pow_sub_one_eq_mod` does not
    match a literal). -/
@[bit_arith] theorem and_1 (x : Nat) : x &&& 1 = x % 2 := Nat.and_two_pow_sub_one_eq_mod x 1
@[bit_arith] theorem and_3 (x : Nat) : x &&& 3 = x % 4 := Nat.and_two_pow_sub_one_eq_mod x 2
@[bit_arith] theorem and_15 (x : Nat) : x &&& 15 = x % 16 := Nat.and_two_pow_sub_one_eq_mod x 4
@[bit_arith] theorem and_31 (x : Nat) : x &&& 31 = x % 32 := Nat.and_two_pow_sub_one_eq_mod x 5
@[bit_arith] theorem and_63 (x : Nat) : x &&& 63 = x % 64 := Nat.and_two_pow_sub_one_eq_mod x 6
@[bit_arith] theorem and_127 (x : Nat) : x &&& 127 = x % 128 := Nat.and_two_pow_sub_one_eq_mod x 7

theorem and_two_pow (n i : Nat) : n &&& 2 ^ i = n / 2 ^ i % 2 * 2 ^ i := by
  apply Nat.eq_of_testBit_eq; intro j
  rw [Nat.testBit_and, Nat.testBit_two_pow, Nat.testBit_mul_two_pow]
  by_cases h : i = j
  · subst h; simp [Nat.testBit_eq_decide_div_mod_eq]
  · simp only [h, decide_false, Bool.and_false, Bool.false_eq, Bool.and_eq_false_imp, decide_eq_true_eq]
    intro hle
    apply Nat.testBit_lt_two_pow
    have : 2 ^ 1 ≤ 2 ^ (j - i) := Nat.pow_le_pow_right (by decide) (by omega)
    omega

@[bit_arith] theorem and_64 (n : Nat) : n &&& 64 = n / 64 % 2 * 64 := and_two_pow n 6
@[bit_arith] theorem and_128 (n : Nat) : n &&& 128 = n / 128 % 2 * 128 := and_two_pow n 7


/-- The field above a field of width `k` (its counterpart for `%` is core `Nat.mul_add_mod_of_lt`). -/
theorem mul_add_div_of_lt {a k b : Nat} (h : b < k) : (a * k + b) / k = a := by
  rw [Nat.mul_comm, Nat.mul_add_div (by omega), Nat.div_eq_of_lt h, Nat.add_zero]

theorem ofNat_ne_zero (n : Nat) (h0 : 0 < n) (h : n < 256) : UInt8.ofNat n ≠ 0 := by
  intro e
  have := congrArg UInt8.toNat e
  simp at this; omega

theorem toNat_ofNat_lt (n : Nat) (h : n < 256) : (UInt8.ofNat n).toNat = n := UInt8.toNat_ofNat_of_lt' h

theorem ofNat_eq_iff (n : Nat) (b : UInt8) (h : n < 256) : UInt8.ofNat n = b ↔ n = b.toNat := by
  constructor
  · intro e; rw [← e, toNat_ofNat_lt n h]
  · intro e; rw [e, UInt8.ofNat_toNat]

end Wbxml.Lemmas.Codec
