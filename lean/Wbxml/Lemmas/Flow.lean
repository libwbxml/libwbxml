/-
  The flow-mode state machine (`Model/Flow.lean`), for an arbitrary per-item encoder: `batch` over appended
  item lists; the invariant `Inv` (output and encoding state are the batch encoding of the remaining items,
  the recorded point that of the items before the most recent node) with `inv_step` / `inv_run`; when the
  header is built (`run_header`); `trace` by index; what an encoding call depends on (`encodeStep_congr`,
  `run_encode_congr`) and what `deleteLast` undoes (`delete_after_node`).
-/
import Wbxml.Model.Flow
namespace Wbxml.Model.Flow
open Wbxml Wbxml.Model

variable {σ : Type}

theorem batch_nil (e : Enc σ) (st : σ) : batch e st [] = .ok ([], st) := rfl

theorem batch_cons_ok (e : Enc σ) (st : σ) (it : Item) (rest : List Item) {b st1} (h : e.item st it = .ok (b, st1)) :
    batch e st (it :: rest) =
      match batch e st1 rest with
      | .error err => .error err
      | .ok (b', st2) => .ok (b ++ b', st2) := by
  simp only [batch, h]
  cases batch e st1 rest with
  | error err => rfl
  | ok r => cases r; rfl

theorem batch_cons_err (e : Enc σ) (st : σ) (it : Item) (rest : List Item) {err} (h : e.item st it = .error err) :
    batch e st (it :: rest) = .error err := by
  simp only [batch, h]

theorem batch_append (e : Enc σ) (st : σ) (a b : List Item) :
    batch e st (a ++ b) =
      match batch e st a with
      | .error err => .error err
      | .ok (ba, s1) =>
        match batch e s1 b with
        | .error err => .error err
        | .ok (bb, s2) => .ok (ba ++ bb, s2) := by
  induction a generalizing st with
  | nil =>
    simp only [List.nil_append, batch_nil]
    cases batch e st b with
    | error err => rfl
    | ok r => cases r; simp
  | cons it rest ih =>
    simp only [List.cons_append]
    cases h : e.item st it with
    | error err => simp only [batch_cons_err e st it _ h]
    | ok r =>
      obtain ⟨b0, st1⟩ := r
      rw [batch_cons_ok e st it _ h, batch_cons_ok e st it _ h, ih st1]
      cases batch e st1 rest with
      | error err => rfl
      | ok r1 =>
        obtain ⟨b1, st2⟩ := r1
        simp only
        cases batch e st2 b with
        | error err => rfl
        | ok r2 => obtain ⟨b2, st3⟩ := r2; simp [List.append_assoc]

theorem batch_snoc (e : Enc σ) (items : List Item) (it : Item) {out st}
    (h : batch e e.init items = .ok (out, st)) :
    batch e e.init (items ++ [it]) =
      match e.item st it with
      | .error err => .error err
      | .ok (b, st') => .ok (out ++ b, st') := by
  rw [batch_append, h]
  cases hi : e.item st it with
  | error err => simp only [batch_cons_err e st it [] hi]
  | ok r =>
    simp only [batch_cons_ok e st it [] hi, batch_nil, List.append_nil]

/-- The output buffer and the encoding state are exactly what batch encoding of the remaining items
    gives; the recorded point is what batch encoding of the items before the most recent node
    gives. -/
structure Inv (e : Enc σ) (s : FState σ) (v : Surv) : Prop where
  full : batch e e.init v.items = .ok (s.output, s.st)
  mark_le : v.mark ≤ v.items.length
  pre : batch e e.init (v.items.take v.mark) = .ok (s.output.take s.preLast.len, s.preLast.st)
  len_le : s.preLast.len ≤ s.output.length

theorem inv_init (e : Enc σ) : Inv e (FState.init e) { items := [], mark := 0 } :=
  { full := rfl, mark_le := Nat.le_refl 0, pre := rfl, len_le := Nat.le_refl 0 }

theorem encodeStep_error (e : Enc σ) (s : FState σ) (it : Item) {err}
    (h : e.item s.st it = .error err) :
    (encodeStep e s it).1.output = s.output ∧ (encodeStep e s it).1.st = s.st ∧
    (encodeStep e s it).1.preLast = s.preLast ∧ (encodeStep e s it).2 = some err := by
  simp only [encodeStep, h, and_self]

theorem encodeStep_ok (e : Enc σ) (s : FState σ) (it : Item) {bs st'}
    (h : e.item s.st it = .ok (bs, st')) :
    (encodeStep e s it).1.output = s.output ++ bs ∧ (encodeStep e s it).1.st = st' ∧
    (encodeStep e s it).1.preLast = (if it.isNode then { len := s.output.length, st := s.st } else s.preLast) ∧
    (encodeStep e s it).2 = none := by
  simp only [encodeStep, h, and_self]

theorem inv_step (e : Enc σ) (s : FState σ) (v : Surv) (op : Op) (hinv : Inv e s v) :
    Inv e (step e s op).1 (survStep e v op) := by
  cases hop : op.item? with
  | some it =>
    simp only [step, survStep, hop]
    have hb := batch_snoc e v.items it hinv.full
    cases hi : e.item s.st it with
    | error err =>
      obtain ⟨ho, hs, hp, _⟩ := encodeStep_error e s it hi
      rw [hi] at hb
      simp only [hb]
      exact { full := by rw [ho, hs]; exact hinv.full
              mark_le := hinv.mark_le
              pre := by rw [ho, hp]; exact hinv.pre
              len_le := by rw [ho, hp]; exact hinv.len_le }
    | ok r =>
      obtain ⟨ho, hs, hp, _⟩ := encodeStep_ok e s it hi
      rw [hi] at hb
      simp only [hb]
      cases hn : it.isNode with
      | true =>
        simp only [hn, if_true] at hp ⊢
        exact { full := by rw [ho, hs]; exact hb
                mark_le := by simp
                pre := by
                  rw [ho, hp]
                  simpa using hinv.full
                len_le := by rw [ho, hp]; simp }
      | false =>
        simp only [hn, Bool.false_eq_true, if_false] at hp ⊢
        have hml := hinv.mark_le
        have hll := hinv.len_le
        exact { full := by rw [ho, hs]; exact hb
                mark_le := by simp only [List.length_append, List.length_cons, List.length_nil]; omega
                pre := by
                  rw [ho, hp, List.take_append_of_le_length hml, List.take_append_of_le_length hll]
                  exact hinv.pre
                len_le := by rw [ho, hp]; simp only [List.length_append]; omega }
  | none =>
    cases op with
    | deleteLast =>
      simp only [step, survStep, Op.item?, deleteStep]
      have hml := hinv.mark_le
      have hll := hinv.len_le
      exact { full := hinv.pre
              mark_le := by simp only [List.length_take]; omega
              pre := by simp only [List.take_take, Nat.min_self]; exact hinv.pre
              len_le := by simp only [List.length_take]; omega }
    | getOutput => simpa only [step, survStep, Op.item?] using hinv
    | _ => cases hop

theorem inv_run (e : Enc σ) (ops : List Op) (s : FState σ) (v : Surv) (hinv : Inv e s v) :
    Inv e (run e s ops) (remaining e v ops) := by
  induction ops generalizing s v with
  | nil => exact hinv
  | cons op ops ih => exact ih _ _ (inv_step e s v op hinv)

theorem step_header (e : Enc σ) (s : FState σ) (op : Op) :
    (step e s op).1.header = if op.isNodeCall then some (s.header.getD e.header) else s.header := by
  cases hop : op.item? with
  | some it =>
    simp only [step, hop, encodeStep, Op.isNodeCall]
    cases e.item s.st it with
    | error err => rfl
    | ok r => rfl
  | none =>
    cases op <;> simp_all [step, Op.item?, deleteStep, Op.isNodeCall]

theorem run_header (e : Enc σ) (ops : List Op) (s : FState σ) :
    (run e s ops).header = if nodeCalled ops then some (s.header.getD e.header) else s.header := by
  induction ops generalizing s with
  | nil => simp [run, nodeCalled]
  | cons op ops ih =>
    simp only [run, ih, step_header, nodeCalled, List.any_cons]
    by_cases h1 : op.isNodeCall = true <;> by_cases h2 : ops.any Op.isNodeCall = true <;> simp [h1, h2]

theorem run_append (e : Enc σ) (s : FState σ) (a b : List Op) :
    run e s (a ++ b) = run e (run e s a) b := by
  induction a generalizing s with
  | nil => rfl
  | cons op a ih => simp only [List.cons_append, run, ih]

theorem remaining_append (e : Enc σ) (v : Surv) (a b : List Op) :
    remaining e v (a ++ b) = remaining e (remaining e v a) b := by
  induction a generalizing v with
  | nil => rfl
  | cons op a ih => simp only [List.cons_append, remaining, ih]

theorem trace_length (e : Enc σ) (s : FState σ) (ops : List Op) : (trace e s ops).length = ops.length := by
  induction ops generalizing s with
  | nil => rfl
  | cons op ops ih => simp only [trace, List.length_cons, ih]

theorem trace_getElem? (e : Enc σ) (s : FState σ) (ops : List Op) (i : Nat) (h : i < ops.length) :
    (trace e s ops)[i]? = some ((step e (run e s (ops.take i)) ops[i]).2, (run e s (ops.take (i + 1))).result) := by
  induction ops generalizing s i with
  | nil => simp at h
  | cons op ops ih =>
    cases i with
    | zero => simp [trace, run]
    | succ i =>
      simp only [List.length_cons, Nat.add_lt_add_iff_right] at h
      exact ih _ i h

/-- Two encoder objects with the same output buffer and the same encoding state encode the next
    item identically (the header and the recorded point play no part). -/
theorem encodeStep_congr (e : Enc σ) (s t : FState σ) (it : Item)
    (ho : s.output = t.output) (hs : s.st = t.st) :
    (encodeStep e s it).1.output = (encodeStep e t it).1.output ∧
    (encodeStep e s it).1.st = (encodeStep e t it).1.st ∧
    (encodeStep e s it).2 = (encodeStep e t it).2 := by
  simp only [encodeStep, hs, ho]
  cases e.item t.st it <;> exact ⟨rfl, rfl, rfl⟩

theorem delete_after_node (e : Enc σ) (s : FState σ) (n : Node) (encEnd : Bool)
    (hok : (encodeStep e s (.node n encEnd)).2 = none) :
    (deleteStep (encodeStep e s (.node n encEnd)).1).output = s.output ∧
    (deleteStep (encodeStep e s (.node n encEnd)).1).st = s.st := by
  cases hi : e.item s.st (.node n encEnd) with
  | error err =>
    obtain ⟨_, _, _, h4⟩ := encodeStep_error e s _ hi
    rw [h4] at hok; cases hok
  | ok r =>
    obtain ⟨h1, _, h3, _⟩ := encodeStep_ok e s _ hi
    simp only [deleteStep, h1, h3, Item.isNode, if_true, List.take_left', and_self]

/-- Encoding operations only (no `deleteLast`). -/
def Op.isEncode (op : Op) : Bool := op.item?.isSome || (match op with | .getOutput => true | _ => false)

theorem run_encode_congr (e : Enc σ) (ops : List Op) (s t : FState σ)
    (hall : ∀ op ∈ ops, op.isEncode = true)
    (ho : s.output = t.output) (hs : s.st = t.st) :
    (run e s ops).output = (run e t ops).output ∧ (run e s ops).st = (run e t ops).st ∧
    (trace e s ops).map (·.1) = (trace e t ops).map (·.1) := by
  induction ops generalizing s t with
  | nil => exact ⟨ho, hs, rfl⟩
  | cons op ops ih =>
    have hop := hall op (List.mem_cons_self ..)
    have hrest : ∀ o ∈ ops, o.isEncode = true := fun o ho' => hall o (List.mem_cons_of_mem _ ho')
    cases hi : op.item? with
    | some it =>
      obtain ⟨c1, c2, c3⟩ := encodeStep_congr e s t it ho hs
      have := ih (encodeStep e s it).1 (encodeStep e t it).1 hrest c1 c2
      simp only [run, trace, step, hi, List.map_cons]
      exact ⟨this.1, this.2.1, by rw [c3, this.2.2]⟩
    | none =>
      cases op with
      | getOutput =>
        have := ih s t hrest ho hs
        simp only [run, trace, step, Op.item?, List.map_cons]
        exact ⟨this.1, this.2.1, by rw [this.2.2]⟩
      | deleteLast => simp [Op.isEncode, Op.item?] at hop
      | _ => cases hi

end Wbxml.Model.Flow
