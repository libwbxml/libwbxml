/-
  C18 lemmas: the heap primitives of `Model/TreeHeap.lean` seen through the *view*
  `St.cellAt : Nat → Option Cell` (the live cell at an address), and the ghost shape `BT`
  (first-child / next-sibling binary tree of addresses) with the local predicate `Loc` from which
  the link invariant (`Match`) is built, and the plain sibling list `absBT` a shape denotes.
-/
import Wbxml.Model.TreeHeap
namespace Wbxml.Model.TreeHeap
open Wbxml Wbxml.Model

abbrev View := Nat → Option Cell

def vset (v : View) (i : Nat) (c : Cell) : View := fun j => if j = i then some c else v j
def vdel (v : View) (i : Nat) : View := fun j => if j = i then none else v j

@[simp] theorem vset_self (v : View) (i : Nat) (c : Cell) : vset v i c i = some c := by simp [vset]
theorem vset_ne (v : View) {i j : Nat} (c : Cell) (h : j ≠ i) : vset v i c j = v j := by simp [vset, h]
@[simp] theorem vdel_self (v : View) (i : Nat) : vdel v i i = none := by simp [vdel]
theorem vdel_ne (v : View) {i j : Nat} (h : j ≠ i) : vdel v i j = v j := by simp [vdel, h]

/-- The payload at an address (anything for a dead address; only used under liveness facts). -/
def payOf (v : View) (i : Nat) : Pay :=
  match v i with
  | some c => c.pay
  | none => .cdata

theorem payOf_vset_self (v : View) (i : Nat) (c : Cell) : payOf (vset v i c) i = c.pay := by simp [payOf]
theorem payOf_vset_ne (v : View) {i j : Nat} (c : Cell) (h : j ≠ i) : payOf (vset v i c) j = payOf v j := by
  simp [payOf, vset_ne _ _ h]

/-- The heap with cell `i` overwritten; the rest of the state as it is. -/
def St.setCell (s : St) (i : Nat) (c : Cell) : St := { s with heap := s.heap.set i c }

@[simp] theorem setCell_root (s : St) (i : Nat) (c : Cell) : (s.setCell i c).root = s.root := rfl
@[simp] theorem setCell_lang (s : St) (i : Nat) (c : Cell) : (s.setCell i c).lang = s.lang := rfl
@[simp] theorem setCell_charset (s : St) (i : Nat) (c : Cell) : (s.setCell i c).charset = s.charset := rfl
@[simp] theorem setCell_curPage (s : St) (i : Nat) (c : Cell) : (s.setCell i c).curPage = s.curPage := rfl
@[simp] theorem setCell_len (s : St) (i : Nat) (c : Cell) : (s.setCell i c).heap.length = s.heap.length := by
  simp [St.setCell]

theorem cellAt_lt {s : St} {i : Nat} {c : Cell} (h : s.cellAt i = some c) : i < s.heap.length := by
  unfold St.cellAt at h
  cases hg : s.heap[i]? with
  | none => simp [hg] at h
  | some x =>
    have := List.getElem?_eq_some_iff.mp hg
    exact this.1

theorem cellAt_live {s : St} {i : Nat} {c : Cell} (h : s.cellAt i = some c) : c.live = true := by
  unfold St.cellAt at h
  cases hg : s.heap[i]? with
  | none => simp [hg] at h
  | some x =>
    simp only [hg] at h
    by_cases hl : x.live
    · simp [hl] at h; subst h; exact hl
    · simp [hl] at h

theorem deref_eq_ok {s : St} {i : Nat} {c : Cell} : s.deref i = .ok c ↔ s.cellAt i = some c := by
  unfold St.deref St.cellAt
  cases hg : s.heap[i]? with
  | none => simp
  | some x =>
    by_cases hl : x.live <;> simp [hl]

theorem deref_of_cellAt {s : St} {i : Nat} {c : Cell} (h : s.cellAt i = some c) : s.deref i = .ok c :=
  deref_eq_ok.mpr h

theorem deref_none_ub {s : St} {i : Nat} (h : s.cellAt i = none) : ∃ w, s.deref i = .error (.ub w) := by
  unfold St.deref
  unfold St.cellAt at h
  cases hg : s.heap[i]? with
  | none => exact ⟨_, rfl⟩
  | some x =>
    simp only [hg] at h
    by_cases hl : x.live
    · simp [hl] at h
    · simp only [hl]; exact ⟨_, rfl⟩

theorem upd_ok {s : St} {i : Nat} {c : Cell} (h : s.cellAt i = some c) (f : Cell → Cell) :
    s.upd i f = .ok (s.setCell i (f c)) := by
  unfold St.upd
  rw [deref_of_cellAt h]
  rfl

theorem cellAt_setCell {s : St} {i : Nat} (hi : i < s.heap.length) (c : Cell) (hl : c.live = true) :
    (s.setCell i c).cellAt = vset s.cellAt i c := by
  funext j
  unfold St.cellAt St.setCell vset
  by_cases hj : j = i
  · subst hj; simp [hi, hl]
  · have : ¬ i = j := fun h => hj h.symm
    simp [hj, this]

theorem cellAt_setCell_dead {s : St} {i : Nat} (hi : i < s.heap.length) (c : Cell) (hl : c.live = false) :
    (s.setCell i c).cellAt = vdel s.cellAt i := by
  funext j
  unfold St.cellAt St.setCell vdel
  by_cases hj : j = i
  · subst hj; simp [hi, hl]
  · have : ¬ i = j := fun h => hj h.symm
    simp [hj, this]

/-- `s'` differs from `s` in the contents of cells at most: root, language, character set, code page and the
    size of the heap are those of `s`. -/
def SameMeta (s s' : St) : Prop :=
  s'.root = s.root ∧ s'.lang = s.lang ∧ s'.charset = s.charset ∧ s'.curPage = s.curPage ∧
  s'.heap.length = s.heap.length

theorem SameMeta.refl (s : St) : SameMeta s s := ⟨rfl, rfl, rfl, rfl, rfl⟩
theorem SameMeta.trans {a b c : St} (h1 : SameMeta a b) (h2 : SameMeta b c) : SameMeta a c :=
  ⟨h2.1.trans h1.1, h2.2.1.trans h1.2.1, h2.2.2.1.trans h1.2.2.1, h2.2.2.2.1.trans h1.2.2.2.1,
   h2.2.2.2.2.trans h1.2.2.2.2⟩

theorem upd_step {s : St} {i : Nat} {c : Cell} (h : s.cellAt i = some c) (f : Cell → Cell)
    (hl : ∀ x, (f x).live = x.live) :
    ∃ s', s.upd i f = .ok s' ∧ s'.cellAt = vset s.cellAt i (f c) ∧ SameMeta s s' :=
  ⟨_, upd_ok h f, cellAt_setCell (cellAt_lt h) _ (by rw [hl]; exact cellAt_live h), rfl, rfl, rfl, rfl,
    setCell_len ..⟩

/-- A write that stores what is there. -/
theorem upd_same {s : St} {i : Nat} {c : Cell} (h : s.cellAt i = some c) (f : Cell → Cell)
    (hl : ∀ x, (f x).live = x.live) (hf : f c = c) :
    ∃ s', s.upd i f = .ok s' ∧ s'.cellAt = s.cellAt ∧ SameMeta s s' := by
  obtain ⟨s', e, v, m⟩ := upd_step h f hl
  refine ⟨s', e, ?_, m⟩
  rw [v, hf]; funext j
  by_cases hj : j = i
  · rw [hj, vset_self, h]
  · rw [vset_ne _ _ hj]

theorem free_step {s : St} {i : Nat} {c : Cell} (h : s.cellAt i = some c) :
    ∃ s', s.free i = .ok s' ∧ s'.cellAt = vdel s.cellAt i ∧ SameMeta s s' :=
  ⟨_, upd_ok h _, cellAt_setCell_dead (cellAt_lt h) _ rfl, rfl, rfl, rfl, rfl, setCell_len ..⟩

/-- `f` applied to the cell at `o` when `o` is an address: the view after `St.updOpt` (`updOpt_step`). -/
def vmap (v : View) (o : Option Nat) (f : Cell → Cell) : View :=
  fun j => if o = some j then (v j).map f else v j

theorem vmap_ne {v : View} {o : Option Nat} {f : Cell → Cell} {j : Nat} (h : o ≠ some j) : vmap v o f j = v j := by
  simp [vmap, h]

theorem vmap_self (v : View) (f : Cell → Cell) (j : Nat) : vmap v (some j) f j = (v j).map f := by
  simp [vmap]

theorem updOpt_step {s : St} {o : Option Nat} {f : Cell → Cell}
    (h : ∀ x, o = some x → ∃ c, s.cellAt x = some c) (hl : ∀ c, (f c).live = c.live) :
    ∃ s', s.updOpt o f = .ok s' ∧ s'.cellAt = vmap s.cellAt o f ∧ SameMeta s s' := by
  cases o with
  | none =>
    refine ⟨s, rfl, ?_, SameMeta.refl s⟩
    funext j; simp [vmap]
  | some x =>
    obtain ⟨c, hc⟩ := h x rfl
    obtain ⟨s', e, v, m⟩ := upd_step hc f hl
    refine ⟨s', e, ?_, m⟩
    rw [v]; funext j
    by_cases hj : j = x
    · subst hj; simp [vmap, hc]
    · have : ¬ (some x = some j) := fun e => hj (Option.some.inj e).symm
      simp [vmap, vset_ne _ _ hj, this]

theorem alloc_view (s : St) (p : Pay) :
    (s.alloc p).1 = s.heap.length ∧
    (s.alloc p).2.cellAt = vset s.cellAt s.heap.length { pay := p } ∧
    (s.alloc p).2.root = s.root ∧ (s.alloc p).2.lang = s.lang ∧ (s.alloc p).2.charset = s.charset ∧
    (s.alloc p).2.curPage = s.curPage ∧ (s.alloc p).2.heap.length = s.heap.length + 1 := by
  refine ⟨rfl, ?_, rfl, rfl, rfl, rfl, by simp [St.alloc]⟩
  funext j
  unfold St.cellAt St.alloc vset
  simp only [List.getElem?_append]
  by_cases hj : j = s.heap.length
  · subst hj; simp
  · by_cases hlt : j < s.heap.length
    · simp [hj, hlt]
    · have hge : s.heap.length < j := by omega
      have h2 : ([({ pay := p } : Cell)])[j - s.heap.length]? = none := by
        apply List.getElem?_eq_none; simp; omega
      simp [hj, hlt, h2]

inductive BT where
  | nil
  | node (id : Nat) (ch : BT) (nx : BT)
  deriving Repr, DecidableEq, Inhabited

namespace BT

def rid : BT → Option Nat
  | nil => none
  | node i _ _ => some i

def ids : BT → List Nat
  | nil => []
  | node i ch nx => i :: (ch.ids ++ nx.ids)

def size : BT → Nat
  | nil => 0
  | node _ ch nx => 1 + ch.size + nx.size

theorem ids_length (t : BT) : t.ids.length = t.size := by
  induction t with
  | nil => rfl
  | node i ch nx ih1 ih2 => simp [ids, size, ih1, ih2]; omega

@[simp] theorem rid_nil : rid nil = none := rfl
@[simp] theorem rid_node (i : Nat) (c n : BT) : rid (node i c n) = some i := rfl
@[simp] theorem ids_nil : ids nil = [] := rfl
@[simp] theorem ids_node (i : Nat) (c n : BT) : ids (node i c n) = i :: (c.ids ++ n.ids) := rfl

theorem mem_node {j i : Nat} {ch nx : BT} : j ∈ (node i ch nx).ids ↔ j = i ∨ j ∈ ch.ids ∨ j ∈ nx.ids := by
  simp only [ids_node, List.mem_cons, List.mem_append]

theorem nodup_node {i : Nat} {ch nx : BT} : (node i ch nx).ids.Nodup ↔
    i ∉ ch.ids ∧ i ∉ nx.ids ∧ ch.ids.Nodup ∧ nx.ids.Nodup ∧ ∀ a, a ∈ ch.ids → a ∉ nx.ids := by
  simp only [ids_node, List.nodup_cons, List.mem_append, not_or, List.nodup_append]
  constructor
  · rintro ⟨⟨h1, h2⟩, h3, h4, h5⟩
    exact ⟨h1, h2, h3, h4, fun a ha hb => h5 a ha a hb rfl⟩
  · rintro ⟨h1, h2, h3, h4, h5⟩
    exact ⟨⟨h1, h2⟩, h3, h4, fun a ha b hb e => h5 a ha (e ▸ hb)⟩

theorem rid_mem {t : BT} {i : Nat} (h : t.rid = some i) : i ∈ t.ids := by
  cases t with
  | nil => simp at h
  | node j c n => simp at h; subst h; simp

theorem rid_none {t : BT} (h : t.rid = none) : t = nil := by
  cases t with
  | nil => rfl
  | node j c n => simp at h

end BT

/-- A predicate on shapes that is built from a local condition `A par prv i first next` on each
    node (its parent, its previous sibling, itself, the head of its children, its next sibling). -/
def Loc (A : Option Nat → Option Nat → Nat → Option Nat → Option Nat → Prop) :
    Option Nat → Option Nat → BT → Prop
  | _, _, .nil => True
  | par, prv, .node i ch nx => A par prv i ch.rid nx.rid ∧ Loc A (some i) none ch ∧ Loc A par (some i) nx

theorem Loc.mono {A B : Option Nat → Option Nat → Nat → Option Nat → Option Nat → Prop} :
    ∀ (t : BT) (par prv : Option Nat),
      (∀ i, i ∈ t.ids → ∀ par prv f n, A par prv i f n → B par prv i f n) →
      Loc A par prv t → Loc B par prv t
  | .nil, _, _, _, _ => trivial
  | .node i ch nx, par, prv, h, ⟨ha, hc, hn⟩ =>
    ⟨h i (by simp) _ _ _ _ ha,
     Loc.mono ch _ _ (fun j hj => h j (by simp [hj])) hc,
     Loc.mono nx _ _ (fun j hj => h j (by simp [hj])) hn⟩

/-- The link condition of one cell. Leaf kinds (text, nested document) have no children. -/
def LinkOK (v : View) (par prv : Option Nat) (i : Nat) (f n : Option Nat) : Prop :=
  ∃ c, v i = some c ∧ c.parent = par ∧ c.prev = prv ∧ c.first = f ∧ c.next = n ∧
    (c.pay.isBranch = true ∨ f = none)

def Match (v : View) : Option Nat → Option Nat → BT → Prop := Loc (LinkOK v)

theorem Match.frame {v v' : View} (t : BT) (par prv : Option Nat)
    (h : ∀ i, i ∈ t.ids → v' i = v i) (m : Match v par prv t) : Match v' par prv t :=
  Loc.mono t par prv (fun i hi _ _ _ _ ⟨c, hc, r⟩ => ⟨c, by rw [h i hi]; exact hc, r⟩) m

theorem Match.live {v : View} : ∀ (t : BT) (par prv : Option Nat), Match v par prv t →
    ∀ i, i ∈ t.ids → ∃ c, v i = some c
  | .nil, _, _, _, i, hi => by simp at hi
  | .node j ch nx, par, prv, ⟨⟨c, hc, _⟩, mc, mn⟩, i, hi => by
    simp only [BT.ids_node, List.mem_cons, List.mem_append] at hi
    rcases hi with rfl | hi | hi
    · exact ⟨c, hc⟩
    · exact Match.live ch _ _ mc i hi
    · exact Match.live nx _ _ mn i hi

def absBT (v : View) : BT → List Node
  | .nil => []
  | .node i ch nx => mkNode (payOf v i) (absBT v ch) :: absBT v nx

theorem absBT_frame {v v' : View} : ∀ (t : BT), (∀ j, j ∈ t.ids → payOf v' j = payOf v j) → absBT v' t = absBT v t
  | .nil, _ => rfl
  | .node i ch nx, h => by
    simp only [absBT]
    rw [h i (BT.mem_node.mpr (Or.inl rfl)),
      absBT_frame ch (fun j hj => h j (BT.mem_node.mpr (Or.inr (Or.inl hj)))),
      absBT_frame nx (fun j hj => h j (BT.mem_node.mpr (Or.inr (Or.inr hj))))]

end Wbxml.Model.TreeHeap
