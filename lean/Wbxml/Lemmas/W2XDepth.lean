/-
  C01, bounds, depth: the element nesting of the tree `treeOfWbxml` builds is linear in the input
  length for every fixed number of embedded-document levels.

  * `parse_chars_le`: no character-data payload is longer than `2n + M + 45` octets.
  * `eltDepthC D`: element nesting where an embedded document nested deeper than `D` levels counts 0.
  * `eltWts`: the weighted count of `W2XTree` with one unit per element outside embedded documents; it is at most
    the number of start-element events (`fold_w`), and element nesting is at most this count plus the deepest
    embedded document attached (`depthCount_closed`, a class of nodes the builder stays inside).
  * `depthBound M D n`: `0` for `D = 0`, `n + depthBound M D' (2n + M + 45)` for `D = D' + 1`.
  * `treeOfWbxml_eltDepth_le`.
  * `nsMax`, `hdrMax`: the longest namespace name and the longest header line of the main table; `w2xPoly`: the
    bound on the XML text made of `treeBound`, `depthBound` and these two.
  * `wbxml2xml_length_le`: tree size, element nesting and output length of a successful `wbxml2xml`, for every
    number of embedded-document levels above that of the tree.
-/
import Wbxml.Lemmas.W2XTree
import Wbxml.Lemmas.ParserSafeDepth

namespace Wbxml.Lemmas.W2X
open Wbxml Wbxml.Model Wbxml.Lemmas.ParserSafe Wbxml.Lemmas.TreeBuild

theorem pevSize_mem (cc : Bytes → Nat) : ∀ {es : List Event} {s : Bytes}, Event.chars s ∈ es →
    1 + s.length + cc s ≤ pevSize cc es
  | e :: es, s, h => by
    simp only [pevSize]
    rcases List.mem_cons.1 h with h | h
    · rw [← h]; simp only [pevSize1]; omega
    · have := pevSize_mem cc h; omega

/-- A longer payload would alone outweigh the bound on the whole event list. -/
theorem parse_chars_le (cfg : PCfg) (bs : Bytes) (s : Bytes) (h : Event.chars s ∈ (parse cfg bs).events) :
    s.length ≤ 2 * bs.length + tableM cfg.main + 45 := by
  refine Classical.byContradiction fun hn => ?_
  have hb := parse_pevSizeG_le cfg bs
    (fun b => if b.length ≤ 2 * bs.length + tableM cfg.main + 45 then 0
      else bs.length * (bs.length + tableM cfg.main + 45 + 0) + 1) 0
    (fun b hb => by simp only [hb, if_true]; omega)
  have hm := pevSize_mem (fun b => if b.length ≤ 2 * bs.length + tableM cfg.main + 45 then 0
      else bs.length * (bs.length + tableM cfg.main + 45 + 0) + 1) h
  simp only [hn, if_false] at hm
  omega

mutual
def eltDepthC (D : Nat) : Node → Nat
  | .elt _ _ kids => 1 + eltDepthCL D kids
  | .text _ => 0
  | .cdata kids => eltDepthCL D kids
  | .tree l cs r => if embDepthN (.tree l cs r) ≤ D then (Node.tree l cs r).eltDepth else 0
def eltDepthCL (D : Nat) : List Node → Nat
  | [] => 0
  | n :: rest => max (eltDepthC D n) (eltDepthCL D rest)
end

mutual
theorem eltDepthC_eq (D : Nat) : ∀ (n : Node), embDepthN n ≤ D → eltDepthC D n = n.eltDepth
  | .elt name a kids, h => by
    simp only [embDepthN] at h
    rw [eltDepthC, Node.eltDepth, eltDepthCL_eq D kids h]
  | .text s, _ => by rw [eltDepthC, Node.eltDepth]
  | .cdata kids, h => by
    simp only [embDepthN] at h
    rw [eltDepthC, Node.eltDepth, eltDepthCL_eq D kids h]
  | .tree l cs r, h => by rw [eltDepthC, if_pos h]
theorem eltDepthCL_eq (D : Nat) : ∀ (ns : List Node), embDepthL ns ≤ D → eltDepthCL D ns = Node.eltDepthL ns
  | [], _ => by rw [eltDepthCL, Node.eltDepthL]
  | n :: rest, h => by
    simp only [embDepthL] at h
    rw [eltDepthCL, Node.eltDepthL, eltDepthC_eq D n (by omega), eltDepthCL_eq D rest (by omega)]
end

/-- One unit per element outside embedded documents. -/
def eltWts : WtsC where
  elt _ _ := 1
  cdata := 0
  text _ := 0
  tree _ _ _ := 0
  text_append _ _ := Nat.le_refl _

theorem eltDepthCL_le {D Dm : Nat} : ∀ {ns : List Node}, (∀ k ∈ ns, eltDepthC D k ≤ wC eltWts k + Dm) →
    eltDepthCL D ns ≤ wCL eltWts ns + Dm
  | [], _ => by simp only [eltDepthCL]; omega
  | n :: rest, h => by
    have h1 := h n (by simp)
    have h2 := eltDepthCL_le (ns := rest) fun k hk => h k (by simp [hk])
    simp only [eltDepthCL, wCL]
    omega

/-- Element nesting is at most the number of elements outside embedded documents plus `Dm`, as soon as
    no embedded document nests deeper than `Dm`. -/
theorem depthCount_closed (D Dm : Nat) : Closed (fun n => eltDepthC D n ≤ wC eltWts n + Dm) :=
  ⟨fun _ => by simp only [eltDepthC]; omega,
   fun _ _ _ h => by have := eltDepthCL_le h; simp only [eltDepthC, wC, eltWts] at this ⊢; omega,
   fun _ h => by have := eltDepthCL_le h; simp only [eltDepthC, wC, eltWts] at this ⊢; omega⟩

/-- Element-nesting bound of a tree with fewer than `D` levels of embedded documents built from `n`
    octets: linear in `n` for every fixed `D`. -/
def depthBound (M : Nat) : Nat → Nat → Nat
  | 0, _ => 0
  | D + 1, n => n + depthBound M D (2 * n + M + 45)

theorem depthBound_mono (M : Nat) : ∀ (D : Nat) {n n' : Nat}, n ≤ n' → depthBound M D n ≤ depthBound M D n'
  | 0, _, _, _ => Nat.le_refl _
  | D + 1, n, n', h => by
    have ih := depthBound_mono M D (n := 2 * n + M + 45) (n' := 2 * n' + M + 45) (by omega)
    simp only [depthBound]
    omega

/-- **Element nesting ≤ linear in the input, per nesting level of embedded documents.** -/
theorem treeOfWbxml_eltDepth_le (main : List Lang) : ∀ (D f lang cs : Nat) (bs : Bytes) (t : Tree),
    treeOfWbxml main f lang cs bs = .ok t → embDepthT t + 1 ≤ D →
      t.eltDepth ≤ depthBound (tableM main) D bs.length
  | 0, _, _, _, _, _, _, hd => by omega
  | D + 1, f, lang, cs, bs, t, h, hd => by
    obtain ⟨f', b, rfl, _, hb, _, rfl⟩ := treeOfWbxml_ok h
    have hg : GoodB (fun n => eltDepthC D n ≤ wC eltWts n +
        depthBound (tableM main) D (2 * bs.length + tableM main + 45)) b :=
      hb ▸ fold_goodB main _ (depthCount_closed D _) (Q := fun s => s.length ≤ 2 * bs.length + tableM main + 45)
        (fun cs' s t' hs ht' => by
          show eltDepthC D _ ≤ wC eltWts _ + _
          rw [eltDepthC]
          split
          · rename_i hle
            rw [embDepthN_tree] at hle
            have h1 := treeOfWbxml_eltDepth_le main D f' 0 cs' s _ (embOf_some ht') hle
            have h2 := depthBound_mono (tableM main) D hs
            unfold Tree.eltDepth at h1
            omega
          · omega)
        _ goodB_init
        (fun s hs => parse_chars_le { main := main, langForced := lang, metaCharset := cs } bs s hs)
    -- every element outside embedded documents was opened by a start-element event
    have hcount := fold_w eltWts main (emb := embOf main f') (ew := startW) (fun _ _ => Nat.le_refl _)
      (fun _ => Nat.le_refl _) (fun _ _ _ _ => Nat.le_refl _)
      (parse { main := main, langForced := lang, metaCharset := cs } bs).events {}
    have hsc := parse_startCount_le { main := main, langForced := lang, metaCharset := cs } bs
    have h0 : bW eltWts ({} : BState) = 0 := rfl
    rw [hb, evSum_startCount, h0] at hcount
    unfold Tree.eltDepth
    simp only [depthBound]
    cases hr : b.root with
    | none => simp only [Node.eltDepth]; omega
    | some r =>
      have hdr : embDepthN r ≤ D := by
        simp only [embDepthT, hr] at hd; omega
      have hd := hg.root r hr
      rw [eltDepthC_eq D r hdr] at hd
      simp only [bW, hr, rootW] at hcount
      simp only [Node.eltDepth]
      omega

/-- Longest namespace name of the main table. -/
def nsMax (main : List Lang) : Nat := maxLen langNs main
/-- Longest XML declaration + DOCTYPE line of the main table. -/
def hdrMax (main : List Lang) : Nat := maxLen hdrLen main

/-- The bound on the XML text: `M`, `K`, `H` table constants, `ind` the effective indentation step, `D` one
    more than the number of embedded-document levels, `n` the input length. For fixed `D` a polynomial in
    `n` of degree `D + 1` (compact output) resp. `D + 2` (indented output). -/
def w2xPoly (M K H ind D n : Nat) : Nat :=
  (18 + K) * treeBound M D n + 2 * (ind * (treeBound M D n * depthBound M D n)) + H + 2

theorem langsOk_tree_lang {Q : Lang → Bool} {l : Lang} {cs : Nat} {r : Option Node}
    (h : langsOk Q (.tree (some l) cs r) = true) : Q l = true := by
  cases r with
  | none => simpa only [langsOk] using h
  | some r => simp only [langsOk, Bool.and_eq_true] at h; exact h.1

/-- **The conversion's intermediate objects and its result are bounded, level by level.** -/
theorem wbxml2xml_length_le (cfg : W2XCfg) (bs xml : Bytes) (h : wbxml2xml cfg bs = .ok xml) :
    ∃ t, treeOfWbxml cfg.main (bs.length + 1) cfg.lang cfg.charset bs = .ok t ∧
      treeToXml cfg t.xmlFuel t = .ok xml ∧
      ∀ D, embDepthT t < D →
        t.size ≤ treeBound (tableM cfg.main) D bs.length ∧
        t.eltDepth ≤ depthBound (tableM cfg.main) D bs.length ∧
        xml.length ≤ w2xPoly (tableM cfg.main) (nsMax cfg.main) (hdrMax cfg.main) (indentOf cfg) D bs.length := by
  unfold wbxml2xml at h
  split at h
  · cases h
  · obtain ⟨t, ht, hx⟩ := bind_eq_ok h
    refine ⟨t, ht, hx, ?_⟩
    intro D hD
    have hs := treeOfWbxml_size_le cfg.main D _ _ _ _ _ ht (by omega)
    have hd := treeOfWbxml_eltDepth_le cfg.main D _ _ _ _ _ ht (by omega)
    refine ⟨hs, hd, ?_⟩
    have hK := treeOfWbxml_langs cfg.main (fun l => decide (langNs l ≤ nsMax cfg.main))
      (fun l hl => decide_eq_true (le_maxLen langNs hl)) _ _ _ _ _ ht
    have hH := treeOfWbxml_langs cfg.main (fun l => decide (hdrLen l ≤ hdrMax cfg.main))
      (fun l hl => decide_eq_true (le_maxLen hdrLen hl)) _ _ _ _ _ ht
    obtain ⟨l, hl, hlen⟩ := treeToXml_length_le cfg _ t xml (nsMax cfg.main) hK hx
    rw [hl] at hH
    have hl' : hdrLen l ≤ hdrMax cfg.main := of_decide_eq_true (langsOk_tree_lang hH)
    have e1 : (18 + nsMax cfg.main) * t.size ≤ (18 + nsMax cfg.main) * treeBound (tableM cfg.main) D bs.length :=
      Nat.mul_le_mul_left _ hs
    have e2 := ind_mono (indentOf cfg) hs hd
    unfold w2xPoly
    omega

end Wbxml.Lemmas.W2X
