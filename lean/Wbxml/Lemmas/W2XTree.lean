/-
  C01, bounds, tree half: the tree `treeOfWbxml` builds is bounded by the events of its run, and —
  level by level — by a polynomial in the input length.

  * `sizeC D`: the size of a node where an embedded document nested deeper than `D` levels counts one
    unit (`sizeC_eq`: it is the size when the nesting is at most `D`).
  * `wC ω` / `bW ω`: a weighted count of the nodes the builder holds, an embedded document weighed as a whole
    (`sizeC D` cuts it off at nesting `D`, and nesting is a maximum over the embedded documents, not a sum; the
    count `X2W.wsum` of the XML side adds up what is inside them and so does not serve here);
    `buildStep_w`: a call-back adds at most the budget of its event. With the weights of `sizeC D` and the
    budget "twice the weight of the event, character data charged for the embedded document it may turn into
    (`cc`)" this is the size bound; `W2XDepth` counts elements with it.
  * `treeBound M D n`: `treeBound M 0 n = 0`,
    `treeBound M (D+1) n = 1 + 2 * (n * (n + M + 45 + treeBound M D (2 * n + M + 45)))`.
  * `treeOfWbxml_size_le`: a tree with at most `D - 1` levels of embedded documents built from `n`
    octets has size at most `treeBound M D n` (induction on `D`, any fuel).
  * Languages: every language in the tree is an entry of the main table (`treeOfWbxml_langs`, by `fold_goodB` over the
    class `langsOk_closed`). The printer's bound takes its table constants from this; `langsOk` is defined with that
    bound, which is the one thing this file imports `W2XOut` for.
-/
import Wbxml.Lemmas.W2XSize
import Wbxml.Lemmas.ParserSafeBuild
import Wbxml.Lemmas.W2XOut

namespace Wbxml.Lemmas.W2X
open Wbxml Wbxml.Model Wbxml.Lemmas.ParserSafe Wbxml.Lemmas.TreeBuild

mutual
def sizeC (D : Nat) : Node → Nat
  | .elt n a kids => 1 + n.size + attrsSize a + sizeCL D kids
  | .text s => 1 + s.length
  | .cdata kids => 1 + sizeCL D kids
  | .tree l cs r => if embDepthN (.tree l cs r) ≤ D then (Node.tree l cs r).size else 1
def sizeCL (D : Nat) : List Node → Nat
  | [] => 0
  | n :: rest => sizeC D n + sizeCL D rest
end

mutual
theorem sizeC_eq (D : Nat) : ∀ (n : Node), embDepthN n ≤ D → sizeC D n = n.size
  | .elt name a kids, h => by
    simp only [embDepthN] at h
    rw [sizeC, X2W.size_elt, sizeCL_eq D kids h]
  | .text s, _ => by rw [sizeC, X2W.size_text]
  | .cdata kids, h => by
    simp only [embDepthN] at h
    rw [sizeC, X2W.size_cdata, sizeCL_eq D kids h]
  | .tree l cs r, h => by rw [sizeC, if_pos h]
theorem sizeCL_eq (D : Nat) : ∀ (ns : List Node), embDepthL ns ≤ D → sizeCL D ns = Node.sizeL ns
  | [], _ => by rw [sizeCL, X2W.sizeL_nil]
  | n :: rest, h => by
    simp only [embDepthL] at h
    rw [sizeCL, X2W.sizeL_cons, sizeC_eq D n (by omega), sizeCL_eq D rest (by omega)]
end

/-- What a node weighs by itself; an embedded document is weighed as a whole. Joining two text nodes
    must not add weight. -/
structure WtsC where
  elt : Name → List Attr → Nat
  cdata : Nat
  text : Bytes → Nat
  tree : Option Lang → Nat → Option Node → Nat
  text_append : ∀ t s, text (t ++ s) ≤ text t + text s

mutual
def wC (ω : WtsC) : Node → Nat
  | .elt n a kids => ω.elt n a + wCL ω kids
  | .text s => ω.text s
  | .cdata kids => ω.cdata + wCL ω kids
  | .tree l cs r => ω.tree l cs r
def wCL (ω : WtsC) : List Node → Nat
  | [] => 0
  | n :: rest => wC ω n + wCL ω rest
end

variable (ω : WtsC)

theorem wCL_append : ∀ (a b : List Node), wCL ω (a ++ b) = wCL ω a + wCL ω b
  | [], b => by simp [wCL]
  | n :: a, b => by simp only [List.cons_append, wCL, wCL_append a b]; omega

/-- (`X2W.addKid_w` says the same of `wsum`; to read `wsum ω` as a `wC` takes a conversion lemma longer
    than that proof.) -/
theorem addKid_w (kids : List Node) (n : Node) : wCL ω (addKid kids n) ≤ wCL ω kids + wC ω n := by
  rcases Rt.addKid_cases kids n with ⟨_, e⟩ | ⟨pre, t, s, rfl, rfl, e⟩ <;> rw [e]
  · rw [wCL_append]; simp [wCL]
  · have := ω.text_append t s
    rw [wCL_append, wCL_append]
    simp only [wCL, wC]
    omega

/-! The count of the builder's state, `bW`: what each open frame weighs once closed (`frameW`, `close_w`), summed
    over the stack (`stackW`), plus the root (`rootW`). -/

def kindW : FrameKind → Nat
  | .elt n a => ω.elt n a
  | .cdata => ω.cdata

def frameW (f : Frame) : Nat := kindW ω f.kind + wCL ω f.kids

def stackW : List Frame → Nat
  | [] => 0
  | f :: r => frameW ω f + stackW r

def rootW : Option Node → Nat
  | none => 0
  | some r => wC ω r

def bW (b : BState) : Nat := stackW ω b.stack + rootW ω b.root

theorem close_w (f : Frame) : wC ω f.close = frameW ω f := by
  unfold Frame.close frameW
  split
  · rename_i n a hk; rw [hk]; simp only [wC, kindW]
  · rename_i hk; rw [hk]; simp only [wC, kindW]

theorem attach_w (b : BState) (n : Node) : bW ω (b.attach n) ≤ bW ω b + wC ω n := by
  unfold BState.attach
  split
  · rename_i f rest hs
    have := addKid_w ω f.kids n
    simp only [bW, hs, stackW, frameW]
    omega
  · rename_i hs
    split
    · rename_i hr
      simp only [bW, hs, hr, stackW, rootW]
      omega
    · simp only [bW]; omega

theorem pop_w (b : BState) : bW ω (pop b) ≤ bW ω b := by
  unfold pop
  split
  · rename_i f rest hs
    have := attach_w ω ({ b with stack := rest } : BState) f.close
    rw [close_w] at this
    simp only [bW, hs, stackW] at this ⊢
    omega
  · exact Nat.le_refl _

theorem leaveCdata_w (b : BState) : bW ω b.leaveCdata ≤ bW ω b := by
  rcases leaveCdata_cases b with h | ⟨_, _, _, _, _, h⟩ <;> rw [h]
  · exact Nat.le_refl _
  · exact pop_w ω b

/-- **One call-back adds at most the budget `ew` of its event**, when that covers the element a start tag
    opens, a CDATA node with the text, and the embedded document character data may turn into. -/
theorem buildStep_w (main : List Lang) {emb : Nat → Bytes → Option Tree} {ew : Event → Nat}
    (hstart : ∀ n a, ω.elt n a ≤ ew (.startElt n a)) (htext : ∀ s, ω.cdata + ω.text s ≤ ew (.chars s))
    (htree : ∀ cs s t, emb cs s = some t → ω.tree t.lang t.origCharset t.root ≤ ew (.chars s))
    (b : BState) (e : Event) : bW ω (buildStep main emb b e) ≤ bW ω b + ew e := by
  have hl := leaveCdata_w ω b
  have hs := buildStep_step main emb b e
  generalize buildStep main emb b e = b' at hs ⊢
  cases hs with
  | stay | fail | doc => exact Nat.le_add_right _ _
  | start n a =>
    have := hstart n a
    simp only [bW, push, stackW, frameW, kindW, wCL] at hl ⊢
    omega
  | end_ => have := pop_w ω b.leaveCdata; omega
  | chars s n _ _ hn =>
    have := attach_w ω b n
    have := htext s
    rcases hn with ⟨rfl, _⟩ | ⟨_, t, ht, rfl⟩
    · simp only [wC] at *; omega
    · have := htree _ _ _ ht; simp only [wC] at *; omega
  | cdata s =>
    have := attach_w ω (push b .cdata) (.text s)
    have := htext s
    simp only [wC, bW, push, stackW, frameW, kindW, wCL] at *
    omega

theorem fold_w (main : List Lang) {emb : Nat → Bytes → Option Tree} {ew : Event → Nat}
    (hstart : ∀ n a, ω.elt n a ≤ ew (.startElt n a)) (htext : ∀ s, ω.cdata + ω.text s ≤ ew (.chars s))
    (htree : ∀ cs s t, emb cs s = some t → ω.tree t.lang t.origCharset t.root ≤ ew (.chars s)) :
    ∀ (es : List Event) (b : BState), bW ω (es.foldl (buildStep main emb) b) ≤ bW ω b + evSum ew es
  | [], b => Nat.le_refl _
  | e :: es, b => by
    have h1 := buildStep_w ω main hstart htext htree b e
    have h2 := fold_w main hstart htext htree es (buildStep main emb b e)
    rw [List.foldl_cons]
    simp only [evSum]
    omega

def sizeWts (D : Nat) : WtsC where
  elt n a := 1 + n.size + attrsSize a
  cdata := 1
  text s := 1 + s.length
  tree l cs r := sizeC D (.tree l cs r)
  text_append t s := by simp only [List.length_append]; omega

mutual
theorem wC_size (D : Nat) : ∀ (n : Node), wC (sizeWts D) n = sizeC D n
  | .elt n a kids => by rw [wC, sizeC, wCL_size D kids]; rfl
  | .text s => by rw [wC, sizeC]; rfl
  | .cdata kids => by rw [wC, sizeC, wCL_size D kids]; rfl
  | .tree l cs r => by rw [wC]; rfl
theorem wCL_size (D : Nat) : ∀ (ns : List Node), wCL (sizeWts D) ns = sizeCL D ns
  | [] => rfl
  | n :: rest => by simp only [wCL, sizeCL, wC_size D n, wCL_size D rest]
end

/-- What the embedded-document reader hands back weighs at most `1 + cc payload`. -/
def EmbSize (D : Nat) (emb : Nat → Bytes → Option Tree) (cc : Bytes → Nat) : Prop :=
  ∀ cs s t, emb cs s = some t → sizeC D (.tree t.lang t.origCharset t.root) ≤ 1 + cc s

theorem evSum_twice (cc : Bytes → Nat) : ∀ es, evSum (fun e => 2 * pevSize1 cc e) es = 2 * pevSize cc es
  | [] => rfl
  | e :: es => by simp only [evSum, pevSize, evSum_twice cc es]; omega

/-- **A run of the builder adds at most twice the weight of its events.** -/
theorem fold_sizeC (D : Nat) (main : List Lang) (emb : Nat → Bytes → Option Tree) (cc : Bytes → Nat)
    (hemb : EmbSize D emb cc) (es : List Event) (b : BState) :
    bW (sizeWts D) (es.foldl (buildStep main emb) b) ≤ bW (sizeWts D) b + 2 * pevSize cc es := by
  rw [← evSum_twice]
  refine fold_w (sizeWts D) main (fun n a => ?_) (fun s => ?_) (fun cs s t ht => ?_) es b
  · simp only [sizeWts, pevSize1]; omega
  · simp only [sizeWts, pevSize1]; omega
  · have := hemb _ _ _ ht
    simp only [sizeWts, pevSize1]; omega

/-- Size bound of a tree with fewer than `D` levels of embedded documents built from `n` octets;
    `M` is the table constant. A polynomial of degree `D + 1` in `n` for every fixed `D`. -/
def treeBound (M : Nat) : Nat → Nat → Nat
  | 0, _ => 0
  | D + 1, n => 1 + 2 * (n * (n + M + 45 + treeBound M D (2 * n + M + 45)))

theorem treeBound_mono (M : Nat) : ∀ (D : Nat) {n n' : Nat}, n ≤ n' → treeBound M D n ≤ treeBound M D n'
  | 0, _, _, _ => Nat.le_refl _
  | D + 1, n, n', h => by
    have ih := treeBound_mono M D (n := 2 * n + M + 45) (n' := 2 * n' + M + 45) (by omega)
    have := Nat.mul_le_mul h (show n + M + 45 + treeBound M D (2 * n + M + 45) ≤
      n' + M + 45 + treeBound M D (2 * n' + M + 45) by omega)
    simp only [treeBound]
    omega

theorem tree_size_eq (t : Tree) : t.size = (Node.tree t.lang t.origCharset t.root).size := rfl

/-- **Tree ≤ polynomial of the input, per nesting level.** A tree the tree stage delivers — any fuel,
    any tables — with fewer than `D` levels of embedded documents has size at most
    `treeBound (tableM main) D bs.length`. -/
theorem treeOfWbxml_size_le (main : List Lang) : ∀ (D f lang cs : Nat) (bs : Bytes) (t : Tree),
    treeOfWbxml main f lang cs bs = .ok t → embDepthT t + 1 ≤ D → t.size ≤ treeBound (tableM main) D bs.length
  | 0, _, _, _, _, _, _, hd => by omega
  | D + 1, f, lang, cs, bs, t, h, hd => by
    obtain ⟨f', b, rfl, _, hb, _, rfl⟩ := treeOfWbxml_ok h
    have hemb : EmbSize D (embOf main f') (fun s => treeBound (tableM main) D s.length) := by
      intro cs' s t' ht'
      rw [sizeC]
      split
      · rename_i hle
        rw [embDepthN_tree] at hle
        have := treeOfWbxml_size_le main D f' 0 cs' s _ (embOf_some ht') hle
        rw [← tree_size_eq]; dsimp only; omega
      · dsimp only; omega
    have hfold := fold_sizeC D main _ _ hemb
      (parse { main := main, langForced := lang, metaCharset := cs } bs).events {}
    rw [hb] at hfold
    have hev := parse_pevSizeG_le { main := main, langForced := lang, metaCharset := cs } bs
      (fun s => treeBound (tableM main) D s.length) (treeBound (tableM main) D (2 * bs.length + tableM main + 45))
      (fun b hb => treeBound_mono _ D hb)
    have h0 : bW (sizeWts D) ({} : BState) = 0 := rfl
    dsimp only at hev
    rw [tree_size_eq]
    simp only [treeBound]
    cases hr : b.root with
    | none => rw [X2W.size_tree_none]; omega
    | some r =>
      rw [X2W.size_tree_some]
      have hdr : embDepthN r ≤ D := by
        simp only [embDepthT, hr] at hd; omega
      have : wC (sizeWts D) r ≤ bW (sizeWts D) b := by
        simp only [bW, hr, rootW]; omega
      rw [wC_size, sizeC_eq D r hdr] at this
      omega

theorem buildStep_langOk (main : List Lang) (emb : Nat → Bytes → Option Tree) (b : BState) (e : Event)
    (h : ∀ l, b.lang = some l → l ∈ main) : ∀ l, (buildStep main emb b e).lang = some l → l ∈ main := by
  rcases buildStep_lang_cases main emb b e with ⟨hl, _⟩ | ⟨_, _, _, hl, _⟩ <;> rw [hl]
  · exact h
  · exact fun l hl => List.mem_of_find?_eq_some hl

theorem fold_langOk (main : List Lang) (emb : Nat → Bytes → Option Tree) (es : List Event) (b : BState)
    (h : ∀ l, b.lang = some l → l ∈ main) : ∀ l, (es.foldl (buildStep main emb) b).lang = some l → l ∈ main :=
  List.foldlRecOn es _ h fun b hb e _ => buildStep_langOk main emb b e hb

theorem langsOk_closed (Q : Lang → Bool) : Closed (fun n => langsOk Q n = true) :=
  ⟨fun _ => rfl,
   fun _ _ kids h => by simp only [langsOk]; exact (langsOkL_iff Q kids).2 h,
   fun kids h => by simp only [langsOk]; exact (langsOkL_iff Q kids).2 h⟩

theorem langsOk_tree (Q : Lang → Bool) (l : Option Lang) (cs : Nat) (r : Option Node)
    (hl : ∀ x, l = some x → Q x = true) (hr : ∀ x, r = some x → langsOk Q x = true) :
    langsOk Q (.tree l cs r) = true := by
  cases l with
  | none =>
    cases r with
    | none => rfl
    | some r => simp only [langsOk]; exact hr r rfl
  | some l =>
    cases r with
    | none => simp only [langsOk]; exact hl l rfl
    | some r => simp only [langsOk, Bool.and_eq_true]; exact ⟨hl l rfl, hr r rfl⟩

/-- **Every language in a delivered tree — the document's and the embedded documents' — is an entry of
    the main table** (stated for any property `Q` of its entries). -/
theorem treeOfWbxml_langs (main : List Lang) (Q : Lang → Bool) (hQ : ∀ l ∈ main, Q l = true) :
    ∀ (f lang cs : Nat) (bs : Bytes) (t : Tree), treeOfWbxml main f lang cs bs = .ok t →
      langsOk Q (.tree t.lang t.origCharset t.root) = true
  | 0, _, _, _, _, h => by simp [treeOfWbxml] at h
  | f' + 1, lang, cs, bs, t, h => by
    obtain ⟨_, b, ⟨⟩, _, hb, _, rfl⟩ := treeOfWbxml_ok h
    have hg : GoodB (fun n => langsOk Q n = true) b := hb ▸ fold_goodB main _ (langsOk_closed Q) (Q := fun _ => True)
      (fun cs' s t' _ ht' => treeOfWbxml_langs main Q hQ f' 0 cs' s t' (embOf_some ht')) _ goodB_init fun _ _ => trivial
    have hlang := fold_langOk main (embOf main f')
      (parse { main := main, langForced := lang, metaCharset := cs } bs).events {} (fun l hl => by cases hl)
    rw [hb] at hlang
    exact langsOk_tree Q _ _ _ (fun x hx => hQ x (hlang x hx)) hg.root

end Wbxml.Lemmas.W2X
