/-
  WBXML encoder proofs: option tuples that run the same node walk (C07).

  * Grammar side: the events the specification assigns to a well-formed element depend on the
    reader context only through the language and the strings the string table holds at the indices
    the element uses (`CtxAgree`, `evElem_congr` — a mutual structural induction over `Spec.Elem`).
  * Appending entries to a string table (the textual public identifier `wbxml_fill_header` adds)
    does not change what the earlier indices denote (`strAt_append`).
  * Encoder side: two option tuples with the same white-space options and the same EFFECTIVE
    string-table switch run the same node walk from the same initial state — `produce_anonymous` is
    read by the header only, the version by the header and by embedded documents (`sameWalk`).
-/
import Wbxml.Lemmas.EncWDoc
namespace Wbxml.Lemmas.EncW
open Wbxml Wbxml.Model Wbxml.Spec Wbxml.Lemmas.ParseSer
open Wbxml.Model.Codec (mbEncode)

/-- `b` reads every string-table index below the length of `a`'s table as `a` does: `b`'s table may be
    longer (the header's table is the body's plus the textual public identifier), the charsets may differ. -/
structure CtxAgree (a b : Ctx) : Prop where
  lang : a.lang = b.lang
  str : ∀ off, off < a.tbl.length → strAt a.tbl off = strAt b.tbl off

theorem strText_congr {a b : Ctx} (h : CtxAgree a b) (s : Str) (hw : wfStr a s = true) : strText a s = strText b s := by
  cases s with
  | inl s => rfl
  | tbl off =>
    simp only [wfStr, Bool.and_eq_true, decide_eq_true_eq] at hw
    exact h.str off hw.2

theorem extText_congr {a b : Ctx} (h : CtxAgree a b) (x : Ext) (hw : wfExt a x = true) : extText a x = extText b x := by
  cases x with
  | inl k s => simp only [extText, h.lang]
  | tok k => rfl
  | tbl k v =>
    simp only [extText, ← h.lang]
    by_cases hwml : isWml a.lang.id = true
    · simp only [wfExt, hwml, ↓reduceIte, Bool.and_eq_true, decide_eq_true_eq] at hw
      simp only [hwml, ↓reduceIte, h.str v hw.2.2]
    · simp only [hwml, Bool.false_eq_true, ↓reduceIte]

theorem avalText_congr {a b : Ctx} (h : CtxAgree a b) (ap : Nat) (v : AVal) (hw : wfAVal a ap v = true) :
    avalText a ap v = avalText b ap v := by
  cases v with
  | tok sw t => simp only [avalText, valRow, h.lang]
  | str s => simp only [avalText, strText_congr h s hw]
  | entity c => rfl
  | «opaque» d => simp only [avalText, opaqueAttrText, h.lang]
  | ext sw x =>
    simp only [wfAVal, Bool.and_eq_true] at hw
    simp only [avalText, extText_congr h x hw.2]

theorem avalsText_congr {a b : Ctx} (h : CtxAgree a b) (ap : Nat) (vs : List AVal) (hw : wfAVals a ap vs = true) :
    avalsText a ap vs = avalsText b ap vs := by
  induction vs generalizing ap with
  | nil => rfl
  | cons v vs ih =>
    simp only [wfAVals, Bool.and_eq_true] at hw
    simp only [avalsText, ← avalText_congr h ap v hw.1, ih _ hw.2]

theorem astartName_congr {a b : Ctx} (h : CtxAgree a b) (ap : Nat) (s : AStart) (hw : wfAStart a ap s = true) :
    astartName a ap s = astartName b ap s := by
  cases s with
  | tok sw t => simp only [astartName, attrRow, h.lang]
  | lit off =>
    simp only [wfAStart, Bool.and_eq_true, decide_eq_true_eq] at hw
    simp only [astartName, h.str off hw.2]

theorem isDatetimeAttr_congr {a b : Ctx} (h : CtxAgree a b) (n : AName) : isDatetimeAttr a n = isDatetimeAttr b n := by
  cases n with
  | token r => simp only [isDatetimeAttr, h.lang]
  | literal s => rfl

theorem evPi_congr {a b : Ctx} (h : CtxAgree a b) (ap : Nat) (x : Attribute) (hw : wfPi a ap x = true) :
    evPi a ap x = evPi b ap x := by
  simp only [wfPi, Bool.and_eq_true] at hw
  simp only [evPi, ← astartName_congr h ap x.start hw.1, ← avalsText_congr h _ x.vals hw.2]

theorem evAttr_congr {a b : Ctx} (h : CtxAgree a b) (ap : Nat) (x : Attribute) (hw : wfAttr a ap x = true) :
    evAttr a ap x = evAttr b ap x := by
  simp only [wfAttr, wfPi, Bool.and_eq_true] at hw
  simp only [evAttr, ← astartName_congr h ap x.start hw.1.1, ← avalsText_congr h _ x.vals hw.1.2,
    attrValueText, isDatetimeAttr_congr h]

theorem evAttrs_congr {a b : Ctx} (h : CtxAgree a b) (ap : Nat) (xs : List Attribute) (hw : wfAttrs a ap xs = true) :
    evAttrs a ap xs = evAttrs b ap xs := by
  induction xs generalizing ap with
  | nil => rfl
  | cons x xs ih =>
    simp only [wfAttrs, Bool.and_eq_true] at hw
    simp only [evAttrs, ← evAttr_congr h ap x hw.1, ih _ hw.2]

theorem tagName_congr {a b : Ctx} (h : CtxAgree a b) (tp : Nat) (t : Tag) (hw : wfTag a tp t = true) :
    tagName a tp t = tagName b tp t := by
  cases t with
  | tok t => simp only [tagName, tagRow, h.lang]
  | lit off =>
    simp only [wfTag, Bool.and_eq_true, decide_eq_true_eq] at hw
    simp only [tagName, h.str off hw.2]

mutual
theorem evElem_congr {a b : Ctx} (h : CtxAgree a b) : ∀ (e : Elem) (slot : Option TagRow) (pg : Pages),
    wfElem a slot pg e = true → evElem a pg e = evElem b pg e
  | .mk sw tag attrs content, slot, pg, hw => by
    rw [wfElem_mk] at hw
    simp only [Bool.and_eq_true] at hw
    obtain ⟨⟨⟨_, ht⟩, ha⟩, hc⟩ := hw
    have e1 := tagName_congr h (swPage sw pg.tag) tag ht
    have e2 := evAttrs_congr h pg.attr attrs ha
    have e3 := evContent_congr h content _ _ _ hc
    rw [evElem_mk, evElem_mk, ← e1, ← e2, ← e3]
theorem evContent_congr {a b : Ctx} (h : CtxAgree a b) : ∀ (c : Option (List Item)) (own slot : Option TagRow) (pg : Pages),
    wfContent a own slot pg c = true → evContent a own pg c = evContent b own pg c
  | none, own, slot, pg, _ => by rw [evContent_none, evContent_none]
  | some items, own, slot, pg, hw => by
    rw [wfContent_some] at hw
    rw [evContent_some, evContent_some]
    exact evItems_congr h items own slot pg hw
theorem evItems_congr {a b : Ctx} (h : CtxAgree a b) : ∀ (l : List Item) (own slot : Option TagRow) (pg : Pages),
    wfItems a own slot pg l = true → evItems a own pg l = evItems b own pg l
  | [], own, slot, pg, _ => by rw [evItems_nil, evItems_nil]
  | it :: rest, own, slot, pg, hw => by
    rw [wfItems_cons, Bool.and_eq_true] at hw
    have e1 := evItem_congr h it own slot pg hw.1
    have e2 := evItems_congr h rest own _ _ hw.2
    rw [evItems_cons, evItems_cons, ← e1, ← e2]
theorem evItem_congr {a b : Ctx} (h : CtxAgree a b) : ∀ (it : Item) (own slot : Option TagRow) (pg : Pages),
    wfItem a own slot pg it = true → evItem a own pg it = evItem b own pg it
  | .elem e, own, slot, pg, hw => by
    rw [wfItem_elem] at hw
    rw [evItem_elem, evItem_elem]
    exact evElem_congr h e slot pg hw
  | .str s, own, slot, pg, hw => by
    rw [wfItem_str] at hw
    rw [evItem_str, evItem_str, strText_congr h s hw]
  | .entity code, own, slot, pg, _ => by rw [evItem_entity, evItem_entity]
  | .opaque d, own, slot, pg, _ => by simp only [evItem_opaque, opaqueText, h.lang]
  | .ext sw x, own, slot, pg, hw => by
    rw [wfItem_ext, Bool.and_eq_true] at hw
    rw [evItem_ext, evItem_ext, extText_congr h x hw.2]
  | .pi x, own, slot, pg, hw => by
    rw [wfItem_pi] at hw
    rw [evItem_pi, evItem_pi, evPi_congr h pg.attr x hw]
end

theorem strtblBytes_last (tbl : List StrEntry) : strtblBytes tbl = [] ∨ (strtblBytes tbl).getLast? = some 0 := by
  induction tbl with
  | nil => exact Or.inl rfl
  | cons e es ih =>
    right
    rw [strtblBytes_cons, List.getLast?_append]
    rcases ih with ih | ih
    · rw [ih]; simp
    · rw [ih]; rfl

theorem strAt_append (t x : Bytes) (hl : t = [] ∨ t.getLast? = some 0) (off : Nat) (ho : off < t.length) :
    strAt t off = strAt (t ++ x) off := by
  have hmem : (0 : UInt8) ∈ t.drop off := by
    rcases hl with hl | hl
    · subst hl; simp at ho
    · apply List.mem_of_getLast?
      rw [List.getLast?_drop]
      simp only [hl, ite_eq_right_iff]
      intro hle; omega
  -- `strAt` is the C string at `off`, and that ends at the NUL inside `t`
  unfold strAt
  rw [List.drop_append_of_le_length (Nat.le_of_lt ho), ← cstrLen_take, ← cstrLen_take]
  show cstrOf (t.drop off) = cstrOf (t.drop off ++ x)
  rw [cstrOf_append, if_neg]
  simp only [nulFree, List.all_eq_true, bne_iff_ne, ne_eq]
  exact fun h => h 0 hmem rfl

theorem finalTbl_bytes (c : WCfg) (st : WSt) (hno : c.useStrtbl = false → st.strtbl = []) :
    ∃ x, strtblBytes (finalTbl c st) = strtblBytes st.strtbl ++ x := by
  cases hu : c.useStrtbl with
  | true =>
    obtain ⟨t, ht⟩ := finalTbl_prefix c st hu
    exact ⟨strtblBytes t, by rw [← ht, strtblBytes_append]⟩
  | false => exact ⟨_, by rw [hno hu, strtblBytes_nil, List.nil_append]⟩

theorem ctxAgree_final (c : WCfg) (st : WSt) (hno : c.useStrtbl = false → st.strtbl = []) (lang : Lang) (cs cs' : Nat) :
    CtxAgree { lang := lang, charset := cs, tbl := strtblBytes st.strtbl }
      { lang := lang, charset := cs', tbl := strtblBytes (finalTbl c st) } := by
  obtain ⟨x, hx⟩ := finalTbl_bytes c st hno
  refine ⟨rfl, ?_⟩
  intro off ho
  show strAt (strtblBytes st.strtbl) off = strAt (strtblBytes (finalTbl c st)) off
  rw [hx]
  exact strAt_append _ x (strtblBytes_last _) off ho

/-- The two parameter blocks make `wbxml_tree_to_wbxml` run the same node walk: same white-space
    options and the same string-table switch after the language switch of `encoder_encode_tree`
    (Wireless Village and OTA settings never use a string table, whatever was asked for). -/
def sameWalk (cfg₁ cfg₂ : X2WCfg) (lang : Lang) : Bool :=
  (cfg₁.keepWs == cfg₂.keepWs) && ((dcfgOf cfg₁ lang).useStrtbl == (dcfgOf cfg₂ lang).useStrtbl)

theorem dcfgOf_core_version (cfg₁ cfg₂ : X2WCfg) (lang : Lang) (h : sameWalk cfg₁ cfg₂ lang = true) :
    core (dcfgOf cfg₂ lang) = core { dcfgOf cfg₁ lang with version := cfg₂.version } := by
  simp only [sameWalk, Bool.and_eq_true, beq_iff_eq] at h
  obtain ⟨hk, hu⟩ := h
  obtain ⟨h1, h2⟩ := dcfgOf_view_eq cfg₁ cfg₂ hk lang
  simp only [core, dcfgOf_lang, dcfgOf_version, h1, h2, hu]

theorem sameWalk_run (cfg₁ cfg₂ : X2WCfg) (lang : Lang) (r : Node) (h : sameWalk cfg₁ cfg₂ lang = true)
    (hn : noNested r = true ∨ cfg₁.version = cfg₂.version) :
    encNodeG (dcfgOf cfg₂ lang) none true r (docStartW (dcfgOf cfg₂ lang) r) =
      encNodeG (dcfgOf cfg₁ lang) none true r (docStartW (dcfgOf cfg₁ lang) r) := by
  have hc := dcfgOf_core_version cfg₁ cfg₂ lang h
  rw [docStartW_core _ _ hc, encNodeG_eq_of_core _ _ hc, docStartW_version]
  rcases hn with hn | hv
  · exact encNodeG_version cfg₂.version _ _ _ _ _ hn
  · have : ({ dcfgOf cfg₁ lang with version := cfg₂.version } : WCfg) = dcfgOf cfg₁ lang := by
      rw [← hv, ← dcfgOf_version cfg₁ lang]
    rw [this]

/-- **Option tuples with the same node walk differ in the header only.** Under `sameWalk` (and without
    embedded documents when the versions differ) the second run reaches the final encoder state of
    the first: the outputs are the two headers over one state and one body, and a run that fails,
    fails identically. The statements about a single option (version, public identifier) are
    instances. -/
theorem treeToWbxml_sameWalk (cfg₁ cfg₂ : X2WCfg) (t : Tree)
    (hsw : ∀ lang, t.lang = some lang → sameWalk cfg₁ cfg₂ lang = true)
    (hn : (∀ r, t.root = some r → noNested r = true) ∨ cfg₁.version = cfg₂.version) :
    (∀ bs, treeToWbxml cfg₁ t = .ok bs → ∃ lang st, t.lang = some lang ∧
      bs = serHeader (hdrOf (dcfgOf cfg₁ lang) st) ++ st.out ∧
      treeToWbxml cfg₂ t = .ok (serHeader (hdrOf (dcfgOf cfg₂ lang) st) ++ st.out)) ∧
    (∀ e, treeToWbxml cfg₁ t = .error e → treeToWbxml cfg₂ t = .error e) := by
  rw [treeToWbxml_eq cfg₁, treeToWbxml_eq cfg₂]
  cases hl : t.lang with
  | none => exact ⟨fun _ h => (nomatch h), fun _ h => h⟩
  | some lang =>
    cases hr : t.root with
    | none => exact ⟨fun _ h => (nomatch h), fun _ h => h⟩
    | some r =>
      have hsw := hsw lang hl
      simp only
      rw [sameWalk_run cfg₁ cfg₂ lang r hsw (hn.imp (· r hr) id)]
      cases hrun : encNodeG (dcfgOf cfg₁ lang) none true r (docStartW (dcfgOf cfg₁ lang) r) with
      | error e' => exact ⟨fun _ h => (nomatch h), fun _ h => h⟩
      | ok st =>
        obtain ⟨hinv, hno⟩ := doc_final_inv _ r st hrun
        have hu : (dcfgOf cfg₂ lang).useStrtbl = (dcfgOf cfg₁ lang).useStrtbl := by
          simp only [sameWalk, Bool.and_eq_true, beq_iff_eq] at hsw; exact hsw.2.symm
        refine ⟨fun bs h => ⟨lang, st, rfl, ?_, ?_⟩, fun _ h => (nomatch h)⟩
        · injection h with h
          rw [← h, fillHeaderW_ser _ _ hinv hno]
        · show Except.ok _ = _
          rw [fillHeaderW_ser _ _ hinv (by rw [hu]; exact hno)]

/-- The reader context that carries exactly the string table the body built. -/
def bodyCtx (lang : Lang) (st : WSt) : Ctx := { lang := lang, charset := 106, tbl := strtblBytes st.strtbl }

theorem DocRes.compat_body {cfg lang r bs d st} (h : DocRes cfg lang r bs d st) :
    Compat (dcfgOf cfg lang) st.strtbl (bodyCtx lang st) :=
  ⟨by simp [bodyCtx], rfl, fun _ he => offset_lt_of_offs h.inv.offs he⟩

theorem evElem_bodyCtx {lang : Lang} {st : WSt} {e : Elem}
    (hw : wfElem (bodyCtx lang st) none ⟨0, 0⟩ e = true)
    (c' : WCfg) (hno : c'.useStrtbl = false → st.strtbl = []) (pcfg : PCfg) :
    evElem (headerCtx pcfg (hdrOf c' st) lang) ⟨0, 0⟩ e = evElem (bodyCtx lang st) ⟨0, 0⟩ e := by
  have hag : CtxAgree (bodyCtx lang st) (headerCtx pcfg (hdrOf c' st) lang) := by
    have := ctxAgree_final c' st hno lang 106 (headerCharset pcfg (hdrOf c' st))
    have e : Spec.tblBytes (hdrOf c' st).strtbl = strtblBytes (finalTbl c' st) := tblBytes_map _
    simp only [headerCtx, e]
    exact this
  exact (evElem_congr hag e none ⟨0, 0⟩ hw).symm

/-- **Same node walk ⇒ same body, and the same events for every pair of readers.** Let the first
    run (`DocRes` for `cfg₁`) have written `d₁`. A second option tuple with the same white-space
    options and the same effective string-table switch (any version — without embedded documents —,
    with or without public identifier) writes `Spec.ser d₂` where `d₂` is `d₁` with the second
    header; `d₂` is well-formed for every reader whose header look-up selects the language, and the
    events of the two documents differ in the `startDoc` event only. -/
theorem DocRes.sameWalk {cfg₁ lang r bs₁ d₁ st} (h : DocRes cfg₁ lang r bs₁ d₁ st) (hl : langOk lang = true)
    (htl : typedLangOk lang = true)
    (h1 : noCdataInTyped lang false r = true) (h2 : validDatetimeAttrs lang r = true)
    (h3 : b64TextDecodes (dcfgOf cfg₁ lang) none r = true)
    (h4 : keyValueTextFirst (dcfgOf cfg₁ lang) none true r = true)
    (cfg₂ : X2WCfg) (t : Tree) (bs₂ : Bytes) (hlang : t.lang = some lang) (hroot : t.root = some r)
    (hsw : sameWalk cfg₁ cfg₂ lang = true) (hn : noNested r = true ∨ cfg₁.version = cfg₂.version)
    (hrun₂ : treeToWbxml cfg₂ t = .ok bs₂) :
    ∃ d₂ : Doc, bs₂ = Spec.ser d₂ ∧ d₂.root = d₁.root ∧ d₂.hdr = hdrOf (dcfgOf cfg₂ lang) st ∧
      ∀ p₁ p₂ : PCfg, headerLang p₁ d₁.hdr = some lang → headerLang p₂ d₂.hdr = some lang →
        (headerCharset p₂ d₂.hdr = 3 ∨ headerCharset p₂ d₂.hdr = 106) →
        p₂.charsets.contains (headerCharset p₂ d₂.hdr) = true →
        cfg₂.version < 256 → bs₁.length < 4294967296 → bs₂.length < 4294967296 →
        d₂.WF p₂ ∧ ∃ evs : List Event,
          Spec.events p₁ d₁ = .startDoc (headerCharset p₁ d₁.hdr) lang.id :: (evs ++ [.endDoc]) ∧
          Spec.events p₂ d₂ = .startDoc (headerCharset p₂ d₂.hdr) lang.id :: (evs ++ [.endDoc]) := by
  obtain ⟨lang', r', st', hl', hr', hrun', hbs'⟩ := treeToWbxml_ok hrun₂
  rw [hlang] at hl'; injection hl' with hl'; subst hl'
  rw [hroot] at hr'; injection hr' with hr'; subst hr'
  rw [sameWalk_run cfg₁ cfg₂ lang r hsw hn, h.run] at hrun'
  injection hrun' with hrun'; subst hrun'
  have hu : (dcfgOf cfg₂ lang).useStrtbl = (dcfgOf cfg₁ lang).useStrtbl := by
    simp only [EncW.sameWalk, Bool.and_eq_true, beq_iff_eq] at hsw; exact hsw.2.symm
  have hno₂ : (dcfgOf cfg₂ lang).useStrtbl = false → st.strtbl = [] := fun hf => h.no (by rw [← hu]; exact hf)
  have hout : st.out = serElem d₁.root := by
    have := h.body.out
    rw [(docStartW_fields _ r).out, List.nil_append, serItems_single, serItem_elem] at this
    exact this
  refine ⟨{ hdr := hdrOf (dcfgOf cfg₂ lang) st, pre := [], root := d₁.root, post := [] }, ?_, rfl, rfl, ?_⟩
  · rw [hbs', fillHeaderW_ser _ _ h.inv hno₂]
    simp [Spec.ser, serBody, serPis, hout]
  intro p₁ p₂ a₁ a₂ b₂ c₂ v₂ s₁ s₂
  have hsz₁ : (serElem d₁.root).length < 4294967296 := Nat.lt_of_le_of_lt h.root_le s₁
  have hw0 := h.wfAt htl h1 h2 h3 h4 hsz₁ (bodyCtx lang st) h.compat_body
  have hcompat₂ : Compat (dcfgOf cfg₁ lang) st.strtbl (headerCtx p₂ (hdrOf (dcfgOf cfg₂ lang) st) lang) := by
    have := compat_header (dcfgOf cfg₁ lang) (dcfgOf cfg₂ lang) st h.inv hno₂ p₂ b₂
    rw [dcfgOf_lang] at this
    exact this
  have hw₂ := h.wfAt htl h1 h2 h3 h4 hsz₁ _ hcompat₂
  have e₁ := evElem_bodyCtx hw0 (dcfgOf cfg₁ lang) h.no p₁
  have e₂ := evElem_bodyCtx hw0 (dcfgOf cfg₂ lang) hno₂ p₂
  refine ⟨?_, (evElem (bodyCtx lang st) ⟨0, 0⟩ d₁.root).1, ?_, ?_⟩
  · exact doc_wf_of_root _ st h.inv (by rw [dcfgOf_lang]; exact hl) d₁.root bs₂ _
      (by rw [hbs', fillHeaderW_ser _ _ h.inv hno₂]) s₂ (by rw [dcfgOf_version]; exact v₂) p₂ lang a₂ b₂ c₂ hw₂
  · rw [events_root p₁ d₁ lang a₁ h.pre h.post, h.hdr, e₁]
  · rw [events_root p₂ _ lang a₂ rfl rfl, e₂]

end Wbxml.Lemmas.EncW
