/-
  C16 — the ledger monad: the monad laws of `Prog`; what holds of every run (`run_bind`, `Later` with
  `run_later`, `run_nohit`: each by the induction principle of `run`); the specification predicates
  `Good`, `Clean`, `Owns`; and the specifications of the four primitives.
-/
import Wbxml.Model.Alloc
namespace Wbxml.Model.Alloc
open Wbxml

@[simp] theorem bind_eq (p : Prog α) (f : α → Prog β) : (p >>= f) = Prog.bind p f := rfl
@[simp] theorem pure_eq (a : α) : (pure a : Prog α) = Prog.ret a := rfl

theorem Prog.bind_assoc (p : Prog α) (f : α → Prog β) (g : β → Prog γ) :
    (p.bind f).bind g = p.bind (fun a => (f a).bind g) := by
  induction p with
  | ret a => rfl
  | malloc k ih => simp only [Prog.bind]; congr 1; funext q; exact ih q
  | realloc q k ih => simp only [Prog.bind]; congr 1; funext q; exact ih q
  | free q k ih => simp only [Prog.bind]; congr 1
  | deref q k ih => simp only [Prog.bind]; congr 1
  | ub w => rfl

theorem Prog.bind_ret (p : Prog α) : p.bind Prog.ret = p := by
  induction p with
  | ret a => rfl
  | malloc k ih => simp only [Prog.bind]; congr 1; funext q; exact ih q
  | realloc q k ih => simp only [Prog.bind]; congr 1; funext q; exact ih q
  | free q k ih => simp only [Prog.bind]; congr 1
  | deref q k ih => simp only [Prog.bind]; congr 1
  | ub w => rfl

/- The cases of the inductions on `run` are its branches, in the order of its definition. -/

theorem run_bind (p : Prog α) (f : α → Prog β) (s : Ledger) :
    run (Prog.bind p f) s =
      match run p s with
      | (.ok a, s') => run (f a) s'
      | (.error e, s') => (.error e, s') := by
  fun_induction run p s with
  | case1 a s => rfl
  | case2 k s n h ih => simpa only [Prog.bind, run, n, h, if_true] using ih
  | case3 k s n h ih => simpa only [Prog.bind, run, n, h, Bool.false_eq_true, if_false] using ih
  | case4 p k s n h ih => simpa only [Prog.bind, run, n, h, if_true] using ih
  | case5 k s n h ih => simpa only [Prog.bind, run, n, h, Bool.false_eq_true, if_false] using ih
  | case6 k s n h a ha ih => simpa only [Prog.bind, run, n, h, ha, Bool.false_eq_true, if_false, if_true] using ih
  | case7 k s n h a ha => simp only [Prog.bind, run, n, h, ha, Bool.false_eq_true, if_false]
  | case8 k s ih => simpa only [Prog.bind, run] using ih
  | case9 a k s ha ih => simpa only [Prog.bind, run, ha, if_true] using ih
  | case10 a k s ha => simp only [Prog.bind, run, ha, if_false]
  | case11 k s => rfl
  | case12 a k s ha ih => simpa only [Prog.bind, run, ha, if_true] using ih
  | case13 a k s ha => simp only [Prog.bind, run, ha, if_false]
  | case14 w s => rfl

/-- What holds between the ledger before and after any run (`run_later`).  `window` is the link
    between request numbers and `hits`: a failure has been delivered exactly when a request of the
    run's window was scheduled to fail. -/
structure Later (s s' : Ledger) : Prop where
  sched : s'.sched = s.sched
  next : s.next ≤ s'.next
  hits : s.hits ≤ s'.hits
  wf : s.WF → s'.WF
  window : s.hits < s'.hits ↔ ∃ k, s.fails k = true ∧ s.next < k ∧ k ≤ s'.next

theorem Later.refl (s : Ledger) : Later s s :=
  ⟨rfl, Nat.le_refl _, Nat.le_refl _, id, ⟨fun h => absurd h (Nat.lt_irrefl _), fun ⟨_, _, a, b⟩ => by omega⟩⟩

/-- `h1`, then `h2`; in this order the middle ledger is read off the induction hypothesis. -/
theorem Later.after {s s1 s2 : Ledger} (h2 : Later s1 s2) (h1 : Later s s1) : Later s s2 := by
  have hf : ∀ k, s1.fails k = s.fails k := fun k => by simp only [Ledger.fails, h1.sched]
  have n1 := h1.next; have n2 := h2.next; have b1 := h1.hits; have b2 := h2.hits
  refine ⟨h2.sched.trans h1.sched, Nat.le_trans n1 n2, Nat.le_trans b1 b2, fun w => h2.wf (h1.wf w), ?_, ?_⟩
  · intro h
    by_cases hA : s.hits < s1.hits
    · obtain ⟨k, a, b, c⟩ := h1.window.1 hA
      exact ⟨k, a, b, by omega⟩
    · obtain ⟨k, a, b, c⟩ := h2.window.1 (by omega)
      exact ⟨k, hf k ▸ a, by omega, c⟩
  · rintro ⟨k, a, b, c⟩
    by_cases hA : k ≤ s1.next
    · have := h1.window.2 ⟨k, a, b, hA⟩; omega
    · have := h2.window.2 ⟨k, (hf k).symm ▸ a, by omega, c⟩; omega

theorem Later.request {s s' : Ledger} (hs : s'.sched = s.sched) (hn : s'.next = s.next + 1)
    (hh : s'.hits = if s.fails (s.next + 1) = true then s.hits + 1 else s.hits)
    (hl : ∀ i ∈ s'.live, i ∈ s.live ∨ i = s.next + 1) : Later s s' := by
  refine ⟨hs, by omega, by split at hh <;> omega, fun w i hi => ?_, ?_, ?_⟩
  · rcases hl i hi with h | h
    · have := w i h; omega
    · omega
  · intro h
    split at hh
    · next hf => exact ⟨s.next + 1, hf, by omega, by omega⟩
    · omega
  · rintro ⟨k, a, b, c⟩
    obtain rfl : k = s.next + 1 := by omega
    rw [if_pos a] at hh; omega

theorem Later.release (s : Ledger) (a : Nat) : Later s (s.release a) :=
  ⟨rfl, Nat.le_refl _, Nat.le_refl _, fun w i hi => w i (List.mem_filter.1 hi).1,
    ⟨fun h => absurd h (Nat.lt_irrefl _), fun ⟨_, _, a, b⟩ => absurd (Nat.lt_of_lt_of_le a b) (Nat.lt_irrefl _)⟩⟩

theorem run_later (p : Prog α) (s : Ledger) : Later s (run p s).2 := by
  fun_induction run p s with
  | case1 a s => exact .refl s
  | case2 k s n h ih => exact ih.after (.request rfl rfl (by simp [n, h]) fun i hi => .inl hi)
  | case3 k s n h ih => exact ih.after (.request rfl rfl (by simp [n, h]) (by simp [n]))
  | case4 p k s n h ih => exact ih.after (.request rfl rfl (by simp [n, h]) fun i hi => .inl hi)
  | case5 k s n h ih => exact ih.after (.request rfl rfl (by simp [n, h]) (by simp [n]))
  | case6 k s n h a ha ih =>
    refine ih.after (.request rfl rfl (by simp [n, h]) fun i hi => ?_)
    simp only [List.mem_append, List.mem_filter, List.mem_singleton] at hi
    exact hi.imp And.left id
  | case7 k s n h a ha => exact .request (s' := { s with next := n }) rfl rfl (by simp [n, h]) fun i hi => .inl hi
  | case8 k s ih => exact ih
  | case9 a k s ha ih => exact ih.after (Later.release s a)
  | case10 a k s ha => exact .refl s
  | case11 k s => exact .refl s
  | case12 a k s ha ih => exact ih
  | case13 a k s ha => exact .refl s
  | case14 w s => exact .refl s

theorem run_sched (p : Prog α) (s : Ledger) : (run p s).2.sched = s.sched := (run_later p s).sched
theorem run_hits_le (p : Prog α) (s : Ledger) : s.hits ≤ (run p s).2.hits := (run_later p s).hits
theorem run_wf (p : Prog α) (s : Ledger) (h : s.WF) : (run p s).2.WF := (run_later p s).wf h

/-- A run that was delivered no failure is the un-failed run (same result, same ledger). -/
theorem run_nohit (p : Prog α) (s : Ledger) (h : (run p s).2.hits = s.hits) :
    run p { s with sched := [] } = ((run p s).1, { (run p s).2 with sched := [] }) := by
  have nofail : ∀ (t : Ledger) n, Ledger.fails { t with sched := [] } n = false := fun t n => by simp [Ledger.fails]
  -- a failed request raises `hits` for good
  have failed : ∀ (q : Prog α) (t : Ledger), (run q { t with next := t.next + 1, hits := t.hits + 1 }).2.hits ≠ t.hits :=
    fun q t e => by have := run_hits_le q { t with next := t.next + 1, hits := t.hits + 1 }; simp only at this; omega
  revert h
  fun_induction run p s with
  | case1 a s => intro _; rfl
  | case2 k s n h ih => exact fun hh => absurd hh (failed _ s)
  | case3 k s n h ih => exact fun hh => by simpa only [run, nofail, Bool.false_eq_true, if_false] using ih hh
  | case4 p k s n h ih => exact fun hh => absurd hh (failed _ s)
  | case5 k s n h ih => exact fun hh => by simpa only [run, nofail, Bool.false_eq_true, if_false] using ih hh
  | case6 k s n h a ha ih => exact fun hh => by simpa only [run, nofail, ha, Bool.false_eq_true, if_false, if_true] using ih hh
  | case7 k s n h a ha => exact fun _ => by simp only [run, nofail, ha, Bool.false_eq_true, if_false, n]
  | case8 k s ih => exact fun hh => by simpa only [run] using ih hh
  | case9 a k s ha ih => exact fun hh => by simpa only [run, ha, if_true, Ledger.release] using ih hh
  | case10 a k s ha => exact fun _ => by simp only [run, ha, if_false]
  | case11 k s => exact fun _ => rfl
  | case12 a k s ha ih => exact fun hh => by simpa only [run, ha, if_true] using ih hh
  | case13 a k s ha => exact fun _ => by simp only [run, ha, if_false]
  | case14 w s => exact fun _ => rfl

/-- No fault (`Err.ub`: double free, free of an unknown block, use after free, NULL dereference), and
    `Q` holds of the result and the final ledger. -/
def Good (p : Prog α) (s : Ledger) (Q : α → Ledger → Prop) : Prop :=
  match run p s with
  | (.ok a, s') => Q a s'
  | (.error _, _) => False

theorem Good.elim {p : Prog α} {s : Ledger} {Q : α → Ledger → Prop} (h : Good p s Q) :
    ∃ a s', run p s = (.ok a, s') ∧ Q a s' := by
  unfold Good at h
  generalize run p s = r at h
  match r, h with
  | (.ok a, s'), h => exact ⟨a, s', rfl, h⟩
  | (.error _, _), h => exact h.elim

theorem Good.bind {p : Prog α} {f : α → Prog β} {s : Ledger} {Q : α → Ledger → Prop} {R : β → Ledger → Prop}
    (hp : Good p s Q) (hf : ∀ a s', Q a s' → Good (f a) s' R) : Good (Prog.bind p f) s R := by
  obtain ⟨a, s', hr, hq⟩ := hp.elim
  unfold Good
  rw [run_bind, hr]
  exact hf a s' hq

theorem Good.mono {p : Prog α} {s : Ledger} {Q Q' : α → Ledger → Prop}
    (hp : Good p s Q) (h : ∀ a s', Q a s' → Q' a s') : Good p s Q' := by
  obtain ⟨a, s', hr, hq⟩ := hp.elim
  unfold Good
  rw [hr]
  exact h a s' hq

theorem good_ret {a : α} {s : Ledger} {Q : α → Ledger → Prop} : Good (Prog.ret a) s Q ↔ Q a s := by
  simp [Good, run]

/-- The ledger effect of a run: the blocks `cons` were released, the blocks `prod` were handed out
    and are still live; everything else is as before. -/
structure Clean (s s' : Ledger) (cons prod : List Nat) : Prop where
  live : ∀ i, i ∈ s'.live ↔ (i ∈ s.live ∧ i ∉ cons) ∨ i ∈ prod
  fresh : ∀ i ∈ prod, i ∈ cons ∨ (s.next < i ∧ i ≤ s'.next)
  nodup : prod.Nodup
  sched : s'.sched = s.sched
  next : s.next ≤ s'.next
  hits : s.hits ≤ s'.hits
  wf : s'.WF

/-- The caller holds these blocks: live, and pairwise distinct, so that releasing them one after the
    other is no double free. -/
def Owns (s : Ledger) (ids : List Nat) : Prop := ids.Nodup ∧ ∀ i ∈ ids, i ∈ s.live

theorem Owns.nil (s : Ledger) : Owns s [] := ⟨List.nodup_nil, by simp⟩

theorem Owns.cons_iff {s : Ledger} {a : Nat} {A : List Nat} :
    Owns s (a :: A) ↔ a ∈ s.live ∧ a ∉ A ∧ Owns s A := by
  simp only [Owns, List.nodup_cons, List.mem_cons]
  constructor
  · rintro ⟨⟨h1, h2⟩, h3⟩; exact ⟨h3 a (Or.inl rfl), h1, h2, fun i hi => h3 i (Or.inr hi)⟩
  · rintro ⟨h1, h2, h3, h4⟩; exact ⟨⟨h2, h3⟩, fun i hi => by rcases hi with rfl | hi; exact h1; exact h4 i hi⟩

theorem Owns.append_iff {s : Ledger} {A B : List Nat} :
    Owns s (A ++ B) ↔ Owns s A ∧ Owns s B ∧ ∀ i ∈ A, i ∉ B := by
  simp only [Owns, List.nodup_append, List.mem_append]
  constructor
  · rintro ⟨⟨h1, h2, h3⟩, h4⟩
    exact ⟨⟨h1, fun i hi => h4 i (Or.inl hi)⟩, ⟨h2, fun i hi => h4 i (Or.inr hi)⟩, fun i hi hb => h3 i hi i hb rfl⟩
  · rintro ⟨⟨h1, h2⟩, ⟨h3, h4⟩, h5⟩
    exact ⟨⟨h1, h3, fun a ha b hb hab => h5 a ha (hab ▸ hb)⟩, fun i hi => by rcases hi with hi | hi; exact h2 i hi; exact h4 i hi⟩

/-- Nothing happened: owned blocks "consumed and produced again". -/
theorem Clean.id {s : Ledger} {X : List Nat} (wf : s.WF) (own : Owns s X) : Clean s s X X :=
  -- `live`: a block of `X` is live, so both sides say `i ∈ s.live`
  ⟨fun i => by have := own.2 i; grind,
   fun i hi => Or.inl hi, own.1, Eq.refl _, Nat.le_refl _, Nat.le_refl _, wf⟩

theorem Clean.trans_recycle {s s1 s2 : Ledger} {A B C : List Nat} (wf : s.WF)
    (h1 : Clean s s1 A B) (h2 : Clean s1 s2 B C) : Clean s s2 A C := by
  refine ⟨?_, ?_, h2.nodup, by rw [h2.sched, h1.sched], Nat.le_trans h1.next h2.next, Nat.le_trans h1.hits h2.hits, h2.wf⟩
  · intro i
    rw [h2.live, h1.live]
    -- a block of `B` is in `A` or younger than every block live in `s`, so a block live in `s` and
    -- outside `A` is outside `B`: the middle list drops out
    have a1 := h1.fresh i; have a2 := wf i
    grind
  · intro i hi
    -- a block of `C` is in `B` or younger than `s1`; one of `B` is in `A` or younger than `s`; `next` grows
    have a1 := h2.fresh i hi; have a2 := h1.fresh i; have a3 := h1.next; have a4 := h2.next
    grind

theorem Clean.owns {s s' : Ledger} {cons prod : List Nat} (c : Clean s s' cons prod) : Owns s' prod :=
  ⟨c.nodup, fun i hi => (c.live i).2 (Or.inr hi)⟩

theorem Clean.fresh_not_live {s s' : Ledger} {prod : List Nat} (c : Clean s s' [] prod) (wf : s.WF) :
    ∀ i ∈ prod, i ∉ s.live := by
  intro i hi hl
  have := c.fresh i hi
  have := wf i hl
  simp at *; omega

theorem Clean.disjoint_later {s s1 s2 : Ledger} {P1 P2 : List Nat}
    (c1 : Clean s s1 [] P1) (c2 : Clean s1 s2 [] P2) : ∀ i ∈ P1, i ∉ P2 := by
  intro i hi hj
  have := c1.fresh i hi
  have := c2.fresh i hj
  simp at *; omega

/-- The ledger part of a `Clean` fact comes with every run. -/
theorem Later.clean {s s' : Ledger} (h : Later s s') (wf : s.WF) {A B : List Nat}
    (live : ∀ i, i ∈ s'.live ↔ (i ∈ s.live ∧ i ∉ A) ∨ i ∈ B)
    (fresh : ∀ i ∈ B, i ∈ A ∨ (s.next < i ∧ i ≤ s'.next)) (nd : B.Nodup) : Clean s s' A B :=
  ⟨live, fresh, nd, h.sched, h.next, h.hits, h.wf wf⟩

theorem malloc_spec (s : Ledger) (wf : s.WF) :
    Good malloc s (fun p s' => Clean s s' [] p.toList ∧ (s.hits < s'.hits → p = none)) := by
  have h := run_later malloc s
  unfold Good
  unfold malloc at h ⊢
  by_cases hf : s.fails (s.next + 1) = true <;> simp only [run, hf, if_true] at h ⊢ <;>
    exact ⟨h.clean wf (by simp) (by simp) (by simp), by simp⟩

theorem realloc_spec (p : Ptr) (s : Ledger) (wf : s.WF) (h : ∀ a, p = some a → a ∈ s.live) :
    Good (realloc p) s (fun q s' =>
      Clean s s' (if q.isSome then p.toList else []) q.toList ∧ (s.hits < s'.hits → q = none) ∧
      (∀ x, q = some x → s.next < x ∧ x ≤ s'.next)) := by
  have hl := run_later (realloc p) s
  unfold Good
  unfold realloc at hl ⊢
  by_cases hf : s.fails (s.next + 1) = true
  · simp only [run, hf, if_true] at hl ⊢
    exact ⟨hl.clean wf (by simp) (by simp) (by simp), by simp, by simp⟩
  · cases p with
    | none =>
      simp only [run, hf] at hl ⊢
      exact ⟨hl.clean wf (by simp) (by simp) (by simp), by simp, by simp⟩
    | some a =>
      simp only [run, hf, h a rfl, if_true] at hl ⊢
      exact ⟨hl.clean wf (by simp [List.mem_filter]) (by simp) (by simp), by simp, by simp⟩

theorem free_spec (p : Ptr) (s : Ledger) (wf : s.WF) (h : ∀ a, p = some a → a ∈ s.live) :
    Good (free p) s (fun _ s' => Clean s s' p.toList [] ∧ s'.hits = s.hits ∧ s'.next = s.next) := by
  unfold Good free
  cases p with
  | none => exact ⟨Clean.id wf (.nil s), rfl, rfl⟩
  | some a =>
    simp only [run, h a rfl, if_true]
    exact ⟨(Later.release s a).clean wf (by simp [Ledger.release]) (by simp) (by simp), rfl, rfl⟩

theorem deref_spec (a : Nat) (s : Ledger) (h : a ∈ s.live) :
    Good (deref (some a)) s (fun _ s' => s' = s) := by
  simp [Good, deref, run, h]

end Wbxml.Model.Alloc
