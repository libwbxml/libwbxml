/-
  C18 lemmas: the invariant.  The whole heap is described by ONE ghost shape `G`: its
  top-level chain lists the tree root and every detached sub-tree root (that chain exists in the
  ghost only — the real top cells have `parent = prev = next = NULL`), everything below a top cell
  is linked exactly as the shape says.

    Inv s  :=  ∃ G, links of every live cell are those of its position in G   (mutual consistency)
                   ∧ G has no repeated address                                 (acyclic, reached once)
                   ∧ every live cell occurs in G                               (reachable)
                   ∧ tree->root, if set, is a top of G

  `Forest.of_perm` re-establishes the invariant from the links alone when the addresses of the new shape,
  with the destroyed cells, are a permutation of the old ones; `Forest.rebuild` is what the calls that edit
  the children chain of one node have in common; `Inv.links` spells the invariant out cell by cell, without
  the ghost.
-/
import Wbxml.Lemmas.TreeHeapChain
namespace Wbxml.Model.TreeHeap
open Wbxml Wbxml.Model

/-- Link condition of a cell at its position: a top cell (`par = none`) has no parent and no
    siblings; any other cell has the links of its position. -/
def LinkF (v : View) (par prv : Option Nat) (i : Nat) (f n : Option Nat) : Prop :=
  match par with
  | none => ∃ c, v i = some c ∧ c.parent = none ∧ c.prev = none ∧ c.first = f ∧ c.next = none ∧
      (c.pay.isBranch = true ∨ f = none)
  | some _ => LinkOK v par prv i f n

theorem LinkF.cell {v : View} {par prv : Option Nat} {i : Nat} {f n : Option Nat} (l : LinkF v par prv i f n) :
    ∃ c, v i = some c ∧ c.parent = par ∧ c.first = f ∧ (c.pay.isBranch = true ∨ f = none) := by
  cases par with
  | none => obtain ⟨c, hc, hp, _, hf, _, hb⟩ := l; exact ⟨c, hc, hp, hf, hb⟩
  | some p => obtain ⟨c, hc, hp, _, hf, _, hb⟩ := l; exact ⟨c, hc, hp, hf, hb⟩

theorem loc_some_iff (v : View) : ∀ (t : BT) (p : Nat) (prv : Option Nat),
    Loc (LinkF v) (some p) prv t ↔ Match v (some p) prv t
  | .nil, _, _ => Iff.rfl
  | .node i ch nx, p, prv => by
    show (LinkF v (some p) prv i ch.rid nx.rid ∧ Loc (LinkF v) (some i) none ch ∧ Loc (LinkF v) (some p) (some i) nx) ↔
      (LinkOK v (some p) prv i ch.rid nx.rid ∧ Match v (some i) none ch ∧ Match v (some p) (some i) nx)
    rw [loc_some_iff v ch i none, loc_some_iff v nx p (some i)]
    exact Iff.rfl

structure Forest (s : St) (G : BT) : Prop where
  m : Loc (LinkF s.cellAt) none none G
  nodup : G.ids.Nodup
  cover : ∀ i c, s.cellAt i = some c → i ∈ G.ids
  root : ∀ r, s.root = some r → r ∈ G.tops

/-- The pointer invariant of C18. -/
def Inv (s : St) : Prop := ∃ G, Forest s G

/-- At the top level the local condition ignores the (ghost) neighbours. -/
theorem Loc.top_prv (v : View) : ∀ (G : BT) (prv prv' : Option Nat),
    Loc (LinkF v) none prv G → Loc (LinkF v) none prv' G
  | .nil, _, _, _ => trivial
  | .node _ _ _, _, _, ⟨ha, hc, hn⟩ => ⟨ha, hc, hn⟩

/-- The top level is a chain in the ghost only: it splits over an append without any condition. -/
theorem Loc.top_snoc (v : View) : ∀ (A B : BT) (p q : Option Nat),
    Loc (LinkF v) none p (A.snoc B) ↔ Loc (LinkF v) none p A ∧ Loc (LinkF v) none q B
  | .nil, B, p, q => by
    simp only [BT.snoc, Loc, true_and]
    exact ⟨Loc.top_prv v B _ _, Loc.top_prv v B _ _⟩
  | .node i ch nx, B, p, q => by
    show (LinkF v none p i ch.rid (nx.snoc B).rid ∧ _ ∧ Loc (LinkF v) none (some i) (nx.snoc B)) ↔
      (LinkF v none p i ch.rid nx.rid ∧ _ ∧ Loc (LinkF v) none (some i) nx) ∧ _
    rw [Loc.top_snoc v nx B (some i) q, and_assoc, and_assoc]
    exact Iff.rfl

theorem Loc.top_at {v : View} {T c T' : BT} {n : Nat} {p : Option Nat}
    (h : Loc (LinkF v) none p (T.snoc (.node n c T'))) :
    ∃ cn, v n = some cn ∧ cn.parent = none ∧ cn.prev = none ∧ cn.next = none ∧ cn.first = c.rid ∧
      (cn.pay.isBranch = true ∨ c = .nil) ∧ Match v (some n) none c := by
  obtain ⟨_, ⟨cn, hc, hp, hpv, hf, hnx, hb⟩, mc, _⟩ := (Loc.top_snoc v T _ p none).mp h
  exact ⟨cn, hc, hp, hpv, hnx, hf, hb.imp_right BT.rid_none, (loc_some_iff v c n none).mp mc⟩

theorem Loc.at_mem {A : Option Nat → Option Nat → Nat → Option Nat → Option Nat → Prop} (P : Nat) :
    ∀ (t : BT) (par prv : Option Nat), Loc A par prv t → P ∈ t.ids → t.ids.Nodup →
      ∃ par' prv' n, A par' prv' P (BT.kidsOf P t).rid n ∧ Loc A (some P) none (BT.kidsOf P t)
  | .nil, _, _, _, h, _ => by simp at h
  | .node i ch nx, par, prv, ⟨ha, hc, hn⟩, h, hnd => by
    obtain ⟨hi1, hi2, hcn, hnn, hd⟩ := BT.nodup_node.mp hnd
    by_cases e : i = P
    · subst e
      have : BT.kidsOf i (.node i ch nx) = ch := by simp [BT.kidsOf]
      rw [this]; exact ⟨par, prv, nx.rid, ha, hc⟩
    · have e' : ¬ P = i := fun x => e x.symm
      by_cases hm : P ∈ ch.ids
      · have : BT.kidsOf P (.node i ch nx) = BT.kidsOf P ch := by simp [BT.kidsOf, e, hm]
        rw [this]; exact Loc.at_mem P ch _ _ hc hm hcn
      · have hx : P ∈ nx.ids := ((BT.mem_node.mp h).resolve_left e').resolve_left hm
        have : BT.kidsOf P (.node i ch nx) = BT.kidsOf P nx := by simp [BT.kidsOf, e, hm]
        rw [this]; exact Loc.at_mem P nx _ _ hn hx hnn

theorem Forest.empty {s : St} (hh : s.heap = []) (hr : s.root = none) : Forest s .nil :=
  ⟨trivial, by simp, fun i c hc => by simp [St.cellAt, hh] at hc, fun r h => by rw [hr] at h; cases h⟩

/-- The invariant only looks at the live cells and at `tree->root`. -/
theorem Forest.of_view_eq {s s' : St} {G : BT} (hF : Forest s G) (hv : s'.cellAt = s.cellAt)
    (hr : ∀ r, s'.root = some r → r ∈ G.tops) : Forest s' G :=
  ⟨by rw [hv]; exact hF.m, hF.nodup, by rw [hv]; exact hF.cover, hr⟩

theorem Forest.cell_kids {s : St} {G : BT} (hF : Forest s G) {P : Nat} (hP : P ∈ G.ids) :
    ∃ c, s.cellAt P = some c ∧ c.first = (BT.kidsOf P G).rid ∧
      (c.pay.isBranch = true ∨ BT.kidsOf P G = .nil) ∧ Match s.cellAt (some P) none (BT.kidsOf P G) := by
  obtain ⟨par', prv', n, ha, hk⟩ := Loc.at_mem P G none none hF.m hP hF.nodup
  obtain ⟨c, hc, _, hf, hb⟩ := ha.cell
  exact ⟨c, hc, hf, hb.imp_right BT.rid_none, (loc_some_iff _ _ P none).mp hk⟩

theorem Forest.live {s : St} {G : BT} (hF : Forest s G) {x : Nat} (hx : x ∈ G.ids) : ∃ c, s.cellAt x = some c := by
  obtain ⟨c, hc, _⟩ := hF.cell_kids hx
  exact ⟨c, hc⟩

/-- Pigeonhole: the addresses of the forest are distinct addresses of the heap. -/
theorem Forest.size_le {s : St} {G : BT} (hF : Forest s G) : G.ids.length ≤ s.heap.length := by
  have := hF.nodup.length_le_of_subset (l₂ := List.range s.heap.length) (fun x hx => by
    obtain ⟨c, hc⟩ := hF.live hx
    exact List.mem_range.mpr (cellAt_lt hc))
  simpa using this

theorem Forest.sub_size_lt {s : St} {T c T' : BT} {n : Nat} (hF : Forest s (T.snoc (.node n c T'))) :
    c.size + 1 ≤ s.heap.length := by
  have := hF.size_le
  simp only [BT.snoc_ids_eq, BT.ids_node, List.length_append, List.length_cons, BT.ids_length] at this
  omega

theorem LinkF.imp {v v' : View} {i : Nat} {f f' : Option Nat}
    (h : ∀ par prv n, LinkOK v par prv i f n → LinkOK v' par prv i f' n) {par prv n : Option Nat} :
    LinkF v par prv i f n → LinkF v' par prv i f' n := by
  cases par with
  | none => exact h none none none
  | some p => exact h (some p) prv n

theorem LinkF.congr {v v' : View} {par prv : Option Nat} {i : Nat} {f n : Option Nat}
    (h : v' i = v i) (l : LinkF v par prv i f n) : LinkF v' par prv i f n :=
  LinkF.imp (fun _ _ _ ⟨c, hc, r⟩ => ⟨c, by rw [h]; exact hc, r⟩) l

theorem LinkF.set_first {v v' : View} {par prv : Option Nat} {P : Nat} {f n : Option Nat} {cP : Cell} (k : Option Nat)
    (hv : v P = some cP) (hv' : v' P = some { cP with first := k }) (hb : cP.pay.isBranch = true)
    (l : LinkF v par prv P f n) : LinkF v' par prv P k n :=
  LinkF.imp (fun _ _ _ ⟨c, hc, h1, h2, _, h4, _⟩ => by
    cases hv.symm.trans hc
    exact ⟨_, hv', h1, h2, rfl, h4, Or.inl hb⟩) l

theorem Forest.of_perm {s s' : St} {G G' : BT} (hF : Forest s G) (dead : List Nat)
    (hm : Loc (LinkF s'.cellAt) none none G')
    (hperm : (dead ++ G'.ids).Perm G.ids)
    (hlive : ∀ i c', s'.cellAt i = some c' → (∃ c, s.cellAt i = some c) ∧ i ∉ dead)
    (hroot : ∀ r, s'.root = some r → r ∈ G'.tops) : Forest s' G' := by
  refine ⟨hm, (List.nodup_append.mp (hperm.nodup_iff.mpr hF.nodup)).2.1, ?_, hroot⟩
  intro i c' hc'
  obtain ⟨⟨c, hc⟩, hd⟩ := hlive i c' hc'
  rcases List.mem_append.mp (hperm.mem_iff.mpr (hF.cover i c hc)) with h | h
  · exact absurd h hd
  · exact h

/-- What the calls that edit the children chain of `P` have in common: the top `n` (with its sub-tree `c`)
    leaves the top level, the chain of `P` becomes `k` — which, with the destroyed cells, holds the addresses
    of the old chain and of the sub-tree of `n`. -/
theorem Forest.rebuild {s s' : St} {T c T' : BT} {n P : Nat} (hF : Forest s (T.snoc (.node n c T'))) (k : BT)
    (dead : List Nat) (hroot : s.root ≠ some n) (hP : P ∈ (T.snoc T').ids) (hroot' : s'.root = s.root)
    (hout : ∀ i, i ∈ (T.snoc T').ids → i ≠ P → i ∉ (BT.kidsOf P (T.snoc T')).ids → s'.cellAt i = s.cellAt i)
    (hPcell : ∃ cP, s.cellAt P = some cP ∧ cP.pay.isBranch = true ∧ s'.cellAt P = some { cP with first := k.rid })
    (hk : Match s'.cellAt (some P) none k)
    (hperm : (dead ++ k.ids).Perm ((BT.kidsOf P (T.snoc T')).ids ++ n :: c.ids))
    (hlive : ∀ i c', s'.cellAt i = some c' → (∃ c, s.cellAt i = some c) ∧ i ∉ dead) :
    Forest s' (BT.setKids P k (T.snoc T')) := by
  obtain ⟨dT, _, dT', _, _, _, dTc, _⟩ := BT.nodup_split hF.nodup
  have hG0 : (T.snoc T').ids.Nodup := BT.snoc_nodup T T' dT dT' (fun a ha => (dTc a ha).2)
  have hm0 : Loc (LinkF s.cellAt) none none (T.snoc T') := by
    obtain ⟨h1, _, _, h2⟩ := (Loc.top_snoc _ T _ none none).mp hF.m
    exact (Loc.top_snoc _ T T' none none).mpr ⟨h1, Loc.top_prv _ T' _ _ h2⟩
  obtain ⟨cP, hcP, hbr, hcP'⟩ := hPcell
  obtain ⟨X, Y, hX, hY⟩ := BT.ids_split P _ hG0 hP
  apply hF.of_perm dead _ _ hlive
  · intro r hr
    rw [hroot'] at hr
    rw [BT.tops_setKids]
    exact BT.tops_without (hF.root r hr) (fun e => hroot (e ▸ hr))
  · apply Loc.setKids P k _ none none hG0 _ _ ((loc_some_iff _ k P none).mpr hk) hm0
    · intro i hi hiP par prv f nn l
      obtain ⟨hi, hik⟩ := BT.mem_setKids_nil hG0 hi
      exact LinkF.congr (hout i hi hiP hik) l
    · intro par prv f nn l
      exact LinkF.set_first k.rid hcP hcP' hbr l
  · rw [hY k, BT.snoc_ids_eq]
    rw [BT.snoc_ids_eq] at hX
    exact perm_rebuild hperm hX

/-- Where an address of the shape sits: at the top level of the chain, or in the children chain of
    exactly one parent `P` (and then its cell says `parent = P`). -/
theorem Loc.locate (v : View) (n : Nat) (cn : Cell) (hcn : v n = some cn) :
    ∀ (t : BT) (par prv : Option Nat), Loc (LinkF v) par prv t → n ∈ t.ids → t.ids.Nodup →
      (n ∈ t.tops ∧ cn.parent = par) ∨
      (∃ P, P ∈ t.ids ∧ n ∈ (BT.kidsOf P t).tops ∧ cn.parent = some P)
  | .nil, _, _, _, h, _ => by simp at h
  | .node i ch nx, par, prv, ⟨ha, hc, hn⟩, h, hnd => by
    obtain ⟨hi1, hi2, hcn', hnn, hd⟩ := BT.nodup_node.mp hnd
    rcases BT.mem_node.mp h with h | h | h
    · left
      subst h
      refine ⟨by simp [BT.tops], ?_⟩
      obtain ⟨c, hc', hp, _⟩ := ha.cell
      cases hcn.symm.trans hc'; exact hp
    · right
      rcases Loc.locate v n cn hcn ch (some i) none hc h hcn' with ⟨h1, h2⟩ | ⟨P, hP, h1, h2⟩
      · refine ⟨i, BT.mem_node.mpr (Or.inl rfl), ?_, h2⟩
        simp [BT.kidsOf, h1]
      · refine ⟨P, BT.mem_node.mpr (Or.inr (Or.inl hP)), ?_, h2⟩
        have hiP : ¬ i = P := fun e => hi1 (e ▸ hP)
        simp [BT.kidsOf, hiP, hP, h1]
    · rcases Loc.locate v n cn hcn nx par (some i) hn h hnn with ⟨h1, h2⟩ | ⟨P, hP, h1, h2⟩
      · left; exact ⟨by simp [BT.tops, h1], h2⟩
      · right
        refine ⟨P, BT.mem_node.mpr (Or.inr (Or.inr hP)), ?_, h2⟩
        have hiP : ¬ i = P := fun e => hi2 (e ▸ hP)
        have hPc : P ∉ ch.ids := fun hx => hd P hx hP
        simp [BT.kidsOf, hiP, hPc, h1]

theorem Forest.split_detached {s : St} {G : BT} (hF : Forest s G) {n : Nat} {c : Cell}
    (hc : s.cellAt n = some c) (hp : c.parent = none) : ∃ T k T', G = BT.snoc T (.node n k T') := by
  rcases Loc.locate s.cellAt n c hc G none none hF.m (hF.cover n c hc) hF.nodup with ⟨h, _⟩ | ⟨P, _, _, h⟩
  · exact BT.split_top n G h
  · rw [hp] at h; cases h

theorem Forest.child_facts {s : St} {G : BT} (hF : Forest s G) {n P : Nat} {cn : Cell}
    (hcn : s.cellAt n = some cn) (hp : cn.parent = some P) :
    P ∈ G.ids ∧ n ∈ (BT.kidsOf P G).tops ∧
    ∃ cP, s.cellAt P = some cP ∧ cP.first = (BT.kidsOf P G).rid ∧ cP.pay.isBranch = true ∧
      Match s.cellAt (some P) none (BT.kidsOf P G) := by
  rcases Loc.locate s.cellAt n cn hcn G none none hF.m (hF.cover n cn hcn) hF.nodup with ⟨_, h2⟩ | ⟨P', hP', h1, h2⟩
  · rw [hp] at h2; cases h2
  · cases hp.symm.trans h2
    obtain ⟨cP, hcP, hPf, hPb, mK⟩ := hF.cell_kids hP'
    refine ⟨hP', h1, cP, hcP, hPf, ?_, mK⟩
    rcases hPb with h | h
    · exact h
    · rw [h] at h1; simp [BT.tops] at h1

theorem Inv.links {s : St} (hI : Inv s) (i : Nat) (c : Cell) (hc : s.cellAt i = some c) :
    (∀ j, c.first = some j → ∃ cj, s.cellAt j = some cj ∧ cj.parent = some i ∧ cj.prev = none) ∧
    (∀ j, c.next = some j → ∃ cj, s.cellAt j = some cj ∧ cj.prev = some i ∧ cj.parent = c.parent) ∧
    (∀ j, c.prev = some j → ∃ cj, s.cellAt j = some cj ∧ cj.next = some i ∧ cj.parent = c.parent) ∧
    (∀ p, c.parent = some p → ∃ cp, s.cellAt p = some cp ∧ cp.pay.isBranch = true ∧ cp.first.isSome = true) ∧
    (c.pay.isBranch = false → c.first = none) ∧
    (s.root = some i → c.parent = none) := by
  obtain ⟨G, hF⟩ := hI
  have hiG := hF.cover i c hc
  obtain ⟨c', hc', hf, hb, hm⟩ := hF.cell_kids hiG
  cases hc.symm.trans hc'
  -- siblings: a top has none, any other cell has those of its position in the parent's chain
  have hsib : (∀ j, c.next = some j → ∃ cj, s.cellAt j = some cj ∧ cj.prev = some i ∧ cj.parent = c.parent) ∧
      (∀ j, c.prev = some j → ∃ cj, s.cellAt j = some cj ∧ cj.next = some i ∧ cj.parent = c.parent) := by
    cases hp : c.parent with
    | none =>
      obtain ⟨T, k, T', hG⟩ := hF.split_detached hc hp
      subst hG
      obtain ⟨c', hc', _, hpv, hnx, _⟩ := Loc.top_at hF.m
      cases hc.symm.trans hc'
      exact ⟨fun j hj => (by rw [hnx] at hj; cases hj), fun j hj => (by rw [hpv] at hj; cases hj)⟩
    | some P =>
      obtain ⟨_, ht, cP, _, _, _, mK⟩ := hF.child_facts hc hp
      obtain ⟨A, k, B, hK⟩ := BT.split_top i _ ht
      rw [hK] at mK
      obtain ⟨c', hc', hpv, _, hnx, _, _, h1, h2⟩ := Match.at_top mK
      cases hc.symm.trans hc'
      exact ⟨fun j hj => h1 j (by rw [← hnx]; exact hj), fun j hj => h2 j (by rw [← hj, hpv, Option.or_none])⟩
  refine ⟨?_, hsib.1, hsib.2, ?_, ?_, ?_⟩
  · intro j hj
    rw [hf] at hj
    cases hK : BT.kidsOf i G with
    | nil => rw [hK] at hj; simp at hj
    | node y cy my =>
      rw [hK] at hj hm
      simp only [BT.rid_node, Option.some.injEq] at hj; subst hj
      obtain ⟨⟨cj, hcj, hp, hpv, _⟩, _, _⟩ := hm
      exact ⟨cj, hcj, hp, hpv⟩
  · intro p hp
    obtain ⟨_, ht, cP, hcP, hPf, hbr, _⟩ := hF.child_facts hc hp
    refine ⟨cP, hcP, hbr, ?_⟩
    rw [hPf]
    cases hK : BT.kidsOf p G with
    | nil => rw [hK] at ht; simp [BT.tops] at ht
    | node y cy my => rfl
  · intro hnb
    rcases hb with h | h
    · rw [hnb] at h; cases h
    · rw [hf, h]; rfl
  · intro hr
    obtain ⟨T, k, T', hG⟩ := BT.split_top i G (hF.root i hr)
    subst hG
    obtain ⟨c', hc', hp, _⟩ := Loc.top_at hF.m
    cases hc.symm.trans hc'
    exact hp

end Wbxml.Model.TreeHeap
