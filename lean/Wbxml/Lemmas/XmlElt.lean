/-
  The frame `wbxml_tree_add_xml_elt_with_attrs` makes (`xmlElt_closed` in `Lemmas/XCallbacks.lean`), fact by
  fact: the XML name, table row and size of the tag `xeTag`, and of one attribute `xeAttr`. Before them
  `lastIndexOf` (which cuts a reported name into namespace and local name) on `u ++ 124 :: nm` without bar in `nm`.
-/
import Wbxml.Lemmas.XCallbacks
import Wbxml.Lemmas.EncLookup
import Wbxml.Lemmas.TreeMeasure
namespace Wbxml.Lemmas.X2W
open Wbxml Wbxml.Model

theorem lastIndexOf_go_none (b : UInt8) : ∀ (s : Bytes) (i : Nat) (best : Option Nat), b ∉ s →
    lastIndexOf.go b i best s = best
  | [], _, _, _ => rfl
  | c :: r, i, best, h => by
    simp only [List.mem_cons, not_or] at h
    have hc : (c == b) = false := by
      cases hcb : (c == b) with
      | false => rfl
      | true =>
        have hcb' : c = b := by simpa using hcb
        exact absurd hcb'.symm h.1
    simp only [lastIndexOf.go, hc, Bool.false_eq_true, if_false]
    exact lastIndexOf_go_none b r (i + 1) best h.2

theorem lastIndexOf_go_split (b : UInt8) (post : Bytes) (hpost : b ∉ post) : ∀ (pre : Bytes) (i : Nat) (best : Option Nat),
    lastIndexOf.go b i best (pre ++ b :: post) = some (i + pre.length)
  | [], i, best => by
    simp only [List.nil_append, lastIndexOf.go, beq_self_eq_true, if_true, List.length_nil, Nat.add_zero]
    exact lastIndexOf_go_none b post (i + 1) (some i) hpost
  | c :: pre, i, best => by
    simp only [List.cons_append, lastIndexOf.go, List.length_cons]
    rw [lastIndexOf_go_split b post hpost pre (i + 1)]
    congr 1; omega

theorem lastIndexOf_qual (u nm : Bytes) (h : (124 : UInt8) ∉ nm) : lastIndexOf 124 (u ++ 124 :: nm) = some u.length := by
  unfold lastIndexOf
  rw [lastIndexOf_go_split 124 nm h u 0 none, Nat.zero_add]

theorem take_qual (u nm : Bytes) : (u ++ 124 :: nm).take u.length = u := by
  rw [List.take_append_of_le_length (Nat.le_refl _), List.take_length]

theorem drop_qual (u nm : Bytes) : (u ++ 124 :: nm).drop (u.length + 1) = nm := by
  rw [← List.drop_drop, List.drop_left]; rfl

theorem localName_length (name : Bytes) : (localName name).length ≤ name.length := by
  unfold localName
  split
  · simp only [List.length_drop]; omega
  · exact Nat.le_refl _

theorem xeTag_cases (lang : Lang) (name : Bytes) :
    (xeTag lang name).1 = .literal (localName name) ∨
      ∃ r tags, (xeTag lang name).1 = .token r ∧ lang.tags = some tags ∧ r ∈ tags ∧ r.name = localName name := by
  unfold xeTag
  cases lang.tags with
  | none => exact Or.inl rfl
  | some tags =>
    simp only
    split
    · rename_i r he
      exact Or.inr ⟨r, tags, rfl, rfl, EncW.encTag_spec _ _ _ _ he⟩
    · exact Or.inl rfl

theorem xeTag_xmlName (lang : Lang) (name : Bytes) : (xeTag lang name).1.xmlName = localName name := by
  rcases xeTag_cases lang name with e | ⟨r, _, e, _, _, hn⟩ <;> rw [e]
  · rfl
  · exact hn

theorem xeTag_size (lang : Lang) (name : Bytes) : (xeTag lang name).1.size = (localName name).length := by
  rcases xeTag_cases lang name with e | ⟨r, _, e, _, _, hn⟩ <;> rw [e]
  · rfl
  · exact congrArg List.length hn

theorem xmlNsUri_length : xmlNsUri.length = 37 := by decide

theorem unXml_length (n : Bytes) : (unXml n).length ≤ n.length := by
  unfold unXml
  split
  · rename_i hp
    have := (List.isPrefixOf_iff_prefix.mp hp).length_le
    rw [xmlNsUri_length] at this
    simp only [List.length_append, List.length_drop, xmlNsUri_length]
    have : (b!"xml:").length = 4 := by decide
    omega
  · exact Nat.le_refl _

theorem xeAttr_cases (lang : Lang) (nv : Bytes × Bytes) :
    (xeAttr lang nv).name = .literal (unXml nv.1) ∨
      ∃ r t, (xeAttr lang nv).name = .token r ∧ lang.attrs = some t ∧ r ∈ t ∧ r.name = unXml nv.1 := by
  unfold xeAttr
  cases lang.attrs with
  | none => exact Or.inl rfl
  | some t =>
    simp only
    split
    · rename_i r k he
      exact Or.inr ⟨r, t, rfl, rfl, (EncW.encAttr_spec he).1, (EncW.encAttr_spec he).2.1⟩
    · exact Or.inl rfl

theorem xeAttr_xmlName (lang : Lang) (nv : Bytes × Bytes) : (xeAttr lang nv).name.xmlName = unXml nv.1 := by
  rcases xeAttr_cases lang nv with e | ⟨r, _, e, _, _, hn⟩ <;> rw [e]
  · rfl
  · exact hn

theorem xeAttr_size (lang : Lang) (nv : Bytes × Bytes) : (xeAttr lang nv).size ≤ 1 + nv.1.length + nv.2.length := by
  have h1 := unXml_length nv.1
  have h2 : (xeAttr lang nv).name.size = (unXml nv.1).length := by
    rcases xeAttr_cases lang nv with e | ⟨r, _, e, _, _, hn⟩ <;> rw [e]
    · rfl
    · exact congrArg List.length hn
  have h3 : (xeAttr lang nv).value = nv.2 := rfl
  simp only [Attr.size, h2, h3]
  omega

end Wbxml.Lemmas.X2W
