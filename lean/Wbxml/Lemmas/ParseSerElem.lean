/-
  `parse_ser`: elements and content. On `serElem e` / `serItems items` the parser has a run
  (`ParserSafe.Run`: one element, or content up to `END`) that reads exactly these octets, reports `evElem` /
  `evItems` and leaves the code pages the specification computes (`RunsElem`, `RunsItems`); the runs are built
  by structural recursion on the grammar, and `ParserSafe.ok_of_run` turns a run into the result of
  `parseElement` / `contentLoop` with any fuel that covers the octets read.
-/
import Wbxml.Lemmas.ParseSerAttr
import Wbxml.Lemmas.ParserRun
namespace Wbxml.Lemmas.ParseSer
open Wbxml Wbxml.Model Wbxml.Spec
open Wbxml.Lemmas.ParserSafe (itemOf Run leafStep elemHead elemHead1 elemAttrs curTagSet ok_of_run)

theorem tagTok_lt (t : Nat) (h : isTagTok t = true) : 5 ≤ t ∧ t < 64 := by
  simpa only [isTagTok, Bool.and_eq_true, decide_eq_true_eq] using h

@[simp] theorem isLiteral_cons (c : Ctx) (ver) (b : UInt8) (r : Bytes) (tp ap cur) :
    isLiteral (st c ver (b :: r) tp ap cur) = (b == 0x04 || b == 0x84 || b == 0x44 || b == 0xC4) := by
  simp [isLiteral]

def tagHead (flags : Nat) : Tag → UInt8
  | .tok t => byte (t + flags)
  | .lit _ => byte (0x04 + flags)

def tagTail : Tag → Bytes
  | .tok _ => []
  | .lit off => mb off

theorem serTag_eq (flags : Nat) (tag : Tag) : serTag flags tag = tagHead flags tag :: tagTail tag := by
  cases tag <;> rfl

/-- The "tag" value `parse_stag` hands back: the octet itself for a token, a mask for a literal. -/
def stagByte (a cb : Bool) : Tag → UInt8
  | .tok t => byte (t + tagFlags a cb)
  | .lit _ => if a then (if cb then 0xC0 else 0x80) else (if cb then 0x40 else 0x3F)

theorem stagByte_flags (c : Ctx) (tp : Nat) (a cb : Bool) (tag : Tag) (h : wfTag c tp tag = true) :
    ((stagByte a cb tag).toNat &&& 0x80 != 0) = a ∧ ((stagByte a cb tag).toNat &&& 0x40 != 0) = cb := by
  cases tag with
  | tok t =>
    simp only [wfTag, Bool.and_eq_true] at h
    exact (tagByte_bits t (tagTok_lt t h.1).2 a cb).2.2
  | lit off => cases a <;> cases cb <;> simp only [stagByte] <;> exact ⟨by decide, by decide⟩

theorem tagHead_mod (c : Ctx) (tp : Nat) (a cb : Bool) (tag : Tag) (h : wfTag c tp tag = true) :
    4 ≤ (tagHead (tagFlags a cb) tag).toNat % 64 := by
  cases tag with
  | tok t =>
    simp only [wfTag, Bool.and_eq_true] at h
    have ht := tagTok_lt t h.1
    rw [tagHead, (tagByte_bits t ht.2 a cb).1]; omega
  | lit off => rw [tagHead, (tagByte_bits 4 (by decide) a cb).1]; decide

theorem parseStag_ser (c : Ctx) (ver) (hc : c.ok = true) (tp : Nat) (a cb : Bool) (tag : Tag)
    (h : wfTag c tp tag = true) (r : Bytes) (ap cur) :
    parseStag (st c ver (tagHead (tagFlags a cb) tag :: (tagTail tag ++ r)) tp ap cur) =
      .ok ((stagByte a cb tag, (tagName c tp tag).1), st c ver r tp ap cur) := by
  cases tag with
  | tok t =>
    simp only [wfTag, Bool.and_eq_true] at h
    have ht := tagTok_lt t h.1
    have hm := (tagByte_bits t ht.2 a cb).2.1
    have hl := tagByte_literal t ht.2 a cb
    have ht4 : decide (t = 4) = false := decide_eq_false (by omega)
    obtain ⟨row, hrow⟩ := Option.isSome_iff_exists.mp h.2
    have hrow' := hrow
    simp only [tagRow] at hrow
    cases htags : c.lang.tags with
    | none => simp [htags] at hrow
    | some tags =>
      simp only [htags] at hrow
      simp only [parseStag, tagHead, tagTail, List.nil_append, isLiteral_cons, hl, ht4, Bool.false_eq_true,
        ↓reduceIte, parseTag, parseU8_cons, bind, Except.bind, htags, hm, hrow, pure, Except.pure,
        stagByte, tagName, hrow']
  | lit off =>
    simp only [wfTag, Bool.and_eq_true, decide_eq_true_eq] at h
    have e : (strAt c.tbl off).take (cstrLen (strAt c.tbl off)) = strAt c.tbl off := by
      rw [cstrLen_strAt, List.take_length]
    cases a <;> cases cb <;>
    · simp only [parseStag, tagHead, tagTail, tagFlags, isLiteral_cons, bind, Except.bind,
        parseLiteral_ser c ver hc h.1 _ off h.2, stagByte, tagName]
      simp [byte, pure, Except.pure, e]

theorem tagName_cases (c : Ctx) (tp : Nat) (tag : Tag) (h : wfTag c tp tag = true) :
    (∃ t row, tag = .tok t ∧ tagName c tp tag = (.token row, some row)) ∨
    (∃ off, tag = .lit off ∧ tagName c tp tag = (.literal (strAt c.tbl off), none)) := by
  cases tag with
  | tok t =>
    simp only [wfTag, Bool.and_eq_true] at h
    obtain ⟨row, hrow⟩ := Option.isSome_iff_exists.mp h.2
    exact Or.inl ⟨t, row, rfl, by simp [tagName, hrow]⟩
  | lit off => exact Or.inr ⟨off, rfl, rfl⟩

/-- `[ 1*attribute END ]` as `parse_element` reads it under the attribute flag of the tag octet. -/
theorem elemAttrs_ser (c : Ctx) (ver) (hc : c.ok = true) (attrs : List Attribute) (ap : Nat)
    (hattrs : wfAttrs c ap attrs = true) (tag : UInt8) (htag : (tag.toNat &&& 0x80 != 0) = !attrs.isEmpty)
    (r : Bytes) (tp cur) :
    elemAttrs tag (st c ver ((if attrs.isEmpty then [] else serAttrs attrs ++ [0x01]) ++ r) tp ap cur) =
      .ok ((evAttrs c ap attrs).1, st c ver r tp (evAttrs c ap attrs).2 cur) := by
  rw [elemAttrs, htag]
  cases attrs with
  | nil => rfl
  | cons a as =>
    simp only [List.isEmpty_cons, Bool.not_false, ↓reduceIte, Bool.false_eq_true, List.append_assoc,
      List.singleton_append]
    rw [attrsLoop_ser c ver hc a as ap hattrs _ _ (by
      have := serAttrs_length (a :: as)
      simp only [List.length_append, List.length_cons] at this ⊢; omega)]
    simp only [List.nil_append, skip1_cons, ok_bind]; rfl

/-- FIRST(element) behind its page switch: an octet that is no global token. -/
theorem serElem_first (c : Ctx) (slot) (pg : Pages) (tag : Tag) (attrs content)
    (h : wfElem c slot pg (.mk none tag attrs content) = true) :
    ∃ b r, serElem (.mk none tag attrs content) = b :: r ∧ 4 ≤ b.toNat % 64 := by
  rw [wfElem_mk] at h
  simp only [Bool.and_eq_true, swPage, Option.getD_none] at h
  exact ⟨tagHead (tagFlags (!attrs.isEmpty) content.isSome) tag, _, by rw [serElem_mk, serTag_eq]; rfl,
    tagHead_mod c pg.tag (!attrs.isEmpty) content.isSome tag h.1.1.2⟩

theorem elemHead_ser (c : Ctx) (ver) (hc : c.ok = true) (sw : Option Nat) (tag : Tag) (attrs : List Attribute)
    (cb : Bool) (slot : Option TagRow) (pg : Pages) (hsw : wfSw sw = true)
    (htag : wfTag c (swPage sw pg.tag) tag = true) (hattrs : wfAttrs c pg.attr attrs = true) (r : Bytes) :
    elemHead (st c ver (serSw sw ++ (serTag (tagFlags (!attrs.isEmpty) cb) tag ++
        ((if attrs.isEmpty then [] else serAttrs attrs ++ [0x01]) ++ r))) pg.tag pg.attr slot) =
      .ok ((stagByte (!attrs.isEmpty) cb tag, (tagName c (swPage sw pg.tag) tag).1, (evAttrs c pg.attr attrs).1),
        st c ver r (swPage sw pg.tag) (evAttrs c pg.attr attrs).2
          (slotOfTag (tagName c (swPage sw pg.tag) tag).2 slot tag)) := by
  have hb0 := (not_global _ (tagHead_mod c (swPage sw pg.tag) (!attrs.isEmpty) cb tag htag)).1
  have hflags := stagByte_flags c (swPage sw pg.tag) (!attrs.isEmpty) cb tag htag
  have h := optSwitch_bind elemHead1 true c ver sw hsw _ hb0
    (tagTail tag ++ ((if attrs.isEmpty then [] else serAttrs attrs ++ [0x01]) ++ r)) pg.tag pg.attr slot
  rw [serTag_eq, List.cons_append, elemHead]
  refine Eq.trans ?_ (h.trans ?_)
  · split <;> rfl
  · simp only [elemHead1, cond_true, parseStag_ser c ver hc _ _ _ tag htag, ok_bind]
    rcases tagName_cases c (swPage sw pg.tag) tag htag with ⟨t, row, rfl, hnm⟩ | ⟨off, rfl, hnm⟩ <;>
    · simp only [hnm, slotOfTag, curTagSet]
      rw [elemAttrs_ser c ver hc attrs pg.attr hattrs _ hflags.1]
      rfl

/-- One item of content that is not an element: its class, then its production lemma. -/
theorem leafStep_ser (c : Ctx) (ver) (hc : c.ok = true) (it : Item) (hne : ∀ e, it ≠ .elem e)
    (own slot : Option TagRow) (pg : Pages) (hit : wfItem c own slot pg it = true) (r : Bytes) :
    leafStep (st c ver (serItem it ++ r) pg.tag pg.attr slot) (itemOf (st c ver (serItem it ++ r) pg.tag pg.attr slot)) =
      .ok ((evItem c own pg it).1, st c ver r (evItem c own pg it).2.tag (evItem c own pg it).2.attr slot) := by
  cases it with
  | elem e => exact absurd rfl (hne e)
  | str s =>
    rw [wfItem_str] at hit
    rw [serItem_str, evItem_str, itemOf_str]
    simp only [leafStep, parseString_ser c ver hc s hit, ok_bind]; rfl
  | entity code =>
    rw [wfItem_entity] at hit
    rw [serItem_entity, evItem_entity, List.cons_append, itemOf_entity]
    simp only [leafStep, parseEntity_ser c ver code hit, ok_bind]; rfl
  | «opaque» d =>
    rw [wfItem_opaque] at hit
    simp only [Bool.and_eq_true, decide_eq_true_eq, beq_iff_eq] at hit
    obtain ⟨⟨hdl, hsome⟩, hslot⟩ := hit
    obtain ⟨b, hb⟩ := Option.isSome_iff_exists.mp hsome
    have hdec := opaqueText_eq_some (hslot.trans hb)
    rw [serItem_opaque, evItem_opaque, itemOf_opaque]
    simp only [leafStep, parseOpaque_ser c ver d hdl, ok_bind, hdec, hb, Option.getD_some]; rfl
  | ext sw x =>
    rw [wfItem_ext, Bool.and_eq_true] at hit
    rw [serItem_ext, evItem_ext, List.append_assoc, itemOf_ext c ver sw x hit.2]
    simp only [leafStep, parseExtension_ser c ver hc true sw hit.1 x hit.2, ok_bind, cond_true]; rfl
  | pi a =>
    rw [wfItem_pi] at hit
    rw [serItem_pi, evItem_pi, itemOf_pi]
    simp only [leafStep, parsePi_ser c ver hc pg.attr a hit, ok_bind]; rfl

/-- On `serElem e` the parser reads one element, reports `evElem` and leaves the specified pages. -/
def RunsElem (c : Ctx) (ver : Nat) (e : Elem) : Prop :=
  ∀ (slot : Option TagRow) (pg : Pages), wfElem c slot pg e = true → ∀ suf : Bytes,
    Run true (st c ver (serElem e ++ suf) pg.tag pg.attr slot) (evElem c pg e).1
      (st c ver suf (evElem c pg e).2.tag (evElem c pg e).2.attr none)

/-- On `serItems items` in front of `END` the parser reads the content up to the `END`. -/
def RunsItems (c : Ctx) (ver : Nat) (items : List Item) : Prop :=
  ∀ (own slot : Option TagRow) (pg : Pages), wfItems c own slot pg items = true → ∀ suf : Bytes,
    Run false (st c ver (serItems items ++ 0x01 :: suf) pg.tag pg.attr slot) (evItems c own pg items).1
      (st c ver (0x01 :: suf) (evItems c own pg items).2.tag (evItems c own pg items).2.attr (slotEnd slot items))

section runs
variable (c : Ctx) (ver : Nat) (hc : c.ok = true)
include hc

theorem runs_elem (sw : Option Nat) (tag : Tag) (attrs : List Attribute) (content : Option (List Item))
    (ih : ∀ items, content = some items → RunsItems c ver items) : RunsElem c ver (.mk sw tag attrs content) := by
  intro slot pg hwf suf
  rw [wfElem_mk] at hwf
  simp only [Bool.and_eq_true] at hwf
  obtain ⟨⟨⟨hsw, htag⟩, hattrs⟩, hcont⟩ := hwf
  have hflag := (stagByte_flags c (swPage sw pg.tag) (!attrs.isEmpty) content.isSome tag htag).2
  have hh := elemHead_ser c ver hc sw tag attrs content.isSome slot pg hsw htag hattrs (serContent content ++ suf)
  rw [serElem_mk, evElem_mk]
  simp only [List.append_assoc]
  cases content with
  | none =>
    rw [serContent_none, List.nil_append] at hh
    rw [serContent_none, List.nil_append, evContent_none]
    exact Run.empty hh hflag
  | some items =>
    rw [wfContent_some] at hcont
    rw [serContent_some, List.append_assoc] at hh
    rw [serContent_some, List.append_assoc, evContent_some]
    exact Run.full hh hflag (ih items rfl _ _ _ hcont suf) rfl

omit hc in
theorem runs_nil : RunsItems c ver [] := by
  intro own slot pg _ suf
  rw [serItems_nil, evItems_nil]
  exact Run.done (itemOf_cons c ver 1 (by decide) suf _ _ _)

omit hc in
/-- A content list that begins with an element, given the runs for the element without its page switch and for
    the rest: the switch is a round of the content loop by itself, and `parse_element` meets the element
    without it. -/
theorem runs_cons_elem (sw : Option Nat) (tag : Tag) (attrs : List Attribute) (content : Option (List Item))
    (rest : List Item) (ihE : RunsElem c ver (.mk none tag attrs content)) (ihR : RunsItems c ver rest) :
    RunsItems c ver (.elem (.mk sw tag attrs content) :: rest) := by
  intro own slot pg hwf suf
  rw [wfItems_cons, wfItem_elem, evItem_elem, Bool.and_eq_true] at hwf
  obtain ⟨hit, hrest⟩ := hwf
  have hr := ihR own none _ hrest suf
  rw [serItems_cons, evItems_cons, serItem_elem, evItem_elem, List.append_assoc]
  cases sw with
  | none =>
    obtain ⟨b, r, hb, hm⟩ := serElem_first c slot pg tag attrs content hit
    refine Run.sub ?_ (ihE slot pg hit _) hr
    rw [hb, List.cons_append, itemOf_cons c ver _ (not_global _ hm).1, kindOf_elem _ hm]
  | some p =>
    rw [wfElem_sw, Bool.and_eq_true, decide_eq_true_eq] at hit
    rw [evElem_sw] at hr ⊢
    obtain ⟨b, r, hb, hm⟩ := serElem_first c slot ⟨p, pg.attr⟩ tag attrs content hit.2
    have hsub : Run false (st c ver (serElem (.mk none tag attrs content) ++ (serItems rest ++ 0x01 :: suf)) p pg.attr slot)
        _ _ := Run.sub (by rw [hb, List.cons_append, itemOf_cons c ver _ (not_global _ hm).1, kindOf_elem _ hm])
          (ihE slot ⟨p, pg.attr⟩ hit.2 _) hr
    refine Run.leaf (es := []) ?_ hsub
    rw [serElem_sw, hb, List.cons_append, List.cons_append, List.cons_append, itemOf_sw,
      (not_global _ hm).2.2.2.2.2.2.2]
    simp only [Bool.false_eq_true, ↓reduceIte, leafStep, parseSwitchPage_ser true c ver p hit.1, ok_bind, cond_true]
    rfl

theorem runs_cons_leaf (it : Item) (hne : ∀ e, it ≠ .elem e) (rest : List Item) (ihR : RunsItems c ver rest) :
    RunsItems c ver (it :: rest) := by
  intro own slot pg hwf suf
  have hs : slotAfter slot it = slot := by cases it <;> first | rfl | exact absurd rfl (hne _)
  rw [wfItems_cons, Bool.and_eq_true, hs] at hwf
  rw [serItems_cons, evItems_cons, List.append_assoc, slotEnd, hs]
  exact Run.leaf (leafStep_ser c ver hc it hne own slot pg hwf.1 _) (ihR own slot _ hwf.2 suf)

/-- The element with another (or no) page switch in front. -/
def withSw : Elem → Option Nat → Elem
  | .mk _ tag attrs content, sw => .mk sw tag attrs content

-- Structural recursion on the grammar; each case is a step lemma applied to the runs of the parts. The element
-- case is stated for every page switch in front of the element, since `runs_cons_elem` asks for the element
-- without its switch, which is no part of the element it is given: recursion on it is accepted, but by
-- well-founded recursion on `sizeOf`, which is slow to check.
mutual
theorem runs_elem_sw : ∀ (e : Elem) (sw : Option Nat), RunsElem c ver (withSw e sw)
  | .mk _ tag attrs none, sw => runs_elem c ver hc sw tag attrs none nofun
  | .mk _ tag attrs (some items), sw =>
    runs_elem c ver hc sw tag attrs (some items) fun _ h => Option.some.inj h ▸ runs_items items
theorem runs_items : ∀ items : List Item, RunsItems c ver items
  | [] => runs_nil c ver
  | .elem (.mk sw tag attrs content) :: rest =>
    runs_cons_elem c ver sw tag attrs content rest (runs_elem_sw (.mk sw tag attrs content) none) (runs_items rest)
  | .str _ :: rest | .entity _ :: rest | .opaque _ :: rest | .ext _ _ :: rest | .pi _ :: rest =>
    runs_cons_leaf c ver hc _ (fun _ => Item.noConfusion) rest (runs_items rest)
end

theorem runs_any (e : Elem) : RunsElem c ver e := by
  cases e with
  | mk sw tag attrs content => exact runs_elem_sw c ver hc (.mk sw tag attrs content) sw

end runs

theorem serPi_length (a : Attribute) : 1 ≤ (serPi a).length := by simp [serPi]

theorem piLoop_ser (c : Ctx) (ver) (hc : c.ok = true) (ps : List Attribute) : ∀ (ap : Nat)
    (_ : wfPis c ap ps = true) (suf : Bytes) (_ : suf.head? ≠ some 0x43) (f : Nat) (_ : (serPis ps).length < f)
    (ev : List Event) (tp cur),
    piLoop f ev (st c ver (serPis ps ++ suf) tp ap cur) =
      .ok (ev ++ (evPis c ap ps).1, st c ver suf tp (evPis c ap ps).2 cur) := by
  induction ps with
  | nil =>
    intro ap _ suf hsuf f hf ev tp cur
    obtain ⟨f', rfl⟩ := Nat.exists_eq_add_one.mpr (Nat.zero_lt_of_lt hf)
    have : isToken (st c ver suf tp ap cur) 0x43 = false := by
      cases suf with
      | nil => simp
      | cons b r =>
        simp only [List.head?_cons, ne_eq, Option.some.injEq] at hsuf
        simp [hsuf]
    simp only [serPis, List.nil_append, piLoop, this, Bool.false_eq_true, ↓reduceIte, pure, Except.pure, evPis,
      List.append_nil]
  | cons a ps ih =>
    intro ap hwf suf hsuf f hf ev tp cur
    obtain ⟨f', rfl⟩ := Nat.exists_eq_add_one.mpr (Nat.zero_lt_of_lt hf)
    simp only [wfPis, Bool.and_eq_true] at hwf
    have h43 : isToken (st c ver (serPi a ++ (serPis ps ++ suf)) tp ap cur) 0x43 = true := by simp [serPi]
    simp only [serPis, List.append_assoc, piLoop, h43, ↓reduceIte, bind, Except.bind,
      parsePi_ser c ver hc ap a hwf.1]
    rw [ih _ hwf.2 suf hsuf f' (by have := serPi_length a; simp only [serPis, List.length_append] at hf; omega)]
    simp only [evPis, List.append_assoc, List.singleton_append]

theorem serElem_head43 (c : Ctx) (slot) (pg : Pages) (e : Elem) (h : wfElem c slot pg e = true) (r : Bytes) :
    (serElem e ++ r).head? ≠ some 0x43 := by
  cases e with
  | mk sw tag attrs content =>
    cases sw with
    | some p => rw [serElem_sw]; simp
    | none =>
      obtain ⟨b, r', hb, hm⟩ := serElem_first c slot pg tag attrs content h
      rw [hb]; simpa using (not_global b hm).2.2.2.2.1

/-- `body`: leading PIs, the root element, trailing PIs; whatever follows (`trail`) is not looked at. -/
theorem parseBody_ser (c : Ctx) (ver) (hc : c.ok = true) (pre post : List Attribute) (root : Elem)
    (hpre : wfPis c 0 pre = true) (hroot : wfElem c none ⟨0, (evPis c 0 pre).2⟩ root = true)
    (hpost : wfPis c (evElem c ⟨0, (evPis c 0 pre).2⟩ root).2.attr post = true)
    (trail : Bytes) (htrail : trail.head? ≠ some 0x43) (ev : List Event) :
    parseBody ev (st c ver (serPis pre ++ (serElem root ++ (serPis post ++ trail))) 0 0 none) =
      .ok (ev ++ ((evPis c 0 pre).1 ++ ((evElem c ⟨0, (evPis c 0 pre).2⟩ root).1 ++
          (evPis c (evElem c ⟨0, (evPis c 0 pre).2⟩ root).2.attr post).1)),
        st c ver trail (evElem c ⟨0, (evPis c 0 pre).2⟩ root).2.tag
          (evPis c (evElem c ⟨0, (evPis c 0 pre).2⟩ root).2.attr post).2 none) := by
  unfold parseBody
  have hf1 : (serPis pre).length < (serPis pre ++ (serElem root ++ (serPis post ++ trail))).length + 1 := by
    simp only [List.length_append]; omega
  simp only [bind, Except.bind]
  rw [piLoop_ser c ver hc pre 0 hpre _ (serElem_head43 c none _ root hroot _) _ hf1]
  simp only []
  rw [(ok_of_run (runs_any c ver hc root none ⟨0, (evPis c 0 pre).2⟩ hroot _) (Option.some_ne_none _)).1 rfl _ _ (by
    simp only [List.length_append]; omega)]
  simp only []
  rw [piLoop_ser c ver hc post _ hpost trail htrail _ (by simp only [List.length_append]; omega)]
  simp only [List.append_assoc]

end Wbxml.Lemmas.ParseSer
