/-
  C01, bounds, parse half: the events `parse` delivers are bounded by `n * (n + M + 45)` where
  `n` is the input length and `M` a table constant (longest name / attribute start / value /
  extension name of the language tables).

  * `pevSize`: one unit per event and per attribute plus all octets of element names, attribute names
    and values, character data and PI targets / data. (An end-element event counts one unit: it carries
    the start event's `WBXMLTag`.)
  * per-source payload bounds (`parseTermstr_ok`, `strtblRef_ok`, `entityBytes_safe`, `parseOpaque_ok`,
    `decodeOpaqueContent_len`, `decodeOpaqueAttrValue_len`, `decodeDatetime_length_le`, `parseExtension_ok`, …)
  * the potential `size + W * remaining input` never grows (`Run.size`, an instance of `Run.weight`): every
    consumed octet pays for at most `W = N + M + 40` units, `N` bounding the remaining input and the string table.
-/
import Wbxml.Lemmas.ParserRun
import Wbxml.Lemmas.TreeMeasure
import Wbxml.Lemmas.TypedLength

namespace Wbxml.Lemmas.W2X
open Wbxml Wbxml.Model Wbxml.Lemmas.ParserSafe
open Wbxml.Spec (charsEv)

/-- `cc` is an extra charge on character data (0 for the plain size; the tree-size bound charges the
    embedded document a payload may turn into). -/
def pevSize1 (cc : Bytes → Nat) : Event → Nat
  | .startDoc _ _ => 1
  | .endDoc => 1
  | .startElt n attrs => 1 + n.size + attrsSize attrs
  | .endElt _ => 1
  | .chars s => 1 + s.length + cc s
  | .pi t d => 1 + t.length + d.length

def pevSize (cc : Bytes → Nat) : List Event → Nat
  | [] => 0
  | e :: r => pevSize1 cc e + pevSize cc r

theorem pevSize_evSum (cc : Bytes → Nat) : ∀ es, evSum (pevSize1 cc) es = pevSize cc es
  | [] => rfl
  | e :: es => by simp only [evSum, pevSize, pevSize_evSum cc es]

theorem pevSize_append (cc : Bytes → Nat) (a b : List Event) : pevSize cc (a ++ b) = pevSize cc a + pevSize cc b := by
  simp only [← pevSize_evSum, evSum_append]

theorem pevSize_single (cc : Bytes → Nat) (e : Event) : pevSize cc [e] = pevSize1 cc e := by simp [pevSize]

theorem attrsSize_append (a b : List Attr) : attrsSize (a ++ b) = attrsSize a + attrsSize b := by
  induction a with
  | nil => simp [attrsSize]
  | cons e r ih => simp only [List.cons_append, attrsSize, ih]; omega

theorem aname_xml_size (n : AName) : n.xmlName.length = n.size := by cases n <;> rfl
theorem name_xml_size (n : Name) : n.xmlName.length = n.size := by cases n <;> rfl

/-- `M`: the table constant of a main table. -/
def tableM (main : List Lang) : Nat := maxLen langM main

/-- `N` bounds the remaining input and the string-table strings, `M` the rows of the language. -/
structure Ctx (N M : Nat) (s : PState) : Prop where
  rest : s.rest.length ≤ N
  tbl : strBound s ≤ N
  lang : ∃ l, s.lang = some l ∧ langM l ≤ M

theorem Ctx.adv {N M k : Nat} {s s' : PState} (h : Ctx N M s) (a : Adv k s s') : Ctx N M s' := by
  refine ⟨?_, ?_, ?_⟩
  · have := a.len; have := h.rest; omega
  · rw [a.strBound]; exact h.tbl
  · rw [a.lang]; exact h.lang

theorem Ctx.lang_ne {N M : Nat} {s : PState} (h : Ctx N M s) : s.lang ≠ none := by
  obtain ⟨l, hl, _⟩ := h.lang; rw [hl]; simp

/-! ### The potential: every consumed octet pays for at most `W` units -/

theorem pot_pay {W k r r' a : Nat} (hr : r' + k ≤ r) (ha : a ≤ W * k) : a + W * r' ≤ W * r := by
  have : W * (r' + k) ≤ W * r := Nat.mul_le_mul_left W hr
  rw [Nat.mul_add] at this; omega

theorem pot_one {W r r' a : Nat} (hr : r' + 1 ≤ r) (ha : a ≤ W) : a + W * r' ≤ W * r :=
  pot_pay hr (by rw [Nat.mul_one]; exact ha)

variable {N M : Nat}

theorem Ctx.curTag {s : PState} (h : Ctx N M s) (x : Option TagRow) : Ctx N M { s with curTag := x } :=
  ⟨h.rest, h.tbl, h.lang⟩

theorem parseExtension_ctx (ts : Bool) {s : PState} (hc : Ctx N M s) :
    OkE (fun p => Adv 1 s p.2 ∧ (p.1.getD []).length ≤ N + M + 10) (parseExtension ts s) := by
  obtain ⟨l, hl, hM⟩ := hc.lang
  refine (OkE.of_Ok (parseExtension_ok ts s)).mono fun p h => ⟨h.1, ?_⟩
  have := h.2 l hl; have := hc.rest; have := hc.tbl; omega

theorem parseString_ctx {s : PState} (hc : Ctx N M s) :
    OkE (fun p => Adv 1 s p.2 ∧ p.1.length ≤ N) (parseString s) := by
  refine (OkE.of_Ok (parseString_ok s)).mono fun p h => ⟨h.1, ?_⟩
  have := h.2; have := hc.rest; have := hc.tbl; omega

theorem parseAttrStart_ctx {s : PState} (hc : Ctx N M s) :
    OkE (fun p => Adv 1 s p.2 ∧ p.1.1.size + (p.1.2.getD []).length ≤ N + M + 7) (parseAttrStart s) := by
  obtain ⟨l, hl, hM⟩ := hc.lang
  refine (OkE.of_Ok (parseAttrStart_ok s)).mono fun p h => ⟨h.1, ?_⟩
  have := h.2 l hl; have := hc.tbl; omega

theorem parseStag_ctx {s : PState} (hc : Ctx N M s) :
    OkE (fun p => Adv 1 s p.2 ∧ p.1.2.size ≤ N + M + 7) (parseStag s) := by
  obtain ⟨l, hl, hM⟩ := hc.lang
  refine (OkE.of_Ok (parseStag_ok s)).mono fun p h => ⟨h.1, ?_⟩
  have := h.2 l hl; have := hc.tbl; omega

/-- One piece of an attribute value (or of PI data) is paid for by the octets it consumes. -/
theorem parseAttrValue_pot {W : Nat} (hW : N + M + 10 ≤ W) {s : PState} (hc : Ctx N M s) :
    OkE (fun p => Adv 1 s p.2 ∧ (p.1.getD []).length + W * p.2.rest.length ≤ W * s.rest.length)
      (parseAttrValue s) := by
  have token : OkE (fun p => Adv 1 s p.2 ∧ (p.1.getD []).length + W * p.2.rest.length ≤ W * s.rest.length)
      (attrValueStep s .elem) := by
    obtain ⟨l, hl2, hM⟩ := hc.lang
    refine (OkE.of_Ok (attrValueToken_ok s)).mono fun p h => ⟨h.1, pot_one h.1.len ?_⟩
    have := h.2 l hl2; omega
  rw [parseAttrValue_eq]
  cases hi : itemOf s
  case ext =>
    refine OkE.mono (parseExtension_ctx false hc) ?_
    rintro p ⟨h1, h2⟩
    exact ⟨h1, pot_one h1.len (by omega)⟩
  case entity =>
    bind_ok (OkE.of_Ok (parseEntity_ok (itemOf_token hi rfl))) with ⟨b, s1⟩ ⟨h1, h2⟩
    refine OkE.pure ⟨h1, ?_⟩
    simp only [Option.getD_some]
    exact pot_one h1.len (by omega)
  case str =>
    bind_ok (parseString_ctx hc) with ⟨b, s1⟩ ⟨h1, h2⟩
    refine OkE.pure ⟨h1, ?_⟩
    simp only [Option.getD_some]
    exact pot_one h1.len (by omega)
  case opaq =>
    bind_ok (OkE.of_Ok (parseOpaque_ok (isToken_ne_nil (itemOf_token hi rfl)))) with ⟨d, s1⟩ ⟨h1, h2⟩
    split
    · exact OkE.error
    · bind_ok (decodeOpaqueAttrValue_len _ d) with d' hd'
      refine OkE.pure ⟨h1.weaken, ?_⟩
      simp only [Option.getD_some]
      refine pot_pay (k := d.length + 2) (by omega) ?_
      have : 2 * (d.length + 2) ≤ W * (d.length + 2) := Nat.mul_le_mul_right _ (by omega)
      omega
  all_goals exact token

theorem attrValueLoop_pot {W : Nat} (hW : N + M + 10 ≤ W) : ∀ (f : Nat) (acc : Bytes) (s : PState), Ctx N M s →
    OkE (fun p => Adv 0 s p.2 ∧ p.1.length + W * p.2.rest.length ≤ acc.length + W * s.rest.length)
      (attrValueLoop f acc s)
  | 0, _, _, _ => by simp only [attrValueLoop]; exact OkE.error
  | f + 1, acc, s, hc => by
    simp only [attrValueLoop]
    split
    · bind_ok (parseAttrValue_pot hW hc) with ⟨v, s1⟩ ⟨h1, hp⟩
      refine OkE.mono (attrValueLoop_pot hW f _ s1 (hc.adv h1)) ?_
      rintro p ⟨h2, hp2⟩
      refine ⟨h1.trans h2, ?_⟩
      simp only [List.length_append] at hp2
      omega
    · exact OkE.pure ⟨Adv.refl s, Nat.le_refl _⟩

theorem piValueLoop_pot {W : Nat} (hW : N + M + 10 ≤ W) : ∀ (f : Nat) (acc : Bytes) (s : PState), Ctx N M s →
    OkE (fun p => Adv 0 s p.2 ∧ p.1.length + W * p.2.rest.length ≤ acc.length + W * s.rest.length)
      (piValueLoop f acc s)
  | 0, _, _, _ => by simp only [piValueLoop]; exact OkE.error
  | f + 1, acc, s, hc => by
    simp only [piValueLoop]
    split
    · exact OkE.pure ⟨Adv.refl s, Nat.le_refl _⟩
    · bind_ok (parseAttrValue_pot hW hc) with ⟨v, s1⟩ ⟨h1, hp⟩
      refine OkE.mono (piValueLoop_pot hW f _ s1 (hc.adv h1)) ?_
      rintro p ⟨h2, hp2⟩
      refine ⟨h1.trans h2, ?_⟩
      simp only [List.length_append] at hp2
      omega

theorem nulEnd_length_le (v : Bytes) : (if v.isEmpty = true then v else v ++ [0]).length ≤ v.length + 1 := by
  split <;> simp

/-- One attribute — the `WBXMLAttribute`, its name and its value buffer — is paid for by its octets. -/
theorem parseAttribute_pot {W : Nat} (hW : N + M + 40 ≤ W) {s : PState} (hc : Ctx N M s) :
    OkE (fun p => Adv 1 s p.2 ∧ p.1.size + W * p.2.rest.length ≤ W * s.rest.length) (parseAttribute s) := by
  rw [parseAttribute_eq]
  bind_ok (parseAttrStart_ctx hc) with ⟨⟨name, pre⟩, s1⟩ ⟨h1, hn⟩
  bind_ok (attrValueLoop_pot (W := W) (by omega) _ (pre.getD []) s1 (hc.adv h1)) with ⟨v, s2⟩ ⟨h2, hv⟩
  refine OkE.bind (P := fun v' => v'.length ≤ v.length + 28) ?_ ?_
  · have hid : OkE (fun v' => v'.length ≤ v.length + 28) (Except.ok v : Except Err Bytes) := OkE.pure (by omega)
    have hdt : OkE (fun v' => v'.length ≤ v.length + 28) (decodeDatetime v) :=
      OkE.mono (decodeDatetime_length_le v) fun o h => by omega
    rcases attrTyped_cases s2.lang name v with h | h | ⟨-, w, h⟩ <;> rw [h]
    · exact hid
    · exact hdt
    · exact OkE.error
  · intro v' hv'
    refine OkE.pure ⟨h1.trans h2, ?_⟩
    have hfin := nulEnd_length_le v'
    have hw1 : W + W * s1.rest.length ≤ W * s.rest.length := pot_one (W := W) (a := W) h1.len (Nat.le_refl _)
    simp only [Attr.size]
    omega

theorem attrsLoop_pot {W : Nat} (hW : N + M + 40 ≤ W) : ∀ (f : Nat) (acc : List Attr) (s : PState), Ctx N M s →
    OkE (fun p => Adv 1 s p.2 ∧ attrsSize p.1 + W * p.2.rest.length ≤ attrsSize acc + W * s.rest.length)
      (attrsLoop f acc s)
  | 0, _, _, _ => by simp only [attrsLoop]; exact OkE.error
  | f + 1, acc, s, hc => by
    simp only [attrsLoop]
    bind_ok (parseAttribute_pot hW hc) with ⟨a, s1⟩ ⟨h1, hp⟩
    have e : attrsSize (acc ++ [a]) = attrsSize acc + a.size := by
      rw [attrsSize_append]; simp [attrsSize]
    split
    · refine OkE.pure ⟨h1, ?_⟩
      show attrsSize (acc ++ [a]) + W * s1.rest.length ≤ _
      rw [e]; omega
    · refine OkE.mono (attrsLoop_pot hW f _ s1 (hc.adv h1)) ?_
      rintro p ⟨h2, hp2⟩
      refine ⟨h1.trans h2, ?_⟩
      rw [e] at hp2; omega

theorem parsePi_pot (cc : Bytes → Nat) {W : Nat} (hW : N + M + 40 ≤ W) {s : PState} (hc : Ctx N M s) :
    OkE (fun p => Adv 3 s p.2 ∧ pevSize1 cc p.1 + W * p.2.rest.length ≤ W * s.rest.length) (parsePi s) := by
  unfold parsePi
  bind_ok (fun _ => skip1_adv) with s1 h1
  bind_ok (parseAttrStart_ctx (hc.adv h1)) with ⟨⟨name, pre⟩, s2⟩ ⟨h2, hn⟩
  have c2 : Ctx N M s2 := (hc.adv h1).adv h2
  bind_ok (piValueLoop_pot (W := W) (by omega) _ (pre.getD []) s2 c2) with ⟨v, s3⟩ ⟨h3, hv⟩
  bind_ok (fun _ => skip1_adv) with s4 h4
  refine OkE.pure ⟨((h1.trans h2 (m := 2)).trans h3 (m := 2)).trans h4, ?_⟩
  have hfin := nulEnd_length_le v
  have hw2 : W + W * s2.rest.length ≤ W * s1.rest.length := pot_one (W := W) (a := W) h2.len (Nat.le_refl _)
  have hw1 : W * s1.rest.length ≤ W * s.rest.length := Nat.mul_le_mul_left W (by have := h1.len; omega)
  have hw4 : W * s4.rest.length ≤ W * s3.rest.length := Nat.mul_le_mul_left W (by have := h4.len; omega)
  simp only [pevSize1, aname_xml_size]
  omega

theorem elemAttrs_pot {W : Nat} (hW : N + M + 40 ≤ W) (tag : UInt8) {s : PState} (hc : Ctx N M s) :
    OkE (fun p => Adv 0 s p.2 ∧ attrsSize p.1 + W * p.2.rest.length ≤ W * s.rest.length) (elemAttrs tag s) := by
  unfold elemAttrs
  split
  · bind_ok (attrsLoop_pot hW _ [] s hc) with ⟨as, s1⟩ ⟨h1, hp⟩
    bind_ok (fun _ => skip1_adv) with s2 h2
    refine OkE.pure ⟨(h1.trans h2 (m := 0)), ?_⟩
    have : W * s2.rest.length ≤ W * s1.rest.length := Nat.mul_le_mul_left W (by have := h2.len; omega)
    simp only [attrsSize] at hp
    dsimp only
    omega
  · exact OkE.pure ⟨Adv.refl s, by simp [attrsSize]⟩

theorem charsEv_size (cc : Bytes → Nat) {C k : Nat} (b : Bytes) (hb : b.length ≤ k) (hc : cc b ≤ C) :
    pevSize cc (charsEv b) ≤ k + 1 + C := by
  unfold charsEv; split <;> simp only [pevSize, pevSize1] <;> omega

theorem leafStep_pot (cc : Bytes → Nat) {C W : Nat} (hcc : ∀ b : Bytes, b.length ≤ 2 * N + M + 35 → cc b ≤ C)
    (hW : N + M + 40 + C ≤ W) {s : PState} (hc : Ctx N M s) :
    OkE (fun p => Adv 1 s p.2 ∧ pevSize cc p.1 + W * p.2.rest.length ≤ W * s.rest.length)
      (leafStep s (itemOf s)) := by
  -- character data from a string or a table: one octet consumed at least
  have chars : ∀ (b : Bytes) {s1 : PState}, Adv 1 s s1 → b.length ≤ N + M + 10 →
      OkE (fun p => Adv 1 s p.2 ∧ pevSize cc p.1 + W * p.2.rest.length ≤ W * s.rest.length)
        (pure (charsEv b, s1)) := fun b {s1} h1 hb =>
    OkE.pure ⟨h1, pot_one h1.len (Nat.le_trans (charsEv_size cc b hb (hcc b (by omega))) (by omega))⟩
  cases hi : itemOf s <;> simp only [leafStep]
  case ext =>
    bind_ok (parseExtension_ctx true hc) with ⟨r, s1⟩ ⟨h1, hr⟩
    exact chars _ h1 hr
  case entity =>
    bind_ok (OkE.of_Ok (parseEntity_ok (itemOf_token hi rfl))) with ⟨b, s1⟩ ⟨h1, hb⟩
    exact chars b h1 (by omega)
  case str =>
    bind_ok (parseString_ctx hc) with ⟨b, s1⟩ ⟨h1, hb⟩
    exact chars b h1 (by omega)
  case opaq =>
    bind_ok (OkE.of_Ok (parseOpaque_ok (isToken_ne_nil (itemOf_token hi rfl)))) with ⟨d, s1⟩ ⟨h1, hd⟩
    split
    · exact OkE.error
    · bind_ok (decodeOpaqueContent_len _ s1.curTag d) with d' hd'
      refine OkE.pure ⟨h1.weaken, ?_⟩
      dsimp only
      -- an opaque of `k` octets consumes `k + 2` and delivers at most `2k + 25`
      have hdN : d.length ≤ N := by have := hc.rest; omega
      have := charsEv_size cc (C := C) d' hd' (hcc d' (by omega))
      refine pot_pay (k := d.length + 2) (by omega) ?_
      have h13 : (13 + C) * (d.length + 2) ≤ W * (d.length + 2) := Nat.mul_le_mul_right _ (by omega)
      rw [Nat.add_mul] at h13
      have hC : C ≤ C * (d.length + 2) := Nat.le_mul_of_pos_right C (by omega)
      omega
  case pi =>
    bind_ok (parsePi_pot cc (W := W) (by omega) hc) with ⟨e, s1⟩ ⟨h1, hp⟩
    exact OkE.pure ⟨h1.weaken, by simpa only [pevSize_single] using hp⟩
  case switch =>
    bind_ok (OkE.of_Ok (parseSwitchPage_ok (tagSpace := true) (itemOf_token hi rfl))) with s1 h1
    exact OkE.pure ⟨h1.weaken, by
      simpa [pevSize] using Nat.mul_le_mul_left W (by have := h1.len; omega : s1.rest.length ≤ s.rest.length)⟩
  all_goals exact OkE.error

theorem elemHead1_pot {W : Nat} (hW : N + M + 40 ≤ W) {s0 s : PState} (h0 : Adv 0 s0 s) (hc : Ctx N M s0) :
    OkE (fun p => Adv 1 s0 p.2 ∧
        (1 + p.1.2.1.size + attrsSize p.1.2.2) + 1 + W * p.2.rest.length ≤ W * s0.rest.length) (elemHead1 s) := by
  unfold elemHead1
  bind_ok (parseStag_ctx (hc.adv h0)) with ⟨⟨tag, name⟩, s2⟩ ⟨h2, hn⟩
  have h13 : Adv 1 s0 (curTagSet name s2) := (h0.trans h2 (m := 1)).trans (curTagSet_adv name s2)
  have hw : W + W * (curTagSet name s2).rest.length ≤ W * s0.rest.length :=
    pot_one (W := W) (a := W) h13.len (Nat.le_refl _)
  bind_ok (elemAttrs_pot hW tag (hc.adv h13)) with ⟨attrs, s4⟩ ⟨h34, hpa⟩
  exact OkE.pure ⟨h13.trans h34, by dsimp only at hn hpa ⊢; omega⟩

/-- The head of an element pays for the start event (its name and attributes) and for the end event. -/
theorem elemHead_pot {W : Nat} (hW : N + M + 40 ≤ W) {s : PState} (hc : Ctx N M s) :
    OkE (fun p => Adv 1 s p.2 ∧
        (1 + p.1.2.1.size + attrsSize p.1.2.2) + 1 + W * p.2.rest.length ≤ W * s.rest.length) (elemHead s) := by
  unfold elemHead
  split
  · rename_i h
    exact OkE.bind (OkE.of_Ok (parseSwitchPage_ok h)) fun s1 h1 => elemHead1_pot hW h1.weaken hc
  · exact elemHead1_pot hW (Adv.refl s) hc

/-- **Every unit of the event list is paid for by input**: an element, and the content of one, keep
    `pevSize events + W * remaining input` from growing. -/
theorem _root_.Wbxml.Lemmas.ParserSafe.Run.size (cc : Bytes → Nat) {C W : Nat} (hcc : ∀ b : Bytes, b.length ≤ 2 * N + M + 35 → cc b ≤ C)
    (hW : N + M + 40 + C ≤ W) {k : Bool} {s s' : PState} {es : List Event} (h : Run k s es s') (hc : Ctx N M s) :
    pevSize cc es + W * s'.rest.length ≤ W * s.rest.length := by
  have := (Run.weight (pevSize1 cc) W 1 (Ctx N M) (fun hC a => hC.adv a)
    (fun hC hs => by rw [pevSize_evSum]; exact leafStep_pot cc hcc hW hC _ hs)
    (fun hC hh => elemHead_pot (by omega) hC _ hh)
    (fun _ => Nat.le_refl _) h hc).2
  rwa [pevSize_evSum] at this

theorem parseElement_pot (cc : Bytes → Nat) {C W : Nat} (hcc : ∀ b : Bytes, b.length ≤ 2 * N + M + 35 → cc b ≤ C)
    (hW : N + M + 40 + C ≤ W) (f : Nat) (ev : List Event) {s : PState} (hc : Ctx N M s) :
    OkE (fun p => Adv 1 s p.2 ∧ pevSize cc p.1 + W * p.2.rest.length ≤ pevSize cc ev + W * s.rest.length)
      (parseElement f ev s) := by
  rintro ⟨ev', s'⟩ h
  obtain ⟨es, rfl, hr⟩ := (run_of_ok f).1 _ _ _ _ h
  have := hr.size cc hcc hW hc
  exact ⟨hr.adv hc.lang_ne, by rw [pevSize_append]; dsimp only; omega⟩

theorem piLoop_pot (cc : Bytes → Nat) {W : Nat} (hW : N + M + 40 ≤ W) : ∀ (f : Nat) (ev : List Event) (s : PState), Ctx N M s →
    OkE (fun p => Adv 0 s p.2 ∧ pevSize cc p.1 + W * p.2.rest.length ≤ pevSize cc ev + W * s.rest.length) (piLoop f ev s)
  | 0, _, _, _ => by simp only [piLoop]; exact OkE.error
  | f + 1, ev, s, hc => by
    simp only [piLoop]
    split
    · bind_ok (parsePi_pot cc hW hc) with ⟨e, s1⟩ ⟨h1, hp⟩
      refine OkE.mono (piLoop_pot cc hW f _ s1 (hc.adv h1)) ?_
      rintro p ⟨h2, hp2⟩
      refine ⟨h1.trans h2, ?_⟩
      simp only [pevSize_append, pevSize_single] at hp2
      omega
    · exact OkE.pure ⟨Adv.refl s, Nat.le_refl _⟩

theorem parseBody_pot (cc : Bytes → Nat) {C W : Nat} (hcc : ∀ b : Bytes, b.length ≤ 2 * N + M + 35 → cc b ≤ C)
    (hW : N + M + 40 + C ≤ W) (ev : List Event) {s : PState} (hc : Ctx N M s) :
    OkE (fun p => pevSize cc p.1 + W * p.2.rest.length ≤ pevSize cc ev + W * s.rest.length) (parseBody ev s) := by
  unfold parseBody
  bind_ok (piLoop_pot cc (W := W) (by omega) _ ev s hc) with ⟨ev1, s1⟩ ⟨h1, p1⟩
  bind_ok (parseElement_pot cc hcc hW _ ev1 (hc.adv h1)) with ⟨ev2, s2⟩ ⟨h2, p2⟩
  refine OkE.mono (piLoop_pot cc (W := W) (by omega) _ ev2 s2 ((hc.adv h1).adv h2)) ?_
  rintro p ⟨h3, p3⟩
  omega

theorem checkPublicId_mem {cfg : PCfg} {s : PState} {pid : Nat} {idx : Option Nat} {l : Lang}
    (h : checkPublicId cfg s pid idx = some l) : l ∈ cfg.main := by
  unfold checkPublicId at h
  split at h
  · cases h
  · split at h
    · exact List.mem_of_find?_eq_some h
    · split at h
      · exact List.mem_of_find?_eq_some h
      · split at h
        · cases h
        · split at h
          · cases h
          · exact List.mem_of_find?_eq_some h

/-- After the header: the language is an entry of the main table, the string table lies inside the
    document (plus its four padding octets). -/
theorem parseHeader_ctx (cfg : PCfg) (bs : Bytes) :
    OkE (fun p => Ctx (bs.length + 5) (tableM cfg.main) p.1) (parseHeader cfg bs) := by
  rw [parseHeader_eq]
  split
  · exact OkE.error
  · bind_ok (OkE.of_Ok (headerPre_ok cfg bs)) with ⟨pubId, pubIdx, s0⟩ ⟨t0, _, r0⟩
    bind_ok (OkE.of_Ok (parseStrtbl_ok s0)) with s1 ⟨_, r1, t1⟩
    split
    · exact OkE.error
    · rename_i lang hl
      have hm := checkPublicId_mem hl
      refine OkE.pure ⟨?_, ?_, ?_⟩
      · dsimp only; omega
      · have : strBound s0 = 5 := by unfold strBound; rw [t0]
        have e : strBound { s1 with lang := some lang } = strBound s1 := rfl
        rw [e]; omega
      · exact ⟨lang, rfl, le_maxLen langM hm⟩

/-- **The events of a run are quadratically bounded by the input**: with `n` input octets and `M` the
    table constant, the events weigh at most `n * (n + M + 45 + C)` — whatever the verdict — where `C`
    bounds the extra charge `cc` on character data of at most `2n + M + 45` octets (no payload is longer). -/
theorem parse_pevSizeG_le (cfg : PCfg) (bs : Bytes) (cc : Bytes → Nat) (C : Nat)
    (hcc : ∀ b : Bytes, b.length ≤ 2 * bs.length + tableM cfg.main + 45 → cc b ≤ C) :
    pevSize cc (parse cfg bs).events ≤ bs.length * (bs.length + tableM cfg.main + 45 + C) := by
  rcases parse_anatomy cfg bs with ⟨c, _, _, hev, _⟩ | ⟨s, l, c, hh, _, _, hev, _⟩ | ⟨s, l, ev, s', hh, hb, _, hev, _⟩
  · rw [hev]; simp [pevSize]
  · obtain ⟨_, _, hlen⟩ := (parseHeader_ok cfg bs).of_ok hh
    rw [hev]
    simp only [pevSize, pevSize1]
    have : 1 * 1 ≤ bs.length * (bs.length + tableM cfg.main + 45 + C) := Nat.mul_le_mul (by omega) (by omega)
    omega
  · obtain ⟨_, _, hlen⟩ := (parseHeader_ok cfg bs).of_ok hh
    have hctx := parseHeader_ctx cfg bs _ hh
    have hp := parseBody_pot cc (C := C) (W := bs.length + tableM cfg.main + 45 + C)
      (fun b hb => hcc b (by omega)) (by omega) [Event.startDoc s.charset l.id] hctx _ hb
    rw [hev, pevSize_append]
    simp only [pevSize, pevSize1] at hp ⊢
    have h1 : (bs.length + tableM cfg.main + 45 + C) * (s.rest.length + 3) ≤
        (bs.length + tableM cfg.main + 45 + C) * bs.length := Nat.mul_le_mul_left _ hlen
    rw [Nat.mul_add] at h1
    rw [Nat.mul_comm bs.length]
    omega

end Wbxml.Lemmas.W2X
