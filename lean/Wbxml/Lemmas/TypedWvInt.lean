/-
  The Wireless-Village integer codec (C12): the typed model (`Model/Typed/WvInt.lean`), the parser's copy
  (`Model.wvIntLoop`, `decodeWvInteger`, `natDigits`), their agreement, and the laws. The encoder's octet
  loop is the digit loop of `Lemmas/Digits.lean` in base 256; the decoder's accumulation and the
  specification's `beNat` are `horner`. Also the facts about `%u` (`decNat`, `digitChar`: the digits, their
  number `decNat_length`, reading them back `decVal_decNat`) that the date-time modules use, what a numeral
  denotes for the encoder (`wvIntNumeral_meaning`), and `String.toUTF8.toList` as the list of the byte array
  (`baToList_eq`), by which the parser's `natDigits` is `decNat`.
-/
import Wbxml.Model.Typed.WvInt
import Wbxml.Model.Parser
import Wbxml.Lemmas.CodecBits
import Wbxml.Lemmas.Digits
namespace Wbxml.Lemmas.Typed
open Wbxml Wbxml.Model.Typed Wbxml.Lemmas.Digits

/-- The number a big-endian octet string denotes (specification side: no width limit). -/
def beNat (bs : Bytes) : Nat := bs.foldl (fun a c => a * 256 + c.toNat) 0

theorem beNat_horner (bs : Bytes) : beNat bs = horner 256 UInt8.toNat 0 bs := rfl

/-- `le_horner` is why the test is exact: an accumulator above 24 bits never comes back below 2^32. -/
theorem wvIntAcc_spec (acc : Nat) (bs : Bytes) (h : acc < 4294967296) :
    wvIntAcc acc bs = if horner 256 UInt8.toNat acc bs < 4294967296 then .ok (horner 256 UInt8.toNat acc bs)
      else .error (.code 80) := by
  induction bs generalizing acc with
  | nil => simp [wvIntAcc, horner, h]
  | cons c cs ih =>
    have hc := c.toNat_lt
    have hge := le_horner 256 (by decide) UInt8.toNat (acc * 256 + c.toNat) cs
    rw [wvIntAcc, horner_cons]
    by_cases hbig : acc > 0x00FFFFFF
    · rw [if_pos hbig, if_neg (by omega)]
    · rw [if_neg hbig, Nat.mod_eq_of_lt (by omega), ih _ (by omega)]

/-- `decode_wv_integer`: the decimal text of the big-endian value when it fits 32 bits, error 80 otherwise. -/
theorem decodeWvInt_eq (p : Bytes) :
    decodeWvInt p = if beNat p < 4294967296 then .ok (decNat (beNat p)) else .error (.code 80) := by
  rw [decodeWvInt, wvIntAcc_spec 0 p (by decide), ← beNat_horner]
  split <;> rfl

theorem beNat_lt_of_le4 (d : Bytes) (h : d.length ≤ 4) : beNat d < 4294967296 :=
  Nat.lt_of_lt_of_le (horner_lt 256 UInt8.toNat UInt8.toNat_lt d 0 0 (by decide))
    (Nat.pow_le_pow_right (by decide) (by omega) : 256 ^ (0 + d.length) ≤ 256 ^ 4)

theorem decNat_lt {n : Nat} (h : n < 10) : decNat n = [digitChar n] := by
  rw [decNat]; simp [h]

theorem decNat_ge {n : Nat} (h : 10 ≤ n) : decNat n = decNat (n / 10) ++ [digitChar n] := by
  rw [decNat]; simp [show ¬ n < 10 by omega]

/-- `%u` prints exactly `w + 1` digits for the numbers below `10 ^ (w + 1)` that are not below `10 ^ w`
    (`w = 0`: for every number below 10). -/
theorem decNat_length (w : Nat) : ∀ n, n < 10 ^ (w + 1) → (w = 0 ∨ 10 ^ w ≤ n) → (decNat n).length = w + 1 := by
  induction w with
  | zero => intro n h _; rw [decNat_lt (by simpa using h)]; rfl
  | succ w ih =>
    intro n h hl
    have hw : 10 ^ (w + 1) ≤ n := hl.resolve_left (by omega)
    have h10 : 10 ≤ n := Nat.le_trans (Nat.le_self_pow (by omega) 10) hw
    rw [decNat_ge h10, List.length_append, List.length_singleton,
      ih (n / 10) (by rw [Nat.div_lt_iff_lt_mul (by decide), ← Nat.pow_succ]; exact h)
        (Or.inr (by rw [Nat.le_div_iff_mul_le (by decide), ← Nat.pow_succ]; exact hw))]

theorem digitChar_toNat (n : Nat) : (digitChar n).toNat = 48 + n % 10 := by
  unfold digitChar
  rw [UInt8.toNat_ofNat']
  omega

theorem isDigit_tbl : ∀ k, k < 10 → isDigit (UInt8.ofNat (48 + k)) = true := by decide

theorem isDigit_digitChar (n : Nat) : isDigit (digitChar n) = true :=
  isDigit_tbl (n % 10) (Nat.mod_lt _ (by decide))

theorem decVal_decNat (n : Nat) : decVal (decNat n) = n := by
  induction n using Nat.strongRecOn with
  | _ n ih =>
    by_cases h : n < 10
    · rw [decNat_lt h]
      simp [decVal, digitChar_toNat]; omega
    · rw [decNat_ge (by omega), decVal, List.foldl_append, ← decVal, ih (n / 10) (by omega)]
      simp only [List.foldl_cons, List.foldl_nil, digitChar_toNat]
      omega

theorem all_isDigit_decNat (n : Nat) : (decNat n).all isDigit = true := by
  induction n using Nat.strongRecOn with
  | _ n ih =>
    by_cases h : n < 10
    · rw [decNat_lt h]; simp [isDigit_digitChar]
    · rw [decNat_ge (by omega)]; simp [ih (n / 10) (by omega), isDigit_digitChar]

theorem decNat_ne_nil (n : Nat) : decNat n ≠ [] := by
  by_cases h : n < 10
  · rw [decNat_lt h]; simp
  · rw [decNat_ge (by omega)]; simp

theorem not_x_of_isDigit (c : UInt8) (h : isDigit c = true) : (c == 0x78 || c == 0x58) = false := by
  cases hx : (c == 0x78 || c == 0x58)
  · rfl
  · exfalso
    simp only [Bool.or_eq_true, beq_iff_eq] at hx
    rcases hx with rfl | rfl <;> revert h <;> decide

theorem wvIntNumeral_digits (s : Bytes) (hne : s ≠ []) (hd : s.all isDigit = true) :
    wvIntNumeral s = some (decVal s) := by
  match s, hne with
  | [c0], _ =>
    simp only [List.all_cons, List.all_nil, Bool.and_true] at hd
    simp [wvIntNumeral, hd]
  | c0 :: c1 :: rest, _ =>
    have h0 : isDigit c0 = true := by simp [List.all_cons] at hd; exact hd.1
    have h1 : isDigit c1 = true := by simp [List.all_cons] at hd; exact hd.2.1
    have hx := not_x_of_isDigit c1 h1
    simp only [wvIntNumeral, h0, Bool.not_true, Bool.false_eq_true, if_false, hx, hd, if_true]

/-- The branches of `wvIntNumeral`, read backwards: a numeral is all decimal digits, or `0x` / `0X` and at least one
    hexadecimal digit (C12 `wvint_numeral_meaning`). -/
theorem wvIntNumeral_meaning (s : Bytes) (v : Nat) (h : wvIntNumeral s = some v) :
    (s ≠ [] ∧ s.all isDigit = true ∧ v = decVal s) ∨
    (∃ x hexs, s = 0x30 :: x :: hexs ∧ (x = 0x78 ∨ x = 0x58) ∧ hexs ≠ [] ∧ hexs.all isHexDigit = true ∧ v = Model.Typed.hexVal hexs) := by
  match s with
  | [] => simp [wvIntNumeral] at h
  | [c0] =>
    by_cases h0 : isDigit c0 = true
    · simp [wvIntNumeral, h0] at h
      exact Or.inl ⟨by simp, by simp [h0], h.symm⟩
    · simp [wvIntNumeral, h0] at h
  | c0 :: c1 :: hexs =>
    by_cases h0 : isDigit c0 = true
    · by_cases hx : (c1 == 0x78 || c1 == 0x58) = true
      · by_cases hh : (c0 == 0x30 && hexs ≠ [] && hexs.all isHexDigit) = true
        · simp only [wvIntNumeral, h0, Bool.not_true, Bool.false_eq_true, if_false, hx, if_true, hh,
            Option.some.injEq] at h
          simp only [Bool.and_eq_true, beq_iff_eq, decide_eq_true_eq] at hh
          simp only [Bool.or_eq_true, beq_iff_eq] at hx
          obtain ⟨⟨e0, hne⟩, hall⟩ := hh
          exact Or.inr ⟨c1, hexs, by rw [e0], hx, hne, hall, h.symm⟩
        · simp only [wvIntNumeral, h0, Bool.not_true, Bool.false_eq_true, if_false, hx, if_true, hh] at h
          cases h
      · by_cases hd : (c0 :: c1 :: hexs).all isDigit = true
        · simp only [wvIntNumeral, h0, Bool.not_true, Bool.false_eq_true, if_false, hx, hd, if_true,
            Option.some.injEq] at h
          exact Or.inl ⟨by simp, hd, h.symm⟩
        · simp [wvIntNumeral, h0, hx, hd] at h
    · simp [wvIntNumeral, h0] at h

theorem beLoop_eq (k v : Nat) (acc : Bytes) : beLoop k v acc = (digitsBE 256 k v).map UInt8.ofNat ++ acc :=
  loop_eq_digits (fun _ _ => rfl) (fun _ _ _ => rfl) k v acc

theorem beNat_map (ds : List Nat) (hd : ∀ d ∈ ds, d < 256) : ∀ acc,
    (ds.map UInt8.ofNat).foldl (fun a c => a * 256 + c.toNat) acc = horner 256 id acc ds := by
  induction ds with
  | nil => intro acc; rfl
  | cons d t ih =>
    intro acc
    rw [List.map_cons, List.foldl_cons, Codec.toNat_ofNat_lt d (hd d (by simp)), ih (fun x hx => hd x (by simp [hx]))]
    rfl

theorem beNat_wvIntOctets (n : Nat) (h : n < 4294967296) : beNat (wvIntOctets n) = n := by
  obtain ⟨_, _, _, hd, hval⟩ := digitsBE_spec 256 (by decide) 4 n (by omega)
  rw [wvIntOctets, beLoop_eq, List.append_nil, beNat, beNat_map _ hd, hval]

theorem wvIntOctets_minimal (n : Nat) (h : n < 4294967296) :
    (wvIntOctets n).length ≤ 4 ∧ (wvIntOctets n).head? ≠ some 0 := by
  obtain ⟨hmin, _, hhd, hd, _⟩ := digitsBE_spec 256 (by decide) 4 n (by omega)
  rw [wvIntOctets, beLoop_eq, List.append_nil]
  refine ⟨by simpa using hmin 4 (by omega), ?_⟩
  cases hp : digitsBE 256 4 n with
  | nil => simp
  | cons x t =>
    rw [hp] at hhd hd
    intro e
    have := congrArg UInt8.toNat (Option.some.inj e)
    rw [Codec.toNat_ofNat_lt x (hd x (by simp))] at this
    simp at hhd this; omega

end Wbxml.Lemmas.Typed

namespace Wbxml.Lemmas.ParseSer
open Wbxml Wbxml.Model

theorem wvIntLoop_eq (d : Bytes) : ∀ acc, Model.wvIntLoop d acc = Model.Typed.wvIntAcc acc d := by
  induction d with
  | nil => intro acc; rfl
  | cons b r ih =>
    intro acc
    have hb := b.toNat_lt
    simp only [Model.wvIntLoop, Model.Typed.wvIntAcc]
    split
    · rfl
    · rw [← ih]; congr 1
      simp (disch := omega) only [bit_arith]
      omega

/-- The parser's WV integer step: the decimal numeral (`%u`) of the big-endian value of the
    octets when it fits 32 bits, `WV_INTEGER_OVERFLOW` otherwise. -/
theorem decodeWvInteger_spec (d : Bytes) :
    decodeWvInteger d =
      if Lemmas.Typed.beNat d < 4294967296 then .ok (natDigits (Lemmas.Typed.beNat d))
      else .error (.code E.wvIntegerOverflow) := by
  unfold decodeWvInteger
  rw [wvIntLoop_eq, Lemmas.Typed.wvIntAcc_spec 0 d (by omega), ← Lemmas.Typed.beNat_horner]
  split <;> rfl

end Wbxml.Lemmas.ParseSer

namespace Wbxml.Lemmas.EncW
open Wbxml Wbxml.Model

theorem decodeWvInteger_le4 (d : Bytes) (h : d.length ≤ 4) :
    decodeWvInteger d = .ok (natDigits (Lemmas.Typed.beNat d)) := by
  rw [Lemmas.ParseSer.decodeWvInteger_spec, if_pos (Lemmas.Typed.beNat_lt_of_le4 d h)]

theorem baToList_loop (bs : ByteArray) (i : Nat) (r : List UInt8) :
    ByteArray.toList.loop bs i r = r.reverse ++ bs.data.toList.drop i := by
  have hs : bs.size = bs.data.toList.length := by rw [Array.length_toList]; rfl
  fun_induction ByteArray.toList.loop bs i r with
  | case1 i r hlt ih =>
    rw [ih]
    have hlt' : i < bs.data.toList.length := by omega
    rw [List.drop_eq_getElem_cons hlt', List.reverse_cons, List.append_assoc]
    congr 1
    have hlt2 : i < bs.data.size := by rw [Array.length_toList] at hlt'; exact hlt'
    have : bs.get! i = bs.data.toList[i] := by
      show bs.data[i]! = _
      rw [getElem!_pos bs.data i hlt2, Array.getElem_toList]
    rw [this]; rfl
  | case2 i r hge =>
    have : bs.data.toList.length ≤ i := by omega
    rw [List.drop_eq_nil_of_le this, List.append_nil]

theorem baToList_eq (bs : ByteArray) : bs.toList = bs.data.toList := by
  unfold ByteArray.toList
  rw [baToList_loop bs 0 []]
  rfl

theorem digit_bytes : ∀ k, k < 10 →
    (String.singleton (Nat.digitChar k)).toByteArray.data.toList = [Typed.digitChar k] := by
  decide +kernel

theorem natDigits_eq_decNat (n : Nat) : natDigits n = Typed.decNat n := by
  unfold natDigits
  rw [String.toUTF8, baToList_eq]
  induction n using Nat.strongRecOn with
  | _ n ih =>
    by_cases h : n < 10
    · rw [Nat.toString_eq_repr, Nat.repr_of_lt h, Lemmas.Typed.decNat_lt h]
      exact digit_bytes n h
    · have h' : 10 ≤ n := by omega
      rw [Nat.toString_eq_repr, Nat.repr_of_ge h', String.toByteArray_append, ByteArray.toList_data_append,
        Lemmas.Typed.decNat_ge h']
      have := ih (n / 10) (by omega)
      rw [Nat.toString_eq_repr] at this
      rw [this, digit_bytes (n % 10) (Nat.mod_lt _ (by decide))]
      congr 2
      simp [Typed.digitChar]

end Wbxml.Lemmas.EncW
