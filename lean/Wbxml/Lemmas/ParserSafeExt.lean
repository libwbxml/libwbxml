/-
  Parser safety: extension stability.

  `ext s x` is the parser state `s` with `x` appended to the remaining input. A successful run of
  any parser function is unchanged when bytes are appended to the input: it returns the same value
  and the same cursor, `x` still appended (`Stab`, one lemma per function). The four inner loops are
  also run with more fuel, as the longer input gives them; for `parseElement` / `contentLoop` the
  statement is about runs (`Run.ext`, an induction on `Run` over `leafStep_stab` and `elemHead_stab`),
  and `ok_of_run` supplies any fuel that covers the octets read (`parseElement_ext`). The only places
  where a *successful* sub-run has looked at "end of input" are the negative exit tests of
  `attrValueLoop` (`is_attr_value`, up to three bytes of look-ahead: `LA`) and of `piLoop`
  (`is_token(PI)`); there the statement carries a side condition on the final cursor, which the
  callers establish (the loops around them only end at an `END` token).

  Consequence (`Lemmas/ParserTrunc`, `Props/C13`): a document cut anywhere before the end of its root element
  is rejected.
-/
import Wbxml.Lemmas.ParserRun
namespace Wbxml.Lemmas.ParserSafe
open Wbxml Wbxml.Model

def ext (s : PState) (x : Bytes) : PState := { s with rest := s.rest ++ x }

@[simp] theorem ext_rest (s : PState) (x : Bytes) : (ext s x).rest = s.rest ++ x := rfl
@[simp] theorem ext_lang (s : PState) (x : Bytes) : (ext s x).lang = s.lang := rfl
@[simp] theorem ext_strtbl (s : PState) (x : Bytes) : (ext s x).strtbl = s.strtbl := rfl
@[simp] theorem ext_charset (s : PState) (x : Bytes) : (ext s x).charset = s.charset := rfl
@[simp] theorem ext_tagPage (s : PState) (x : Bytes) : (ext s x).tagPage = s.tagPage := rfl
@[simp] theorem ext_attrPage (s : PState) (x : Bytes) : (ext s x).attrPage = s.attrPage := rfl
@[simp] theorem ext_curTag (s : PState) (x : Bytes) : (ext s x).curTag = s.curTag := rfl
@[simp] theorem ext_version (s : PState) (x : Bytes) : (ext s x).version = s.version := rfl

abbrev extP {α : Type} (x : Bytes) : α × PState → α × PState := fun p => (p.1, ext p.2 x)

def Stab {β : Type} (e : β → β) (m m' : Except Err β) : Prop := ∀ b, m = .ok b → m' = .ok (e b)

theorem Stab.of_not_ok {β : Type} {e : β → β} {m m' : Except Err β} (h : ∀ b, m ≠ .ok b) :
    Stab e m m' := fun b hb => absurd hb (h b)

theorem Stab.error {β : Type} {e : β → β} {m' : Except Err β} {er : Err} :
    Stab e (.error er) m' := fun _ hb => nomatch hb

/-- For a tail that does not read the cursor (a table look-up, a test on a value read before): the extended run is
    the run with `e` applied to its result, branch by branch by computation. -/
theorem Stab.of_map {β : Type} {e : β → β} {m m' : Except Err β} (h : m' = m.map e) : Stab e m m' := by
  intro b hb; rw [h, hb]; rfl

theorem Stab.pure_rfl {β : Type} {e : β → β} {b : β} :
    Stab e (pure b : Except Err β) (pure (e b)) := by
  intro b' hb; cases hb; rfl

theorem Stab.bind {β γ : Type} {e : β → β} {e2 : γ → γ} {m m' : Except Err β}
    {k k' : β → Except Err γ} (hm : Stab e m m')
    (hk : ∀ b, m = .ok b → Stab e2 (k b) (k' (e b))) : Stab e2 (m >>= k) (m' >>= k') := by
  intro c hc
  cases hmm : m with
  | error er => rw [hmm] at hc; cases hc
  | ok b =>
    rw [hmm] at hc
    rw [hm b hmm]
    exact hk b hmm c hc

/-- Same first action on both sides (it does not read the cursor). -/
theorem Stab.bind_same {β γ : Type} {e2 : γ → γ} {m : Except Err β}
    {k k' : β → Except Err γ}
    (hk : ∀ b, m = .ok b → Stab e2 (k b) (k' b)) : Stab e2 (m >>= k) (m >>= k') :=
  Stab.bind (e := id) (fun _ h => h) hk

theorem Stab.apply {β : Type} {e : β → β} {m m' : Except Err β} (h : Stab e m m') {b : β}
    (hb : m = .ok b) : m' = .ok (e b) := h b hb

theorem isToken_ext {s : PState} (x : Bytes) (t : UInt8) (h : s.rest ≠ []) :
    isToken (ext s x) t = isToken s t := by
  unfold isToken
  cases hr : s.rest with
  | nil => exact absurd hr h
  | cons b r => simp [hr]

theorem isToken_ext_of_true {s : PState} (x : Bytes) {t : UInt8} (h : isToken s t = true) :
    isToken (ext s x) t = true := by
  rw [isToken_ext x t (isToken_ne_nil h)]; exact h

theorem peekAt_ext_zero {s : PState} (x : Bytes) (h : s.rest ≠ []) :
    peekAt (ext s x) 0 = peekAt s 0 := by
  unfold peekAt
  cases hr : s.rest with
  | nil => exact absurd hr h
  | cons b r => simp [hr]

theorem isString_ext {s : PState} (x : Bytes) (h : s.rest ≠ []) : isString (ext s x) = isString s := by
  simp only [isString, isToken_ext x _ h]

theorem isLiteral_ext {s : PState} (x : Bytes) (h : s.rest ≠ []) : isLiteral (ext s x) = isLiteral s := by
  simp only [isLiteral, isToken_ext x _ h]

/-- Enough look-ahead for `is_extension` / `is_attr_value`: three bytes, or a first byte that is not
    `SWITCH_PAGE`. -/
def LA (s : PState) : Prop := 3 ≤ s.rest.length ∨ ∃ b r, s.rest = b :: r ∧ b ≠ 0

theorem LA.ne_nil {s : PState} (h : LA s) : s.rest ≠ [] := by
  rcases h with h | ⟨b, r, hr, _⟩
  · intro hn; rw [hn] at h; simp at h
  · rw [hr]; simp

theorem LA.of_isToken {s : PState} {t : UInt8} (h : isToken s t = true) (ht : t ≠ 0) : LA s := by
  obtain ⟨r, hr⟩ := isToken_iff.1 h
  exact Or.inr ⟨t, r, hr, ht⟩

theorem not_LA {s : PState} (h : ¬ LA s) : s.rest = [] ∨ s.rest = [0] ∨ ∃ p, s.rest = [0, p] := by
  cases hr : s.rest with
  | nil => exact Or.inl rfl
  | cons b r =>
    have hb : b = 0 := by
      apply Classical.byContradiction
      intro hb; exact h (Or.inr ⟨b, r, hr, hb⟩)
    subst hb
    cases r with
    | nil => exact Or.inr (Or.inl rfl)
    | cons p r' =>
      cases r' with
      | nil => exact Or.inr (Or.inr ⟨p, rfl⟩)
      | cons q r'' => exact absurd (Or.inl (by simp [hr])) h

/-- The byte two places on is inside the input, or it is not looked at. -/
theorem LA.peek2 {s : PState} (x : Bytes) (h : LA s) : peekAt (ext s x) 2 = peekAt s 2 ∨ isToken s 0 = false := by
  rcases h with h | ⟨b, r, hr, hb⟩
  · exact .inl (by simp only [peekAt, ext_rest]; rw [List.getElem?_append_left (by omega)])
  · refine .inr ?_
    unfold isToken; rw [hr]
    simp only [List.head?_cons]
    cases hbb : (some b == some (0 : UInt8)) with
    | false => rfl
    | true => exact absurd (by simpa using hbb) hb

theorem isExtension_ext {s : PState} (x : Bytes) (h : LA s) : isExtension (ext s x) = isExtension s := by
  have hne := h.ne_nil
  unfold isExtension
  rw [isToken_ext x _ hne, peekAt_ext_zero x hne]
  rcases h.peek2 x with h2 | h0
  · rw [h2]
  · simp only [h0, Bool.false_eq_true, if_false]

theorem isAttrValue_ext {s : PState} (x : Bytes) (h : LA s) : isAttrValue (ext s x) = isAttrValue s := by
  have hne := h.ne_nil
  unfold isAttrValue
  rw [isToken_ext x _ hne, isToken_ext x _ hne, isToken_ext x _ hne, peekAt_ext_zero x hne,
    isString_ext x hne, isExtension_ext x h]
  rcases h.peek2 x with h2 | h0
  · rw [h2]
  · simp only [h0, Bool.false_eq_true, if_false]

theorem LA.of_isAttrValue {s : PState} (h : isAttrValue s = true) : LA s := by
  apply Classical.byContradiction
  intro hn
  rcases not_LA hn with hr | hr | ⟨p, hr⟩ <;> simp [isAttrValue, peekAt, isToken, hr] at h

theorem itemOf_ext {s : PState} (x : Bytes) (h : LA s) : itemOf (ext s x) = itemOf s := by
  have hr := h.ne_nil
  simp only [itemOf, isExtension_ext x h, isToken_ext x _ hr, isString_ext x hr, peekAt_ext_zero x hr]

theorem skip1_stab (what : String) (s : PState) (x : Bytes) :
    Stab (fun s' => ext s' x) (skip1 what s) (skip1 what (ext s x)) := by
  unfold skip1
  cases hr : s.rest with
  | nil => exact Stab.error
  | cons b r =>
    simp only [ext_rest, hr, List.cons_append]
    exact Stab.pure_rfl

theorem parseU8_stab (s : PState) (x : Bytes) :
    Stab (extP x) (parseU8 s) (parseU8 (ext s x)) := by
  unfold parseU8
  cases hr : s.rest with
  | nil => exact Stab.error
  | cons b r =>
    simp only [ext_rest, hr, List.cons_append]
    exact Stab.pure_rfl

theorem mbLoop_stab (x : Bytes) : ∀ (n acc : Nat) (bs : Bytes),
    Stab (fun p => (p.1, p.2 ++ x)) (mbLoop n acc bs) (mbLoop n acc (bs ++ x))
  | 0, _, _ => Stab.error
  | n + 1, acc, [] => Stab.error
  | n + 1, acc, b :: r => by
    simp only [mbLoop, List.cons_append]
    split
    · exact Stab.pure_rfl
    · exact mbLoop_stab x n _ r

theorem parseMb_stab (s : PState) (x : Bytes) :
    Stab (extP x) (parseMb s) (parseMb (ext s x)) := by
  unfold parseMb
  refine Stab.bind (mbLoop_stab x 5 0 s.rest) ?_
  rintro ⟨v, r⟩ _
  exact Stab.pure_rfl

theorem convTerm_stab (cs : Nat) (avail x : Bytes) :
    Stab id (convTerm cs avail) (convTerm cs (avail ++ x)) := by
  unfold convTerm
  split
  · split <;> exact Stab.error
  · simp only
    split
    · exact Stab.error
    · rename_i hn
      have hlt : cstrLen avail < avail.length := by omega
      rw [cstrLen_append avail x hlt]
      have h2 : ¬ (cstrLen avail + 1 > (avail ++ x).length) := by
        simp only [List.length_append]; omega
      simp only [h2, if_false]
      split
      · rw [List.take_append_of_le_length (by omega)]
        exact Stab.pure_rfl
      · exact Stab.error

theorem parseTermstr_stab (s : PState) (x : Bytes) :
    Stab (extP x) (parseTermstr s) (parseTermstr (ext s x)) := by
  unfold parseTermstr
  simp only [ext_rest, ext_charset]
  refine Stab.bind (convTerm_stab s.charset s.rest x) ?_
  rintro ⟨str, used⟩ h
  have hu := (convTerm_safe s.charset s.rest).of_ok h
  simp only [id]
  intro b hb
  cases hb
  simp only [pure, Except.pure, extP, ext]
  rw [List.drop_append_of_le_length hu.2]

@[simp] theorem strtblRef_ext (s : PState) (x : Bytes) (i : Nat) : strtblRef (ext s x) i = strtblRef s i := rfl

syntax "bind_stab " term " with " rintroPat ppSpace rintroPat : tactic
macro_rules
  | `(tactic| bind_stab $t with $p $h) =>
    `(tactic| (refine Stab.bind $t ?_; rintro $p $h; try dsimp only [extP, ext_lang, ext_attrPage, ext_tagPage, ext_curTag, ext_charset, ext_strtbl, strtblRef_ext]))

theorem parseSwitchPage_stab (ts : Bool) (s : PState) (x : Bytes) :
    Stab (fun s' => ext s' x) (parseSwitchPage ts s) (parseSwitchPage ts (ext s x)) := by
  unfold parseSwitchPage
  bind_stab (skip1_stab _ s x) with s1 h1
  bind_stab (parseU8_stab s1 x) with ⟨p, s2⟩ h2
  cases ts <;> exact Stab.pure_rfl

theorem optSwitch_stab {γ : Type} {e2 : γ → γ} (ts : Bool) (s : PState) (x : Bytes)
    {jp jp' : PState → Except Err γ}
    (hnil : s.rest = [] → ∀ b, jp s ≠ .ok b)
    (hjp : ∀ s1, Stab e2 (jp s1) (jp' (ext s1 x))) :
    Stab e2 (if isToken s 0x00 = true then parseSwitchPage ts s >>= jp else pure s >>= jp)
      (if isToken (ext s x) 0x00 = true then parseSwitchPage ts (ext s x) >>= jp'
       else pure (ext s x) >>= jp') := by
  by_cases hr : s.rest = []
  · rw [isToken_nil hr]
    simp only [Bool.false_eq_true, if_false]
    exact Stab.of_not_ok (hnil hr)
  · rw [isToken_ext x _ hr]
    split
    · exact Stab.bind (parseSwitchPage_stab ts s x) fun s1 _ => hjp s1
    · exact hjp s

theorem parseExtension_stab (ts : Bool) (s : PState) (x : Bytes) :
    Stab (extP x) (parseExtension ts s) (parseExtension ts (ext s x)) := by
  rw [parseExtension_eq, parseExtension_eq]
  refine optSwitch_stab ts s x ?_ ?_
  · intro hr b
    simp only [parseU8, hr, bind, Except.bind]
    intro h; cases h
  · intro s1
    bind_stab (parseU8_stab s1 x) with ⟨tok, s2⟩ h2
    split
    · exact Stab.error
    · rename_i lang _
      rcases extBody_cases lang tok with h | h | ⟨suf, _, h⟩ | h <;> simp only [h]
      · exact Stab.error
      · exact Stab.pure_rfl
      · unfold extWml
        split
        · bind_stab (parseTermstr_stab s2 x) with ⟨v, s3⟩ h3
          exact Stab.pure_rfl
        · bind_stab (parseMb_stab s2 x) with ⟨idx, s3⟩ h3
          refine Stab.bind_same ?_; intro v _
          exact Stab.pure_rfl
      · unfold extWv
        bind_stab (parseMb_stab s2 x) with ⟨v, s3⟩ h3
        split
        · exact Stab.error
        · split <;> exact Stab.pure_rfl

theorem not_ok_of_nil {α : Type} {s : PState} {m : PRes(α)} (hm : Ok (fun p => Adv 1 s p.2) m)
    (hr : s.rest = []) : ∀ b, m ≠ .ok b := by
  intro b hb
  have := (hm.of_ok hb).len
  rw [hr] at this
  simp at this

theorem parseEntity_stab (s : PState) (x : Bytes) :
    Stab (extP x) (parseEntity s) (parseEntity (ext s x)) := by
  unfold parseEntity
  bind_stab (skip1_stab _ s x) with s1 h1
  bind_stab (parseMb_stab s1 x) with ⟨code, s2⟩ h2
  refine Stab.bind_same ?_; intro bs _
  exact Stab.pure_rfl

theorem parseString_stab (s : PState) (x : Bytes) :
    Stab (extP x) (parseString s) (parseString (ext s x)) := by
  by_cases hr : s.rest = []
  · exact Stab.of_not_ok (not_ok_of_nil ((parseString_ok s).mono fun _ h => h.1) hr)
  · unfold parseString
    rw [isToken_ext x _ hr, isToken_ext x _ hr]
    split
    · bind_stab (skip1_stab _ s x) with s1 h1
      exact parseTermstr_stab s1 x
    · split
      · bind_stab (skip1_stab _ s x) with s1 h1
        bind_stab (parseMb_stab s1 x) with ⟨idx, s2⟩ h2
        refine Stab.bind_same ?_; intro v _
        exact Stab.pure_rfl
      · exact Stab.error

theorem parseOpaque_stab (s : PState) (x : Bytes) :
    Stab (extP x) (parseOpaque s) (parseOpaque (ext s x)) := by
  unfold parseOpaque
  bind_stab (skip1_stab _ s x) with s1 h1
  bind_stab (parseMb_stab s1 x) with ⟨len, s2⟩ h2
  split
  · exact Stab.error
  · rename_i hlen
    have h2' : ¬ len > (ext s2 x).rest.length := by
      simp only [ext_rest, List.length_append]; omega
    rw [if_neg h2']
    simp only [ext_rest]
    rw [List.take_append_of_le_length (by omega), List.drop_append_of_le_length (by omega)]
    exact Stab.pure_rfl

theorem parseLiteral_stab (s : PState) (x : Bytes) :
    Stab (extP x) (parseLiteral s) (parseLiteral (ext s x)) := by
  unfold parseLiteral
  bind_stab (parseU8_stab s x) with ⟨tok, s1⟩ h1
  bind_stab (parseMb_stab s1 x) with ⟨idx, s2⟩ h2
  refine Stab.bind_same ?_; intro v _
  refine Stab.of_map ?_
  repeat' split
  all_goals rfl

theorem parseAttrStart_stab (s : PState) (x : Bytes) :
    Stab (extP x) (parseAttrStart s) (parseAttrStart (ext s x)) := by
  by_cases hr : s.rest = []
  · exact Stab.of_not_ok (not_ok_of_nil ((parseAttrStart_ok s).mono fun _ h => h.1) hr)
  · unfold parseAttrStart
    rw [isToken_ext x _ hr]
    split
    · bind_stab (parseLiteral_stab s x) with ⟨⟨m, str⟩, s1⟩ h1
      exact Stab.pure_rfl
    · refine optSwitch_stab false s x (fun h => absurd h hr) ?_
      intro s1
      bind_stab (parseU8_stab s1 x) with ⟨tag, s2⟩ h2
      refine Stab.of_map ?_
      repeat' split
      all_goals rfl

theorem parseAttrValue_LA {s : PState} {r : Option Bytes × PState} (h : parseAttrValue s = .ok r) : LA s := by
  apply Classical.byContradiction
  intro hn
  rcases not_LA hn with hr | hr | ⟨p, hr⟩ <;>
    simp [parseAttrValue, isExtension, isToken, peekAt, isString, hr, parseSwitchPage, skip1, parseU8,
      bind, Except.bind, pure, Except.pure] at h

theorem parseAttrStart_LA {s : PState} {r : (AName × Option Bytes) × PState} (h : parseAttrStart s = .ok r) : LA s := by
  apply Classical.byContradiction
  intro hn
  rcases not_LA hn with hr | hr | ⟨p, hr⟩ <;>
    simp [parseAttrStart, isToken, hr, parseSwitchPage, skip1, parseU8, bind, Except.bind, pure, Except.pure] at h

theorem parseAttrValue_stab (s : PState) (x : Bytes) :
    Stab (extP x) (parseAttrValue s) (parseAttrValue (ext s x)) := by
  by_cases hla : LA s
  · have token : Stab (extP x) (attrValueStep s .elem) (attrValueStep (ext s x) .elem) := by
      refine optSwitch_stab false s x (fun h => absurd h hla.ne_nil) ?_
      intro s1
      bind_stab (parseU8_stab s1 x) with ⟨tag, s2⟩ h2
      refine Stab.of_map ?_
      repeat' split
      all_goals rfl
    rw [parseAttrValue_eq, parseAttrValue_eq, itemOf_ext x hla]
    cases itemOf s
    case ext => exact parseExtension_stab false s x
    case entity =>
      bind_stab (parseEntity_stab s x) with ⟨b, s1⟩ h1
      exact Stab.pure_rfl
    case str =>
      bind_stab (parseString_stab s x) with ⟨b, s1⟩ h1
      exact Stab.pure_rfl
    case opaq =>
      bind_stab (parseOpaque_stab s x) with ⟨d, s1⟩ h1
      split
      · exact Stab.error
      · refine Stab.bind_same ?_; intro d' _
        exact Stab.pure_rfl
    all_goals exact token
  · exact Stab.of_not_ok fun b hb => hla (parseAttrValue_LA hb)

theorem attrValueLoop_stab (x : Bytes) : ∀ (f f' : Nat) (acc : Bytes) (s : PState), f ≤ f' →
    ∀ (v : Bytes) (s' : PState), attrValueLoop f acc s = .ok (v, s') → LA s' →
      attrValueLoop f' acc (ext s x) = .ok (v, ext s' x)
  | 0, _, _, _, _, _, _, h, _ => by simp [attrValueLoop] at h
  | f + 1, 0, _, _, hf, _, _, _, _ => by omega
  | f + 1, f' + 1, acc, s, hf, v, s', h, hla => by
    simp only [attrValueLoop] at h ⊢
    by_cases hav : isAttrValue s = true
    · rw [isAttrValue_ext x (LA.of_isAttrValue hav)]
      simp only [hav, if_true] at h ⊢
      obtain ⟨⟨v1, s1⟩, h1, h2⟩ := bind_eq_ok h
      rw [(parseAttrValue_stab s x).apply h1]
      exact attrValueLoop_stab x f f' _ s1 (by omega) v s' h2 hla
    · simp only [hav] at h
      cases h
      rw [isAttrValue_ext x hla]
      simp only [hav]
      rfl

theorem parseAttribute_stab (x : Bytes) (s : PState) (a : Attr) (s' : PState)
    (h : parseAttribute s = .ok (a, s')) (hla : LA s') :
    parseAttribute (ext s x) = .ok (a, ext s' x) := by
  unfold parseAttribute at h ⊢
  obtain ⟨⟨⟨name, pre⟩, s1⟩, h1, h⟩ := bind_eq_ok h
  rw [(parseAttrStart_stab s x).apply h1]
  obtain ⟨⟨v, s2⟩, h2, h⟩ := bind_eq_ok h
  obtain ⟨v', h3, h⟩ := bind_eq_ok h
  simp only [pure, Except.pure, Except.ok.injEq, Prod.mk.injEq] at h
  obtain ⟨ha, hs⟩ := h
  subst hs; subst ha
  have := attrValueLoop_stab x (s1.rest.length + 1) ((ext s1 x).rest.length + 1) (pre.getD []) s1
    (by simp) v s2 h2 hla
  simp only [bind, Except.bind, this, ext_lang] at h3 ⊢
  rw [h3]
  rfl

theorem attrsLoop_LA : ∀ {f : Nat} {acc : List Attr} {s : PState} {r : List Attr × PState},
    attrsLoop f acc s = .ok r → LA s
  | 0, _, _, _, h => by simp [attrsLoop] at h
  | f + 1, acc, s, r, h => by
    simp only [attrsLoop] at h
    obtain ⟨q, h1, _⟩ := bind_eq_ok h
    unfold parseAttribute at h1
    obtain ⟨q', h2, _⟩ := bind_eq_ok h1
    exact parseAttrStart_LA h2

theorem attrsLoop_stab (x : Bytes) : ∀ (f f' : Nat) (acc : List Attr) (s : PState), f ≤ f' →
    Stab (extP x) (attrsLoop f acc s) (attrsLoop f' acc (ext s x))
  | 0, _, _, _, _ => by simp only [attrsLoop]; exact Stab.error
  | f + 1, 0, _, _, hf => by omega
  | f + 1, f' + 1, acc, s, hf => by
    rintro ⟨as, s'⟩ h
    simp only [attrsLoop] at h ⊢
    obtain ⟨⟨a, s1⟩, h1, h⟩ := bind_eq_ok h
    by_cases ht : isToken s1 0x01 = true
    · rw [parseAttribute_stab x s a s1 h1 (LA.of_isToken ht (by decide))]
      simp only [ht, if_true] at h
      cases h
      simp only [bind, Except.bind, isToken_ext_of_true x ht, if_true]
      rfl
    · simp only [ht] at h
      have hla := attrsLoop_LA h
      rw [parseAttribute_stab x s a s1 h1 hla]
      simp only [bind, Except.bind, isToken_ext x _ hla.ne_nil, ht]
      exact attrsLoop_stab x f f' _ s1 (by omega) _ h

theorem piValueLoop_stab (x : Bytes) : ∀ (f f' : Nat) (acc : Bytes) (s : PState), f ≤ f' →
    Stab (extP x) (piValueLoop f acc s) (piValueLoop f' acc (ext s x))
  | 0, _, _, _, _ => by simp only [piValueLoop]; exact Stab.error
  | f + 1, 0, _, _, hf => by omega
  | f + 1, f' + 1, acc, s, hf => by
    simp only [piValueLoop]
    by_cases ht : isToken s 0x01 = true
    · simp only [ht, isToken_ext_of_true x ht, if_true]
      exact Stab.pure_rfl
    · simp only [ht]
      intro b hb
      obtain ⟨⟨v, s1⟩, h1, h2⟩ := bind_eq_ok hb
      have hla := parseAttrValue_LA h1
      simp only [isToken_ext x _ hla.ne_nil, ht]
      rw [(parseAttrValue_stab s x).apply h1]
      exact piValueLoop_stab x f f' _ s1 (by omega) b h2

theorem parsePi_stab (s : PState) (x : Bytes) :
    Stab (extP x) (parsePi s) (parsePi (ext s x)) := by
  unfold parsePi
  bind_stab (skip1_stab _ s x) with s1 h1
  bind_stab (parseAttrStart_stab s1 x) with ⟨⟨name, pre⟩, s2⟩ h2
  bind_stab (piValueLoop_stab x _ _ _ s2 (by simp)) with ⟨v, s3⟩ h3
  bind_stab (skip1_stab _ s3 x) with s4 h4
  exact Stab.pure_rfl

theorem parseTag_stab (s : PState) (x : Bytes) :
    Stab (extP x) (parseTag s) (parseTag (ext s x)) := by
  unfold parseTag
  bind_stab (parseU8_stab s x) with ⟨tag, s1⟩ h1
  refine Stab.of_map ?_
  repeat' split
  all_goals rfl

theorem parseStag_stab (s : PState) (x : Bytes) :
    Stab (extP x) (parseStag s) (parseStag (ext s x)) := by
  by_cases hr : s.rest = []
  · exact Stab.of_not_ok (not_ok_of_nil ((parseStag_ok s).mono fun _ h => h.1) hr)
  · unfold parseStag
    rw [isLiteral_ext x hr]
    split
    · bind_stab (parseLiteral_stab s x) with ⟨⟨m, str⟩, s1⟩ h1
      exact Stab.pure_rfl
    · exact parseTag_stab s x

theorem curTagSet_ext (name : Name) (s : PState) (x : Bytes) :
    curTagSet name (ext s x) = ext (curTagSet name s) x := by cases name <;> rfl

theorem elemAttrs_stab (tag : UInt8) (s : PState) (x : Bytes) :
    Stab (extP x) (elemAttrs tag s) (elemAttrs tag (ext s x)) := by
  unfold elemAttrs
  split
  · bind_stab (attrsLoop_stab x _ _ [] s (by simp)) with ⟨as, s1⟩ h1
    bind_stab (skip1_stab _ s1 x) with s2 h2
    exact Stab.pure_rfl
  · exact Stab.pure_rfl

theorem leafStep_stab (x : Bytes) (s : PState) (k : ItemKind) :
    Stab (extP x) (leafStep s k) (leafStep (ext s x) k) := by
  cases k <;> simp only [leafStep]
  case ext =>
    bind_stab (parseExtension_stab true s x) with ⟨r, s1⟩ h1
    exact Stab.pure_rfl
  case entity =>
    bind_stab (parseEntity_stab s x) with ⟨b, s1⟩ h1
    exact Stab.pure_rfl
  case str =>
    bind_stab (parseString_stab s x) with ⟨b, s1⟩ h1
    exact Stab.pure_rfl
  case opaq =>
    bind_stab (parseOpaque_stab s x) with ⟨d, s1⟩ h1
    split
    · exact Stab.error
    · refine Stab.bind_same ?_; intro d' _
      exact Stab.pure_rfl
  case pi =>
    bind_stab (parsePi_stab s x) with ⟨e, s1⟩ h1
    exact Stab.pure_rfl
  case switch =>
    bind_stab (parseSwitchPage_stab true s x) with s1 h1
    exact Stab.pure_rfl
  all_goals exact Stab.error

theorem elemHead1_stab (x : Bytes) (s : PState) : Stab (extP x) (elemHead1 s) (elemHead1 (ext s x)) := by
  unfold elemHead1
  bind_stab (parseStag_stab s x) with ⟨⟨tag, name⟩, s2⟩ h2
  rw [curTagSet_ext]
  bind_stab (elemAttrs_stab tag (curTagSet name s2) x) with ⟨attrs, s4⟩ h4
  exact Stab.pure_rfl

theorem elemHead_stab (x : Bytes) (s : PState) : Stab (extP x) (elemHead s) (elemHead (ext s x)) :=
  optSwitch_stab true s x
    (fun hr _ hb =>
      let ⟨a, ha, _⟩ := bind_eq_ok hb
      not_ok_of_nil ((parseStag_ok s).mono fun _ h => h.1) hr a ha)
    fun s1 => elemHead1_stab x s1

/-- Without the look-ahead `LA` the input is empty or a bare page switch: `parse_content` sees `eof` or `switch`. -/
theorem itemOf_short {s : PState} (h : ¬ LA s) :
    (s.rest = [] ∧ itemOf s = .eof) ∨ (s.rest.length ≤ 2 ∧ itemOf s = .switch) := by
  rcases not_LA h with hr | hr | ⟨p, hr⟩ <;> simp [itemOf, isToken, peekAt, isExtension, isString, hr]

theorem Run.ne_nil {s s' : PState} {es : List Event} (h : Run false s es s') : s.rest ≠ [] := by
  intro hr
  have hi : itemOf s = .eof := by simp [itemOf, isToken, peekAt, hr]
  cases h with
  | done h1 | leaf h1 _ | sub h1 _ _ => rw [hi] at h1; cases h1

theorem Run.la {s s' : PState} {es : List Event} (h : Run false s es s') : LA s := by
  apply Classical.byContradiction
  intro hn
  rcases itemOf_short hn with ⟨hr, _⟩ | ⟨hlen, hi⟩
  · exact h.ne_nil hr
  · cases h with
    | done h1 | sub h1 _ _ => rw [hi] at h1; cases h1
    | leaf h1 h2 =>
      rw [hi] at h1
      simp only [leafStep] at h1
      obtain ⟨s1, hs, h1⟩ := bind_eq_ok h1
      cases h1
      -- a page switch takes two octets: nothing is left for the rest of the content
      have := ((parseSwitchPage_ok (itemOf_token hi rfl)).of_ok hs).len
      exact h2.ne_nil (List.length_eq_zero_iff.mp (by omega))

theorem Run.ext (x : Bytes) {k : Bool} {s s' : PState} {es : List Event} (h : Run k s es s') :
    Run k (ext s x) es (ext s' x) := by
  induction h with
  | empty hh ht => exact Run.empty ((elemHead_stab x _).apply hh) ht
  | full hh ht _ hs ih => exact Run.full ((elemHead_stab x _).apply hh) ht ih ((skip1_stab _ _ x).apply hs)
  | done hi => exact Run.done (by rw [itemOf_ext x (LA.of_isToken (itemOf_token hi rfl) (by decide))]; exact hi)
  | leaf hl hr ih =>
    have hla := (Run.leaf hl hr).la
    exact Run.leaf (by rw [itemOf_ext x hla]; exact (leafStep_stab x _ _).apply hl) ih
  | sub hi he hr ih1 ih2 =>
    have hla := (Run.sub hi he hr).la
    exact Run.sub (by rw [itemOf_ext x hla]; exact hi) ih1 ih2

theorem parseElement_ext (x : Bytes) {f f' : Nat} {ev ev' : List Event} {s s' : PState} (hl : s.lang ≠ none)
    (h : parseElement f ev s = .ok (ev', s')) (hf : s.rest.length ≤ f') :
    parseElement f' ev (ext s x) = .ok (ev', ext s' x) := by
  obtain ⟨es, rfl, hr⟩ := (run_of_ok f).1 _ _ _ _ h
  refine (ok_of_run (hr.ext x) hl).1 rfl f' ev ?_
  simp only [ext_rest, List.length_append]
  omega

theorem parseStrtbl_stab (s : PState) (x : Bytes) :
    Stab (fun s' => ext s' x) (parseStrtbl s) (parseStrtbl (ext s x)) := by
  cases hm : mbLoop 5 0 s.rest with
  | error e => rw [parseStrtbl_of_error s hm]; exact Stab.error
  | ok p =>
    obtain ⟨len, r⟩ := p
    rw [parseStrtbl_of_len s len r hm,
      parseStrtbl_of_len (ext s x) len (r ++ x) ((mbLoop_stab x 5 0 s.rest).apply hm)]
    split
    · exact Stab.pure_rfl
    · split
      · exact Stab.error
      · rename_i hlen
        have h2 : ¬ len > (r ++ x).length := by simp only [List.length_append]; omega
        rw [if_neg h2, List.take_append_of_le_length (by omega), List.drop_append_of_le_length (by omega)]
        exact Stab.pure_rfl

@[simp] theorem checkPublicId_ext (cfg : PCfg) (s : PState) (x : Bytes) (pid : Nat) (idx : Option Nat) :
    checkPublicId cfg (ext s x) pid idx = checkPublicId cfg s pid idx := rfl

theorem headerPre_stab (cfg : PCfg) (bs x : Bytes) :
    Stab (fun q => (q.1, q.2.1, ext q.2.2 x)) (headerPre cfg bs) (headerPre cfg (bs ++ x)) := by
  unfold headerPre
  bind_stab (parseU8_stab { rest := bs } x) with ⟨ver, s1⟩ h1
  refine Stab.bind (e := fun q => (q.1, q.2.1, ext q.2.2 x)) ?_ ?_
  · simp only [ext_rest]
    cases hr : s1.rest with
    | nil => exact Stab.error
    | cons b r =>
      simp only [List.cons_append]
      split
      · bind_stab (parseMb_stab { s1 with rest := r, version := ver.toNat } x) with ⟨i, s2⟩ h2
        exact Stab.pure_rfl
      · bind_stab (parseMb_stab { s1 with rest := b :: r, version := ver.toNat } x) with ⟨p, s2⟩ h2
        exact Stab.pure_rfl
  · rintro ⟨pubId, pubIdx, s2⟩ _
    dsimp only [ext_version]
    refine Stab.bind (e := fun s' => ext s' x) ?_ ?_
    · by_cases hv : (s2.version != 0) = true
      · simp only [hv, if_true]
        bind_stab (parseMb_stab s2 x) with ⟨cs, s3⟩ h3
        refine Stab.of_map ?_
        repeat' split
        all_goals rfl
      · simp only [hv]
        exact Stab.pure_rfl
    · intro s3 _
      dsimp only [ext_charset]
      by_cases hc : (s3.charset == 0) = true
      · simp only [hc, if_true]
        split <;> exact Stab.pure_rfl
      · simp only [hc]
        split <;> exact Stab.pure_rfl

theorem parseHeader_stab (cfg : PCfg) (bs x : Bytes) :
    Stab (fun p => (ext p.1 x, p.2)) (parseHeader cfg bs) (parseHeader cfg (bs ++ x)) := by
  rw [parseHeader_eq, parseHeader_eq]
  cases bs with
  | nil => exact Stab.error
  | cons b r =>
    bind_stab (headerPre_stab cfg (b :: r) x) with ⟨pid, idx, s1⟩ hh
    bind_stab (parseStrtbl_stab s1 x) with s2 h2
    rw [checkPublicId_ext]
    split
    · exact Stab.error
    · exact Stab.pure_rfl

theorem piLoop_exit : ∀ {f : Nat} {ev : List Event} {s : PState} {ev' : List Event} {s' : PState},
    piLoop f ev s = .ok (ev', s') → isToken s' 0x43 = false
  | 0, _, _, _, _, h => by simp [piLoop] at h
  | f + 1, ev, s, ev', s', h => by
    simp only [piLoop] at h
    by_cases ht : isToken s 0x43 = true
    · simp only [ht, if_true] at h
      obtain ⟨⟨e, s1⟩, _, h2⟩ := bind_eq_ok h
      exact piLoop_exit h2
    · simp only [ht] at h
      cases h
      simpa using ht

/-- `piLoop` under extension when the appended bytes do not make the exit test succeed. -/
theorem piLoop_stab' (x : Bytes) : ∀ (f f' : Nat) (ev : List Event) (s : PState), f ≤ f' →
    ∀ (ev' : List Event) (s' : PState), piLoop f ev s = .ok (ev', s') → isToken (ext s' x) 0x43 = false →
      piLoop f' ev (ext s x) = .ok (ev', ext s' x)
  | 0, _, _, _, _, _, _, h, _ => by simp [piLoop] at h
  | f + 1, 0, _, _, hf, _, _, _, _ => by omega
  | f + 1, f' + 1, ev, s, hf, ev', s', h, hne => by
    simp only [piLoop] at h ⊢
    by_cases ht : isToken s 0x43 = true
    · simp only [ht, isToken_ext_of_true x ht, if_true] at h ⊢
      obtain ⟨⟨e, s1⟩, h1, h2⟩ := bind_eq_ok h
      rw [(parsePi_stab s x).apply h1]
      exact piLoop_stab' x f f' _ s1 (by omega) ev' s' h2 hne
    · simp only [ht] at h
      cases h
      simp only [hne, Bool.false_eq_true, if_false]
      rfl

theorem piLoop_stab (x : Bytes) : ∀ (f f' : Nat) (ev : List Event) (s : PState), f ≤ f' →
    ∀ (ev' : List Event) (s' : PState), piLoop f ev s = .ok (ev', s') → s'.rest ≠ [] →
      piLoop f' ev (ext s x) = .ok (ev', ext s' x) :=
  fun f f' ev s hf ev' s' h hne =>
    piLoop_stab' x f f' ev s hf ev' s' h (by rw [isToken_ext x _ hne]; exact piLoop_exit h)

end Wbxml.Lemmas.ParserSafe
