/-
  WBXML encoder proofs: typed content. Where the encoder stands in the tree versus where a reader
  stands in the grammar (`Pos`): the encoder types a text by `current_tag` (Wireless Village, binary
  tags) or by the parent element (DRMREL), the reader by the enclosing element's own tag (`own`) and
  the parser's single `current_tag` slot (`slot`). Under `Pos` and the source hypotheses of
  `Lemmas/EncWTyped.lean` every OPAQUE a text node is written as satisfies `Spec.wfItem`
  (`text_wfT`), and an element passes a `Pos` on to its children (`Pos.kids`).
-/
import Wbxml.Lemmas.EncWText
import Wbxml.Lemmas.EncWTag
import Wbxml.Lemmas.TypedWvDate
namespace Wbxml.Lemmas.EncW
open Wbxml Wbxml.Model Wbxml.Spec Wbxml.Lemmas.ParseSer
open Wbxml.Model.Codec (mbEncode)

/-- `cur` = the encoder's `current_tag`, `parent` = name of the enclosing element node;
    `own` / `slot` = the reader's two tags at the same place; `ty` = the source-side flag of
    `noCdataInTyped`, `pre` = "only text nodes so far" of `keyValueTextFirst`. No field mentions `ctx`:
    the users pass the reader context whose tags `own` / `slot` are. -/
structure Pos (c : WCfg) (ctx : Ctx) (parent : Option Name) (cur : Option TagRow) (ty pre : Bool)
    (own slot : Option TagRow) : Prop where
  cur : ∀ r, cur = some r → slot = own ∧ ∃ r', own = some r' ∧ r'.page = r.page ∧ r'.token = r.token ∧
    ∃ tags, c.lang.tags = some tags ∧ r ∈ tags
  par : ∀ r0, parent = some (.token r0) → ∃ r', own = some r' ∧ r'.page = r0.page ∧ r'.token = r0.token
  pre : pre = true → ∀ r0, parent = some (.token r0) → slot = own
  unt : ty = false → typedOpt c.lang.id own = false ∧ typedOpt c.lang.id slot = false

theorem Pos.root (c : WCfg) (ctx : Ctx) (pre : Bool) : Pos c ctx none none false pre none none :=
  ⟨(fun _ h => by cases h), (fun _ h => by cases h), (fun _ _ h => by cases h), fun _ => ⟨rfl, rfl⟩⟩

theorem slotEnd_cases (slot : Option TagRow) (l : List Item) : slotEnd slot l = slot ∨ slotEnd slot l = none := by
  induction l generalizing slot with
  | nil => exact Or.inl rfl
  | cons it rest ih =>
    simp only [slotEnd]
    cases it with
    | elem e =>
      simp only [slotAfter]
      rcases ih none with h | h <;> exact Or.inr h
    | str s => exact ih slot
    | entity cd => exact ih slot
    | «opaque» d => exact ih slot
    | ext sw x => exact ih slot
    | pi a => exact ih slot

theorem slotEnd_append (slot : Option TagRow) (a b : List Item) : slotEnd slot (a ++ b) = slotEnd (slotEnd slot a) b := by
  induction a generalizing slot with
  | nil => rfl
  | cons x xs ih => simp only [List.cons_append, slotEnd, ih]

/-- After the items of a node: `current_tag` is NULL, the slot is unchanged or cleared. -/
theorem Pos.next {c ctx parent cur ty pre own slot} (h : Pos c ctx parent cur ty pre own slot) (a : List Item)
    (pre' : Bool) (hp : pre' = true → pre = true ∧ slotEnd slot a = slot) :
    Pos c ctx parent none ty pre' own (slotEnd slot a) := by
  refine ⟨(fun _ h => by cases h), h.par, ?_, ?_⟩
  · intro hp' r0 hr0
    obtain ⟨h1, h2⟩ := hp hp'
    rw [h2]; exact h.pre h1 r0 hr0
  · intro hty
    obtain ⟨h1, h2⟩ := h.unt hty
    refine ⟨h1, ?_⟩
    rcases slotEnd_cases slot a with e | e <;> rw [e]
    · exact h2
    · rfl

/-- Inside a CDATA node: same tags, no parent. -/
theorem Pos.cdata {c ctx parent cur ty pre own slot} (h : Pos c ctx parent cur ty pre own slot) :
    Pos c ctx none cur ty pre own slot :=
  ⟨h.cur, (fun _ h => by cases h), (fun _ _ h => by cases h), h.unt⟩

/-- The children of an element: the reader's own tag is the row of the tag written (same page and
    token as `current_tag`), the slot holds it too — or, for a literal tag, the slot is inherited. -/
theorem Pos.kids {c : WCfg} {ctx : Ctx} {parent cur ty pre own slot} (h : Pos c ctx parent cur ty pre own slot)
    (hlang : ctx.lang = c.lang) (hl : langOk c.lang = true) (name : Name) (hn : nameOver c.lang name = true)
    (st : WSt) (sw : Option Nat) (tag : Tag) (hlink : TagLink c name st sw tag) :
    Pos c ctx (some name) (foundAt c.lang st.tagPage name) (kidsTy c.lang ty name) true
      (tagName ctx (swPage sw st.tagPage) tag).2
      (slotOfTag (tagName ctx (swPage sw st.tagPage) tag).2 slot tag) := by
  unfold TagLink at hlink
  cases hf : foundAt c.lang st.tagPage name with
  | some r =>
    rw [hf] at hlink
    obtain ⟨rfl, rfl⟩ := hlink
    obtain ⟨⟨tags, ht, hm⟩, hnm⟩ := foundAt_spec c.lang st.tagPage name hn r hf
    have hrange := tagRange r (langOk_tags hl ht hm)
    obtain ⟨r', hfr, _, htok, hpage⟩ := tagRow_found c ctx hlang tags ht r hm
    have hown : (tagName ctx (swPage (swFor st.tagPage r.page) st.tagPage) (.tok r.token)).2 = some r' := by
      rw [swPage_swFor, Nat.mod_eq_of_lt hrange.2.2]
      simp only [tagName, hfr]
    rw [hown]
    simp only [slotOfTag]
    refine ⟨?_, ?_, fun _ _ _ => rfl, ?_⟩
    · intro r1 hr1
      injection hr1 with hr1; subst hr1
      exact ⟨rfl, r', rfl, hpage, htok, tags, ht, hm⟩
    · intro r0 hr0
      injection hr0 with hr0; subst hr0
      rw [foundAt_token] at hf
      injection hf with hf; subst hf
      exact ⟨r', rfl, hpage, htok⟩
    · intro hty
      have : typedRow c.lang.id r = false := by
        cases name with
        | token r0 =>
          rw [foundAt_token] at hf
          injection hf with hf; subst hf
          exact hty
        | literal s =>
          simp only [kidsTy, ht, Option.getD_some, Bool.or_eq_false_iff, List.any_eq_false, Bool.and_eq_true,
            beq_iff_eq, not_and, Bool.not_eq_true] at hty
          exact hty.2 r hm hnm
      have h' : typedOpt c.lang.id (some r') = false := by
        show typedRow c.lang.id r' = false
        rw [typedRow_congr _ r r' hpage htok]; exact this
      exact ⟨h', h'⟩
  | none =>
    rw [hf] at hlink
    obtain ⟨rfl, off, rfl⟩ := hlink
    have hnotok : ∀ r0, name ≠ .token r0 := by
      intro r0 e; subst e; rw [foundAt_token] at hf; cases hf
    refine ⟨(fun _ h => by cases h), ?_, ?_, ?_⟩
    · intro r0 hr0; injection hr0 with hr0; exact absurd hr0 (hnotok r0)
    · intro _ r0 hr0; injection hr0 with hr0; exact absurd hr0 (hnotok r0)
    · intro hty
      cases name with
      | token r0 => exact absurd rfl (hnotok r0)
      | literal s =>
        simp only [kidsTy, Bool.or_eq_false_iff] at hty
        exact ⟨rfl, (h.unt hty.1).2⟩

theorem opaque_wf (ctx : Ctx) (own slot : Option TagRow) (pg : Pages) (d : Bytes) (hd : d.length < 4294967296)
    (hs : slot = own) (b : Bytes) (h : decodeOpaqueContent ctx.lang.id own d = .ok b) :
    wfItems ctx own slot pg [.opaque d] = true := by
  subst hs
  rw [wfItems_cons, wfItem_opaque, wfItems]
  simp [opaqueText, h, hd]

theorem opaque_wf_untyped (ctx : Ctx) (own slot : Option TagRow) (pg : Pages) (d : Bytes) (hd : d.length < 4294967296)
    (h1 : typedOpt ctx.lang.id own = false) (h2 : typedOpt ctx.lang.id slot = false) :
    wfItems ctx own slot pg [.opaque d] = true := by
  rw [wfItems_cons, wfItem_opaque, wfItems, opaqueText_untyped ctx own d h1, opaqueText_untyped ctx slot d h2]
  simp [hd]

/-- **Every OPAQUE a text node is written as is well-formed** for a reader at the same position. -/
theorem text_wfT (c : WCfg) (parent : Option Name) (s : Bytes) (st : WSt) (items : List Item)
    (hout : TextOut c parent s st items) (htl : typedLangOk c.lang = true) (ty pre : Bool)
    (hb64 : b64TextDecodes c parent (.text s) = true) (hkv : keyValueTextFirst c parent pre (.text s) = true)
    (ctx : Ctx) (hc : Compat c st.strtbl ctx) (hsz : ∀ d ∈ opqsItems items, d.length < 4294967296)
    (own slot : Option TagRow) (hpos : Pos c ctx parent st.curTag ty pre own slot) (pg : Pages)
    (hplain : opqsItems items = [] → wfItems ctx own slot pg items = true) :
    wfItems ctx own slot pg items = true := by
  rcases hout with hno | ⟨hbin, rfl⟩ | ⟨p, rfl, hsil, _, htyped⟩
  · exact hplain hno
  · -- binary-flagged `current_tag`: no typed rule there
    have hd : s.length < 4294967296 := hsz s (by rw [opqsItems_cons, opqsItem_opaque]; exact List.mem_cons_self)
    cases hct : st.curTag with
    | none => rw [hct] at hbin; cases hbin
    | some r =>
      rw [hct] at hbin
      obtain ⟨hso, r', hown, hpage, htok, tags, ht, hm⟩ := hpos.cur r hct
      have hu : typedOpt ctx.lang.id own = false := by
        rw [hown, hc.lang]
        exact typedOpt_binary htl ht hm hbin hpage htok
      exact opaque_wf_untyped ctx own slot pg s hd hu (by rw [hso]; exact hu)
  · have hd : p.length < 4294967296 := hsz p (by rw [opqsItems_cons, opqsItem_opaque]; exact List.mem_cons_self)
    rcases htyped with ⟨hwv, t, hct, hk⟩ | ⟨hid, r, hpar, hkvr, hdec⟩
    · -- Wireless Village integer / date-time
      obtain ⟨hso, r', hown, hpage, htok, _⟩ := hpos.cur t hct
      have hwv' : isWv ctx.lang.id = true := by rw [hc.lang]; exact hwv
      rcases hk with ⟨hk, hlen⟩ | ⟨hk, hlen⟩
      · have hty := (wvKind_compat t.page t.token).1 hk
        refine opaque_wf ctx own slot pg p hd hso (natDigits (Lemmas.Typed.beNat p)) ?_
        rw [hown]
        simp only [decodeOpaqueContent, hwv', ↓reduceIte, hpage, htok, hty]
        exact decodeWvInteger_le4 p hlen
      · have hty := (wvKind_compat t.page t.token).2 hk
        obtain ⟨b, hb⟩ := decodeWvDatetime_len6 p hlen
        refine opaque_wf ctx own slot pg p hd hso b ?_
        rw [hown]
        simp only [decodeOpaqueContent, hwv', ↓reduceIte, hpage, htok, hty]
        exact hb
    · -- DRMREL `ds:KeyValue`
      obtain ⟨r', hown, hpage, htok⟩ := hpos.par r hpar
      have hkvp : kvPar c.lang parent = true := by rw [hpar]; exact hkvr
      rw [keyValueTextFirst] at hkv
      rw [b64TextDecodes] at hb64
      simp only [hkvp, hsil, Bool.not_true, Bool.false_or, Bool.or_false] at hkv hb64
      have hso := hpos.pre hkv r hpar
      have hne : p ≠ [] := by
        simp only [b64NonEmpty, hdec, Bool.not_eq_true', List.isEmpty_eq_false_iff] at hb64
        exact hb64
      refine opaque_wf ctx own slot pg p hd hso (Rfc4648.encode p) ?_
      rw [hown, hc.lang, decodeOpaqueContent_kv _ r r' hkvr hpage htok]
      exact decodeBase64Value_spec p hne

end Wbxml.Lemmas.EncW
