/-
  Whole documents: the prolog `xml_fill_header` writes is read as the XML declaration and the language's
  DOCTYPE (`document_read_ws`), and `treeToXml` on a representable tree is read back as the tree's view, in
  indented generation up to the blanks the printer adds (`treeToXml_read_gen`). The precondition and the
  view of C05 are defined here: `langOk` and `xdoctype` for the language entry, `xmlRepresentable` and
  `xview` for the tree.
-/
import Wbxml.Lemmas.XmlSpecMain
import Wbxml.Lemmas.XmlModes
namespace Wbxml.Lemmas.XmlSpec
open Wbxml Wbxml.Model Wbxml.Spec Wbxml.Spec.Xml Wbxml.Lemmas.EncW Wbxml.Lemmas.XmlPrint Wbxml.Lemmas.XmlNs

theorem literal_read (p : UInt8 → Bool) (s rest : Bytes) (hq : s.all (· != 34) = true) (hp : s.all p = true) :
    literal p 34 (s ++ 34 :: rest) = some (s, rest) := by
  have htw : (s ++ 34 :: rest).takeWhile (· != 34) = s := by
    rw [List.takeWhile_append_of_pos (by simpa using hq)]
    simp [List.takeWhile]
  simp [literal, htw, hp]

theorem xmlDecl_read (r : Bytes) : xmlDecl (b!" version=\"1.0\"?>" ++ r) = some (b!"1.0", r) := by
  have hl := literal_read (fun _ => true) b!"1.0" (b!"?>" ++ r) (by decide) (by decide)
  simp only [List.cons_append, List.nil_append] at hl
  simp [xmlDecl, reqS, skipS, isS, strip, Spec.Xml.eq, quoted, hl]

/-- The precondition on the language entry: a root name that is a Name, a public identifier made of
    PubidChars, a DTD location without a double quote. -/
def langOk (lang : Lang) : Bool :=
  (match lang.pub.root with
   | some r => isName r
   | none => false) &&
  (match lang.pub.xmlId with
   | some p => p.all isPubidChar && xmlChars p
   | none => true) &&
  (lang.pub.dtd.getD []).all (· != 34) && xmlChars (lang.pub.dtd.getD [])

/-- ` SYSTEM` or ` PUBLIC "<public id>"`. -/
def hdrId (lang : Lang) : Bytes :=
  match lang.pub.xmlId with
  | some p => if p.isEmpty then b!" SYSTEM" else b!" PUBLIC \"" ++ p ++ b!"\""
  | none => b!" SYSTEM"

theorem xmlHeader_eq (lang : Lang) (gen : Nat) :
    xmlHeader lang gen = b!"<?xml version=\"1.0\"?>" ++ (if gen == 1 then newLine else []) ++ b!"<!DOCTYPE " ++
      lang.pub.root.getD [] ++ hdrId lang ++ b!" \"" ++ lang.pub.dtd.getD [] ++ b!"\">" ++ (if gen == 1 then newLine else []) := by
  unfold xmlHeader hdrId
  cases lang.pub.xmlId <;> rfl

/-- The document type declaration `xml_fill_header` writes, as a reader sees it. -/
def xdoctype (lang : Lang) : XDoctype :=
  { name := lang.pub.root.getD [],
    pubid := (match lang.pub.xmlId with
      | some p => if p.isEmpty then none else some p
      | none => none),
    sysid := some (lang.pub.dtd.getD []) }

theorem pubid_no_quote (p : Bytes) (h : p.all isPubidChar = true) : p.all (· != 34) = true := by
  rw [List.all_eq_true] at h ⊢
  intro b hb
  have := h b hb
  simp only [bne_iff_ne, ne_eq]
  intro e; subst e
  simp [isPubidChar, isDigit] at this

theorem doctype_system (root : Bytes) (hr : isName root = true) (D : Bytes) (hd : D.all (· != 34) = true) (E : Bytes) :
    doctypeDecl (32 :: (root ++ (b!" SYSTEM \"" ++ (D ++ (b!"\">" ++ E))))) =
      some ({ name := root, pubid := none, sysid := some D }, E) := by
  obtain ⟨a, n', hn', ha⟩ := isName_head root hr
  obtain ⟨_, _, _, hS⟩ := nameStartByte_facts a ha
  have hlitD := literal_read (fun _ => true) D (62 :: E) hd (by simp)
  have hsk : skipS (root ++ (b!" SYSTEM \"" ++ (D ++ (b!"\">" ++ E)))) = root ++ (b!" SYSTEM \"" ++ (D ++ (b!"\">" ++ E))) := by
    rw [hn', List.cons_append, skipS_cons_of_not _ _ hS]
  have hname := name_append root (b!" SYSTEM \"" ++ (D ++ (b!"\">" ++ E))) hr
    (by intro b r hbr; simp at hbr; obtain ⟨rfl, _⟩ := hbr; decide)
  simp only [doctypeDecl, reqS, show isS 32 = true by decide, ↓reduceIte, hsk, bind, Option.bind, hname]
  simp [skipS, isS, strip, reqS, externalId, quoted, hlitD]

theorem doctype_public (root : Bytes) (hr : isName root = true) (p : Bytes) (hp : p.all isPubidChar = true)
    (D : Bytes) (hd : D.all (· != 34) = true) (E : Bytes) :
    doctypeDecl (32 :: (root ++ (b!" PUBLIC \"" ++ (p ++ (b!"\" \"" ++ (D ++ (b!"\">" ++ E))))))) =
      some ({ name := root, pubid := some p, sysid := some D }, E) := by
  obtain ⟨a, n', hn', ha⟩ := isName_head root hr
  obtain ⟨_, _, _, hS⟩ := nameStartByte_facts a ha
  have hlitD := literal_read (fun _ => true) D (62 :: E) hd (by simp)
  have hlitP := literal_read isPubidChar p (32 :: 34 :: (D ++ 34 :: 62 :: E)) (pubid_no_quote p hp) hp
  have hsk : ∀ Q, skipS (root ++ Q) = root ++ Q := by
    intro Q; rw [hn', List.cons_append, skipS_cons_of_not _ _ hS]
  have hname := name_append root (b!" PUBLIC \"" ++ (p ++ (b!"\" \"" ++ (D ++ (b!"\">" ++ E))))) hr
    (by intro b r hbr; simp at hbr; obtain ⟨rfl, _⟩ := hbr; decide)
  simp only [doctypeDecl, reqS, show isS 32 = true by decide, ↓reduceIte, hsk, bind, Option.bind, hname]
  simp [skipS, isS, strip, reqS, externalId, quoted, hlitD, hlitP]

theorem doctype_read (lang : Lang) (hl : langOk lang = true) (E : Bytes) :
    doctypeDecl (32 :: (lang.pub.root.getD [] ++
      hdrId lang ++ b!" \"" ++ lang.pub.dtd.getD [] ++ b!"\">" ++ E)) = some (xdoctype lang, E) := by
  simp only [langOk, Bool.and_eq_true] at hl
  obtain ⟨⟨⟨hr, hp⟩, hd⟩, _⟩ := hl
  cases hroot : lang.pub.root with
  | none => simp [hroot] at hr
  | some root =>
    simp only [hroot] at hr
    generalize hD : lang.pub.dtd.getD [] = D at hd ⊢
    unfold hdrId
    cases hx : lang.pub.xmlId with
    | none =>
      have := doctype_system root hr D hd E
      simpa [xdoctype, hroot, hx, hD] using this
    | some p =>
      simp only [hx, Bool.and_eq_true] at hp
      by_cases hpe : p.isEmpty = true
      · have := doctype_system root hr D hd E
        simpa [xdoctype, hroot, hx, hD, hpe] using this
      · have := doctype_public root hr p hp.1 D hd E
        simpa [xdoctype, hroot, hx, hD, hpe] using this


theorem skipS_blank (w : Bytes) (hw : w.all isBlankB = true) (Z : Bytes) : skipS (w ++ Z) = skipS Z := by
  induction w with
  | nil => rfl
  | cons b r ih =>
    simp only [List.all_cons, Bool.and_eq_true] at hw
    have hb : isS b = true := by rcases blank_cases b hw.1 with rfl | rfl <;> decide
    simp only [List.cons_append, skipS, List.dropWhile_cons_of_pos hb]
    exact ih hw.2

/-- **Header and root element**: the document `wbxml_tree_to_xml` assembles — header, white space, root
    element, white space — is read as a document with the XML declaration, the language's DOCTYPE and the
    root element. -/
theorem document_read_ws (lang : Lang) (hl : langOk lang = true) (gen : Nat) (w1 E' w2 : Bytes) (e : XItem)
    (hw1 : w1.all isBlankB = true) (hw2 : w2.all isBlankB = true) (hE : EPiece (60 :: E') e) :
    document (xmlHeader lang gen ++ (w1 ++ (60 :: E' ++ w2))) =
      some { version := some b!"1.0", doctype := some (xdoctype lang), root := e } := by
  generalize hnl : (if gen == 1 then newLine else ([] : Bytes)) = nl
  have hnlb : nl.all isBlankB = true := by rw [← hnl]; exact nl_blank _
  have hdt := doctype_read lang hl (nl ++ (w1 ++ (60 :: E' ++ w2)))
  have hdecl := xmlDecl_read (nl ++ (b!"<!DOCTYPE " ++ (lang.pub.root.getD [] ++
      hdrId lang ++ b!" \"" ++ lang.pub.dtd.getD [] ++ b!"\">" ++ (nl ++ (w1 ++ (60 :: E' ++ w2))))))
  have hel := hE w2 ((60 :: E' ++ w2).length + 1) (by simp)
  have hhdr : xmlHeader lang gen ++ (w1 ++ (60 :: E' ++ w2)) = b!"<?xml" ++ (b!" version=\"1.0\"?>" ++ (nl ++ (b!"<!DOCTYPE " ++ (lang.pub.root.getD [] ++
      hdrId lang ++ b!" \"" ++ lang.pub.dtd.getD [] ++ b!"\">" ++ (nl ++ (w1 ++ (60 :: E' ++ w2))))))) := by
    rw [xmlHeader_eq, hnl]; simp
  rw [hhdr]
  simp only [document, strip_append, hdecl, Option.map_some, bind, Option.bind, pure]
  have hs1 : ∀ Z, skipS (60 :: Z) = 60 :: Z := fun Z => skipS_cons_of_not 60 Z (by decide)
  rw [skipS_blank nl hnlb, show ∀ Z : Bytes, skipS (b!"<!DOCTYPE " ++ Z) = b!"<!DOCTYPE" ++ (32 :: Z) from fun Z => hs1 _, strip_append]
  simp only [hdt, Option.map_some, skipS_blank nl hnlb, skipS_blank w1 hw1]
  rw [show skipS (60 :: E' ++ w2) = 60 :: E' ++ w2 from hs1 _]
  simp only [hel]
  have : skipS w2 = [] := by
    have := skipS_blank w2 hw2 []
    simpa [skipS_nil] using this
  simp [this]

theorem xmlChars_header (lang : Lang) (hl : langOk lang = true) (gen : Nat) : xmlChars (xmlHeader lang gen) = true := by
  simp only [langOk, Bool.and_eq_true] at hl
  obtain ⟨⟨⟨hr, hp⟩, _⟩, hd⟩ := hl
  have hnl : xmlChars (if gen == 1 then newLine else []) = true := by
    cases (gen == 1) <;> decide
  have hroot : xmlChars (lang.pub.root.getD []) = true := by
    cases h : lang.pub.root with
    | none => rfl
    | some r => simp only [h] at hr; exact isName_xmlChars r hr
  have hpub : xmlChars (hdrId lang) = true := by
    unfold hdrId
    cases h : lang.pub.xmlId with
    | none => decide
    | some p =>
      simp only [h, Bool.and_eq_true] at hp
      simp only []
      cases p.isEmpty with
      | true => simp only [↓reduceIte]; decide
      | false =>
        have h1 : xmlChars b!" PUBLIC \"" = true := by decide
        have h2 : xmlChars b!"\"" = true := by decide
        exact xmlChars_append _ _ (xmlChars_append _ _ h1 hp.2) h2
  rw [xmlHeader_eq]
  exact xmlChars_append _ _ (xmlChars_append _ _ (xmlChars_append _ _ (xmlChars_append _ _ (xmlChars_append _ _
    (xmlChars_append _ _ (xmlChars_append _ _ (xmlChars_append _ _ (by decide) hnl) (by decide)) hroot) hpub)
    (by decide)) hd) (by decide)) hnl


theorem element_head (f : Nat) (bs : Bytes) (x : XItem × Bytes) (h : element f bs = some x) : ∃ r, bs = 60 :: r := by
  cases f with
  | zero => simp [element] at h
  | succ f =>
    cases bs with
    | nil => simp [element, strip] at h
    | cons b r =>
      by_cases hb : b = 60
      · exact ⟨r, by rw [hb]⟩
      · have : ((60 : UInt8) == b) = false := by simpa using fun e => hb e.symm
        simp [element, strip, this] at h

/-- **The precondition of C05 as a decidable predicate** (for the configuration the tree is printed
    with): the tree has a language whose registered root name is a Name, whose public identifier
    consists of PubidChars and whose DTD location has no double quote; its root is an element; every
    element name and (in a language with an attribute table) every attribute name is a Name; attribute
    values (as C strings) and the character data written for text nodes are UTF-8 for XML characters;
    no start tag carries the same attribute name twice (the namespace declaration counts as `xmlns`),
    namespace names contain no `"`, `<`, `&`, TAB, LF, CR; a CDATA node holds at most one text node; an
    embedded document has a language and a root, which satisfies the same conditions (under its own
    language) — and does not sit inside a CDATA node. -/
def xmlRepresentable (cfg : W2XCfg) (t : Tree) : Bool :=
  match t.lang, t.root with
  | some lang, some (.elt name attrs kids) =>
    langOk lang && okNode (xcfgOf cfg lang) .none none (.elt name attrs kids)
  | _, _ => false

/-- **What the tree denotes**, as the printer model writes it under `cfg`. -/
def xview (cfg : W2XCfg) (t : Tree) : XItem :=
  match t.lang, t.root with
  | some lang, some (.elt name attrs kids) => xelem (xcfgOf cfg lang) .none name attrs kids
  | _, _ => .text []

theorem read_eq_document {bs : Bytes} (h : xmlChars bs = true) : Spec.Xml.read bs = document bs := by
  unfold Spec.Xml.read
  rw [h]
  rfl

theorem xmlRepresentable_iff (cfg : W2XCfg) (t : Tree) :
    xmlRepresentable cfg t = true ↔
      ∃ lang name attrs kids, t.lang = some lang ∧ t.root = some (.elt name attrs kids) ∧
        langOk lang = true ∧ okNode (xcfgOf cfg lang) .none none (.elt name attrs kids) = true := by
  unfold xmlRepresentable
  constructor
  · intro h
    cases hl : t.lang with
    | none => simp [hl] at h
    | some lang =>
      cases hr : t.root with
      | none => simp [hl, hr] at h
      | some root =>
        cases root with
        | elt name attrs kids =>
          simp only [hl, hr, Bool.and_eq_true] at h
          exact ⟨lang, name, attrs, kids, rfl, rfl, h.1, h.2⟩
        | text s => simp [hl, hr] at h
        | cdata k => simp [hl, hr] at h
        | tree a b c => simp [hl, hr] at h
  · rintro ⟨lang, name, attrs, kids, hl, hr, h1, h2⟩
    simp [hl, hr, h1, h2]

theorem treeToXml_ok (cfg : W2XCfg) (fuel : Nat) (t : Tree) (xml : Bytes)
    (hrep : xmlRepresentable cfg t = true) (h : treeToXml cfg fuel t = .ok xml) :
    ∃ lang name attrs kids r, t.lang = some lang ∧ xview cfg t = xelem (xcfgOf cfg lang) .none name attrs kids ∧
      langOk lang = true ∧ okNode (xcfgOf cfg lang) .none none (.elt name attrs kids) = true ∧
      xtoks (xcfgOf cfg lang).tk .none fuel (.elt name attrs kids) 0 false false none = .ok r ∧
      xml = xmlHeader lang cfg.gen ++ renderToks (xcfgOf cfg lang) r.1 := by
  obtain ⟨lang, name, attrs, kids, hl, hr, hlang, hok⟩ := (xmlRepresentable_iff cfg t).mp hrep
  obtain ⟨lang', root, r, hl', hr', hx, rfl⟩ := treeToXml_ok_toks h
  rw [hl] at hl'; cases hl'
  rw [hr] at hr'; cases hr'
  -- `hx` has `cfg.xcfg lang`, which unfolds to `xcfgOf cfg lang`
  exact ⟨lang, name, attrs, kids, r, hl, by simp only [xview, hl, hr], hlang, hok, hx, rfl⟩

/-- **Every generation mode**: the output of `treeToXml` on a representable tree is a well-formed
    document with the language's DOCTYPE whose root element is the tree's view up to blanks (space,
    line feed) in character data, and the view itself outside indented generation. -/
theorem treeToXml_read_gen (cfg : W2XCfg) (fuel : Nat) (t : Tree) (xml : Bytes)
    (hrep : xmlRepresentable cfg t = true) (h : treeToXml cfg fuel t = .ok xml) :
    ∃ lang r, t.lang = some lang ∧
      Spec.Xml.read xml = some { version := some b!"1.0", doctype := some (xdoctype lang), root := r } ∧
      sqI r = sqI (xview cfg t) ∧ ((cfg.gen == 1) = false → r = xview cfg t) := by
  obtain ⟨lang, name, attrs, kids, r, hl, hv, hlang, hok, hr, rfl⟩ := treeToXml_ok cfg fuel t xml hrep h
  obtain ⟨F, hp, _, hE⟩ := (pad_toks fuel (xcfgOf cfg lang)).1 .none _ _ _ _ r hok hr
  obtain ⟨w1, E, w2, e, hP, ⟨hw1, _⟩, ⟨hw2, _⟩, hE', hsq, heq⟩ := hE
  obtain ⟨E', hE60⟩ := element_head _ _ _ (hE' [] (E ++ []).length (Nat.le_refl _))
  simp only [List.append_nil] at hE60
  refine ⟨lang, e, hl, ?_, by rw [hv]; exact hsq, fun hg => by rw [hv]; exact heq hg⟩
  rw [hP, hE60]
  rw [hE60] at hE'
  have hc : xmlChars (xmlHeader lang cfg.gen ++ (w1 ++ (60 :: E' ++ w2))) = true := by
    have := xmlChars_append _ _ (xmlChars_header lang hlang cfg.gen) hp.chars
    rw [hP, hE60] at this
    exact this
  rw [read_eq_document hc]
  exact document_read_ws lang hlang cfg.gen w1 E' w2 e hw1 hw2 hE'

end Wbxml.Lemmas.XmlSpec
