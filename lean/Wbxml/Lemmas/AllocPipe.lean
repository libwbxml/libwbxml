/-
  C16 — the four whole conversions: a tree-building half (`wbxml_tree_from_wbxml` or
  `wbxml_tree_from_xml`) composed with an output half (`wbxml_tree_to_wbxml` or `wbxml_tree_to_xml`)
  and `wbxml_tree_destroy`; one theorem for the composition, `pipe_spec`.
-/
import Wbxml.Model.AllocPipe
import Wbxml.Model.AllocPipeXml
import Wbxml.Lemmas.AllocParseDoc
import Wbxml.Lemmas.AllocTreeXml
import Wbxml.Lemmas.AllocEncTree
import Wbxml.Lemmas.AllocXml
namespace Wbxml.Model.Alloc
open Wbxml

/-- The shape of the four conversions: `front` builds the tree, `back` reads it, the tree is destroyed.
    `wbxml2wbxml`, `wbxml2xml`, `xml2wbxml`, `xml2xml` of the model unfold to `pipe …` by definition. -/
def pipe (front : Prog (Nat × Option TCtx)) (back : TCtx → Prog (Nat × Option (Nat × Bytes))) :
    Prog (Nat × Option (Nat × Bytes)) := do
  let (ret, c) ← front
  match c with
  | none => pure (ret, none)
  | some c => do
    let r ← back c
    treeDestroy c
    pure r

/-- The benign requests of `back` are stated from the ledger `front` leaves; the conclusion states
    them from the start of the conversion. -/
theorem pipe_spec {front : Prog (Nat × Option TCtx)} {back : TCtx → Prog (Nat × Option (Nat × Bytes))}
    {benign : TCtx → Ledger → Nat → Prop} {s : Ledger} (wf : s.WF) (hfront : TreeMade [] front)
    (hback : ∀ c s1, s1.WF → Owns s1 c.owned → Good (back c) s1 (fun r s' =>
      Clean s1 s' [] (ownedResult r.2) ∧ Reported s1 s' (benign c s1) (r.1 ≠ OK) ∧ (r.1 ≠ OK → r.2 = none))) :
    Good (pipe front back) s (fun r s' => Clean s s' [] (ownedResult r.2) ∧ (r.1 ≠ OK → r.2 = none) ∧
      Reported s s' (fun k => ∃ c s1, run front s = (.ok (OK, some c), s1) ∧ benign c s1 k) (r.1 ≠ OK)) := by
  have sf0 : Sofar s s [] [] (fun k => ∃ c s1, run front s = (.ok (OK, some c), s1) ∧ benign c s1 k) False :=
    .start wf (.nil s)
  refine Good.next [] [] wf sf0 hfront (.refl _) nofun fun ⟨ret, c0⟩ s1 sf hr1 ⟨e1, _⟩ => ?_
  cases c0 with
  | none => exact good_ret.2 ⟨sf.clean, fun _ => rfl, sf.rep.mono (fun _ _ _ => id) (·.resolve_left id)⟩
  | some c =>
    obtain rfl : ret = OK := Decidable.byContradiction fun h => nomatch e1 h
    -- `front` has returned `WBXML_OK` with the tree: a benign request of `back` is one of the conversion
    refine Good.next_rep [] c.owned (b := benign c s1) wf sf (.of_eq (List.append_nil _))
      (fun _ => hback c s1 sf.clean.wf (sf.clean.prod_perm (.of_eq (List.append_nil _))).owns)
      (fun _ _ _ _ k _ _ h => ⟨c, s1, hr1, h⟩) fun r s2 sf2 _ n2 => ?_
    refine Good.next (ownedResult r.2) [] wf sf2 (treeDestroy_frees c).tri (.of_eq (by simp)) nofun fun _ s3 sf3 _ _ => ?_
    exact good_ret.2 ⟨sf3.clean.prod_perm (.of_eq (by simp)), n2,
      sf3.rep.mono (fun _ _ _ => id) fun f => (f.resolve_right id).resolve_left fun g => (g.resolve_left id) rfl⟩

theorem treeToXml_back (g : XGen) (l : XLang) (xtree : TCtx → XNode) (hx : ∀ c, ∀ t ∈ (xtree c).bufs, t.hdr ∈ c.owned)
    (c : TCtx) (s1 : Ledger) (wf1 : s1.WF) (own : Owns s1 c.owned) :
    Good (treeToXml g l (xtree c)) s1 (fun r s' =>
      Clean s1 s' [] (ownedResult r.2) ∧ Reported s1 s' (fun _ => False) (r.1 ≠ OK) ∧ (r.1 ≠ OK → r.2 = none)) :=
  ((treeToXml_tri g l (xtree c) (hx c)).good wf1 (.nil s1) fun i hi => ⟨own.2 i hi, List.not_mem_nil⟩).later.mono
    fun _ _ ⟨⟨cl, rep, n⟩, lt, _⟩ => ⟨cl, (Reported.strict_iff lt).2 rep, n⟩

theorem treeToWbxml_back (useStrtbl : Bool) (texts : TCtx → List ABuf) (htexts : ∀ c, ∀ t ∈ texts c, t.hdr ∈ c.owned)
    (body : TCtx → List Bytes) (version publicId : Nat) (c : TCtx) (s1 : Ledger) (wf1 : s1.WF) (own : Owns s1 c.owned) :
    Good (treeToWbxml useStrtbl (texts c) (body c) version publicId) s1 (fun r s' =>
      Clean s1 s' [] (ownedResult r.2) ∧ Reported s1 s' (TreeBenign useStrtbl (texts c) s1) (r.1 ≠ OK) ∧ (r.1 ≠ OK → r.2 = none)) :=
  (treeToWbxml_spec useStrtbl (texts c) (body c) version publicId s1 wf1 fun t ht => own.2 _ (htexts c t ht)).mono
    fun _ _ ⟨cl, n, rep⟩ => ⟨cl, rep, n⟩

theorem pipe_strict {conv : Prog (Nat × Option (Nat × Bytes))} {s : Ledger} {ben : Nat → Prop} (hb : ∀ k, ¬ ben k)
    (h : Good conv s (fun r s' => Clean s s' [] (ownedResult r.2) ∧ (r.1 ≠ OK → r.2 = none) ∧ Reported s s' ben (r.1 ≠ OK))) :
    Good conv s (fun r s' => Clean s s' [] (ownedResult r.2) ∧ (r.1 ≠ OK → r.2 = none) ∧ (s.hits < s'.hits → r.1 ≠ OK)) :=
  (h.strict (fun _ _ q => q.2.2) hb).mono fun _ _ ⟨⟨c, n, _⟩, e⟩ => ⟨c, n, e⟩

/-- The benign requests of the conversion: those of the encoder half (`TreeBenign`: the
    string-table requests whose failure only makes the table smaller), seen from the start of the
    conversion.  The parser / tree-building half has none. -/
def PipeBenign (d : Doc) (useStrtbl : Bool) (texts : TCtx → List ABuf) (s : Ledger) (k : Nat) : Prop :=
  ∃ c s1, run (treeFromWbxml d) s = (.ok (OK, some c), s1) ∧ TreeBenign useStrtbl (texts c) s1 k

theorem wbxml2wbxml_spec (d : Doc) (hd : d.wf) (useStrtbl : Bool) (texts : TCtx → List ABuf)
    (htexts : ∀ c, ∀ t ∈ texts c, t.hdr ∈ c.owned) (body : TCtx → List Bytes) (version publicId : Nat)
    (s : Ledger) (wf : s.WF) :
    Good (wbxml2wbxml d useStrtbl texts body version publicId) s (fun r s' =>
      Clean s s' [] (ownedResult r.2) ∧ (r.1 ≠ OK → r.2 = none) ∧
      Reported s s' (PipeBenign d useStrtbl texts s) (r.1 ≠ OK)) :=
  pipe_spec wf (treeFromWbxml_tri d hd) (treeToWbxml_back useStrtbl texts htexts body version publicId)

theorem wbxml2xml_spec (d : Doc) (hd : d.wf) (g : XGen) (l : XLang) (xtree : TCtx → XNode)
    (hx : ∀ c, ∀ t ∈ (xtree c).bufs, t.hdr ∈ c.owned) (s : Ledger) (wf : s.WF) :
    Good (wbxml2xml d g l xtree) s (fun r s' =>
      Clean s s' [] (ownedResult r.2) ∧ (r.1 ≠ OK → r.2 = none) ∧ (s.hits < s'.hits → r.1 ≠ OK)) :=
  pipe_strict (fun _ ⟨_, _, _, h⟩ => h) (pipe_spec wf (treeFromWbxml_tri d hd) (treeToXml_back g l xtree hx))

/-- The benign requests of the XML → tree → WBXML conversion: those of the encoder half (`TreeBenign`),
    seen from the start of the conversion.  The Expat call-backs have none. -/
def XPipeBenign (binRow : Nat → Bool) (events : List XEvent) (parseOk : Bool) (useStrtbl : Bool) (texts : TCtx → List ABuf)
    (s : Ledger) (k : Nat) : Prop :=
  ∃ c s1, run (treeFromXml binRow events parseOk) s = (.ok (OK, some c), s1) ∧ TreeBenign useStrtbl (texts c) s1 k

theorem xml2wbxml_spec (binRow : Nat → Bool) (events : List XEvent) (parseOk : Bool) (useStrtbl : Bool) (texts : TCtx → List ABuf)
    (htexts : ∀ c, ∀ t ∈ texts c, t.hdr ∈ c.owned) (body : TCtx → List Bytes) (version publicId : Nat)
    (s : Ledger) (wf : s.WF) :
    Good (xml2wbxml binRow events parseOk useStrtbl texts body version publicId) s (fun r s' =>
      Clean s s' [] (ownedResult r.2) ∧ (r.1 ≠ OK → r.2 = none) ∧
      Reported s s' (XPipeBenign binRow events parseOk useStrtbl texts s) (r.1 ≠ OK)) :=
  pipe_spec wf (treeFromXml_tri binRow events parseOk) (treeToWbxml_back useStrtbl texts htexts body version publicId)

theorem xml2xml_spec (binRow : Nat → Bool) (events : List XEvent) (parseOk : Bool) (g : XGen) (l : XLang) (xtree : TCtx → XNode)
    (hx : ∀ c, ∀ t ∈ (xtree c).bufs, t.hdr ∈ c.owned) (s : Ledger) (wf : s.WF) :
    Good (xml2xml binRow events parseOk g l xtree) s (fun r s' =>
      Clean s s' [] (ownedResult r.2) ∧ (r.1 ≠ OK → r.2 = none) ∧ (s.hits < s'.hits → r.1 ≠ OK)) :=
  pipe_strict (fun _ ⟨_, _, _, h⟩ => h) (pipe_spec wf (treeFromXml_tri binRow events parseOk) (treeToXml_back g l xtree hx))

end Wbxml.Model.Alloc
