/-
  Parser safety: every function of the body and header stage of `Model/Parser.lean`
  satisfies `Ok (Adv k s ·)`:
    * it never reaches an `Err.ub` flag (each blind `skip1` follows a successful token test; the two
      `langTable NULL` flags need `s.lang ≠ none`, which `parseHeader` establishes and every
      function preserves),
    * it never exhausts the fuel the model supplies (each loop round / recursive descent consumes
      at least one byte),
    * on success the remaining input is a suffix of the previous one, shorter by at least `k`; what a
      leaf reader delivers is bounded by the input left, the string table and the language's rows.
  The walk over elements and content is `elem_content_ok`; `leafStep_ok` and `elemHead_ok` hold the cases of
  the non-element items and of the element head. The header is taken as `headerPre`, string table, public-id check
  (`parseHeader_eq`). `parse_anatomy` puts the two stages together for `parse` itself.
-/
import Wbxml.Lemmas.ParserSafeBasic
import Wbxml.Lemmas.TreeMeasure
namespace Wbxml.Lemmas.ParserSafe
open Wbxml Wbxml.Model
open Wbxml.Lemmas.W2X (strBound langM optMax find_le_optMax)

theorem parseSwitchPage_ok {tagSpace : Bool} {s : PState} (h : isToken s 0x00 = true) :
    Ok (fun s' => Adv 2 s s') (parseSwitchPage tagSpace s) := by
  unfold parseSwitchPage
  bind_ok (skip1_tok h) with s1 h1
  bind_ok (parseU8_ok s1) with ⟨p, s2⟩ h2
  simp only [Ok_pure]
  have := h1.trans h2 (m := 2)
  split
  · exact this.of_rest_eq rfl rfl rfl rfl
  · exact this.of_rest_eq rfl rfl rfl rfl

/-- The recurring `let s ← if isToken s 0 then parseSwitchPage … else pure s`. -/
theorem optSwitch_ok {γ : Type} {Q : γ → Prop} (tagSpace : Bool) (s : PState) {jp : PState → Except Err γ}
    (hjp : ∀ s1, Adv 0 s s1 → Ok Q (jp s1)) :
    Ok Q (if isToken s 0x00 = true then parseSwitchPage tagSpace s >>= jp else pure s >>= jp) := by
  split
  · rename_i h
    exact Ok.bind (parseSwitchPage_ok h) fun s1 h1 => hjp s1 h1.weaken
  · exact hjp s (Adv.refl s)

/-- An extension token delivers `$(name:escape)` around a string of the document (WML), or an
    extension-value name of the table (Wireless Village). -/
theorem parseExtension_ok (tagSpace : Bool) (s : PState) :
    Ok (fun p => Adv 1 s p.2 ∧
        ∀ l, s.lang = some l → (p.1.getD []).length ≤ max s.rest.length (strBound s) + langM l + 10)
      (parseExtension tagSpace s) := by
  rw [parseExtension_eq]
  refine optSwitch_ok tagSpace s ?_; intro s1 h1
  bind_ok (parseU8_ok s1) with ⟨tok, s2⟩ h2
  have h12 : Adv 1 s s2 := h1.trans h2
  have hlen := h12.len
  split
  · simp
  · rename_i lang hlang
    rcases extBody_cases lang tok with h | h | ⟨suf, hs, h⟩ | h <;> rw [h]
    · simp
    · exact ⟨h12, fun _ _ => Nat.zero_le _⟩
    · unfold extWml
      split
      · bind_ok (parseTermstr_ok s2) with ⟨v, s3⟩ ⟨h3, hv⟩
        refine ⟨h12.trans h3, fun l _ => ?_⟩
        simp only [Option.getD_some, List.length_append, List.length_cons, List.length_nil]
        omega
      · bind_ok (parseMb_ok s2) with ⟨idx, s3⟩ h3
        bind_ok (strtblRef_ok s3 idx) with v hv
        refine ⟨h12.trans h3, fun l _ => ?_⟩
        rw [(h12.trans h3 (m := 1)).strBound] at hv
        simp only [Option.getD_some, List.length_append, List.length_cons, List.length_nil]
        omega
    · unfold extWv
      bind_ok (parseMb_ok s2) with ⟨v, s3⟩ h3
      split
      · simp
      · rename_i exts hexts
        split
        · exact ⟨h12.trans h3, fun _ _ => Nat.zero_le _⟩
        · rename_i r hr
          refine ⟨h12.trans h3, fun l hl => ?_⟩
          obtain rfl : lang = l := by rw [← h12.lang, hlang] at hl; exact Option.some.inj hl
          have := find_le_optMax (fun r : ExtRow => r.name.length) hexts hr
          unfold W2X.langM
          simp only [Option.getD_some]
          omega

theorem parseEntity_ok {s : PState} (h : isToken s 0x02 = true) :
    Ok (fun p => Adv 1 s p.2 ∧ p.1.length ≤ 7) (parseEntity s) := by
  unfold parseEntity
  bind_ok (skip1_tok h) with s1 h1
  bind_ok (parseMb_ok s1) with ⟨code, s2⟩ h2
  bind_ok (entityBytes_safe code) with bs hb
  simp only [Ok_pure]; exact ⟨h1.trans h2, hb⟩

theorem parseString_ok (s : PState) :
    Ok (fun p => Adv 1 s p.2 ∧ p.1.length ≤ max s.rest.length (strBound s)) (parseString s) := by
  unfold parseString
  split
  · rename_i h
    bind_ok (skip1_tok h) with s1 h1
    refine (parseTermstr_ok s1).mono fun p hp => ⟨h1.trans hp.1, ?_⟩
    have := hp.2; have := h1.len; omega
  · split
    · rename_i h
      bind_ok (skip1_tok h) with s1 h1
      bind_ok (parseMb_ok s1) with ⟨idx, s2⟩ h2
      bind_ok (strtblRef_ok s2 idx) with v hv
      rw [(h1.trans h2 (m := 1)).strBound] at hv
      refine ⟨h1.trans h2, ?_⟩
      show v.length ≤ _
      omega
    · simp

theorem parseOpaque_ok {s : PState} (h : s.rest ≠ []) :
    Ok (fun p => Adv 2 s p.2 ∧ p.1.length + 2 + p.2.rest.length ≤ s.rest.length) (parseOpaque s) := by
  unfold parseOpaque
  bind_ok (skip1_ok h) with s1 h1
  bind_ok (parseMb_ok s1) with ⟨len, s2⟩ h2
  split
  · simp
  · have := h1.len
    have := h2.len
    simp only [Ok_pure, List.length_take, List.length_drop]
    refine ⟨(h1.trans h2 (m := 2)).trans (j := 0) ⟨rfl, rfl, rfl, List.drop_suffix _ _, ?_⟩, by omega⟩
    simp only [List.length_drop]; omega

theorem parseLiteral_ok (s : PState) :
    Ok (fun p => Adv 2 s p.2 ∧ p.1.2.length ≤ strBound s) (parseLiteral s) := by
  unfold parseLiteral
  bind_ok (parseU8_ok s) with ⟨tok, s1⟩ h1
  bind_ok (parseMb_ok s1) with ⟨idx, s2⟩ h2
  bind_ok (strtblRef_ok s2 idx) with str hv
  have := h1.trans h2 (m := 2)
  rw [this.strBound] at hv
  -- each of the four literal tokens returns the string and the state as they are; any other token is error 13
  iterate 4 (split; · exact ⟨this, hv⟩)
  exact (by decide : E.internal ≠ 0)

/-- An attribute start delivers its name and value prefix: a table row, a string-table string, or `unknown`. -/
theorem parseAttrStart_ok (s : PState) :
    Ok (fun p => Adv 1 s p.2 ∧
        ∀ l, s.lang = some l → p.1.1.size + (p.1.2.getD []).length ≤ max (strBound s) (langM l) + 7)
      (parseAttrStart s) := by
  unfold parseAttrStart
  split
  · bind_ok (parseLiteral_ok s) with ⟨⟨m, str⟩, s1⟩ ⟨h1, hv⟩
    refine ⟨h1.weaken, fun l _ => ?_⟩
    simp only [AName.size, Option.getD_none, List.length_nil]
    omega
  · refine optSwitch_ok false s ?_; intro s1 h1
    bind_ok (parseU8_ok s1) with ⟨tag, s2⟩ h2
    have h12 : Adv 1 s s2 := h1.trans h2
    split
    · simp
    · rename_i lang hlang
      split
      · simp
      · rename_i attrs hattrs
        split
        · refine ⟨h12, fun l _ => ?_⟩
          simp only [AName.size, unknownStr, Option.getD_none, List.length_cons, List.length_nil]
          omega
        · rename_i r hr
          refine ⟨h12, fun l hl => ?_⟩
          obtain rfl : lang = l := by rw [← h12.lang, hlang] at hl; exact Option.some.inj hl
          have := find_le_optMax (fun r : AttrRow => r.name.length + (r.value.getD []).length) hattrs hr
          unfold W2X.langM
          simp only [AName.size]
          omega

/-- An attribute-value token delivers the name of its row. -/
theorem attrValueToken_ok (s : PState) :
    Ok (fun p => Adv 1 s p.2 ∧ ∀ l, s.lang = some l → (p.1.getD []).length ≤ langM l) (attrValueStep s .elem) := by
  refine optSwitch_ok false s ?_; intro s1 h1
  bind_ok (parseU8_ok s1) with ⟨tag, s2⟩ h2
  have h12 : Adv 1 s s2 := h1.trans h2
  split
  · simp
  · rename_i lang hlang
    split
    · simp
    · rename_i vals hvals
      split
      · simp
      · rename_i r hr
        refine ⟨h12, fun l hl => ?_⟩
        obtain rfl : lang = l := by rw [← h12.lang, hlang] at hl; exact Option.some.inj hl
        have := find_le_optMax (fun r : ValRow => r.name.length) hvals hr
        unfold W2X.langM
        simp only [Option.getD_some]
        omega

theorem parseAttrValue_ok {s : PState} (hl : s.lang ≠ none) :
    Ok (fun p => Adv 1 s p.2) (parseAttrValue s) := by
  have token := (attrValueToken_ok s).mono fun _ h => h.1
  rw [parseAttrValue_eq]
  cases hi : itemOf s
  case ext => exact (parseExtension_ok false s).mono fun _ h => h.1
  case entity =>
    bind_ok (parseEntity_ok (itemOf_token hi rfl)) with ⟨b, s1⟩ ⟨h1, _⟩
    simpa using h1
  case str =>
    bind_ok (parseString_ok s) with ⟨b, s1⟩ ⟨h1, _⟩
    simpa using h1
  case opaq =>
    bind_ok (parseOpaque_ok (isToken_ne_nil (itemOf_token hi rfl))) with ⟨d, s1⟩ ⟨h1, _⟩
    split
    · rename_i hn
      exact absurd (hn.symm.trans h1.lang) (fun h => hl h.symm)
    · refine Ok.bind (decodeOpaqueAttrValue_safe _ d) ?_; intro d' _
      simp only [Ok_pure]; exact h1.weaken
  all_goals exact token

theorem attrValueLoop_ok : ∀ (f : Nat) (acc : Bytes) (s : PState), s.lang ≠ none → s.rest.length < f →
    Ok (fun p => Adv 0 s p.2) (attrValueLoop f acc s)
  | 0, _, _, _, hf => by omega
  | f + 1, acc, s, hl, hf => by
    simp only [attrValueLoop]
    split
    · bind_ok (parseAttrValue_ok hl) with ⟨v, s1⟩ h1
      refine (attrValueLoop_ok f _ s1 (h1.lang_ne hl) (by have := h1.len; omega)).mono ?_
      intro p hp; exact h1.trans hp
    · simp only [Ok_pure]; exact Adv.refl s

theorem parseAttribute_ok {s : PState} (hl : s.lang ≠ none) :
    Ok (fun p => Adv 1 s p.2) (parseAttribute s) := by
  rw [parseAttribute_eq]
  bind_ok (parseAttrStart_ok s) with ⟨⟨name, pre⟩, s1⟩ ⟨h1, -⟩
  have hl1 : s1.lang ≠ none := h1.lang_ne hl
  bind_ok (attrValueLoop_ok _ _ s1 hl1 (Nat.lt_succ_self _)) with ⟨v, s2⟩ h2
  refine Ok.bind (P := fun _ => True) ?_ ?_
  · rcases attrTyped_cases s2.lang name v with h | h | ⟨hn, -⟩
    · rw [h]; simp
    · rw [h]; exact decodeDatetime_safe v
    · exact absurd hn (h2.lang_ne hl1)
  · intro v' _
    simp only [Ok_pure]; exact h1.trans h2

theorem attrsLoop_ok : ∀ (f : Nat) (acc : List Attr) (s : PState), s.lang ≠ none → s.rest.length < f →
    Ok (fun p => Adv 1 s p.2 ∧ isToken p.2 0x01 = true) (attrsLoop f acc s)
  | 0, _, _, _, hf => by omega
  | f + 1, acc, s, hl, hf => by
    simp only [attrsLoop]
    bind_ok (parseAttribute_ok hl) with ⟨a, s1⟩ h1
    split
    · rename_i ht
      simp only [Ok_pure]; exact ⟨h1, ht⟩
    · refine (attrsLoop_ok f _ s1 (h1.lang_ne hl) (by have := h1.len; omega)).mono ?_
      rintro p ⟨hp, ht⟩; exact ⟨h1.trans hp, ht⟩

theorem piValueLoop_ok : ∀ (f : Nat) (acc : Bytes) (s : PState), s.lang ≠ none → s.rest.length < f →
    Ok (fun p => Adv 0 s p.2 ∧ isToken p.2 0x01 = true) (piValueLoop f acc s)
  | 0, _, _, _, hf => by omega
  | f + 1, acc, s, hl, hf => by
    simp only [piValueLoop]
    split
    · rename_i ht
      simp only [Ok_pure]; exact ⟨Adv.refl s, ht⟩
    · bind_ok (parseAttrValue_ok hl) with ⟨v, s1⟩ h1
      refine (piValueLoop_ok f _ s1 (h1.lang_ne hl) (by have := h1.len; omega)).mono ?_
      rintro p ⟨hp, ht⟩; exact ⟨h1.trans hp, ht⟩

theorem parsePi_ok {s : PState} (hl : s.lang ≠ none) (h : isToken s 0x43 = true) :
    Ok (fun p => Adv 3 s p.2) (parsePi s) := by
  unfold parsePi
  bind_ok (skip1_tok h) with s1 h1
  bind_ok (parseAttrStart_ok s1) with ⟨⟨name, pre⟩, s2⟩ ⟨h2, _⟩
  have hl2 : s2.lang ≠ none := by rw [h2.lang, h1.lang]; exact hl
  bind_ok (piValueLoop_ok _ _ s2 hl2 (Nat.lt_succ_self _)) with ⟨v, s3⟩ ⟨h3, ht⟩
  bind_ok (skip1_tok ht) with s4 h4
  simp only [Ok_pure]
  exact ((h1.trans h2 (m := 2)).trans h3 (m := 2)).trans h4

theorem parseTag_ok (s : PState) :
    Ok (fun p => Adv 1 s p.2 ∧ ∀ l, s.lang = some l → p.1.2.size ≤ max (strBound s) (langM l) + 7) (parseTag s) := by
  unfold parseTag
  bind_ok (parseU8_ok s) with ⟨tag, s1⟩ h1
  split
  · simp
  · rename_i lang hlang
    split
    · simp
    · rename_i tags htags
      split
      · refine ⟨h1, fun l _ => ?_⟩
        simp only [Name.size, unknownStr, List.length_cons, List.length_nil]
        omega
      · rename_i r hr
        refine ⟨h1, fun l hl => ?_⟩
        obtain rfl : lang = l := by rw [← h1.lang, hlang] at hl; exact Option.some.inj hl
        have := find_le_optMax (fun r : TagRow => r.name.length) htags hr
        unfold W2X.langM
        simp only [Name.size]
        omega

/-- A start tag delivers a name of the table, a string-table string, or `unknown`. -/
theorem parseStag_ok (s : PState) :
    Ok (fun p => Adv 1 s p.2 ∧ ∀ l, s.lang = some l → p.1.2.size ≤ max (strBound s) (langM l) + 7) (parseStag s) := by
  unfold parseStag
  split
  · bind_ok (parseLiteral_ok s) with ⟨⟨m, str⟩, s1⟩ ⟨h1, hv⟩
    refine ⟨h1.weaken, fun l _ => ?_⟩
    simp only [Name.size, List.length_take]
    omega
  · exact parseTag_ok s

theorem elemAttrs_ok (tag : UInt8) {s0 s : PState} (h0 : Adv 1 s0 s) (hl0 : s0.lang ≠ none) :
    Ok (fun p => Adv 1 s0 p.2) (elemAttrs tag s) := by
  unfold elemAttrs
  split
  · bind_ok (attrsLoop_ok _ _ s (h0.lang_ne hl0) (Nat.lt_succ_self _)) with ⟨as, s1⟩ ⟨h1, ht⟩
    bind_ok (skip1_tok ht) with s2 h2
    simp only [Ok_pure]; exact (h0.trans h1 (m := 1)).trans h2
  · simp only [Ok_pure]; exact h0

theorem leafStep_ok {s : PState} (hl : s.lang ≠ none) :
    Ok (fun p => Adv 1 s p.2) (leafStep s (itemOf s)) := by
  cases hi : itemOf s <;> simp only [leafStep]
  case end_ => simp
  case eof => simp
  case elem => simp
  case ext =>
    bind_ok (parseExtension_ok true s) with ⟨r, s1⟩ ⟨h1, _⟩
    exact h1
  case entity =>
    bind_ok (parseEntity_ok (itemOf_token hi rfl)) with ⟨b, s1⟩ ⟨h1, _⟩
    exact h1
  case str =>
    bind_ok (parseString_ok s) with ⟨b, s1⟩ ⟨h1, _⟩
    exact h1
  case opaq =>
    bind_ok (parseOpaque_ok (isToken_ne_nil (itemOf_token hi rfl))) with ⟨d, s1⟩ ⟨h1, _⟩
    split
    · rename_i hn
      exact absurd (hn.symm.trans h1.lang) (fun h => hl h.symm)
    · refine Ok.bind (decodeOpaqueContent_safe _ _ d) ?_; intro d' _
      exact h1.weaken
  case pi =>
    bind_ok (parsePi_ok hl (itemOf_token hi rfl)) with ⟨e, s1⟩ h1
    exact h1.weaken
  case switch =>
    bind_ok (parseSwitchPage_ok (tagSpace := true) (itemOf_token hi rfl)) with s1 h1
    exact h1.weaken

theorem elemHead1_ok {s0 s : PState} (h0 : Adv 0 s0 s) (hl : s0.lang ≠ none) :
    Ok (fun p => Adv 1 s0 p.2) (elemHead1 s) := by
  unfold elemHead1
  bind_ok (parseStag_ok s) with ⟨⟨tag, name⟩, s2⟩ ⟨h2, _⟩
  refine Ok.bind (elemAttrs_ok tag (s0 := s0) ((h0.trans h2 (m := 1)).trans (curTagSet_adv name s2)) hl) ?_
  rintro ⟨attrs, s4⟩ h4
  exact h4

theorem elemHead_ok {s : PState} (hl : s.lang ≠ none) : Ok (fun p => Adv 1 s p.2) (elemHead s) := by
  unfold elemHead
  split
  · rename_i h
    exact Ok.bind (parseSwitchPage_ok h) fun s1 h1 => elemHead1_ok h1.weaken hl
  · exact elemHead1_ok (Adv.refl s) hl

/-- Fuel and safety of the mutual pair. `parseElement` needs `2·len + 2`, `contentLoop` needs
    `2·len + 3`: each nesting level spends two units and at least one byte. -/
theorem elem_content_ok : ∀ (f : Nat),
    (∀ (ev : List Event) (s : PState), s.lang ≠ none → 2 * s.rest.length + 2 ≤ f →
        Ok (fun p => Adv 1 s p.2) (parseElement f ev s)) ∧
    (∀ (ev : List Event) (s : PState), s.lang ≠ none → 2 * s.rest.length + 3 ≤ f →
        Ok (fun p => Adv 0 s p.2 ∧ isToken p.2 0x01 = true) (contentLoop f ev s))
  | 0 => ⟨fun _ _ _ h => by omega, fun _ _ _ h => by omega⟩
  | f + 1 => by
    obtain ⟨ihE, ihC⟩ := elem_content_ok f
    constructor
    · intro ev s hl hf
      rw [parseElement_head]
      bind_ok (elemHead_ok hl) with ⟨⟨tag, name, attrs⟩, s4⟩ h4
      replace h4 : Adv 1 s s4 := h4
      unfold elemTail
      split
      · bind_ok (ihC _ s4 (h4.lang_ne hl) (by have := h4.len; omega)) with ⟨ev', s5⟩ ⟨h5, ht⟩
        bind_ok (skip1_tok ht) with s6 h6
        exact ((h4.trans h5 (m := 1)).trans h6 (m := 1)).of_rest_eq rfl rfl rfl rfl
      · exact h4.of_rest_eq rfl rfl rfl rfl
    · intro ev s hl hf
      have step : ∀ {ev' : List Event} {s1 : PState}, Adv 1 s s1 →
          Ok (fun p => Adv 0 s p.2 ∧ isToken p.2 0x01 = true) (contentLoop f ev' s1) := fun {ev' s1} h1 =>
        (ihC ev' s1 (h1.lang_ne hl) (by have := h1.len; omega)).mono fun p hp => ⟨h1.trans hp.1, hp.2⟩
      have leaf := leafStep_ok hl
      rw [contentLoop_round]
      cases hi : itemOf s <;> rw [hi] at leaf <;> dsimp only
      case end_ => exact ⟨Adv.refl s, itemOf_token hi rfl⟩
      case eof => simp
      case elem =>
        bind_ok (ihE ev s hl (by omega)) with ⟨ev', s1⟩ h1
        exact step h1
      all_goals
        bind_ok leaf with ⟨es, s1⟩ h1
        exact step h1

theorem parseElement_ok {f : Nat} {ev : List Event} {s : PState} (hl : s.lang ≠ none)
    (hf : 2 * s.rest.length + 2 ≤ f) : Ok (fun p => Adv 1 s p.2) (parseElement f ev s) :=
  (elem_content_ok f).1 ev s hl hf

theorem contentLoop_ok {f : Nat} {ev : List Event} {s : PState} (hl : s.lang ≠ none)
    (hf : 2 * s.rest.length + 3 ≤ f) :
    Ok (fun p => Adv 0 s p.2 ∧ isToken p.2 0x01 = true) (contentLoop f ev s) :=
  (elem_content_ok f).2 ev s hl hf

theorem piLoop_ok : ∀ (f : Nat) (ev : List Event) (s : PState), s.lang ≠ none → s.rest.length < f →
    Ok (fun p => Adv 0 s p.2) (piLoop f ev s)
  | 0, _, _, _, hf => by omega
  | f + 1, ev, s, hl, hf => by
    simp only [piLoop]
    split
    · rename_i h
      bind_ok (parsePi_ok hl h) with ⟨e, s1⟩ h1
      refine (piLoop_ok f _ s1 (h1.lang_ne hl) (by have := h1.len; omega)).mono ?_
      intro p hp; exact h1.trans hp
    · simp only [Ok_pure]; exact Adv.refl s

theorem parseBody_ok (ev : List Event) {s : PState} (hl : s.lang ≠ none) :
    Ok (fun p => Adv 1 s p.2) (parseBody ev s) := by
  unfold parseBody
  bind_ok (piLoop_ok _ ev s hl (Nat.lt_succ_self _)) with ⟨ev1, s1⟩ h1
  have hl1 : s1.lang ≠ none := h1.lang_ne hl
  bind_ok (parseElement_ok (ev := ev1) hl1 (Nat.le_refl _)) with ⟨ev2, s2⟩ h2
  refine (piLoop_ok _ ev2 s2 (h2.lang_ne hl1) (Nat.lt_succ_self _)).mono ?_
  intro p hp; exact (h1.trans h2 (m := 1)).trans hp

theorem parseBody_stages {ev ev' : List Event} {s s' : PState} (hl : s.lang ≠ none)
    (h : parseBody ev s = .ok (ev', s')) :
    ∃ ev1 s1 ev2 s2, piLoop (s.rest.length + 1) ev s = .ok (ev1, s1) ∧
      parseElement (2 * s1.rest.length + 2) ev1 s1 = .ok (ev2, s2) ∧
      piLoop (s2.rest.length + 1) ev2 s2 = .ok (ev', s') ∧
      Adv 0 s s1 ∧ Adv 0 s2 s' := by
  unfold parseBody at h
  obtain ⟨⟨ev1, s1⟩, h1, h⟩ := bind_eq_ok h
  obtain ⟨⟨ev2, s2⟩, h2, h3⟩ := bind_eq_ok h
  have a1 := (piLoop_ok _ ev s hl (Nat.lt_succ_self _)).of_ok h1
  have hl1 : s1.lang ≠ none := a1.lang_ne hl
  have a2 := (parseElement_ok (ev := ev1) hl1 (Nat.le_refl _)).of_ok h2
  exact ⟨ev1, s1, ev2, s2, h1, h2, h3, a1, (piLoop_ok _ ev2 s2 (a2.lang_ne hl1) (Nat.lt_succ_self _)).of_ok h3⟩

theorem ite_charset_rest (c : Prop) [Decidable c] (s : PState) (x : Nat) :
    (if c then { s with charset := x } else s).rest = s.rest := by split <;> rfl

theorem ite_charset_lang (c : Prop) [Decidable c] (s : PState) (x : Nat) :
    (if c then { s with charset := x } else s).lang = s.lang := by split <;> rfl

theorem ite_charset_strtbl (c : Prop) [Decidable c] (s : PState) (x : Nat) :
    (if c then { s with charset := x } else s).strtbl = s.strtbl := by split <;> rfl

/-- The string table lies inside the document (plus its four padding octets). -/
theorem parseStrtbl_ok (s : PState) :
    Ok (fun s' => s'.rest <:+ s.rest ∧
                  s'.rest.length + 1 ≤ s.rest.length ∧ strBound s' ≤ max (strBound s) (s.rest.length + 3))
      (parseStrtbl s) := by
  have hm := mbLoop_ok 5 0 s.rest
  cases hmb : mbLoop 5 0 s.rest with
  | error e => rw [parseStrtbl_of_error s hmb]; simp
  | ok p =>
    obtain ⟨len, r⟩ := p
    rw [hmb] at hm
    obtain ⟨h1, h2⟩ := hm
    dsimp only at h1 h2
    rw [parseStrtbl_of_len s len r hmb]
    split
    · rw [Ok_ok]; exact ⟨h1, h2, by unfold W2X.strBound; dsimp only; omega⟩
    · split
      · simp
      · rw [Ok_ok]
        refine ⟨(List.drop_suffix _ _).trans h1, by simp only [List.length_drop]; omega, ?_⟩
        unfold W2X.strBound; dsimp only
        split
        · rw [List.length_take]; omega
        · rw [List.length_append, List.length_take]; simp only [List.length_cons, List.length_nil]; omega

theorem headerPre_ok (cfg : PCfg) (bs : Bytes) :
    Ok (fun q => q.2.2.strtbl = none ∧ q.2.2.rest <:+ bs ∧ q.2.2.rest.length + 2 ≤ bs.length)
      (headerPre cfg bs) := by
  unfold headerPre
  bind_ok (parseU8_ok { rest := bs }) with ⟨ver, s1⟩ h1
  refine Ok.bind (P := fun (q : Nat × Option Nat × PState) => Adv 1 s1 q.2.2) ?_ ?_
  · split
    · simp
    · rename_i b r hr
      replace hr : s1.rest = b :: r := hr
      split
      · bind_ok (parseMb_ok _) with ⟨i, s2⟩ h2
        simp only [Ok_pure]
        refine ⟨h2.lang, h2.strtbl, h2.charset, ?_, ?_⟩
        · rw [hr]; exact h2.suffix.trans (List.suffix_cons _ _)
        · have := h2.len; simp only [hr, List.length_cons] at this ⊢; omega
      · bind_ok (parseMb_ok _) with ⟨p, s2⟩ h2
        simp only [Ok_pure]
        exact ⟨h2.lang, h2.strtbl, h2.charset, h2.suffix, h2.len⟩
  · rintro ⟨pubId, pubIdx, s2⟩ h2
    refine Ok.bind (P := fun (q : PState) => q.strtbl = s2.strtbl ∧ q.rest <:+ s2.rest) ?_ ?_
    · split
      · bind_ok (parseMb_ok _) with ⟨cs, s3⟩ h3
        -- whatever charset number `c` is settled on: a known one is stored and nothing else changes, an unknown one is an error
        have known : ∀ c : Nat, Ok (fun q : PState => q.strtbl = s2.strtbl ∧ q.rest <:+ s2.rest)
            (if cfg.charsets.contains c then pure { s3 with charset := c } else .error (.code E.charsetNotFound)) := by
          intro c
          split
          · rw [Ok_pure]; exact ⟨h3.strtbl, h3.suffix⟩
          · exact (by decide : E.charsetNotFound ≠ 0)
        exact known _
      · rw [Ok_pure]; exact ⟨rfl, List.suffix_refl _⟩
    · rintro s3 ⟨t3, h3⟩
      simp only [Ok_pure]
      rw [ite_charset_strtbl, ite_charset_rest]
      have := h3.length_le
      have := h2.len
      have := h1.len
      exact ⟨t3.trans (h2.strtbl.trans h1.strtbl), (h3.trans h2.suffix).trans h1.suffix, by dsimp only at *; omega⟩

/-- Header stage: on success the language is set, the cursor is a suffix of the input and at least
    three bytes (version, public id, string-table length) were consumed. -/
theorem parseHeader_ok (cfg : PCfg) (bs : Bytes) :
    Ok (fun p => p.1.lang = some p.2 ∧ p.1.rest <:+ bs ∧ p.1.rest.length + 3 ≤ bs.length)
      (parseHeader cfg bs) := by
  rw [parseHeader_eq]
  split
  · simp
  · bind_ok (headerPre_ok cfg bs) with ⟨pubId, pubIdx, s0⟩ ⟨_, h0a, h0b⟩
    bind_ok (parseStrtbl_ok s0) with s1 ⟨h1a, h1b, _⟩
    split
    · simp
    · rw [Ok_pure]
      exact ⟨rfl, h1a.trans h0a, by show s1.rest.length + 3 ≤ bs.length; omega⟩

/-- The anatomy of a run of `parse`: either the header fails with an error code (no events), or
    the body fails with an error code (only `startDoc` is reported by the model), or both succeed,
    the final cursor is a suffix of the input at least four bytes in, and `consumed` is its offset. -/
theorem parse_anatomy (cfg : PCfg) (bs : Bytes) :
    (∃ c, parseHeader cfg bs = .error (.code c) ∧ (parse cfg bs).result = .error (.code c) ∧
        (parse cfg bs).events = [] ∧ c ≠ 0) ∨
    (∃ s l c, parseHeader cfg bs = .ok (s, l) ∧
        parseBody [Event.startDoc s.charset l.id] s = .error (.code c) ∧
        (parse cfg bs).result = .error (.code c) ∧ (parse cfg bs).events = [Event.startDoc s.charset l.id] ∧
        c ≠ 0) ∨
    (∃ s l ev s', parseHeader cfg bs = .ok (s, l) ∧
        parseBody [Event.startDoc s.charset l.id] s = .ok (ev, s') ∧
        (parse cfg bs).result = .ok () ∧ (parse cfg bs).events = ev ++ [Event.endDoc] ∧
        (parse cfg bs).consumed = bs.length - s'.rest.length ∧
        s'.rest <:+ bs ∧ s'.rest.length + 4 ≤ bs.length) := by
  have hh := parseHeader_ok cfg bs
  unfold parse
  rcases hh.cases with ⟨⟨s, l⟩, hs, hl, hsuf, hlen⟩ | ⟨c, hc, hc0⟩
  · have hb := parseBody_ok [Event.startDoc s.charset l.id] (s := s) (by rw [hl]; simp)
    rcases hb.cases with ⟨⟨ev, s'⟩, hb', hadv⟩ | ⟨c, hc, hc0⟩
    · refine Or.inr (Or.inr ⟨s, l, ev, s', hs, hb', ?_⟩)
      have := hadv.len
      dsimp only at hlen this
      simp only [hs, hb', true_and]
      exact ⟨hadv.suffix.trans hsuf, by omega⟩
    · refine Or.inr (Or.inl ⟨s, l, c, hs, hc, ?_⟩)
      simp only [hs, hc, true_and]
      exact hc0
  · refine Or.inl ⟨c, hc, ?_⟩
    simp only [hc, true_and]
    exact hc0

theorem parse_result_ok (cfg : PCfg) (bs : Bytes) : Safe (parse cfg bs).result := by
  rcases parse_anatomy cfg bs with ⟨c, _, h, _, h0⟩ | ⟨s, l, c, _, _, h, _, h0⟩ | ⟨s, l, ev, s', _, _, h, _⟩
  · rw [h]; simpa using h0
  · rw [h]; simpa using h0
  · rw [h]; simp

theorem parse_result_cases (cfg : PCfg) (bs : Bytes) :
    (parse cfg bs).result = .ok () ∨ ∃ c, c ≠ 0 ∧ (parse cfg bs).result = .error (.code c) := by
  rcases (parse_result_ok cfg bs).cases with ⟨⟨⟩, h, _⟩ | ⟨c, h, h0⟩
  · exact Or.inl h
  · exact Or.inr ⟨c, h0, h⟩

end Wbxml.Lemmas.ParserSafe
