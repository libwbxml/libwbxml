/-
  Round-trip lemmas (C03), reader side only (no encoder module is imported): what
  `wbxml_tree_from_wbxml` makes of the header — the language and the character set of the resulting
  tree are those of the `startDoc` event, which the header alone determines (`treeOfWbxml_header`) —
  and the reader configuration it runs the parser with (`pcfgOf`, `charsets_ok`). The namespace is
  `EncW` although the module is on the reader's side: the round-trip theorems of C03 and C07 are
  stated with `EncW.pcfgOf`.
-/
import Wbxml.Lemmas.ParserSafeBuild
import Wbxml.Lemmas.TreeBuildBasic
namespace Wbxml.Lemmas.EncW
open Wbxml Wbxml.Model Wbxml.Spec Wbxml.Lemmas.ParserSafe Wbxml.Lemmas.TreeBuild

/-- The default reader of `wbxml_tree_from_wbxml`. -/
def pcfgOf (main : List Lang) (forced metaCs : Nat) : PCfg :=
  { main := main, langForced := forced, metaCharset := metaCs }

def notStartDoc (e : Event) : Prop := ∀ cs l, e ≠ Event.startDoc cs l

theorem bal_notStartDoc {es : List Event} (h : Bal es) : ∀ e ∈ es, notStartDoc e := by
  induction h with
  | nil => intro e he; cases he
  | chars s _ ih =>
    intro e he
    rcases List.mem_cons.mp he with rfl | he
    · intro cs l h; cases h
    · exact ih e he
  | pi t d _ ih =>
    intro e he
    rcases List.mem_cons.mp he with rfl | he
    · intro cs l h; cases h
    · exact ih e he
  | elt n attrs n' _ _ ihb ihe =>
    intro e he
    rcases List.mem_cons.mp he with rfl | he
    · intro cs l h; cases h
    · rcases List.mem_append.mp he with he | he
      · exact ihb e he
      · rcases List.mem_cons.mp he with rfl | he
        · intro cs l h; cases h
        · exact ihe e he

theorem onlyPi_notStartDoc {es : List Event} (h : OnlyPi es) : ∀ e ∈ es, notStartDoc e := by
  intro e he cs l heq
  obtain ⟨t, d, hp⟩ := h e he
  rw [hp] at heq; cases heq

theorem buildStep_lang (main : List Lang) (emb : Nat → Bytes → Option Tree) (b : BState) (e : Event)
    (h : notStartDoc e) :
    (buildStep main emb b e).lang = b.lang ∧ (buildStep main emb b e).charset = b.charset :=
  (buildStep_lang_cases main emb b e).resolve_right fun ⟨cs, l, he, _⟩ => h cs l he

theorem foldl_buildStep_lang (main : List Lang) (emb : Nat → Bytes → Option Tree) (es : List Event) (b : BState)
    (h : ∀ e ∈ es, notStartDoc e) :
    (es.foldl (buildStep main emb) b).lang = b.lang ∧ (es.foldl (buildStep main emb) b).charset = b.charset :=
  List.foldlRecOn (motive := fun x => x.lang = b.lang ∧ x.charset = b.charset) es _ ⟨rfl, rfl⟩ fun x hx e he =>
    have h1 := buildStep_lang main emb x e (h e he)
    ⟨h1.1.trans hx.1, h1.2.trans hx.2⟩

/-- `wbxml_tree_from_wbxml`: the tree's language is the entry of the main table with the id the
    header selected, its original charset the header's effective character set. -/
theorem treeOfWbxml_header (main : List Lang) (f forced metaCs : Nat) (bs : Bytes) (t' : Tree)
    (h : treeOfWbxml main (f + 1) forced metaCs bs = .ok t') :
    ∃ s l, parseHeader (pcfgOf main forced metaCs) bs = .ok (s, l) ∧
      t'.lang = main.find? (fun x => x.id == l.id) ∧ t'.origCharset = s.charset := by
  obtain ⟨f', b, _, hok, hb, _, rfl⟩ := treeOfWbxml_ok h
  obtain ⟨s, l, pis1, n, attrs, body, pis2, hh, hev, p1, p2, p3⟩ := parse_events_shape hok
  rw [hev, List.foldl_cons] at hb
  -- no event behind the first is a `startDoc`
  have hrest : ∀ e ∈ pis1 ++ (Event.startElt n attrs :: (body ++ Event.endElt n :: (pis2 ++ [Event.endDoc]))),
      notStartDoc e := fun e he => by
    simp only [List.mem_append, List.mem_cons, List.mem_nil_iff, or_false] at he
    rcases he with he | rfl | he | rfl | he | rfl
    · exact onlyPi_notStartDoc p1 e he
    · exact fun _ _ h => nomatch h
    · exact bal_notStartDoc p2 e he
    · exact fun _ _ h => nomatch h
    · exact onlyPi_notStartDoc p3 e he
    · exact fun _ _ h => nomatch h
  have := foldl_buildStep_lang main (embOf main f') _
    (buildStep main (embOf main f') {} (.startDoc s.charset l.id)) hrest
  rw [hb] at this
  exact ⟨s, l, hh, this.1, this.2⟩

theorem charsets_ok (main : List Lang) (forced metaCs : Nat) (cs : Nat) (h : cs = 3 ∨ cs = 106) :
    (pcfgOf main forced metaCs).charsets.contains cs = true := by
  rcases h with rfl | rfl <;> simp [pcfgOf]

end Wbxml.Lemmas.EncW
