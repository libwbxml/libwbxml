/-
  The SI/EMN %Datetime codec (C12): the typed model (`Model/Typed/Datetime.lean`), the parser's copy
  (`Model.decodeDatetime`, `binToHexUpper`), their agreement, and the laws. The digit/BCD tables are finite
  (10 digits, 100 two-digit numbers) and checked exhaustively; everything about dates is derived from them
  symbolically.
-/
import Wbxml.Model.Typed.Datetime
import Wbxml.Model.Parser
import Wbxml.Spec.Calendar
import Wbxml.Lemmas.TypedWvInt
namespace Wbxml.Lemmas.Typed
open Wbxml Wbxml.Model.Typed Wbxml.Spec.Calendar

/-- What the codecs need of a valid date-time: a four-digit year, every other field within its bit field
    (and so within two digits). -/
theorem valid_widths {d : DateTime} (h : d.Valid) :
    d.year < 10000 ∧ d.month ≤ 15 ∧ d.day ≤ 31 ∧ d.hour ≤ 31 ∧ d.minute ≤ 63 ∧ d.second ≤ 63 := by
  obtain ⟨hy, _, hmo, _, hd2, hh, hm, hs⟩ := h
  have := daysInMonth_le d.year d.month
  omega

theorem dig_congr {a b : Nat} (h : a % 10 = b % 10) : dig a = dig b := by
  unfold dig; rw [h]

theorem isDigit_dig (n : Nat) : isDigit (dig n) = true := isDigit_digitChar n

theorem pair_tbl : ∀ x, x < 10 → ∀ y, y < 10 →
    nibble (UInt8.ofNat (48 + x)) * 16 ||| nibble (UInt8.ofNat (48 + y)) = UInt8.ofNat (16 * x + y) := by decide

theorem pair_bcd (a b : Nat) :
    nibble (dig a) * 16 ||| nibble (dig b) = UInt8.ofNat (16 * (a % 10) + b % 10) :=
  pair_tbl (a % 10) (Nat.mod_lt _ (by decide)) (b % 10) (Nat.mod_lt _ (by decide))

theorem hexPairs_d2 (n : Nat) (rest : Bytes) : hexPairs (d2 n ++ rest) = bcd n :: hexPairs rest := by
  simp only [d2, List.cons_append, List.nil_append, hexPairs, pair_bcd, bcd]

theorem bcd_zero_tbl : ∀ n, n < 100 → (bcd n == 0) = decide (n = 0) := by decide

theorem binToHex_bcd_tbl : ∀ n, n < 100 → binToHex [bcd n] = d2 n := by decide

theorem binToHex_cons (b : UInt8) (bs : Bytes) : binToHex (b :: bs) = binToHex [b] ++ binToHex bs := by
  simp [binToHex]

theorem binToHex_bcd (n : Nat) (h : n < 100) (rest : Bytes) :
    binToHex (bcd n :: rest) = d2 n ++ binToHex rest := by
  rw [binToHex_cons, binToHex_bcd_tbl n h]

theorem d4_eq (y : Nat) : d4 y = d2 (y / 100) ++ d2 (y % 100) := by
  simp only [d4, d2, List.cons_append, List.nil_append]
  have h1 : dig (y / 1000) = dig (y / 100 / 10) := dig_congr (by omega)
  have h2 : dig (y / 10) = dig (y % 100 / 10) := dig_congr (by omega)
  have h3 : dig y = dig (y % 100) := dig_congr (by omega)
  rw [h1, h2, h3]

theorem sep_facts :
    isDigit 0x2D = false ∧ isDigit 0x54 = false ∧ isDigit 0x3A = false ∧ isDigit 0x5A = false := by decide

theorem dtFilter_canon (d : DateTime) : dtFilter (canon d) = .ok (digits14 d) := by
  simp [canon, digits14, d4, d2, dtFilter, isDigit_dig, sep_facts, Except.map]

theorem hexPairs_digits14 (d : DateTime) : hexPairs (digits14 d) = bcd7 d := by
  unfold digits14 bcd7
  rw [d4_eq]
  simp only [List.append_assoc]
  rw [hexPairs_d2, hexPairs_d2, hexPairs_d2, hexPairs_d2, hexPairs_d2, hexPairs_d2]
  have : d2 d.second = d2 d.second ++ [] := by simp
  rw [this, hexPairs_d2]
  simp [hexPairs]

/-- Removing trailing zero octets keeps the first `keptOctets` octets: it stops at the latest at the day. -/
theorem stripZeros_bcd7 (d : DateTime) (h : d.Valid) :
    stripZeros (bcd7 d) = (bcd7 d).take (keptOctets d) := by
  obtain ⟨_, _, _, hd1, hd2, hh, hm, hs⟩ := h
  have hd31 := daysInMonth_le d.year d.month
  have zs := bcd_zero_tbl d.second (by omega)
  have zm := bcd_zero_tbl d.minute (by omega)
  have zh := bcd_zero_tbl d.hour (by omega)
  have zd := bcd_zero_tbl d.day (by omega)
  have hd0 : (bcd d.day == 0) = false := by rw [zd]; simp; omega
  unfold stripZeros bcd7 keptOctets
  by_cases s0 : d.second = 0
  · by_cases m0 : d.minute = 0
    · by_cases h0 : d.hour = 0
      · simp [s0, m0, h0, List.dropWhile, hd0, show (bcd 0 == 0) = true by decide]
      · have : (bcd d.hour == 0) = false := by rw [zh]; simp [h0]
        simp [s0, m0, h0, List.dropWhile, this, show (bcd 0 == 0) = true by decide]
    · have : (bcd d.minute == 0) = false := by rw [zm]; simp [m0]
      simp [s0, m0, List.dropWhile, this, show (bcd 0 == 0) = true by decide]
  · have : (bcd d.second == 0) = false := by rw [zs]; simp [s0]
    simp [s0, this]

/-- What `wbxml_encode_datetime` puts into the opaque for a canonical date-time. -/
theorem datetimePayload_canon (d : DateTime) (h : d.Valid) :
    datetimePayload (canon d) = .ok ((bcd7 d).take (keptOctets d)) := by
  simp [datetimePayload, dtFilter_canon, Except.map, hexPairs_digits14, stripZeros_bcd7 d h]

theorem decodeHex8 (a b c d e f g h : UInt8) :
    decodeHex [a, b, c, d, e, f, g, h] =
      .ok ([a, b, c, d, 0x2D, e, f, 0x2D, g, h, 0x54] ++ b!"00:00:00" ++ [0x5A]) := by
  simp [decodeHex, insertAt, bind, Except.bind, pure, Except.pure]

theorem decodeHex10 (a b c d e f g h i j : UInt8) :
    decodeHex [a, b, c, d, e, f, g, h, i, j] =
      .ok ([a, b, c, d, 0x2D, e, f, 0x2D, g, h, 0x54, i, j] ++ b!":00:00" ++ [0x5A]) := by
  simp [decodeHex, insertAt, bind, Except.bind, pure, Except.pure]

theorem decodeHex12 (a b c d e f g h i j k l : UInt8) :
    decodeHex [a, b, c, d, e, f, g, h, i, j, k, l] =
      .ok ([a, b, c, d, 0x2D, e, f, 0x2D, g, h, 0x54, i, j, 0x3A, k, l] ++ b!":00" ++ [0x5A]) := by
  simp [decodeHex, insertAt, bind, Except.bind, pure, Except.pure]

theorem decodeHex14 (a b c d e f g h i j k l m n : UInt8) :
    decodeHex [a, b, c, d, e, f, g, h, i, j, k, l, m, n] =
      .ok [a, b, c, d, 0x2D, e, f, 0x2D, g, h, 0x54, i, j, 0x3A, k, l, 0x3A, m, n, 0x5A] := by
  simp [decodeHex, insertAt, bind, Except.bind, pure, Except.pure]

theorem d2_zero : d2 0 = b!"00" := by decide
theorem dig_zero : dig 0 = 48 := by decide
theorem binToHex_nil : binToHex [] = [] := rfl

theorem binToHex_length (p : Bytes) : (binToHex p).length = 2 * p.length := by
  induction p with
  | nil => rfl
  | cons b bs ih => simp only [binToHex, List.length_cons, ih]; omega

theorem decodeDatetime_take (d : DateTime) (h : d.Valid) (k : Nat) (hk : 4 ≤ k ∧ k ≤ 7) :
    decodeDatetime ((bcd7 d).take k) = .ok (canon (truncTo d k)) := by
  obtain ⟨hy, hmo, hd2, hh, hm, hs⟩ := valid_widths h
  have e1 := binToHex_bcd (d.year / 100) (by omega)
  have e2 := binToHex_bcd (d.year % 100) (by omega)
  have e3 := binToHex_bcd d.month (by omega)
  have e4 := binToHex_bcd d.day (by omega)
  have e5 := binToHex_bcd d.hour (by omega)
  have e6 := binToHex_bcd d.minute (by omega)
  have e7 := binToHex_bcd d.second (by omega)
  have hk' : k = 4 ∨ k = 5 ∨ k = 6 ∨ k = 7 := by omega
  unfold decodeDatetime bcd7 canon truncTo
  rw [d4_eq]
  rcases hk' with rfl | rfl | rfl | rfl
  · simp only [List.take, e1, e2, e3, e4, binToHex_nil, d2, List.cons_append, List.nil_append, decodeHex8]
    simp [dig_zero]
  · simp only [List.take, e1, e2, e3, e4, e5, binToHex_nil, d2, List.cons_append, List.nil_append, decodeHex10]
    simp [dig_zero]
  · simp only [List.take, e1, e2, e3, e4, e5, e6, binToHex_nil, d2, List.cons_append, List.nil_append, decodeHex12]
    simp [dig_zero]
  · simp only [List.take, e1, e2, e3, e4, e5, e6, e7, binToHex_nil, d2, List.cons_append, List.nil_append, decodeHex14]
    simp

theorem keptOctets_range (d : DateTime) : 4 ≤ keptOctets d ∧ keptOctets d ≤ 7 := by
  unfold keptOctets; repeat' split
  all_goals omega

theorem truncTo_kept (d : DateTime) : truncTo d (keptOctets d) = d := by
  unfold truncTo keptOctets
  cases d with
  | mk y mo dd h m s =>
    by_cases s0 : s = 0 <;> by_cases m0 : m = 0 <;> by_cases h0 : h = 0 <;> simp [s0, m0, h0]

end Wbxml.Lemmas.Typed

namespace Wbxml.Lemmas.EncW
open Wbxml Wbxml.Model

theorem hexByte_tbl : ∀ n, n < 256 →
    [hexUpper ((UInt8.ofNat n).toNat / 16), hexUpper ((UInt8.ofNat n).toNat % 16)] =
    [Typed.hexitU (UInt8.ofNat n / 16 &&& 0xF), Typed.hexitU (UInt8.ofNat n % 16)] := by decide +kernel

theorem binToHexUpper_eq (p : Bytes) : binToHexUpper p = Typed.binToHex p := by
  induction p with
  | nil => rfl
  | cons b bs ih =>
    have hb := hexByte_tbl b.toNat b.toNat_lt
    rw [UInt8.ofNat_toNat] at hb
    simp only [binToHexUpper, List.flatMap_cons] at ih ⊢
    rw [ih, hb]
    rfl

theorem typedInsertAt_eq (bs : Bytes) (pos : Nat) (c : UInt8) (h : pos ≤ bs.length) :
    Typed.insertAt bs pos [c] = .ok (Model.insertAt bs c pos) := by
  simp [Typed.insertAt, Model.insertAt, Nat.not_lt.mpr h]

theorem insertAt_length (bs : Bytes) (c : UInt8) (pos : Nat) : (Model.insertAt bs c pos).length = bs.length + 1 := by
  simp [Model.insertAt]; omega

/-- The parser's `decode_datetime` and the one of the `%Datetime` codec agree on every input: with
    eight or more hex digits no insert position lies beyond the buffer. -/
theorem decodeDatetime_eq_typed (p : Bytes) : Model.decodeDatetime p = Typed.decodeDatetime p := by
  unfold Model.decodeDatetime Typed.decodeDatetime Typed.decodeHex
  rw [binToHexUpper_eq]
  generalize Typed.binToHex p = hex
  by_cases hbad : (hex.length < 8 || hex.length > 14 || hex.length == 9 || hex.length == 11 || hex.length == 13) = true
  · simp only [hbad]; rfl
  · simp only [hbad]
    simp only [Bool.or_eq_true, decide_eq_true_eq, beq_iff_eq, not_or] at hbad
    rw [typedInsertAt_eq _ _ _ (by omega)]
    simp only [bind, Except.bind]
    rw [typedInsertAt_eq _ _ _ (by rw [insertAt_length]; omega)]
    simp only []
    rw [typedInsertAt_eq _ _ _ (by rw [insertAt_length, insertAt_length]; omega)]
    by_cases h10 : hex.length > 10
    · simp only [h10, ↓reduceIte]
      rw [typedInsertAt_eq _ _ _ (by rw [insertAt_length, insertAt_length, insertAt_length]; omega)]
      by_cases h12 : hex.length > 12
      · simp only [h12, ↓reduceIte]
        rw [typedInsertAt_eq _ _ _ (by rw [insertAt_length, insertAt_length, insertAt_length, insertAt_length]; omega)]
        have e : hex.length = 14 := by omega
        simp [e, pure, Except.pure]
      · have e : hex.length = 12 := by omega
        simp [e, pure, Except.pure]
    · have h12 : ¬ hex.length > 12 := by omega
      have e : hex.length = 8 ∨ hex.length = 10 := by omega
      rcases e with e | e <;> simp [e, pure, Except.pure]

theorem binToHexUpper_length (d : Bytes) : (binToHexUpper d).length = 2 * d.length := by
  rw [binToHexUpper_eq, Lemmas.Typed.binToHex_length]

/-- `decode_datetime` accepts exactly four to seven octets. -/
theorem decodeDatetime_len (d : Bytes) (h1 : 4 ≤ d.length) (h2 : d.length ≤ 7) :
    ∃ b, Model.decodeDatetime d = .ok b := by
  unfold Model.decodeDatetime
  have hl := binToHexUpper_length d
  rw [if_neg]
  · exact ⟨_, rfl⟩
  · simp only [hl, Bool.or_eq_true, decide_eq_true_eq, beq_iff_eq, not_or]
    omega

theorem decodeDatetime_bad (d : Bytes) (h : d.length < 4 ∨ 7 < d.length) :
    Model.decodeDatetime d = .error (.code E.badDatetime) := by
  unfold Model.decodeDatetime
  have hl := binToHexUpper_length d
  rw [if_pos]
  simp only [hl, Bool.or_eq_true, decide_eq_true_eq, beq_iff_eq]
  omega

end Wbxml.Lemmas.EncW
