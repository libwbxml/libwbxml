/-
  WBXML encoder proofs: the string table of `Model/EncWbxmlStrtbl.lean` as a sequence of
  NUL-terminated entries whose offsets are the running sums of `length + 1`, and the elementary
  state lemmas (`emit`, `strtblAdd`, `aliasWrite`, `strtblInitialize`); the relation `TblExt` between
  the string table before and after a step and the frame `Step` every tag and attribute encoder keeps
  on every input; the hypotheses on trees (`nodeOver`).
-/
import Wbxml.Lemmas.ExceptBasic
import Wbxml.Model.EncWbxml
namespace Wbxml.Lemmas.EncW
open Wbxml Wbxml.Model
open Wbxml.Model.Codec (mbEncode)

@[simp] theorem emit_out (st : WSt) (bs : Bytes) : (st.emit bs).out = st.out ++ bs := rfl
@[simp] theorem emit_tagPage (st : WSt) (bs : Bytes) : (st.emit bs).tagPage = st.tagPage := rfl
@[simp] theorem emit_attrPage (st : WSt) (bs : Bytes) : (st.emit bs).attrPage = st.attrPage := rfl
@[simp] theorem emit_curTag (st : WSt) (bs : Bytes) : (st.emit bs).curTag = st.curTag := rfl
@[simp] theorem emit_curAttr (st : WSt) (bs : Bytes) : (st.emit bs).curAttr = st.curAttr := rfl
@[simp] theorem emit_strtbl (st : WSt) (bs : Bytes) : (st.emit bs).strtbl = st.strtbl := rfl
@[simp] theorem emit_strtblLen (st : WSt) (bs : Bytes) : (st.emit bs).strtblLen = st.strtblLen := rfl
@[simp] theorem emit_inCdata (st : WSt) (bs : Bytes) : (st.emit bs).inCdata = st.inCdata := rfl
@[simp] theorem emit_cdata (st : WSt) (bs : Bytes) : (st.emit bs).cdata = st.cdata := rfl
@[simp] theorem emit_textNo (st : WSt) (bs : Bytes) : (st.emit bs).textNo = st.textNo := rfl

theorem emit_nil (st : WSt) : st.emit [] = st := by
  cases st; simp [WSt.emit]

theorem emit_emit (st : WSt) (a b : Bytes) : (st.emit a).emit b = st.emit (a ++ b) := by
  cases st; simp [WSt.emit]

def tblLen : List StrEntry → Nat
  | [] => 0
  | e :: es => e.str.length + 1 + tblLen es

/-- The offsets of the entries are the running sums of `length + 1`, from `base` on: what makes an
    index the encoder writes point at the start of its entry. -/
def OffsFrom : Nat → List StrEntry → Prop
  | _, [] => True
  | b, e :: es => e.offset = b ∧ OffsFrom (b + (e.str.length + 1)) es

theorem tblLen_append (a b : List StrEntry) : tblLen (a ++ b) = tblLen a + tblLen b := by
  induction a with
  | nil => simp [tblLen]
  | cons e es ih => simp only [List.cons_append, tblLen, ih]; omega

theorem strtblBytes_nil : strtblBytes [] = [] := rfl

theorem strtblBytes_cons (e : StrEntry) (es : List StrEntry) :
    strtblBytes (e :: es) = e.str ++ [0] ++ strtblBytes es := by
  simp [strtblBytes]

theorem strtblBytes_append (a b : List StrEntry) : strtblBytes (a ++ b) = strtblBytes a ++ strtblBytes b := by
  simp [strtblBytes]

theorem strtblBytes_length (tbl : List StrEntry) : (strtblBytes tbl).length = tblLen tbl := by
  induction tbl with
  | nil => rfl
  | cons e es ih => rw [strtblBytes_cons]; simp only [List.length_append, ih, tblLen, List.length_cons, List.length_nil]

theorem offsFrom_append (b : Nat) (l : List StrEntry) (e : StrEntry) :
    OffsFrom b (l ++ [e]) ↔ OffsFrom b l ∧ e.offset = b + tblLen l := by
  induction l generalizing b with
  | nil => simp [OffsFrom, tblLen]
  | cons x xs ih =>
    simp only [List.cons_append, OffsFrom, ih, tblLen]
    constructor
    · rintro ⟨h1, h2, h3⟩; exact ⟨⟨h1, h2⟩, by omega⟩
    · rintro ⟨⟨h1, h2⟩, h3⟩; exact ⟨h1, h2, by omega⟩

theorem offsFrom_split (b : Nat) (l : List StrEntry) (h : OffsFrom b l) (e : StrEntry) (he : e ∈ l) :
    ∃ pre post, strtblBytes l = pre ++ (e.str ++ [0] ++ post) ∧ e.offset = b + pre.length := by
  induction l generalizing b with
  | nil => cases he
  | cons x xs ih =>
    rcases List.mem_cons.mp he with rfl | hm
    · exact ⟨[], strtblBytes xs, by rw [strtblBytes_cons]; rfl, by simpa using h.1⟩
    · obtain ⟨pre, post, hs, ho⟩ := ih _ h.2 hm
      refine ⟨x.str ++ [0] ++ pre, post, ?_, ?_⟩
      · rw [strtblBytes_cons, hs]; simp
      · rw [ho]; simp only [List.length_append, List.length_cons, List.length_nil]; omega

/-- The invariant of `encoder->strstbl` / `strstbl_len`. -/
structure StrInv (st : WSt) : Prop where
  offs : OffsFrom 0 st.strtbl
  len : st.strtblLen = tblLen st.strtbl
  noAlias : ∀ e ∈ st.strtbl, e.alias = none

theorem strInv_init : StrInv {} := ⟨trivial, rfl, by intro e he; cases he⟩

theorem StrInv.of_eq {st st' : WSt} (h : StrInv st) (h1 : st'.strtbl = st.strtbl) (h2 : st'.strtblLen = st.strtblLen) :
    StrInv st' := ⟨h1 ▸ h.offs, by rw [h2, h1]; exact h.len, h1 ▸ h.noAlias⟩

def offsOf (tbl : List StrEntry) : List Nat := tbl.map (·.offset)

theorem strtblAdd_out (st : WSt) (s : Bytes) (a) : (strtblAdd st s a).1.out = st.out := by
  unfold strtblAdd; split <;> rfl
theorem strtblAdd_tagPage (st : WSt) (s : Bytes) (a) : (strtblAdd st s a).1.tagPage = st.tagPage := by
  unfold strtblAdd; split <;> rfl
theorem strtblAdd_attrPage (st : WSt) (s : Bytes) (a) : (strtblAdd st s a).1.attrPage = st.attrPage := by
  unfold strtblAdd; split <;> rfl
theorem strtblAdd_curTag (st : WSt) (s : Bytes) (a) : (strtblAdd st s a).1.curTag = st.curTag := by
  unfold strtblAdd; split <;> rfl
theorem strtblAdd_curAttr (st : WSt) (s : Bytes) (a) : (strtblAdd st s a).1.curAttr = st.curAttr := by
  unfold strtblAdd; split <;> rfl
theorem strtblAdd_inCdata (st : WSt) (s : Bytes) (a) : (strtblAdd st s a).1.inCdata = st.inCdata := by
  unfold strtblAdd; split <;> rfl
theorem strtblAdd_cdata (st : WSt) (s : Bytes) (a) : (strtblAdd st s a).1.cdata = st.cdata := by
  unfold strtblAdd; split <;> rfl
theorem strtblAdd_textNo (st : WSt) (s : Bytes) (a) : (strtblAdd st s a).1.textNo = st.textNo := by
  unfold strtblAdd; split <;> rfl

theorem strtblAdd_prefix (st : WSt) (s : Bytes) (a) : st.strtbl <+: (strtblAdd st s a).1.strtbl := by
  unfold strtblAdd; split
  · exact List.prefix_refl _
  · exact List.prefix_append _ _

theorem strtblAdd_inv (st : WSt) (s : Bytes) (h : StrInv st) : StrInv (strtblAdd st s none).1 := by
  unfold strtblAdd; split
  · exact h
  · refine ⟨?_, ?_, ?_⟩
    · simp only
      rw [offsFrom_append]
      exact ⟨h.offs, by simp [h.len]⟩
    · simp only [tblLen_append, tblLen, h.len]; omega
    · intro e he
      simp only [List.mem_append, List.mem_singleton] at he
      rcases he with he | rfl
      · exact h.noAlias e he
      · rfl

theorem strtblAdd_idx (st : WSt) (s : Bytes) (a) :
    ∃ e ∈ (strtblAdd st s a).1.strtbl, e.offset = (strtblAdd st s a).2 ∧ e.str = s := by
  unfold strtblAdd; split
  · rename_i e he
    have := List.find?_some he
    exact ⟨e, List.mem_of_find?_eq_some he, rfl, by simpa using this⟩
  · exact ⟨⟨s, st.strtblLen, a⟩, by simp, rfl, rfl⟩

theorem aliasWrite_eq (st : WSt) (k : Nat) (s : Bytes) (h : ∀ e ∈ st.strtbl, e.alias = none) :
    st.aliasWrite k s = st := by
  unfold WSt.aliasWrite
  have : st.strtbl.map (fun e => if e.alias == some k then { e with str := s } else e) = st.strtbl := by
    conv => rhs; rw [← List.map_id st.strtbl]
    apply List.map_congr_left
    intro e he
    simp [h e he]
  rw [this]

theorem keepRefs_inv (rs : List Ref) (st : WSt) (one : List Ref) (h : StrInv st) : StrInv (keepRefs rs st one).1 := by
  induction rs generalizing st one with
  | nil => exact h
  | cons r rs ih =>
    simp only [keepRefs]
    split
    · exact ih _ _ (strtblAdd_inv st r.str h)
    · exact ih _ _ h

theorem keepRefs_out (rs : List Ref) (st : WSt) (one : List Ref) :
    (keepRefs rs st one).1.out = st.out ∧ (keepRefs rs st one).1.tagPage = st.tagPage ∧
    (keepRefs rs st one).1.attrPage = st.attrPage ∧ (keepRefs rs st one).1.curTag = st.curTag ∧
    (keepRefs rs st one).1.cdata = st.cdata ∧ (keepRefs rs st one).1.inCdata = st.inCdata := by
  induction rs generalizing st one with
  | nil => exact ⟨rfl, rfl, rfl, rfl, rfl, rfl⟩
  | cons r rs ih =>
    simp only [keepRefs]
    split
    · have := ih (strtblAdd st r.str none).1 one
      rw [strtblAdd_out, strtblAdd_tagPage, strtblAdd_attrPage, strtblAdd_curTag, strtblAdd_cdata,
        strtblAdd_inCdata] at this
      exact this
    · exact ih _ _

theorem strtblInitialize_inv (lang : Lang) (root : Node) (st : WSt) (h : StrInv st) :
    StrInv (strtblInitialize lang root st) := by
  unfold strtblInitialize checkReferences
  exact keepRefs_inv _ _ _ (keepRefs_inv _ _ _ h)

theorem strtblInitialize_fields (lang : Lang) (root : Node) (st : WSt) :
    (strtblInitialize lang root st).out = st.out ∧ (strtblInitialize lang root st).tagPage = st.tagPage ∧
    (strtblInitialize lang root st).attrPage = st.attrPage ∧ (strtblInitialize lang root st).curTag = st.curTag ∧
    (strtblInitialize lang root st).cdata = st.cdata ∧ (strtblInitialize lang root st).inCdata = st.inCdata := by
  unfold strtblInitialize checkReferences
  have h1 := keepRefs_out (countRefs (collectNode lang root {}).cands) st []
  have h2 := keepRefs_out (countRefs (collectWords (keepRefs (countRefs (collectNode lang root {}).cands) st []).2))
    (keepRefs (countRefs (collectNode lang root {}).cands) st []).1 []
  obtain ⟨a1, a2, a3, a4, a5, a6⟩ := h1
  obtain ⟨b1, b2, b3, b4, b5, b6⟩ := h2
  exact ⟨b1.trans a1, b2.trans a2, b3.trans a3, b4.trans a4, b5.trans a5, b6.trans a6⟩

theorem docStartW_inv (c : WCfg) (r : Node) : StrInv (docStartW c r) := by
  unfold docStartW; split
  · exact strtblInitialize_inv _ _ _ strInv_init
  · exact strInv_init

/-- The encoder state at the start of `parse_node(root)`, the string table apart. -/
structure AtStart (st : WSt) : Prop where
  out : st.out = []
  tagPage : st.tagPage = 0
  attrPage : st.attrPage = 0
  curTag : st.curTag = none
  cdata : st.cdata = none
  inCdata : st.inCdata = false

theorem docStartW_fields (c : WCfg) (r : Node) : AtStart (docStartW c r) := by
  unfold docStartW; split
  · obtain ⟨h1, h2, h3, h4, h5, h6⟩ := strtblInitialize_fields c.lang r {}
    exact ⟨h1, h2, h3, h4, h5, h6⟩
  · exact ⟨rfl, rfl, rfl, rfl, rfl, rfl⟩

theorem docStartW_noStrtbl (c : WCfg) (r : Node) (h : c.useStrtbl = false) : (docStartW c r).strtbl = [] := by
  unfold docStartW; simp [h]

/-- How the string table after a step of the encoder relates to the one before: it only grows at its
    end, keeps `StrInv`, and does not change at all when the string table is disabled. -/
structure TblExt (c : WCfg) (st st' : WSt) : Prop where
  pre : st.strtbl <+: st'.strtbl
  inv : StrInv st → StrInv st'
  no : c.useStrtbl = false → st'.strtbl = st.strtbl

theorem TblExt.refl (c : WCfg) (st : WSt) : TblExt c st st := ⟨List.prefix_refl _, id, fun _ => rfl⟩

theorem TblExt.trans {c : WCfg} {a b d : WSt} (h1 : TblExt c a b) (h2 : TblExt c b d) : TblExt c a d :=
  ⟨h1.pre.trans h2.pre, fun h => h2.inv (h1.inv h), fun h => (h2.no h).trans (h1.no h)⟩

theorem TblExt.of_eq {c : WCfg} {st st' : WSt} (h1 : st'.strtbl = st.strtbl) (h2 : st'.strtblLen = st.strtblLen) :
    TblExt c st st' := ⟨h1 ▸ List.prefix_refl _, fun h => h.of_eq h1 h2, fun _ => h1⟩

theorem TblExt.add (c : WCfg) (hu : c.useStrtbl = true) (st : WSt) (s : Bytes) :
    TblExt c st (strtblAdd st s none).1 :=
  ⟨strtblAdd_prefix _ _ _, strtblAdd_inv _ _, fun h => by rw [hu] at h; cases h⟩

/-- The frame the tag and attribute encoders keep on every input (no hypothesis on tables or names). -/
structure Step (c : WCfg) (st st' : WSt) : Prop where
  tbl : TblExt c st st'
  inCdata : st'.inCdata = st.inCdata
  curTag : st'.curTag = st.curTag

theorem Step.refl (c : WCfg) (st : WSt) : Step c st st := ⟨TblExt.refl _ _, rfl, rfl⟩

theorem Step.trans {c : WCfg} {a b d : WSt} (h1 : Step c a b) (h2 : Step c b d) : Step c a d :=
  ⟨h1.tbl.trans h2.tbl, h2.inCdata.trans h1.inCdata, h2.curTag.trans h1.curTag⟩

theorem Step.curAttr (c : WCfg) (st : WSt) (cur : Option AttrRow) : Step c st { st with curAttr := cur } :=
  ⟨TblExt.of_eq rfl rfl, rfl, rfl⟩

theorem strtblAdd_step (c : WCfg) (hu : c.useStrtbl = true) (st : WSt) (name bs : Bytes) :
    Step c st ((strtblAdd st name none).1.emit bs) :=
  ⟨(TblExt.add c hu st name).trans (TblExt.of_eq (emit_strtbl _ _) (emit_strtblLen _ _)),
    by simp only [emit_inCdata, strtblAdd_inCdata], by simp only [emit_curTag, strtblAdd_curTag]⟩

theorem bind_ok_someO {α : Type} (x : Except Err α) (f : α → WSt) (st2 : WSt)
    (h : (x >>= fun a => pure (some (f a))) = (.ok (some st2) : Except Err (Option WSt))) :
    ∃ a, x = .ok a ∧ st2 = f a :=
  let ⟨a, ha, he⟩ := bind_pure_eq_ok h
  ⟨a, ha, Option.some.inj he⟩

/-- The hypothesis on a node's name. A token name has to be a row of the tag table, so a language
    without tag table admits none: the range facts of `langOk` are what turns the token octet into a tag
    of the grammar. -/
def nameOver (l : Lang) : Name → Bool
  | .token r => match l.tags with | some t => t.contains r | none => false
  | .literal _ => true

/-- The hypothesis on an attribute. Values are shorter than 2^32 octets: lengths are `WB_ULONG`. A
    language without attribute table admits every name: the encoder then drops all attributes. -/
def attrOver (l : Lang) (a : Attr) : Bool :=
  decide (a.value.length < 4294967296) &&
  match a.name with
  | .token r => (match l.attrs with | some t => t.contains r | none => true)
  | .literal _ => true

mutual
/-- Embedded documents are not looked into: they are written as one OPAQUE. -/
def nodeOver (l : Lang) : Node → Bool
  | .elt name attrs kids => nameOver l name && attrs.all (attrOver l) && nodesOver l kids
  | .text _ => true
  | .cdata kids => nodesOver l kids
  | .tree _ _ _ => true
def nodesOver (l : Lang) : List Node → Bool
  | [] => true
  | n :: rest => nodeOver l n && nodesOver l rest
end

theorem nodesOver_iff (lang : Lang) : ∀ (l : List Node), nodesOver lang l = true ↔ ∀ k ∈ l, nodeOver lang k = true
  | [] => by rw [nodesOver]; simp
  | k :: r => by rw [nodesOver, Bool.and_eq_true, nodesOver_iff lang r]; simp

end Wbxml.Lemmas.EncW
