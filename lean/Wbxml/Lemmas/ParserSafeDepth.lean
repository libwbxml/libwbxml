/-
  Parser safety: the number of elements, and hence the depth of the open-element stack the
  parser, the tree builder and the XML generator recurse over, is bounded by the number of input
  bytes: every start-element event costs at least one byte (its tag; `Run.count`).
-/
import Wbxml.Lemmas.ParserRun
namespace Wbxml.Lemmas.ParserSafe
open Wbxml Wbxml.Model

/-- The open-element depth along an event list: `d` is the current depth, `m` the maximum so far. -/
def depthGo : Nat → Nat → List Event → Nat
  | _, m, [] => m
  | d, m, .startElt _ _ :: es => depthGo (d + 1) (max m (d + 1)) es
  | d, m, .endElt _ :: es => depthGo (d - 1) m es
  | d, m, .startDoc _ _ :: es => depthGo d m es
  | d, m, .endDoc :: es => depthGo d m es
  | d, m, .pi _ _ :: es => depthGo d m es
  | d, m, .chars _ :: es => depthGo d m es

/-- Maximal number of simultaneously open elements: the recursion depth of `parse_element`, the
    height of the tree builder's `current` chain, and the nesting the XML generator descends. -/
def maxDepth (es : List Event) : Nat := depthGo 0 0 es

theorem depthGo_le : ∀ (es : List Event) (d m : Nat), depthGo d m es ≤ max m (d + startCount es)
  | [], d, m => by simp only [depthGo, startCount]; omega
  | e :: es, d, m => by
    cases e with
    | startElt n a => have := depthGo_le es (d + 1) (max m (d + 1)); simp only [depthGo, startCount]; omega
    | endElt n => have := depthGo_le es (d - 1) m; simp only [depthGo, startCount]; omega
    | startDoc c l => have := depthGo_le es d m; simp only [depthGo, startCount]; omega
    | endDoc => have := depthGo_le es d m; simp only [depthGo, startCount]; omega
    | pi t x => have := depthGo_le es d m; simp only [depthGo, startCount]; omega
    | chars s => have := depthGo_le es d m; simp only [depthGo, startCount]; omega

theorem maxDepth_le_startCount (es : List Event) : maxDepth es ≤ startCount es := by
  have := depthGo_le es 0 0
  unfold maxDepth
  omega

theorem startCount_onlyPi {es : List Event} (h : OnlyPi es) : startCount es = 0 := by
  induction es with
  | nil => rfl
  | cons e es ih =>
    obtain ⟨t, d, he⟩ := h e (by simp)
    rw [he]
    simp only [startCount]
    exact ih (fun x hx => h x (by simp [hx]))

theorem parseBody_count {ev ev' : List Event} {s s' : PState} (hl : s.lang ≠ none)
    (h : parseBody ev s = .ok (ev', s')) :
    startCount ev' + s'.rest.length ≤ startCount ev + s.rest.length := by
  obtain ⟨ev1, s1, ev2, s2, h1, h2, h3, a1, a3⟩ := parseBody_stages hl h
  obtain ⟨pis1, e1, p1⟩ := piLoop_events _ _ _ _ h1
  obtain ⟨pis2, e3, p3⟩ := piLoop_events _ _ _ _ h3
  obtain ⟨es, rfl, hr⟩ := (run_of_ok _).1 _ _ _ _ h2
  have c2 := hr.count (a1.lang_ne hl)
  dsimp only at e1 e3
  have := a1.len
  have := a3.len
  rw [e3, startCount_append, startCount_onlyPi p3, startCount_append, e1, startCount_append, startCount_onlyPi p1]
  omega

/-- **The parser delivers at most `bs.length - 3` start-element events** (three bytes at least go to
    the header), whatever the verdict, and so the open-element depth — the recursion depth of
    `parse_element` — is at most that. -/
theorem parse_startCount_le (cfg : PCfg) (bs : Bytes) :
    startCount (parse cfg bs).events ≤ bs.length - 3 := by
  rcases parse_anatomy cfg bs with ⟨c, _, _, hev, _⟩ | ⟨s, l, c, _, _, _, hev, _⟩ | ⟨s, l, ev, s', hh, hb, _, hev, _⟩
  · rw [hev]; simp [startCount]
  · rw [hev]; simp [startCount]
  · obtain ⟨hl, _, hlen⟩ := (parseHeader_ok cfg bs).of_ok hh
    dsimp only at hl hlen
    have := parseBody_count (by rw [hl]; simp) hb
    rw [hev, startCount_append]
    simp only [startCount] at this ⊢
    omega

end Wbxml.Lemmas.ParserSafe
