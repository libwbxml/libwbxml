/-
  Round trip (C03), second trip: the tree the XML front end builds from a conforming reading, as a function of
  the printed tree (`readNode`), normalises to what the printed tree normalises to (`norm_read_node`, under
  `readable`, `attrsReadable`, `flagsOk`) and is again a plain tree over the language (`good_readNode`).
  The hypotheses `readable`, `attrsReadable`, `valuesShort` do not see `canon` (`readable_canon`,
  `attrsReadable_canon`, `valuesShort_canon`): C03 has them of the tree up to `canon` and needs them of the tree.
-/
import Wbxml.Lemmas.RtReads
import Wbxml.Lemmas.RtNorm
import Wbxml.Lemmas.XmlElt
namespace Wbxml.Lemmas.Rt
open Wbxml Wbxml.Model Wbxml.Spec Wbxml.Lemmas.EncW Wbxml.Lemmas.X2W

mutual
/-- What `wbxml_tree_from_xml` builds from a conforming reading of the printed node: names and
    attributes through `xmlElt` (table look-up by name), character data as printed, empty text
    dropped and adjacent text merged by `addKid`. -/
def readNode (lang : Lang) (c : XCfg) : Node → Node
  | .elt name attrs kids =>
    XFrame.close { (xmlElt lang name.xmlName (xmlAttrsOf c attrs)).1 with kids := readKidsAcc lang c kids [] }
  | .text s => .text (printedText c s)
  | .cdata kids => .cdata kids
  | .tree l cs r => .tree l cs r
def readKidsAcc (lang : Lang) (c : XCfg) : List Node → List Node → List Node
  | [], acc => acc
  | k :: rest, acc => readKidsAcc lang c rest (addN acc (readNode lang c k))
end

/-- What is read of a printed element, through `xmlElt_closed`. -/
theorem readNode_elt (lang c name attrs kids) : readNode lang c (.elt name attrs kids) =
    .elt (xeTag lang name.xmlName).1 ((xmlAttrsOf c attrs).map (xeAttr lang)) (readKidsAcc lang c kids []) := by
  rw [readNode, xmlElt_closed]; rfl
theorem readNode_text (lang c s) : readNode lang c (.text s) = .text (printedText c s) := by rw [readNode]
theorem readKidsAcc_nil (lang c acc) : readKidsAcc lang c [] acc = acc := by rw [readKidsAcc]
theorem readKidsAcc_cons (lang c k rest acc) :
    readKidsAcc lang c (k :: rest) acc = readKidsAcc lang c rest (addN acc (readNode lang c k)) := by rw [readKidsAcc]

/-- Element names the XML callbacks take as they are: no `|` (namespace separator), not `Data`,
    no NUL. -/
def eltNameOk (n : Bytes) : Bool := (lastIndexOf 124 n).isNone && !(n == dataName) && nulFree n

theorem eltNameOk_notSkip (n : Bytes) (h : eltNameOk n = true) : (n == devinfName || n == mgmtName) = false := by
  simp only [eltNameOk, Bool.and_eq_true, Option.isNone_iff_eq_none] at h
  have h1 : (lastIndexOf 124 devinfName).isSome = true := by decide
  have h2 : (lastIndexOf 124 mgmtName).isSome = true := by decide
  cases hd : n == devinfName with
  | true => rw [beq_iff_eq] at hd; rw [hd] at h; rw [h.1.1] at h1; cases h1
  | false =>
    cases hm : n == mgmtName with
    | true => rw [beq_iff_eq] at hm; rw [hm] at h; rw [h.1.1] at h2; cases h2
    | false => rfl

theorem localName_of_ok (n : Bytes) (h : eltNameOk n = true) : localName n = n := by
  simp only [eltNameOk, Bool.and_eq_true, Option.isNone_iff_eq_none] at h
  unfold localName; rw [h.1.1]

mutual
/-- Elements and text only; element names without `|`, none called `Data`. -/
def readable : Node → Bool
  | .elt name _ kids => eltNameOk name.xmlName && readableL kids
  | .text _ => true
  | .cdata _ => false
  | .tree _ _ _ => false
def readableL : List Node → Bool
  | [] => true
  | k :: r => readable k && readableL r
end

theorem addN_of_not_text (acc : List Node) (n : Node) (h : isText n = false) : addN acc n = addKid acc n := by
  cases n with
  | text s => cases h
  | _ => rfl

/-- The printer's white-space handling is absorbed by the encoder's: canonical output, or every
    kind of white space the printer removes is removed by the encoder as well. -/
def flagsOk (c : XCfg) (wc : WCfg) : Bool :=
  (c.gen == 2) || ((!c.ignoreEmpty || wc.ignoreEmpty || wc.removeBlanks) && (!c.removeBlanks || wc.removeBlanks))

theorem normText_printed (c : XCfg) (wc : WCfg) (hf : flagsOk c wc = true) (s : Bytes) :
    normText wc (printedText c s) = normText wc s := by
  unfold printedText
  cases hg : c.gen == 2 with
  | true =>
    have hne : (c.gen != 2) = false := by simp [bne, hg]
    simp only [hne, Bool.false_and, Bool.false_eq_true, ↓reduceIte]
  | false =>
    simp only [flagsOk, hg, Bool.false_or, Bool.and_eq_true, Bool.or_eq_true, Bool.not_eq_true'] at hf
    have hne : (c.gen != 2) = true := by simp [bne, hg]
    simp only [hne, Bool.true_and]
    split
    · rename_i h1
      rw [Bool.and_eq_true] at h1
      rw [normText_nil wc]
      unfold normText
      rcases hf.1 with (hi | hi) | hr
      · rw [h1.1] at hi; cases hi
      · simp [hi, h1.2]
      · cases hi : wc.ignoreEmpty with
        | true => simp [h1.2]
        | false =>
          simp only [Bool.false_and, Bool.false_eq_true, ↓reduceIte, hr, strip_allSpace s h1.2]
          rw [show cstrOf ([] : Bytes) = [] from rfl, syncmlTypeText_nil]
    · split
      · rename_i h2
        have hr : wc.removeBlanks = true := by
          rcases hf.2 with h | h
          · rw [h2] at h; cases h
          · exact h
        unfold normText
        rw [strip_all, hr]
        simp only [↓reduceIte, strip_of_trim _ (trim_strip s)]
      · rfl

/-- Attributes survive printing and reading: the name does not start with the XML namespace URI
    (the reader's spelling of the `xml:` prefix), and the value has no TAB / LF unless the output
    is canonical (they are written unescaped otherwise, and read back as spaces). -/
def attrReadable (c : XCfg) (a : Attr) : Bool :=
  !(xmlNsUri.isPrefixOf (cstrOf a.name.xmlName)) &&
  ((c.gen == 2) || (cstrOf a.value).all (fun b => !(b == 9 || b == 10)))

mutual
def attrsReadable (c : XCfg) : Node → Bool
  | .elt _ attrs kids => attrs.all (attrReadable c) && attrsReadableL c kids
  | .text _ => true
  | .cdata _ => true
  | .tree _ _ _ => true
def attrsReadableL (c : XCfg) : List Node → Bool
  | [] => true
  | k :: r => attrsReadable c k && attrsReadableL c r
end

theorem unXml_nsAttrName (m : Bytes) (h : xmlNsUri.isPrefixOf m = false) : unXml (nsAttrName m) = m := by
  unfold nsAttrName
  split
  · rename_i hp
    rw [List.isPrefixOf_iff_prefix] at hp
    obtain ⟨t, rfl⟩ := hp
    unfold unXml
    have h1 : xmlNsUri.isPrefixOf (xmlNsUri ++ (xmlPrefix ++ t).drop xmlPrefix.length) = true := by
      rw [List.isPrefixOf_iff_prefix]; exact List.prefix_append _ _
    rw [h1]
    simp only [↓reduceIte, List.drop_left]
    rfl
  · unfold unXml; rw [h]; rfl

theorem attrNormalize_id (canonical : Bool) (v : Bytes)
    (h : (canonical || v.all (fun b => !(b == 9 || b == 10))) = true) : attrNormalize canonical v = v := by
  unfold attrNormalize
  cases canonical with
  | true => rfl
  | false =>
    simp only [Bool.false_or, List.all_eq_true, Bool.not_eq_true'] at h
    conv => rhs; rw [← List.map_id v]
    apply List.map_congr_left
    intro b hb
    rw [h b hb]; rfl

def normOfView (p : Bytes × Bytes) : Attr := { name := .literal (cstrOf p.1), value := withNul (cstrOf p.2) }

theorem normAttr_view (a : Attr) : normAttr a = normOfView (attrView a) := rfl

theorem normAttrs_read (lang : Lang) (c : XCfg) (wc : WCfg) (hl : wc.lang = c.lang) (attrs : List Attr)
    (hok : attrs.all (attrReadable c) = true) :
    normAttrs wc ((xmlAttrsOf c attrs).map (xeAttr lang)) = normAttrs wc attrs := by
  unfold normAttrs
  rw [hl]
  unfold xmlAttrsOf
  split
  · rename_i hsome
    rw [List.map_map, List.map_map]
    apply List.map_congr_left
    intro a ha
    have h1 := List.all_eq_true.mp hok a ha
    simp only [attrReadable, Bool.and_eq_true, Bool.not_eq_true'] at h1
    simp only [Function.comp, normAttr, xeAttr_xmlName]
    rw [unXml_nsAttrName _ h1.1, cstrOf_idem]
    show _ = ({ name := _, value := withNul (cstrOf a.value) } : Attr)
    rw [show (xeAttr lang (nsAttrName (cstrOf a.name.xmlName), attrNormalize (c.gen == 2) (cstrOf a.value))).value =
      attrNormalize (c.gen == 2) (cstrOf a.value) from rfl, attrNormalize_id _ _ h1.2, cstrOf_idem]
  · rfl

mutual
theorem norm_read_node (lang : Lang) (c : XCfg) (wc : WCfg) (hl : wc.lang = c.lang) (hs : isSyncml wc.lang.id = false)
    (hf : flagsOk c wc = true) : ∀ (n : Node), nfNode n = true → readable n = true → attrsReadable c n = true →
    normNode wc (readNode lang c n) = normNode wc n
  | .elt name attrs kids, hnf, hre, har => by
    rw [nfNode] at hnf
    rw [readable, Bool.and_eq_true] at hre
    rw [attrsReadable, Bool.and_eq_true] at har
    rw [readNode_elt, normNode_elt, normNode_elt,
      norm_read_kids lang c wc hl hs hf kids [] hnf hre.2 har.2 (fun h => by cases h),
      normKidsAcc_nil, normAttrs_read lang c wc hl attrs har.1]
    simp only [normName, xeTag_xmlName, localName_of_ok _ hre.1]
  | .text s, _, _, _ => by
    rw [readNode_text, normNode_text, normNode_text, normText_printed c wc hf]
  | .cdata kids, hnf, _, _ => by rw [nfNode] at hnf; cases hnf
  | .tree l cs r, hnf, _, _ => by rw [nfNode] at hnf; cases hnf
theorem norm_read_kids (lang : Lang) (c : XCfg) (wc : WCfg) (hl : wc.lang = c.lang) (hs : isSyncml wc.lang.id = false)
    (hf : flagsOk c wc = true) : ∀ (ks A : List Node), nfKids ks = true → readableL ks = true →
    attrsReadableL c ks = true → (lastText A = true → headText ks = false) →
    normKidsAcc wc (readKidsAcc lang c ks A) [] = normKidsAcc wc ks (normKidsAcc wc A [])
  | [], A, _, _, _, _ => by rw [readKidsAcc_nil, normKidsAcc_nil]
  | k :: rest, A, hnf, hre, har, hinv => by
    rw [nfKids_cons] at hnf
    simp only [Bool.and_eq_true, Bool.not_eq_true'] at hnf
    rw [readableL, Bool.and_eq_true] at hre
    rw [attrsReadableL, Bool.and_eq_true] at har
    rw [readKidsAcc_cons, normKidsAcc_cons]
    cases k with
    | text s =>
      have hlast : lastText A = false := lastText_before_text rfl hinv
      have hrest : headText rest = false := by simpa [isText] using hnf.1.2
      rw [readNode_text, normNode_text]
      rw [norm_read_kids lang c wc hl hs hf rest _ hnf.2 hre.2 har.2 (fun _ => hrest)]
      congr 1
      simp only [addN, addChars]
      split
      · rename_i he
        have hp := List.isEmpty_iff.mp he
        have : normText wc s = [] := by rw [← normText_printed c wc hf, hp, normText_nil wc]
        rw [this]; rfl
      · rw [addKid_text_after _ _ hlast, normKidsAcc_snoc, normNode_text, normText_printed c wc hf]
        rfl
    | elt nm a ks =>
      have hnt : isText (readNode lang c (.elt nm a ks)) = false := by rw [readNode_elt]; rfl
      rw [addN_of_not_text _ _ hnt, addKid_not_text _ _ hnt, norm_read_kids lang c wc hl hs hf rest _ hnf.2 hre.2 har.2
        (fun h => by rw [lastText_snoc, hnt] at h; cases h),
        normKidsAcc_snoc, norm_read_node lang c wc hl hs hf (.elt nm a ks) hnf.1.1 hre.1 har.1]
    | _ => have := hnf.1.1; rw [nfNode] at this; cases this
end

mutual
theorem readable_canon : ∀ (n : Node), readable (canon n) = readable n
  | .elt name attrs kids => by rw [canon_elt, readable, readable, readableL_canon kids]; rfl
  | .text s => by rw [canon_text]
  | .cdata kids => by rw [canon]
  | .tree l cs r => by rw [canon]
theorem readableL_canon : ∀ (ks : List Node), readableL (canonL ks) = readableL ks
  | [] => by rw [canonL_nil]
  | k :: r => by rw [canonL_cons, readableL, readableL, readable_canon k, readableL_canon r]
end

mutual
theorem attrsReadable_canon (c : XCfg) : ∀ (n : Node), attrsReadable c (canon n) = attrsReadable c n
  | .elt name attrs kids => by
    rw [canon_elt, attrsReadable, attrsReadable, attrsReadableL_canon c kids, List.all_map]
    rfl
  | .text s => by rw [canon_text]
  | .cdata kids => by rw [canon]
  | .tree l cs r => by rw [canon]
theorem attrsReadableL_canon (c : XCfg) : ∀ (ks : List Node), attrsReadableL c (canonL ks) = attrsReadableL c ks
  | [] => by rw [canonL_nil]
  | k :: r => by rw [canonL_cons, attrsReadableL, attrsReadableL, attrsReadable_canon c k, attrsReadableL_canon c r]
end

mutual
/-- Attribute values shorter than 2^32 octets (`WB_ULONG` lengths). -/
def valuesShort : Node → Bool
  | .elt _ attrs kids => attrs.all (fun a => decide (a.value.length < 4294967296)) && valuesShortL kids
  | .text _ => true
  | .cdata _ => true
  | .tree _ _ _ => true
def valuesShortL : List Node → Bool
  | [] => true
  | k :: r => valuesShort k && valuesShortL r
end

mutual
theorem valuesShort_canon : ∀ (n : Node), valuesShort (canon n) = valuesShort n
  | .elt name attrs kids => by
    rw [canon_elt, valuesShort, valuesShort, valuesShortL_canon kids, List.all_map]; rfl
  | .text s => by rw [canon_text]
  | .cdata kids => by rw [canon]
  | .tree l cs r => by rw [canon]
theorem valuesShortL_canon : ∀ (ks : List Node), valuesShortL (canonL ks) = valuesShortL ks
  | [] => by rw [canonL_nil]
  | k :: r => by rw [canonL_cons, valuesShortL, valuesShortL, valuesShort_canon k, valuesShortL_canon r]
end

theorem attrNormalize_length (canonical : Bool) (v : Bytes) : (attrNormalize canonical v).length = v.length := by
  unfold attrNormalize; split <;> simp

theorem plainNodes_iff : ∀ (l : List Node), plainNodes l = true ↔ ∀ k ∈ l, plainNode k = true
  | [] => by rw [plainNodes]; simp
  | k :: r => by rw [plainNodes, Bool.and_eq_true, plainNodes_iff r]; simp

theorem noDataNodes_iff : ∀ (l : List Node), noDataNodes l = true ↔ ∀ k ∈ l, noDataNode k = true
  | [] => by rw [noDataNodes]; simp
  | k :: r => by rw [noDataNodes, Bool.and_eq_true, noDataNodes_iff r]; simp

/-- What the second encoding needs of the tree read back: over the language, plain, no `Data`. -/
def GoodRead (lang : Lang) (k : Node) : Prop :=
  nodeOver lang k = true ∧ plainNode k = true ∧ noDataNode k = true

theorem goodRead_text (lang : Lang) (s : Bytes) : GoodRead lang (.text s) := by
  refine ⟨?_, ?_, ?_⟩
  · rw [nodeOver]
  · rw [plainNode]
  · rw [noDataNode]

theorem xeTag_over (lang : Lang) (name : Bytes) : nameOver lang (xeTag lang name).1 = true := by
  rcases xeTag_cases lang name with e | ⟨r, tags, e, ht, hm, _⟩ <;> rw [e]
  · rfl
  · simp only [nameOver, ht, List.contains_iff_mem]; exact hm

theorem xeAttr_over (lang : Lang) (nv : Bytes × Bytes) (h : nv.2.length < 4294967296) :
    attrOver lang (xeAttr lang nv) = true := by
  have hv : (xeAttr lang nv).value = nv.2 := rfl
  simp only [attrOver, hv, h, decide_true, Bool.true_and]
  rcases xeAttr_cases lang nv with e | ⟨r, t, e, ht, hm, _⟩
  · rw [e]
  · rw [e]; simp only [ht, List.contains_iff_mem]; exact hm

/-- The C name of the tag stored for a NUL-free local name is that name. -/
theorem xeTag_cName (lang : Lang) (name : Bytes) (h : nulFree (localName name) = true) :
    (xeTag lang name).1.cName = localName name := by
  rcases xeTag_cases lang name with e | ⟨r, _, e, _, _, hn⟩ <;> rw [e]
  · exact cstrOf_of_nulFree _ h
  · exact hn

/-- What a reader reports of short attribute values is short. -/
theorem xmlAttrsOf_short (c : XCfg) (attrs : List Attr)
    (h : attrs.all (fun a => decide (a.value.length < 4294967296)) = true) :
    ∀ p ∈ xmlAttrsOf c attrs, p.2.length < 4294967296 := by
  intro p hp
  unfold xmlAttrsOf at hp
  split at hp
  · obtain ⟨a, ha, rfl⟩ := List.mem_map.mp hp
    have := List.all_eq_true.mp h a ha
    simp only [decide_eq_true_eq] at this
    have := cstrOf_length_le a.value
    simp only [attrNormalize_length]
    omega
  · cases hp

mutual
theorem good_readNode (lang : Lang) (c : XCfg) : ∀ (n : Node), readable n = true → valuesShort n = true →
    GoodRead lang (readNode lang c n)
  | .elt name attrs kids, hre, hv => by
    rw [readable, Bool.and_eq_true] at hre
    rw [valuesShort, Bool.and_eq_true] at hv
    have hK := good_readKids lang c kids [] hre.2 hv.2 (fun _ h => by cases h)
    have hnok := hre.1
    simp only [eltNameOk, Bool.and_eq_true, Bool.not_eq_true'] at hnok
    have hloc := localName_of_ok _ hre.1
    rw [readNode_elt]
    refine ⟨?_, ?_, ?_⟩
    · rw [nodeOver, Bool.and_eq_true, Bool.and_eq_true, List.all_map, List.all_eq_true]
      exact ⟨⟨xeTag_over _ _, fun p hp => xeAttr_over lang p (xmlAttrsOf_short c attrs hv.1 p hp)⟩,
        (nodesOver_iff lang _).mpr (fun k hk => (hK k hk).1)⟩
    · rw [plainNode]; exact (plainNodes_iff _).mpr (fun k hk => (hK k hk).2.1)
    · rw [noDataNode, Bool.and_eq_true, xeTag_cName _ _ (by rw [hloc]; exact hnok.2), hloc, hnok.1.2]
      exact ⟨rfl, (noDataNodes_iff _).mpr (fun k hk => (hK k hk).2.2)⟩
  | .text s, _, _ => by rw [readNode_text]; exact goodRead_text lang _
  | .cdata kids, hre, _ => by rw [readable] at hre; cases hre
  | .tree l cs r, hre, _ => by rw [readable] at hre; cases hre
theorem good_readKids (lang : Lang) (c : XCfg) : ∀ (ks acc : List Node), readableL ks = true → valuesShortL ks = true →
    (∀ k ∈ acc, GoodRead lang k) → ∀ k ∈ readKidsAcc lang c ks acc, GoodRead lang k
  | [], acc, _, _, h => by rw [readKidsAcc_nil]; exact h
  | k :: rest, acc, hre, hv, h => by
    rw [readableL, Bool.and_eq_true] at hre
    rw [valuesShortL, Bool.and_eq_true] at hv
    rw [readKidsAcc_cons]
    exact good_readKids lang c rest _ hre.2 hv.2
      (addN_all acc _ (goodRead_text lang) h (good_readNode lang c k hre.1 hv.1))
end

theorem isElt_readNode (lang : Lang) (c : XCfg) (n : Node) (helt : isElt n = true) :
    isElt (readNode lang c n) = true := by
  cases n with
  | elt name attrs kids => rw [readNode_elt]; rfl
  | _ => cases helt

end Wbxml.Lemmas.Rt
