/-
  C16 — tree building on the ledger: the call-backs `wbxml_tree_clb_wbxml_start_element`,
  `_end_element`, `_characters`, one event, a list of events, `wbxml_tree_create`, and the tree side
  of `wbxml_tree_from_wbxml` (`treeFromEvents`) with the specification every function that returns a
  tree shares (`TreeMade`).
-/
import Wbxml.Lemmas.AllocTreeAdd
namespace Wbxml.Model.Alloc
open Wbxml

/-- The context before and after, under `CbSpec` and `LoopSpec`: the same tree, consistent, and an error
    code is never cleared. -/
def CbRel (c c' : TCtx) : Prop := c'.tree = c.tree ∧ c'.ok ∧ (c.error ≠ OK → c'.error ≠ OK)

theorem CbRel.refl {c : TCtx} (h : c.ok) : CbRel c c := ⟨rfl, h, id⟩

theorem CbRel.trans {c c1 c2 : TCtx} (a : CbRel c c1) (b : CbRel c1 c2) : CbRel c c2 :=
  ⟨b.1.trans a.1, b.2.1, fun h => b.2.2 (a.2.2 h)⟩

/-- The call-backs return `void`: a failed request can only be recorded in `ctx->error`. -/
abbrev CbSpec (R : List Nat) (c : TCtx) (p : Prog TCtx) : Prop :=
  Spec R c.owned p TCtx.owned (CbRel c) (fun c' => c'.error ≠ OK)

theorem CbSpec.ret {R : List Nat} {F : Prop} {c c1 : TCtx} (h : CbRel c c1) (hF : F → c1.error ≠ OK) :
    Tri R c1.owned F (Prog.ret c1) (fun r B => B = r.owned ∧ CbRel c r) (fun c' => c'.error ≠ OK) :=
  .ret (.refl _) ⟨rfl, h⟩ hF

/-- The exit `ctx->error = code` with `current = NULL` (the NULL result of the failed call is assigned to it). -/
theorem CbSpec.dropped {R : List Nat} {F : Prop} {c c1 : TCtx} (et : c1.tree = c.tree) (ok1 : c1.ok) {code : Nat}
    (hcode : code ≠ OK) :
    Tri R c1.owned F (Prog.ret { dropCurrent c1 with error := code }) (fun r B => B = r.owned ∧ CbRel c r)
      (fun c' => c'.error ≠ OK) :=
  have ⟨dp, dok, dt, _, _⟩ := dropCurrent_spec c1 ok1
  .ret dp.symm ⟨rfl, dt.trans et, dok, fun _ => hcode⟩ fun _ => hcode

/-- The rest of a list of events after one call-back: the flag is "the context holds an error code",
    which the rest never clears. -/
theorem CbSpec.then {R : List Nat} {c c1 : TCtx} {p : Prog TCtx} {F : Prop} (r1 : CbRel c c1) (h : CbSpec R c1 p)
    (hF : F → c1.error ≠ OK) :
    Tri R c1.owned F p (fun r B => B = r.owned ∧ CbRel c r) (fun c' => c'.error ≠ OK) :=
  (h.raise fun _ _ ⟨_, r2⟩ f => r2.2.2 (hF f)).mono id (fun _ B ⟨e, r2⟩ => ⟨B, .refl _, e, r1.trans r2⟩) fun _ _ _ => id

/-- A function that adds to the tree, called from a call-back: on failure that exit, else the call-back
    goes on with `k`. -/
theorem TreeSpec.orDropped {R : List Nat} {c : TCtx} {p : Prog (TCtx × Bool)} {k : TCtx → Prog TCtx} {code : Nat}
    (h : TreeSpec R c p) (hcode : code ≠ OK) (hk : ∀ c1, CbRel c c1 → CbSpec R c1 (k c1)) :
    CbSpec R c (Prog.bind p fun x => if (!x.2) = true then Prog.ret { dropCurrent x.1 with error := code } else k x.1) :=
  h.step (.refl _) (fun _ => id) fun ⟨c1, ok⟩ ⟨t1, e1, ok1⟩ => by
    have r1 : CbRel c c1 := ⟨t1, ok1, fun he h' => he (e1.symm.trans h')⟩
    cases ok with
    | false => exact CbSpec.dropped t1 ok1 hcode
    | true => exact CbSpec.then r1 (hk c1 r1) (·.elim False.elim fun h => nomatch h)

/-- On failure `ctx->error = code` with `current` where it stands, at the end of a call-back. -/
theorem TreeSpec.failed {R : List Nat} {c : TCtx} {p : Prog (TCtx × Bool)} {code : Nat} (h : TreeSpec R c p) (hcode : code ≠ OK) :
    CbSpec R c (Prog.bind p fun x => if (!x.2) = true then Prog.ret { x.1 with error := code } else Prog.ret x.1) :=
  h.step (.refl _) (fun _ => id) fun ⟨c1, ok⟩ ⟨t1, e1, ok1⟩ => by
    cases ok with
    | false => exact .ret (.refl _) ⟨rfl, t1, ok1, fun _ => hcode⟩ fun _ => hcode
    | true => exact CbSpec.ret ⟨t1, ok1, fun he h' => he (e1.symm.trans h')⟩ (·.elim False.elim fun h => nomatch h)

theorem CbSpec.of_moves {c : TCtx} {p : Prog TCtx}
    (h : ∀ s : Ledger, (∀ i ∈ c.owned, i ∈ s.live) → Good p s (fun c' s' => s' = s ∧ c'.owned.Perm c.owned ∧ CbRel c c')) :
    CbSpec [] c p := fun s wf own _ =>
  (h s own.2).mono fun _ _ ⟨e, hp, r⟩ => e.symm ▸ ⟨_, ⟨rfl, r⟩, (Clean.id wf own).prod_perm hp.symm,
    fun f => f.elim False.elim fun h => absurd h (Nat.lt_irrefl _)⟩

theorem bne_ok_true {e : Nat} : (e != OK) = true ↔ e ≠ OK := by simp

theorem head_mem {c : TCtx} {f : Frame} {rest : List Frame} (hf : c.frames = f :: rest) : f.node.hdr ∈ c.owned :=
  frame_mem_owned c (f := f) (by simp [hf]) (by simp [Frame.owned, hdr_mem_owned])

/-- The objects an event refers to (they stay the parser's). -/
def evObjs : TEvent → List (List Nat)
  | .start tag attrs => tag.owned :: attrs.map AAttr.owned
  | _ => []

/-- The objects of the event are owned by somebody else: live, and older than `b`. -/
def EvReady (b : Nat) (s : Ledger) (e : TEvent) : Prop := ∀ X ∈ evObjs e, Owns s X ∧ ∀ i ∈ X, i ≤ b

theorem mem_evObjs {e : TEvent} {i : Nat} (h : i ∈ e.owned) : ∃ X ∈ evObjs e, i ∈ X := by
  cases e with
  | start tag attrs =>
    rcases List.mem_append.1 h with h | h
    · exact ⟨_, List.mem_cons_self, h⟩
    · obtain ⟨a, ha, hi⟩ := List.mem_flatMap.1 h
      exact ⟨_, List.mem_cons_of_mem _ (List.mem_map.2 ⟨a, ha, rfl⟩), hi⟩
  | stop => cases h
  | chars _ _ => cases h

/-- Blocks older than everything the context owns are not the context's. -/
theorem EvReady.foreign {b : Nat} {s : Ledger} {e : TEvent} {c : TCtx} (hr : EvReady b s e) (hb : ∀ i ∈ c.owned, b < i) :
    ∀ i ∈ e.owned, i ∈ s.live ∧ i ∉ c.owned := fun i hi =>
  have ⟨X, hX, hiX⟩ := mem_evObjs hi
  ⟨(hr X hX).1.2 i hiX, fun hm => Nat.lt_irrefl _ (Nat.lt_of_lt_of_le (hb i hm) ((hr X hX).2 i hiX))⟩

theorem clbStartElement_tri (c : TCtx) (tag : AName) (attrs : List AAttr) (hok : c.ok) :
    CbSpec (tag.owned ++ attrs.flatMap AAttr.owned) c (clbStartElement c tag attrs) := by
  unfold clbStartElement
  refine .if_ne_ok (fun h => CbSpec.ret (.refl hok) fun _ => h) fun _ => ?_
  -- leaving a CDATA section
  refine .reads (X := fun c1 => c1.owned.Perm c.owned ∧ c1.ok ∧ c1.tree = c.tree ∧ c1.error = c.error) (fun s hl => ?_)
    fun c1 ⟨hp1, ok1, t1, e1⟩ => ?_
  · rcases hf : c.frames with _ | ⟨f, rest⟩
    · exact good_ret.2 ⟨rfl, .refl _, hok, rfl, rfl⟩
    · refine Good.deref (hl _ (.inl (head_mem hf))) ?_
      split
      · exact good_ret.2 ⟨rfl, popFrame_perm c hok, popFrame_ok c hok, popFrame_tree c, popFrame_error c⟩
      · exact good_ret.2 ⟨rfl, .refl _, hok, rfl, rfl⟩
  · exact (CbSpec.then ⟨t1, ok1, fun he h' => he (e1.symm.trans h')⟩ ((treeAddEltWithAttrs_tri c1 tag attrs ok1).orDropped
      ENOMEM_ne_OK fun c2 r2 => CbSpec.ret (.refl r2.2.1) nofun) (by simp)).perm hp1.symm

theorem clbEndElement_tri (c : TCtx) (hok : c.ok) : CbSpec [] c (clbEndElement c) := by
  refine .of_moves fun s hl => ?_
  unfold clbEndElement
  refine Good.if_ne_ok (fun _ => good_ret.2 ⟨rfl, .refl _, .refl hok⟩) (fun _ => ?_)
  rcases hf : c.frames with _ | ⟨f, _ | ⟨g, rest⟩⟩
  · exact good_ret.2 ⟨rfl, by simp [TCtx.owned, hf], rfl, ⟨fun h => absurd rfl h, hok.2.1, fun _ h => nomatch h⟩, fun _ => EINTERNAL_ne_OK⟩
  · exact Good.deref (hl _ (head_mem hf)) (Good.deref (hl _ (tree_mem_owned c)) (good_ret.2 ⟨rfl, .refl _, .refl hok⟩))
  · refine Good.deref (hl _ (head_mem hf)) ?_
    -- the context after the optional step out of the CDATA section
    have hmid : ∀ c1 : TCtx, c1.owned.Perm c.owned → c1.ok → c1.tree = c.tree → c1.error = c.error →
        Good (match c1.frames with
          | [] => Prog.ret c1
          | g :: _ => (deref (some g.node.hdr)).bind fun _ => Prog.ret (popFrame c1)) s
          (fun c' s' => s' = s ∧ c'.owned.Perm c.owned ∧ CbRel c c') := by
      intro c1 hp1 hok1 ht1 he1
      rcases hf1 : c1.frames with _ | ⟨g1, rest1⟩
      · exact good_ret.2 ⟨rfl, hp1, ht1, hok1, fun h => he1 ▸ h⟩
      · refine Good.deref (hl _ (hp1.mem_iff.1 (head_mem hf1))) ?_
        exact good_ret.2 ⟨rfl, (popFrame_perm c1 hok1).trans hp1, (popFrame_tree c1).trans ht1, popFrame_ok c1 hok1,
          fun h => by rw [popFrame_error, he1]; exact h⟩
    split
    · exact hmid (popFrame c) (popFrame_perm c hok) (popFrame_ok c hok) (popFrame_tree c) (popFrame_error c)
    · exact hmid c (.refl _) hok rfl rfl

theorem clbCharacters_tri (c : TCtx) (text : Bytes) (cd : Bool) (hok : c.ok) : CbSpec [] c (clbCharacters c text cd) := by
  unfold clbCharacters
  refine .if_ne_ok (fun h => CbSpec.ret (.refl hok) fun _ => h) fun _ => ?_
  have hfirst : ∀ b : Bool, TreeSpec [] c (if b = true then treeAddCdata c else Prog.ret (c, true)) := fun b =>
    .ite (fun _ => treeAddCdata_tri c hok) fun _ => .ret (.refl _) ⟨rfl, rfl, rfl, hok⟩ nofun
  exact (hfirst _).orDropped ENOMEM_ne_OK fun c1 r1 => (treeAddText_tri c1 text r1.2.1).failed ENOMEM_ne_OK

theorem clbEvent_tri (c : TCtx) (e : TEvent) (hok : c.ok) : CbSpec e.owned c (clbEvent c e) := by
  cases e with
  | start tag attrs => exact clbStartElement_tri c tag attrs hok
  | stop => exact clbEndElement_tri c hok
  | chars text cd => exact clbCharacters_tri c text cd hok

theorem clbEvents_tri (events : List TEvent) (c : TCtx) (hok : c.ok) :
    CbSpec (events.flatMap TEvent.owned) c (clbEvents c events) := by
  induction events generalizing c with
  | nil => exact CbSpec.ret (.refl hok) nofun
  | cons e rest ih =>
    refine (clbEvent_tri c e hok).step (.refl _) (fun _ hi => List.mem_flatMap.2 ⟨e, List.mem_cons_self, hi⟩) fun c1 r1 => ?_
    exact CbSpec.then r1 ((ih c1 r1.2.1).borrow fun i hi =>
      have ⟨x, hx, h⟩ := List.mem_flatMap.1 hi; List.mem_flatMap.2 ⟨x, List.mem_cons_of_mem _ hx, h⟩) (·.resolve_left id)

def ownedCtxOpt : Option TCtx → List Nat
  | none => []
  | some c => c.owned

theorem TCtx.ok_new (t : Nat) : (⟨t, none, [], OK⟩ : TCtx).ok :=
  ⟨fun h => absurd rfl h, fun _ h => (nomatch h), fun _ h => absurd h List.not_mem_nil⟩

theorem treeCreate_tri :
    Spec [] [] treeCreate ownedCtxOpt (fun r => ∀ c, r = some c → ∃ t, c = ⟨t, none, [], OK⟩) (· = none) :=
  .malloc (.ret (.refl _) ⟨rfl, fun _ h => nomatch h⟩ fun _ => rfl) fun t => .ret (.refl _) ⟨rfl, fun _ h => ⟨t, (Option.some.inj h).symm⟩⟩ nofun

abbrev TreeMade (R : List Nat) (p : Prog (Nat × Option TCtx)) : Prop :=
  Spec R [] p (fun r => ownedCtxOpt r.2) (fun r => (r.1 ≠ OK → r.2 = none) ∧ ∀ c, r.2 = some c → c.ok ∧ c.error = OK)
    (fun r => r.1 ≠ OK)

theorem TreeMade.drop {R : List Nat} {F : Prop} (c : TCtx) {code : Nat} (hcode : code ≠ OK) :
    Tri R c.owned F (Prog.bind (treeDestroy c) fun _ => Prog.ret (code, (none : Option TCtx)))
      (fun r B => B = ownedCtxOpt r.2 ∧ (r.1 ≠ OK → r.2 = none) ∧ ∀ c, r.2 = some c → c.ok ∧ c.error = OK) (fun r => r.1 ≠ OK) :=
  .release (treeDestroy_frees c) (.refl _) (.ret (.refl _) ⟨rfl, fun _ => rfl, fun _ h => nomatch h⟩ fun _ => hcode)

/-- `WBXML_OK` with the tree, whose error field is clear: no failure can have been delivered. -/
theorem TreeMade.done {R : List Nat} {F : Prop} (c : TCtx) (hok : c.ok) (herr : c.error = OK) (hF : F → c.error ≠ OK) :
    Tri R c.owned F (Prog.ret (OK, some c))
      (fun r B => B = ownedCtxOpt r.2 ∧ (r.1 ≠ OK → r.2 = none) ∧ ∀ c, r.2 = some c → c.ok ∧ c.error = OK) (fun r => r.1 ≠ OK) :=
  .ret (.refl _) ⟨rfl, fun h => absurd rfl h, fun _ h => Option.some.inj h ▸ ⟨hok, herr⟩⟩ fun f => absurd herr (hF f)

theorem treeFromEvents_tri (events : List TEvent) : TreeMade (events.flatMap TEvent.owned) (treeFromEvents events) := by
  unfold treeFromEvents
  refine treeCreate_tri.step (.refl _) nofun fun c0 hshape => ?_
  cases c0 with
  | none => exact .ret (.refl _) ⟨rfl, fun _ => rfl, fun _ h => nomatch h⟩ fun _ => ENOMEM_ne_OK
  | some c0 =>
    obtain ⟨t, rfl⟩ := hshape c0 rfl
    refine (clbEvents_tri events _ (TCtx.ok_new t)).step (.refl _) (fun _ => id) fun c2 ⟨_, ok2, _⟩ => ?_
    exact .if_ne_ok (fun herr => TreeMade.drop c2 herr) fun herr => TreeMade.done c2 ok2 herr (·.resolve_left (by simp))

end Wbxml.Model.Alloc
