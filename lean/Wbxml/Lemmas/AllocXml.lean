/-
  C16 — the XML output half on the ledger: what every step of the walk keeps of the encoder (`XOk`,
  `XSpec`; read in a ledger: `XStep`), runs of `wbxml_buffer_append_*` calls on a buffer and on
  `encoder->output`, the operations on the temporary copy of a text (`wbxml_buffer_encode_base64`,
  the SyncML `<Type>` replacement); `xml_encode_attr`, `xml_encode_text`; `xml_build_result`, the
  node walk (`parse_node` in XML mode, by structural recursion over the tree, embedded trees with
  their second encoder included) and `wbxml_tree_to_xml`.
-/
import Wbxml.Model.AllocXml
import Wbxml.Lemmas.AllocEnc
import Wbxml.Lemmas.AllocB64
namespace Wbxml.Model.Alloc
open Wbxml

/-- The encoder as a step of the walk expects it in a ledger. -/
def EncReady (e : AEnc) (s : Ledger) : Prop := Owns s e.owned ∧ ∃ o, e.output = some o ∧ o.ok

/-- One step of the XML walk on the encoder: the same struct and string table, the output buffer
    possibly moved; a delivered failure is reported by the code. -/
def XStep (e : AEnc) (s : Ledger) (e' : AEnc) (ret : Nat) (s' : Ledger) : Prop :=
  EncStep e s e' s' ∧ e'.strstbl = e.strstbl ∧ e'.output.isSome ∧ (s.hits < s'.hits → ret ≠ OK)

theorem XStep.recode {e e' : AEnc} {s s' : Ledger} {ret ret' : Nat} (h : XStep e s e' ret s') (hr : ret ≠ OK → ret' ≠ OK) :
    XStep e s e' ret' s' :=
  ⟨h.1, h.2.1, h.2.2.1, fun hh => hr (h.2.2.2 hh)⟩

theorem XStep.outside {e e' : AEnc} {s s' : Ledger} {ret : Nat} (h : XStep e s e' ret s') (wf : s.WF) {i : Nat}
    (hl : i ∈ s.live) (hn : i ∉ e.owned) : i ∈ s'.live ∧ i ∉ e'.owned :=
  h.1.2.1.outside wf hl hn

/-- What every statement of a walk that started with the encoder `e0` keeps. -/
def XOk (e0 e : AEnc) : Prop :=
  e.hdr = e0.hdr ∧ e.useStrtbl = e0.useStrtbl ∧ e.strstbl = e0.strstbl ∧ ∃ o, e.output = some o ∧ o.ok

theorem XOk.of_out {e : AEnc} (h : ∃ o, e.output = some o ∧ o.ok) : XOk e e := ⟨rfl, rfl, rfl, h⟩

/-- A step of that walk; `A`: the encoder, and perhaps a temporary beside it. -/
abbrev XSpec (R A : List Nat) (e0 : AEnc) (p : Prog α) (enc : α → AEnc) (code : α → Nat) : Prop :=
  Spec R A p (fun r => (enc r).owned) (fun r => XOk e0 (enc r)) (fun r => code r ≠ OK)

/-- A step followed by `if (ret != WBXML_OK) return ret`. -/
theorem XSpec.andThen {R R' A : List Nat} {e0 : AEnc} {F : Prop} {p : Prog α} {enc : α → AEnc} {code : α → Nat}
    {k : α → Prog β} {exit : α → β} {enc' : β → AEnc} {code' : β → Nat} (hp : XSpec R' A e0 p enc code) (hR : ∀ i ∈ R', i ∈ R)
    (hk : ∀ r, XOk e0 (enc r) → Tri R (enc r).owned F (k r) (fun r B => B = (enc' r).owned ∧ XOk e0 (enc' r)) (fun r => code' r ≠ OK))
    (hx : ∀ r, enc' (exit r) = enc r ∧ code' (exit r) = code r := by exact fun _ => ⟨rfl, rfl⟩) :
    Tri R A F (Prog.bind p fun r => if (code r != OK) = true then Prog.ret (exit r) else k r)
      (fun r B => B = (enc' r).owned ∧ XOk e0 (enc' r)) (fun r => code' r ≠ OK) :=
  hp.step (.refl _) hR fun r x => .if_ne_ok
    (fun h => .ret (.refl _) ⟨congrArg AEnc.owned (hx r).1.symm, (congrArg (XOk e0) (hx r).1).mpr x⟩ fun _ e => h ((hx r).2.symm.trans e))
    fun h => (hk r x).lower (·.resolve_right (· h))

theorem XSpec.last {R R' A : List Nat} {e0 : AEnc} {p : Prog α} {enc : α → AEnc} {code : α → Nat}
    {f : α → β} {enc' : β → AEnc} {code' : β → Nat} (hp : XSpec R' A e0 p enc code) (hR : ∀ i ∈ R', i ∈ R)
    (hx : ∀ r, enc' (f r) = enc r ∧ code' (f r) = code r := by exact fun _ => ⟨rfl, rfl⟩) :
    XSpec R A e0 (Prog.bind p fun r => Prog.ret (f r)) enc' code' :=
  hp.step (.refl _) hR fun r x => .ret (.refl _) ⟨congrArg AEnc.owned (hx r).1.symm, (congrArg (XOk e0) (hx r).1).mpr x⟩
    fun h e => h.resolve_left id ((hx r).2.symm.trans e)

theorem bufAppendAll_tri (chunks : List Bytes) (b : ABuf) (hok : b.ok) :
    Spec [] b.owned (bufAppendAll b chunks) (fun r => r.1.owned) (fun r => r.1.ok) (fun r => r.2 = false) := by
  induction chunks generalizing b with
  | nil => exact .ret (.refl _) ⟨rfl, hok⟩ nofun
  | cons chunk rest ih =>
    unfold bufAppendAll
    refine (bufAppendData_tri b (some chunk) hok).step (.refl _) nofun fun ⟨b1, ok⟩ ⟨_, _, k1⟩ => ?_
    cases ok with
    | false => exact .ret (.refl _) ⟨rfl, k1 hok⟩ fun _ => rfl
    | true => exact (ih b1 (k1 hok)).lower (by simp)

theorem appendAll_tri {e0 : AEnc} (e : AEnc) (err : Nat) (herr : err ≠ OK) (chunks : List Bytes) (h : XOk e0 e) :
    XSpec [] e.owned e0 (appendAll e err chunks) (·.1) (·.2) := by
  obtain ⟨eh, eu, et, o, ho, hk⟩ := h
  unfold appendAll
  simp only [ho]
  refine (bufAppendAll_tri chunks o hk).after (e.hdr :: ownedStrList e.strstbl) (.of_eq (AEnc.owned_out ho)) nofun
    fun ⟨o1, ok⟩ k1 => ?_
  exact .ret (.of_eq (AEnc.owned_out (e := { e with output := some o1 }) rfl).symm) ⟨rfl, eh, eu, et, o1, rfl, k1⟩
    fun f => by cases f.resolve_left id; exact herr

theorem XOk.append {e0 e : AEnc} (h : XOk e0 e) {chunks : List Bytes} :
    XSpec [] e.owned e0 (appendAll e EAPPEND chunks) (·.1) (·.2) :=
  appendAll_tri e EAPPEND EAPPEND_ne_OK chunks h

theorem bufEncodeB64_tri (tmp : ABuf) (hok : tmp.ok) :
    Spec [] tmp.owned (bufEncodeB64 tmp) (fun r => r.1.owned) (fun r => r.1.ok) (fun r => r.2 ≠ OK) := by
  unfold bufEncodeB64
  refine .deref (.inl List.mem_cons_self) ((b64Encode_tri tmp.len).make nofun fun r _ => ?_)
  rcases r with _ | x
  · exact .ret (.of_eq (List.append_nil _)) ⟨rfl, hok⟩ fun _ => EB64ENC_ne_OK
  refine (bufRewrite_tri tmp _ hok).call (.refl _) nofun fun ⟨b3, ok⟩ ⟨_, _, k3⟩ => ?_
  refine .release (Frees.free (some x)) (.refl _) (.ret (.refl _) ⟨rfl, k3 hok⟩ fun f => ?_)
  cases ok with
  | false => exact ENOMEM_ne_OK
  | true => simp at f

/-- The replacement of a SyncML `<Type>` text: the old copy is released whether or not the new
    one can be made. -/
theorem swapWhen_tri (c : Bool) (tmp : ABuf) (new : Bytes) (hok : tmp.ok) :
    Spec [] tmp.owned (if c = true then swapTmp tmp new else Prog.ret (some tmp)) ownedBufOpt (fun r => ∀ x, r = some x → x.ok)
      (· = none) :=
  .ite (fun _ => .release (bufDestroy_frees (some tmp)) (Fr := []) (.refl _)
      (bufCreate_tri _ _))
    fun _ => .ret (.refl _) ⟨rfl, fun _ hx => Option.some.inj hx ▸ hok⟩ nofun

theorem xmlAttr_tri (g : XGen) {e0 : AEnc} (e : AEnc) (name value : Bytes) (h : XOk e0 e) :
    XSpec [] e.owned e0 (xmlAttr g e name value) (·.1) (·.2) := by
  unfold xmlAttr
  refine XSpec.andThen h.append nofun fun ⟨e1, _⟩ k1 => ?_
  refine (bufCreate_tri (some value) value.length).make nofun fun tmp _ => ?_
  rcases tmp with _ | tmp
  · exact .ret (.of_eq (List.append_nil _)) ⟨rfl, k1⟩ fun _ => ENOMEM_ne_OK
  refine k1.append.call (.refl _) nofun fun ⟨e2, ret3⟩ k3 => ?_
  refine .release (bufDestroy_frees (some tmp)) (.refl _) ?_
  refine .if_ne_ok (fun _ => .ret (.refl _) ⟨rfl, k3⟩ fun _ => EAPPEND_ne_OK) fun hret3 => ?_
  exact k3.append.lower (·.elim (·.elim id nofun) (· hret3))

theorem xmlAttrs_tri (g : XGen) (l : XLang) {e0 : AEnc} (attrs : List XAttr) (e : AEnc) (h : XOk e0 e) :
    XSpec [] e.owned e0 (xmlAttrs g l e attrs) (·.1) (·.2) := by
  induction attrs generalizing e with
  | nil => exact .ret (.refl _) ⟨rfl, h⟩ nofun
  | cons a rest ih =>
    unfold xmlAttrs
    refine .ite (fun _ => ih e h) fun _ => ?_
    split
    · exact .ret (.refl _) ⟨rfl, h⟩ nofun
    · exact XSpec.andThen (xmlAttr_tri g e _ a.value h) nofun fun ⟨e1, _⟩ k1 => ih e1 k1

theorem xmlTextTmp_tri (g : XGen) (l : XLang) {e0 : AEnc} (e : AEnc) (st : XSt) (tmp : ABuf) (h : XOk e0 e) (hok : tmp.ok) :
    XSpec [] (e.owned ++ tmp.owned) e0 (xmlTextTmp g l e st tmp) (·.1) (·.2) := by
  unfold xmlTextTmp
  refine (swapWhen_tri _ tmp devinfXml hok).after e.owned (.refl _) nofun fun t1 k1 => ?_
  rcases t1 with _ | t1
  · exact .ret (.of_eq (List.append_nil _)) ⟨rfl, h⟩ fun _ => ENOMEM_ne_OK
  refine (swapWhen_tri _ t1 dmtndsXml (k1 t1 rfl)).after e.owned (.refl _) nofun fun t2 k2 => ?_
  rcases t2 with _ | t2
  · exact .ret (.of_eq (List.append_nil _)) ⟨rfl, h⟩ fun _ => ENOMEM_ne_OK
  refine (Tri.ite (fun _ => bufEncodeB64_tri t2 (k2 t2 rfl)) fun _ => .ret (.refl _) ⟨rfl, k2 t2 rfl⟩ nofun).after e.owned
    (.refl _) nofun fun ⟨t3, ret3⟩ _ => ?_
  refine .if_ne_ok (fun hret3 => ?_) fun hret3 => ?_
  · exact .release (bufDestroy_frees (some t3)) (.refl _) (.ret (.refl _) ⟨rfl, h⟩ fun _ => hret3)
  refine h.append.call (.refl _) nofun fun ⟨e4, ret4⟩ k4 => ?_
  refine .release (bufDestroy_frees (some t3)) (.refl _) (.ret (.refl _) ⟨rfl, k4⟩ fun f => ?_)
  rw [if_pos (bne_iff_ne.2 (by simpa [show ret3 = OK from hret3] using f))]
  exact EAPPEND_ne_OK

/-- `parse_text` + `xml_encode_text` for a text node; the content buffer is only read: a borrowed block
    (the tree's) or, for all that the proof needs, one of the encoder's. -/
theorem xmlText_tri (g : XGen) (l : XLang) {e0 : AEnc} (e : AEnc) (st : XSt) (content : ABuf) {R : List Nat}
    (hc : content.hdr ∈ e.owned ∨ content.hdr ∈ R) (h : XOk e0 e) : XSpec R e.owned e0 (xmlText g l e st content) (·.1) (·.2.2) := by
  unfold xmlText
  refine .ite (fun _ => .ret (.refl _) ⟨rfl, h⟩ nofun) fun _ => .ite
    (fun _ => .read (by split <;> exact hc) (bufCstr_spec _) fun _ _ => XSpec.last h.append nofun) fun _ => ?_
  refine (bufDuplicate_tri _).make (fun i hi => ?_) fun tmp k1 => ?_
  · obtain rfl := List.mem_singleton.1 hi
    split <;> exact hc.symm
  rcases tmp with _ | tmp
  · exact .ret (.of_eq (List.append_nil _)) ⟨rfl, h⟩ fun _ => ENOMEM_ne_OK
  · exact (XSpec.last (xmlTextTmp_tri g l e st tmp h (k1 tmp rfl)) nofun).lower (·.elim id (nomatch ·.1))

abbrev XmlMade (R : List Nat) (p : Prog (Nat × Option (Nat × Bytes))) : Prop :=
  Spec R [] p (fun r => ownedResult r.2) (fun r => r.1 ≠ OK → r.2 = none) (fun r => r.1 ≠ OK)

theorem XmlMade.drop {R A : List Nat} {F : Prop} {d : Prog Unit} (hd : Frees d A) {code : Nat} (hc : code ≠ OK) :
    Tri R A F (Prog.bind d fun _ => Prog.ret (code, (none : Option (Nat × Bytes))))
      (fun r B => B = ownedResult r.2 ∧ (r.1 ≠ OK → r.2 = none)) (fun r => r.1 ≠ OK) :=
  .release hd (Fr := []) (.refl _) (.ret (.refl _) ⟨rfl, fun _ => rfl⟩ fun _ => hc)

theorem xmlBuildResult_tri (g : XGen) (l : XLang) (e : AEnc) (withHeader : Bool) (hout : ∀ o, e.output = some o → o.ok) :
    XmlMade (e.hdr :: e.output.toList.map (·.hdr)) (xmlBuildResult g l e withHeader) := by
  unfold xmlBuildResult
  refine .deref (.inr List.mem_cons_self) ((bufCreate_tri (some []) XML_HEADER_BLOCK).make nofun fun header ok1 => ?_)
  rcases header with _ | header <;> dsimp only
  · exact .ret (.refl _) ⟨rfl, fun _ => rfl⟩ fun _ => ENOMEM_ne_OK
  refine (Tri.ite (fun _ => bufAppendAll_tri _ header (ok1 header rfl)) fun _ => .ret (.refl _) ⟨rfl, ok1 header rfl⟩ nofun).step
    (.refl _) nofun fun ⟨h2, ok⟩ k2 => ?_
  cases ok with
  | false => exact XmlMade.drop (bufDestroy_frees (some h2)) EAPPEND_ne_OK
  | true =>
    refine .malloc (XmlMade.drop (bufDestroy_frees (some h2)) ENOMEM_ne_OK) fun r => ?_
    -- the result is copied from the header and the output buffer, both read in place
    refine .read (.inl (by simp [ABuf.owned])) (bufCstr_spec h2) fun hb hbs => ?_
    refine .reads (X := fun ob => ob.isSome) (fun s hl => ?_) fun ob hobs => ?_
    · cases ho : e.output with
      | none => simp [good_ret]
      | some o => exact (bufCstr_spec o s (hl _ (.inr (by simp [ho])))).mono fun r s' ⟨a, b⟩ => ⟨a, b (hout o ho)⟩
    refine .release (bufDestroy_frees (some h2)) (Fr := [r]) List.perm_append_comm ?_
    obtain ⟨hbv, rfl⟩ := Option.isSome_iff_exists.1 (hbs k2)
    obtain ⟨obv, rfl⟩ := Option.isSome_iff_exists.1 hobs
    exact .ret (.refl _) ⟨rfl, fun h => absurd rfl h⟩ (by simp)

/-- `wbxml_encoder_encode_tree_to_xml` on an encoder of its own, the shape `wbxml_tree_to_xml` and
    `xml_encode_tree` (an embedded document) share: create, output buffer, the walk, the result,
    destroy.  (code, result). -/
def encodeToXml (g : XGen) (l : XLang) (withHeader : Bool) (walk : AEnc → Prog (AEnc × XSt × Nat)) :
    Prog (Nat × Option (Nat × Bytes)) := do
  let e ← encCreate
  match e with
  | none => pure (ENOMEM, none)
  | some e => do
    let (e, ok) ← encInitOutput e
    if !ok then do
      encDestroy (some e)
      pure (ENOMEM, none)
    else do
      let (e, _, ret) ← walk e
      if ret != OK then do
        encDestroy (some e)
        pure (ret, none)
      else do
        let (ret, out) ← xmlBuildResult g l e withHeader
        encDestroy (some e)
        pure (ret, out)

theorem treeToXml_eq (g : XGen) (l : XLang) (root : XNode) :
    treeToXml g l root = encodeToXml g l true (fun e => xmlNode g l e {} root) := rfl

theorem xmlNode_tree_eq (g : XGen) (l l' : XLang) (e : AEnc) (st : XSt) (root : XNode) :
    xmlNode g l e st (.tree l' root) =
      Prog.bind (encodeToXml g l' false (fun ne => xmlNode g l' ne { indent := st.indent } root)) (fun r =>
        match r.2 with
        | none => Prog.ret (e, st, r.1)
        | some (blk, bytes) =>
          Prog.bind (appendAll e ENOMEM [Spec.Seq.cstr bytes]) fun x =>
            Prog.bind (free (some blk)) fun _ => Prog.ret (x.1, st.noTag, x.2)) := by
  rw [xmlNode]
  simp only [encodeToXml, bind_eq, pure_eq, Prog.bind_assoc]
  congr 1; funext ne
  cases ne with
  | none => rfl
  | some ne =>
    simp only [Prog.bind_assoc]
    congr 1; funext x
    obtain ⟨ne, ok⟩ := x
    cases ok with
    | false => simp only [Bool.not_false, if_true, Prog.bind_assoc]; rfl
    | true =>
      simp only [Bool.not_true, Bool.false_eq_true, if_false, Prog.bind_assoc]
      congr 1; funext y
      by_cases h : (y.2.2 != OK) = true
      · simp only [h, if_true, Prog.bind_assoc]; rfl
      · simp only [h, Bool.false_eq_true, if_false, Prog.bind_assoc]; rfl

theorem encodeToXml_tri (g : XGen) (l : XLang) (withHeader : Bool) (walk : AEnc → Prog (AEnc × XSt × Nat)) {R : List Nat}
    (hwalk : ∀ ne, XOk ne ne → XSpec R ne.owned ne (walk ne) (·.1) (·.2.2)) : XmlMade R (encodeToXml g l withHeader walk) := by
  unfold encodeToXml
  refine encCreate_tri.step (.refl _) nofun fun ne k1 => ?_
  rcases ne with _ | ne
  · exact .ret (.refl _) ⟨rfl, fun _ => rfl⟩ fun _ => ENOMEM_ne_OK
  refine (encInitOutput_tri ne fun o ho => by rw [(k1 ne rfl).1] at ho; cases ho).step (.refl _) nofun
    fun ⟨ne2, ok⟩ ⟨⟨_, ok2, _⟩, _, _, some2⟩ => ?_
  cases ok with
  | false => exact XmlMade.drop (encDestroy_frees (some ne2)) ENOMEM_ne_OK
  | true =>
    obtain ⟨o, ho⟩ := Option.isSome_iff_exists.1 (some2 rfl)
    refine (hwalk ne2 (.of_out ⟨o, ho, ok2 o ho⟩)).step (.refl _) (fun _ => id) fun ⟨ne3, st3, ret3⟩ k3 => ?_
    refine .if_ne_ok (XmlMade.drop (encDestroy_frees (some ne3))) fun hr3 => ?_
    obtain ⟨o3, ho3, ok3⟩ := k3.2.2.2
    refine (xmlBuildResult_tri g l ne3 withHeader fun o' ho' => Option.some.inj (ho3.symm.trans ho') ▸ ok3).make
      (fun i hi => .inr ?_) fun ⟨ret4, xml⟩ n4 => ?_
    · rw [AEnc.owned_eq]
      exact (List.mem_cons.1 hi).elim (· ▸ List.mem_cons_self) fun hi =>
        List.mem_cons_of_mem _ (List.mem_append_right _ (hdr_mem_ownedBufOpt hi))
    exact .release (encDestroy_frees (some ne3)) List.perm_append_comm
      (.ret (.refl _) ⟨rfl, n4⟩ fun f => by simpa [show ret3 = OK from hr3] using f)

mutual
theorem xmlNode_tri (g : XGen) {R : List Nat} {e0 : AEnc} : (n : XNode) → (l : XLang) → (e : AEnc) → (st : XSt) →
    (∀ t ∈ n.bufs, t.hdr ∈ R) → XOk e0 e → XSpec R e.owned e0 (xmlNode g l e st n) (·.1) (·.2.2)
  | .elt name xmlns binary metType attrs kids, l, e, st, hR, h => by
    unfold xmlNode
    refine XSpec.andThen h.append nofun fun ⟨e1, _⟩ k1 => ?_
    refine XSpec.andThen (xmlAttrs_tri g l attrs e1 k1) nofun fun ⟨e2, _⟩ k2 => ?_
    refine XSpec.andThen k2.append nofun fun ⟨e3, _⟩ k3 => ?_
    refine XSpec.andThen (xmlNodes_tri g kids l e3 _ hR k3) (fun _ => id) fun ⟨e4, st4, _⟩ k4 => ?_
    exact .ite (fun _ => .ret (.refl _) ⟨rfl, k4⟩ nofun) fun _ => XSpec.last k4.append nofun
  | .text content, l, e, st, hR, h =>
    XSpec.last (xmlText_tri g l e st content (.inr (hR content List.mem_cons_self)) h) fun _ => id
  | .cdata kids, l, e, st, hR, h => by
    unfold xmlNode
    refine XSpec.andThen h.append nofun fun ⟨e1, _⟩ k1 => ?_
    refine XSpec.andThen (xmlNodes_tri g kids l e1 _ hR k1) (fun _ => id) fun ⟨e2, st2, _⟩ k2 => ?_
    exact XSpec.last k2.append nofun
  | .tree l' root, l, e, st, hR, h => by
    rw [xmlNode_tree_eq]
    refine (encodeToXml_tri g l' false _ fun ne hne => xmlNode_tri g root l' ne _ hR hne).make (fun _ => .inl)
      fun ⟨ret, xml⟩ n1 => ?_
    rcases xml with _ | ⟨rblk, bytes⟩
    · exact .ret (.of_eq (List.append_nil _)) ⟨rfl, h⟩ (·.resolve_left id)
    -- wbxml_buffer_append_cstr(encoder->output, xml), then the result block is released
    refine (appendAll_tri e ENOMEM ENOMEM_ne_OK _ h).call (.refl _) nofun fun ⟨e6, ret6⟩ k6 => ?_
    refine .release (Frees.free (some rblk)) (.refl _) (.ret (.refl _) ⟨rfl, k6⟩ fun f => f.resolve_left fun f => ?_)
    exact f.resolve_left id (Decidable.byContradiction fun hne => nomatch n1 hne)
  | .other code, l, e, st, hR, h => .ret (.refl _) ⟨rfl, h⟩ nofun
theorem xmlNodes_tri (g : XGen) {R : List Nat} {e0 : AEnc} : (ns : List XNode) → (l : XLang) → (e : AEnc) → (st : XSt) →
    (∀ t ∈ XNode.bufsL ns, t.hdr ∈ R) → XOk e0 e → XSpec R e.owned e0 (xmlNodes g l e st ns) (·.1) (·.2.2)
  | [], l, e, st, hR, h => .ret (.refl _) ⟨rfl, h⟩ nofun
  | n :: rest, l, e, st, hR, h => by
    unfold xmlNodes
    exact XSpec.andThen (xmlNode_tri g n l e st (fun t ht => hR t (List.mem_append_left _ ht)) h) (fun _ => id)
      fun ⟨e1, st1, _⟩ k1 => xmlNodes_tri g rest l e1 st1 (fun t ht => hR t (List.mem_append_right _ ht)) k1
end

theorem xmlNodes_spec (g : XGen) : (ns : List XNode) → (l : XLang) → (e : AEnc) → (st : XSt) → (s : Ledger) → s.WF → EncReady e s →
    (∀ t ∈ XNode.bufsL ns, t.hdr ∈ s.live ∧ t.hdr ∉ e.owned) →
    Good (xmlNodes g l e st ns) s (fun r s' => XStep e s r.1 r.2.2 s') :=
  fun ns l e st _ wf rdy hb =>
    (Tri.good (xmlNodes_tri g ns l e st (fun _ => List.mem_map_of_mem) (.of_out rdy.2)) wf rdy.1 fun _ hi =>
      have ⟨t, ht, e⟩ := List.mem_map.1 hi; e ▸ hb t ht).mono fun _ _ ⟨c, f, a, u, t, _, ho, k⟩ =>
        ⟨⟨a, c, fun _ ho' => Option.some.inj (ho.symm.trans ho') ▸ k, u⟩, t, by simp [ho], f⟩

theorem treeToXml_tri (g : XGen) (l : XLang) (root : XNode) {R : List Nat} (hR : ∀ t ∈ root.bufs, t.hdr ∈ R) :
    XmlMade R (treeToXml g l root) :=
  treeToXml_eq g l root ▸ encodeToXml_tri g l true _ fun ne hne => xmlNode_tri g root l ne _ hR hne

end Wbxml.Model.Alloc
