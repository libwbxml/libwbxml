/-
  The printer against the specification reader, in every generation mode, on its pure form `xtoks`
  (`Lemmas/EncXmlToks`): the rendered tokens of a node satisfying `okNode` are a `Piece` that is read
  back as `vNode` up to the blanks (space, line feed) indented generation adds around markup — equal
  after deleting blanks from character data (`sqI`) — and exactly as `vNode` in compact and canonical
  generation (`pad_toks`).
-/
import Wbxml.Lemmas.XmlSpecView
namespace Wbxml.Lemmas.XmlSpec
open Wbxml Wbxml.Model Wbxml.Spec Wbxml.Spec.Xml Wbxml.Lemmas.EncW Wbxml.Lemmas.XmlPrint Wbxml.Lemmas.XmlNs

theorem vAttrs_bytes (c : XCfg) (p : Parent) (name : Name) (attrs : List Attr) :
    (vAttrs c p name attrs).flatMap PAttr.bytes =
      nsDecl c p name ++ (if c.lang.attrs.isSome then attrs.flatMap (attrBytes (c.gen == 2)) else []) := by
  rw [nsDecl_eq]
  unfold vAttrs
  rw [List.flatMap_append]
  congr 1
  · cases declaredNs c p name <;> simp [declBytes, PAttr.bytes]
  · split
    · induction attrs with
      | nil => rfl
      | cons a r ih => simp [attrBytes, PAttr.bytes, List.flatMap_cons] at ih ⊢; exact ih
    · rfl

theorem vAttrs_ok (c : XCfg) (p : Parent) (name : Name) (attrs : List Attr) (h : attrsOk c p name attrs = true) :
    (∀ a ∈ vAttrs c p name attrs, a.ok) ∧ (∀ a ∈ vAttrs c p name attrs, xmlChars a.ev = true) ∧
    nodup ((vAttrs c p name attrs).map (·.name)) = true := by
  unfold attrsOk at h
  simp only [Bool.and_eq_true] at h
  obtain ⟨⟨h1, h2⟩, h3⟩ := h
  have hall : ∀ a ∈ vAttrs c p name attrs, a.ok ∧ xmlChars a.ev = true := by
    intro a ha
    unfold vAttrs at ha
    rcases List.mem_append.mp ha with ha | ha
    · cases hd : declaredNs c p name with
      | none => simp [hd] at ha
      | some ns =>
        simp only [hd, List.mem_singleton] at ha
        subst ha
        simp only [hd, Bool.and_eq_true] at h1
        exact ⟨⟨(by decide : isName b!"xmlns" = true), fun rest => areads_raw ns rest h1.1⟩, h1.2⟩
    · split at ha
      · rename_i hs
        simp only [hs, ↓reduceIte, List.all_eq_true, Bool.and_eq_true] at h2
        obtain ⟨x, hx, rfl⟩ := List.mem_map.mp ha
        exact ⟨⟨(h2 x hx).1, fun rest => areads_escape _ _ rest⟩, xmlChars_escape _ _ (h2 x hx).2⟩
      · cases ha
  exact ⟨fun a ha => (hall a ha).1, fun a ha => (hall a ha).2, h3⟩

def xelem (c : XCfg) (p : Parent) (name : Name) (attrs : List Attr) (kids : List Node) : XItem :=
  .elem name.xmlName ((vAttrs c p name attrs).map PAttr.view) (vNodes c (childScope p name) (tagOf name) kids [])

/-- NUL is not an XML character: what the printer wrote for a representable node has none, and the
    C-string copy of an embedded document's rendering is the whole rendering. -/
theorem xmlChars_nulFree (P : Bytes) (h : xmlChars P = true) : nulFree P = true := by
  revert h
  refine allCp_induct isChar (fun P => nulFree P = true) rfl ?_ ?_ P
  · intro a r _ hp _ ih
    have ha : a ≠ 0 := by intro e; subst e; simp [isChar] at hp
    have : nulFree (a :: r) = ((a != 0) && nulFree r) := rfl
    rw [this, ih]; simp [ha]
  · intro ch c r _ hch _ _ _ _ ih
    rw [nulFree_append, ih, Bool.and_true]
    simp only [nulFree, List.all_eq_true, bne_iff_ne, ne_eq]
    intro b hb e
    subst e
    have := hch 0 hb
    simp at this

/-- Character data with the blanks the printer uses for indentation (space, line feed) deleted. -/
def nb (s : Bytes) : Bytes := s.filter (fun b => !isBlankB b)

mutual
/-- An item with every blank deleted from its character data (text items that become empty dropped). -/
def sqI : XItem → XItem
  | .text s => .text (nb s)
  | .elem n a k => .elem n a (sqL k)
def sqL : List XItem → List XItem
  | [] => []
  | .text s :: r => if (nb s).isEmpty then sqL r else .text (nb s) :: sqL r
  | .elem n a k :: r => .elem n a (sqL k) :: sqL r
end

def startsText : List XItem → Bool
  | .text _ :: _ => true
  | _ => false

/-- No two adjacent text items (what a reader delivers, and what `addText` keeps). -/
def NoAdj : List XItem → Bool
  | [] => true
  | .text _ :: r => !startsText r && NoAdj r
  | .elem _ _ _ :: r => NoAdj r

theorem nb_append (s t : Bytes) : nb (s ++ t) = nb s ++ nb t := by simp [nb]

theorem nb_blank (w : Bytes) (h : w.all isBlankB = true) : nb w = [] := by
  simp only [nb, List.filter_eq_nil_iff]
  intro b hb
  simp [List.all_eq_true.mp h b hb]

theorem addText_text (s t : Bytes) (r : List XItem) : addText s (.text t :: r) = .text (s ++ t) :: r := rfl
theorem addText_end (s : Bytes) : addText s [] = if s.isEmpty then [] else [.text s] := rfl
theorem addText_elem (s : Bytes) (n : Bytes) (a : List (Bytes × Bytes)) (k r : List XItem) :
    addText s (.elem n a k :: r) = if s.isEmpty then .elem n a k :: r else .text s :: .elem n a k :: r := rfl

theorem noAdj_addText (s : Bytes) (R : List XItem) (h : NoAdj R = true) : NoAdj (addText s R) = true := by
  cases R with
  | nil => rw [addText_end]; split <;> simp [NoAdj, startsText]
  | cons x r =>
    cases x with
    | text t => rw [addText_text]; simpa [NoAdj] using h
    | elem n a k =>
      rw [addText_elem]
      split
      · exact h
      · simpa [NoAdj, startsText] using h

theorem startsText_sqL (r : List XItem) (h : startsText r = false) : startsText (sqL r) = false := by
  cases r with
  | nil => simp [sqL, startsText]
  | cons x r =>
    cases x with
    | text t => simp [startsText] at h
    | elem n a k => simp [sqL, startsText]

theorem addText_nonempty_nil (b : UInt8) (t : Bytes) (R : List XItem) (h : startsText R = false) :
    addText (b :: t) R = .text (b :: t) :: R := by
  cases R with
  | nil => rfl
  | cons x r =>
    cases x with
    | text u => simp [startsText] at h
    | elem n a k => rfl

theorem sq_addText (s : Bytes) (R : List XItem) (h : NoAdj R = true) : sqL (addText s R) = addText (nb s) (sqL R) := by
  cases R with
  | nil =>
    rw [addText_end]
    cases s with
    | nil => simp [sqL, nb, addText_nil]
    | cons b t =>
      simp only [List.isEmpty_cons, Bool.false_eq_true, ↓reduceIte, sqL]
      cases hn : nb (b :: t) with
      | nil => simp [addText_nil]
      | cons c u => simp [addText_end]
  | cons x r =>
    cases x with
    | text t =>
      simp only [NoAdj, Bool.and_eq_true, Bool.not_eq_true'] at h
      have hs := startsText_sqL r h.1
      rw [addText_text]
      simp only [sqL, nb_append]
      cases hnt : nb t with
      | nil =>
        simp only [List.append_nil, List.isEmpty_nil, ↓reduceIte]
        cases hns : nb s with
        | nil => simp [addText_nil]
        | cons c u => simp [addText_nonempty_nil c u _ hs]
      | cons c u =>
        have : (nb s ++ c :: u).isEmpty = false := by simp
        simp [this, addText_text]
    | elem n a k =>
      rw [addText_elem]
      cases s with
      | nil => simp [sqL, nb, addText_nil]
      | cons b t =>
        simp only [List.isEmpty_cons, Bool.false_eq_true, ↓reduceIte, sqL]
        cases hn : nb (b :: t) with
        | nil => simp [addText_nil]
        | cons c u => simp [addText_elem]


/-- `F` (what was read) and `G` (the view) contribute the same to a content list up to blanks in
    character data, and are equal outside indented generation (`ind = false`), where the printer adds
    no white space. -/
def Pad (ind : Bool) (F G : List XItem → List XItem) : Prop :=
  (∀ R R', NoAdj R = true → NoAdj R' = true → sqL R = sqL R' →
    NoAdj (F R) = true ∧ NoAdj (G R') = true ∧ sqL (F R) = sqL (G R')) ∧ (ind = false → F = G)

theorem Pad.id (g : Bool) : Pad g (fun R => R) (fun R => R) := ⟨fun _ _ h1 h2 h3 => ⟨h1, h2, h3⟩, fun _ => rfl⟩

theorem Pad.comp {g : Bool} {F1 G1 F2 G2 : List XItem → List XItem} (h1 : Pad g F1 G1) (h2 : Pad g F2 G2) :
    Pad g (fun R => F1 (F2 R)) (fun R => G1 (G2 R)) := by
  refine ⟨fun R R' a b c => ?_, fun hg => by rw [h1.2 hg, h2.2 hg]⟩
  obtain ⟨a2, b2, c2⟩ := h2.1 R R' a b c
  exact h1.1 _ _ a2 b2 c2

theorem Pad.congr {g : Bool} {F G G' : List XItem → List XItem} (h : ∀ R, G R = G' R) (hp : Pad g F G) :
    Pad g F G' := by
  have : G = G' := funext h
  rw [← this]; exact hp

theorem Pad.text (g : Bool) (s : Bytes) : Pad g (addText s) (addText s) :=
  ⟨fun R R' a b c => ⟨noAdj_addText s R a, noAdj_addText s R' b, by rw [sq_addText s R a, sq_addText s R' b, c]⟩,
   fun _ => rfl⟩

/-- White space as the printer adds it: blanks, and none outside indented generation. -/
def IsWs (ind : Bool) (w : Bytes) : Prop := w.all isBlankB = true ∧ (ind = false → w = [])

theorem Pad.ws {g : Bool} {w : Bytes} (hw : IsWs g w) : Pad g (addText w) (fun R => R) :=
  ⟨fun R R' a b c => ⟨noAdj_addText w R a, b, by rw [sq_addText w R a, nb_blank w hw.1, addText_nil, c]⟩,
   fun hg => by rw [hw.2 hg]; exact funext addText_nil⟩

/-- An element read in place of another that is the same after squashing. -/
theorem Pad.item {g : Bool} {e : XItem} (n : Bytes) (a : List (Bytes × Bytes)) (k : List XItem)
    (hsq : sqI e = sqI (.elem n a k)) (heq : g = false → e = .elem n a k) :
    Pad g (fun R => e :: R) (fun R => .elem n a k :: R) := by
  refine ⟨fun R R' ha hb hc => ?_, fun hg => by rw [heq hg]⟩
  cases e with
  | text s => simp [sqI] at hsq
  | elem n' a' k' =>
    simp only [sqI, XItem.elem.injEq] at hsq
    obtain ⟨rfl, rfl, hk⟩ := hsq
    exact ⟨by simpa [NoAdj] using ha, by simpa [NoAdj] using hb, by simp [sqL, hk, hc]⟩

theorem blank_cases (b : UInt8) (h : isBlankB b = true) : b = 32 ∨ b = 10 := by
  simpa [isBlankB] using h

theorem xmlEscape_blank (w : Bytes) (hw : w.all isBlankB = true) : xmlEscape false w = w := by
  induction w with
  | nil => rfl
  | cons b r ih =>
    simp only [List.all_cons, Bool.and_eq_true] at hw
    rw [xmlEscape_cons, ih hw.2]
    rcases blank_cases b hw.1 with rfl | rfl <;> rfl

/-- Blanks are character data that is written as it is. -/
theorem Piece.ws (w : Bytes) (hw : w.all isBlankB = true) : Piece w (addText w) := by
  have hc : xmlChars w = true := allCp_of_ascii _ _ fun b hb => by
    rcases blank_cases b (List.all_eq_true.mp hw b hb) with rfl | rfl <;> decide
  have := Piece.text false w hc
  rwa [xmlEscape_blank w hw] at this

theorem textTok_view (c : XCfg) (cur : Option TagRow) (s : Bytes) (x : Option XTok)
    (h : textTokC c.tk false cur s = .ok x) :
    renderToks c x.toList = xmlEscape (c.gen == 2) (vText c cur s) := by
  unfold textTokC textTok at h
  unfold vText
  simp only [XCfg.tk, Bool.not_false, Bool.true_and, Bool.false_eq_true, ↓reduceIte, ← Bool.and_assoc] at h ⊢
  split at h
  · rename_i h1
    cases h
    rw [if_pos h1]; rfl
  · rename_i h1
    rw [if_neg h1]
    generalize textStr c.lang.id cur _ = s3 at h ⊢
    split at h
    · rename_i hb
      rw [if_pos hb]
      split at h
      · cases h
      · cases h; simp [renderToks, XTok.render]
    · rename_i hb
      rw [if_neg hb]
      cases h; simp [renderToks, XTok.render]

theorem isWs_sp (c : XCfg) (k : UInt8) : IsWs (c.gen == 1) (XTok.render c (.sp k)) :=
  ⟨sp_blank _ _, fun hg => by simp [XTok.render, hg]⟩

theorem isWs_nl (c : XCfg) : IsWs (c.gen == 1) (XTok.render c .nl) :=
  ⟨nl_blank _, fun hg => by simp [XTok.render, hg]⟩

theorem IsWs.nil (g : Bool) : IsWs g [] := ⟨rfl, fun _ => rfl⟩

theorem IsWs.append {g : Bool} {a b : Bytes} (ha : IsWs g a) (hb : IsWs g b) : IsWs g (a ++ b) :=
  ⟨by rw [List.all_append, ha.1, hb.1]; rfl, fun hg => by rw [ha.2 hg, hb.2 hg]; rfl⟩

theorem IsWs.ite {g : Bool} {w : Bytes} (h : IsWs g w) (b : Bool) : IsWs g (if b then w else []) := by
  cases b
  · exact IsWs.nil g
  · exact h

/-- An empty element as the printer writes it: `<name attributes/>` between two runs of white space. -/
theorem emptyElt_view (c : XCfg) (p : Parent) (name : Name) (attrs : List Attr) (ind : UInt8) :
    ∃ w1 w2, IsWs (c.gen == 1) w1 ∧ IsWs (c.gen == 1) w2 ∧
      renderToks c (openToks c.lang p name attrs [] ind) =
        w1 ++ (60 :: (name.xmlName ++ ((vAttrs c p name attrs).flatMap PAttr.bytes ++ b!"/>")) ++ w2) :=
  ⟨_, _, isWs_sp c ind, (isWs_nl c).ite true, by
    rw [renderToks_openToks, vAttrs_bytes, ← nsDecl_eq_L]
    simp only [List.isEmpty_nil, Bool.true_or, ↓reduceIte, List.append_assoc, List.cons_append, List.nil_append]⟩

/-- An element with content `K`: the start tag, white space, `K`, white space and the end tag, between two
    runs of white space. -/
theorem elt_view (c : XCfg) (p : Parent) (name : Name) (attrs : List Attr) (kids : List Node) (hk : kids.isEmpty = false)
    (ind : UInt8) (ic : Bool) (K : Bytes) :
    ∃ w1 w2 w3 w4, IsWs (c.gen == 1) w1 ∧ IsWs (c.gen == 1) w2 ∧ IsWs (c.gen == 1) w3 ∧ IsWs (c.gen == 1) w4 ∧
      renderToks c (openToks c.lang p name attrs kids ind) ++ K ++ renderToks c (closeToks name kids ind ic) =
        w1 ++ (60 :: (name.xmlName ++ ((vAttrs c p name attrs).flatMap PAttr.bytes ++
          (62 :: ((w2 ++ (K ++ w3)) ++ (b!"</" ++ name.xmlName ++ [62]))))) ++ w4) :=
  ⟨_, _, _, _, isWs_sp c ind, (isWs_nl c).ite (kids.isEmpty || haveChildElt kids),
    (((isWs_nl c).ite ic).append (isWs_sp c ind)).ite (haveChildElt kids), isWs_nl c, by
    rw [renderToks_openToks, renderToks_closeToks, vAttrs_bytes, ← nsDecl_eq_L, hk]
    simp only [Bool.false_eq_true, ↓reduceIte, List.append_assoc, List.cons_append, List.nil_append]⟩

/-- `P` is an element read as `e` between two runs of the printer's white space, and `e` is `x` up to blanks
    in character data (`x` itself outside indented generation). -/
def Padded (ind : Bool) (P : Bytes) (x : XItem) : Prop :=
  ∃ w1 E w2 e, P = w1 ++ (E ++ w2) ∧ IsWs ind w1 ∧ IsWs ind w2 ∧ EPiece E e ∧ sqI e = sqI x ∧ (ind = false → e = x)

/-- What `pad_toks` says of an element besides what it says of every node. -/
def EltPadded (c : XCfg) (p : Parent) (P : Bytes) : Node → Prop
  | .elt name attrs kids => Padded (c.gen == 1) P (xelem c p name attrs kids)
  | _ => True

/-- The three results of `pad_toks` for an element at once, from the white space on both sides, the element's
    piece and its reading. -/
theorem Padded.elt {ind : Bool} {w1 E w2 : Bytes} {e : XItem} (n : Bytes) (a : List (Bytes × Bytes)) (k : List XItem)
    (W1 : IsWs ind w1) (W2 : IsWs ind w2) (hP : Piece E (fun R => e :: R)) (hE : EPiece E e)
    (hsq : sqI e = sqI (.elem n a k)) (heq : ind = false → e = .elem n a k) :
    ∃ F, Piece (w1 ++ (E ++ w2)) F ∧ Pad ind F (fun R => .elem n a k :: R) ∧ Padded ind (w1 ++ (E ++ w2)) (.elem n a k) :=
  ⟨_, (Piece.ws w1 W1.1).comp (hP.comp (Piece.ws w2 W2.1)), (Pad.ws W1).comp ((Pad.item n a k hsq heq).comp (Pad.ws W2)),
    w1, E, w2, e, rfl, W1, W2, hE, hsq, heq⟩

/-- **Every generation mode**: what the printer appends for a node satisfying `okNode` is read back as
    the node's view up to blanks in character data, and exactly as the view outside indented
    generation; for an element it is the element between two runs of blanks. -/
theorem pad_toks : ∀ (f : Nat) (c : XCfg),
    (∀ (p : Parent) (n : Node) (ind : UInt8) (ic : Bool) (cur : Option TagRow) (r : TR), okNode c p cur n = true →
      xtoks c.tk p f n ind ic false cur = .ok r →
      ∃ F, Piece (renderToks c r.1) F ∧ Pad (c.gen == 1) F (vNode c p cur n) ∧ EltPadded c p (renderToks c r.1) n) ∧
    (∀ (p : Parent) (l : List Node) (ind : UInt8) (ic : Bool) (cur : Option TagRow) (r : TR), okNodes c p cur l = true →
      xtoksL c.tk p f l ind ic false cur = .ok r →
      ∃ F, Piece (renderToks c r.1) F ∧ Pad (c.gen == 1) F (vNodes c p cur l)) := by
  intro f
  induction f with
  | zero =>
    intro c
    exact ⟨fun _ _ _ _ _ _ _ h => (by rw [xtoks] at h; cases h), fun _ _ _ _ _ _ _ h => (by rw [xtoksL] at h; cases h)⟩
  | succ f ih =>
    intro c
    obtain ⟨ihN, ihL⟩ := ih c
    constructor
    · intro p n ind ic cur r hok h
      cases n with
      | elt name attrs kids =>
        simp only [okNode, Bool.and_eq_true] at hok
        obtain ⟨⟨hname, hattrs⟩, hkids⟩ := hok
        obtain ⟨haok, hachars, hnd⟩ := vAttrs_ok c p name attrs hattrs
        rw [xtoks] at h
        obtain ⟨rk, hk, h⟩ := Lemmas.bind_eq_ok h
        cases h
        obtain ⟨FK, hpk, hpadk⟩ := ihL (childScope p name) kids _ ic (tagOf name) rk hkids hk
        simp only [show c.tk.lang = c.lang from rfl]
        cases kids with
        | nil =>
          obtain ⟨w1, w2, W1, W2, hopen⟩ := emptyElt_view c p name attrs ind
          have hrk : rk = ([], ic, false) := by
            cases f with
            | zero => rw [xtoksL] at hk; cases hk
            | succ f' => rw [xtoksL] at hk; cases hk; rfl
          subst hrk
          simp only [List.isEmpty_nil, ↓reduceIte, List.append_nil]
          rw [hopen]
          exact Padded.elt _ _ _ W1 W2 (Piece.emptyElem name.xmlName hname _ haok hachars hnd)
            (EPiece.emptyElem name.xmlName hname _ haok hnd) rfl fun _ => rfl
        | cons k ks =>
          obtain ⟨w1, w2, w3, w4, W1, W2, W3, W4, hb⟩ := elt_view c p name attrs (k :: ks) rfl ind rk.2.1 (renderToks c rk.1)
          simp only [List.isEmpty_cons, Bool.false_eq_true, ↓reduceIte, renderToks_append]
          rw [hb]
          have hK : Piece (w2 ++ (renderToks c rk.1 ++ w3)) (fun R => addText w2 (FK (addText w3 R))) :=
            (Piece.ws w2 W2.1).comp (hpk.comp (Piece.ws w3 W3.1))
          have hpadK : Pad (c.gen == 1) (fun R => addText w2 (FK (addText w3 R)))
              (vNodes c (childScope p name) (tagOf name) (k :: ks)) :=
            ((Pad.ws W2).comp (hpadk.comp (Pad.ws W3))).congr (fun R => rfl)
          obtain ⟨_, _, hsq⟩ := hpadK.1 [] [] rfl rfl rfl
          exact Padded.elt _ _ _ W1 W4 (Piece.elem name.xmlName hname _ haok hachars hnd _ _ hK)
            (EPiece.elem name.xmlName hname _ haok hnd _ _ hK) (by simp [sqI, hsq])
            fun hg => congrArg (XItem.elem _ _) (congrFun (hpadK.2 hg) [])
      | text s =>
        simp only [okNode] at hok
        rw [xtoks] at h
        obtain ⟨x, hx, rfl⟩ := Lemmas.map_eq_ok h
        have hv := textTok_view c cur s x hx
        refine ⟨addText (vText c cur s), ?_, (Pad.text _ _).congr (fun R => by simp [vNode]),
          trivial⟩
        have hp := Piece.text (c.gen == 2) _ hok
        rw [← hv] at hp
        cases x <;> exact hp
      | cdata kids =>
        match kids, hok with
        | [], _ =>
          cases f with
          | zero => simp [xtoks, xtoksL, bind, Except.bind] at h
          | succ f' =>
            simp only [xtoks, xtoksL, bind, Except.bind, pure, Except.pure, Except.ok.injEq] at h
            subst h
            refine ⟨addText (eolNorm []), ?_, (Pad.text _ _).congr (fun R => by simp [vNode, eolNorm, addText_nil]), trivial⟩
            exact Piece.cdata [] rfl
        | [.text s], hok =>
          simp only [okNode] at hok
          cases f with
          | zero => simp [xtoks, xtoksL, bind, Except.bind] at h
          | succ f' =>
            cases f' with
            | zero => simp [xtoks, xtoksL, bind, Except.bind] at h
            | succ f'' =>
              simp [xtoks, xtoksL, textTokC, textTok, bind, Except.bind, pure, Except.pure, Except.map] at h
              subst h
              refine ⟨addText (eolNorm s), ?_, (Pad.text _ _).congr (fun R => by simp [vNode]), trivial⟩
              have := Piece.cdata s hok
              simpa [renderToks, XTok.render] using this
        | (.text _) :: _ :: _, hok => simp [okNode] at hok
        | (.elt _ _ _) :: _, hok => simp [okNode] at hok
        | (.cdata _) :: _, hok => simp [okNode] at hok
        | (.tree _ _ _) :: _, hok => simp [okNode] at hok
      | tree l cs r0 =>
        cases l with
        | none => simp [okNode] at hok
        | some l =>
          cases r0 with
          | none => simp [okNode] at hok
          | some r0 =>
            simp only [okNode] at hok
            rw [xtoks] at h
            obtain ⟨x, hx, h⟩ := Lemmas.bind_eq_ok h
            cases h
            obtain ⟨F, hp, hpad, _⟩ := (ih { c with lang := l }).1 .none r0 ind false none x hok hx
            replace hp : Piece (renderToks c x.1) F := hp
            refine ⟨F, ?_, hpad.congr (fun R => by simp [vNode]), trivial⟩
            show Piece (renderToks c (cutToks x.1)) F
            rw [← cut_renderToks, cstrOf_of_nulFree _ (xmlChars_nulFree _ hp.chars)]
            exact hp
    · intro p l ind ic cur r hok h
      cases l with
      | nil =>
        rw [xtoksL] at h
        cases h
        exact ⟨_, Piece.nil, (Pad.id _).congr (fun R => by simp [vNodes])⟩
      | cons n rest =>
        simp only [okNodes, Bool.and_eq_true] at hok
        rw [xtoksL] at h
        obtain ⟨a, ha, h⟩ := Lemmas.bind_eq_ok h
        obtain ⟨b, hb, h⟩ := Lemmas.bind_eq_ok h
        cases h
        obtain ⟨F1, hp1, hpad1, _⟩ := ihN p n ind ic cur a hok.1 ha
        rw [(xtoks_cd f).1 _ _ _ _ _ _ a ha] at hb
        obtain ⟨F2, hp2, hpad2⟩ := ihL p rest ind a.2.1 none b hok.2 hb
        refine ⟨_, by rw [renderToks_append]; exact hp1.comp hp2, ?_⟩
        exact (hpad1.comp hpad2).congr (fun R => by simp [vNodes])

end Wbxml.Lemmas.XmlSpec
