/-
  C19 — the operations that run through the bounds-checked accessors. The white-space loops
  `shrink_blanks`, `strip_blanks`, `no_spaces`, `remove_trailing_zeros`: the index loop of the model, run
  on a well-formed dynamic buffer denoting `c`, never exhausts its fuel, never leaves the allocation,
  never reaches the out-of-contract `delete`, and ends on a well-formed buffer denoting the reference
  result. Then `split_words`, and the base64 wrappers (`no_spaces`, delete everything, append).
-/
import Wbxml.Lemmas.ListBasic
import Wbxml.Lemmas.BufOps
namespace Wbxml.Model
open Wbxml Wbxml.Spec.Seq

theorem shrinkAux_true (xs : Bytes) :
    shrinkAux true xs = (xs.dropWhile ws).take 1 ++ shrinkAux false ((xs.dropWhile ws).drop 1) := by
  induction xs with
  | nil => simp [shrinkAux]
  | cons x xs ih =>
    by_cases hx : ws x = true
    · simp [shrinkAux, hx, ih, List.dropWhile]
    · have hx' : ws x = false := by simpa using hx
      simp [shrinkAux, hx', List.dropWhile]

namespace Buf

theorem scanWs_spec {b : Buf} (s : Bytes) : ∀ (p : Bytes) (fuel : Nat), View b (p ++ s) → s.length < fuel →
    scanWs b fuel p.length = .ok (p.length + (s.takeWhile ws).length) := by
  induction s with
  | nil =>
    intro p fuel h hf
    cases fuel with
    | zero => omega
    | succ f => simp [scanWs, getChar_end h (i := p.length) (by simp)]
  | cons x s ih =>
    intro p fuel h hf
    cases fuel with
    | zero => omega
    | succ f =>
      unfold scanWs
      rw [getChar_mid p s x h]
      by_cases hw : ws x = true
      · have := ih (p ++ [x]) f (by simpa using h) (by simp at hf; omega)
        simp only [List.length_append, List.length_singleton] at this
        simp only [isSpace_fun, hw, if_true, this, List.takeWhile_cons_of_pos hw, List.length_cons]
        congr 1; omega
      · simp [isSpace_fun, hw, List.takeWhile]

/-- The extra test `start <= len` of the first loop of `strip_blanks` is implied by `get_char`
    having delivered a byte. -/
theorem stripScan_eq_scanWs (b : Buf) : ∀ fuel j, stripScan b fuel j = scanWs b fuel j := by
  intro fuel
  induction fuel with
  | zero => intro j; rfl
  | succ f ih =>
    intro j
    unfold stripScan scanWs
    cases hg : b.getChar j with
    | error e => rfl
    | ok o =>
      cases o with
      | none => rfl
      | some ch =>
        have : j ≤ b.len := Nat.le_of_lt (getChar_some_lt hg)
        simp only [this, decide_true, Bool.and_true, ih]

/-- Scanning backwards from the last index of `pre ++ [x] ++ sp` (`x` not white space, `sp` all
    white space) stops on `x`; in particular `end--` never wraps. -/
theorem backScan_spec {b : Buf} {c : Bytes} (h : View b c) (pre sp tl : Bytes) (x : UInt8)
    (hc : c = pre ++ [x] ++ sp ++ tl) (hx : ws x = false) (hsp : ∀ y ∈ sp, ws y = true)
    (fuel : Nat) (hf : sp.length + 1 ≤ fuel) :
    backScan b fuel (pre.length + sp.length) = .ok pre.length := by
  induction fuel generalizing sp tl with
  | zero => omega
  | succ f ih =>
    unfold backScan
    rw [getChar_view h]
    rcases List.eq_nil_or_concat sp with rfl | ⟨sp', y, hsp'⟩
    · have : c[pre.length]? = some x := by
        subst hc; simp
      simp only [List.length_nil, Nat.add_zero, this, isSpace_fun, hx, Bool.false_eq_true, if_false]
    · rw [List.concat_eq_append] at hsp'
      subst hsp'
      have hy : ws y = true := hsp y (by simp)
      have hlen : pre.length + (sp' ++ [y]).length = (pre ++ [x] ++ sp').length := by simp <;> omega
      have : c[pre.length + (sp' ++ [y]).length]? = some y := by
        subst hc
        have e : pre ++ [x] ++ (sp' ++ [y]) ++ tl = (pre ++ [x] ++ sp') ++ y :: tl := by simp
        simp
      simp only [this, isSpace_fun, hy, if_true]
      have hne : ¬ pre.length + (sp' ++ [y]).length = 0 := by simp
      simp only [hne, if_false]
      have : pre.length + (sp' ++ [y]).length - 1 = pre.length + sp'.length := by simp <;> omega
      rw [this]
      exact ih sp' (y :: tl) (by subst hc; simp) (fun z hz => hsp z (by simp [hz])) (by simp at hf; omega)

theorem noSpacesLoop_spec (fuel : Nat) : ∀ (b : Buf) (p s : Bytes), Rep b (p ++ s) → s.length < fuel →
    ∃ b', noSpacesLoop fuel p.length b = .ok b' ∧ Rep b' (p ++ s.filter (fun x => !ws x)) := by
  induction fuel with
  | zero => intro _ _ _ _ hf; omega
  | succ f ih =>
    intro b p s h hf
    unfold noSpacesLoop
    rw [h.len]
    cases s with
    | nil => exact ⟨b, by simp, by simpa using h⟩
    | cons x s =>
      have hlt : p.length < (p ++ x :: s).length := by simp
      simp only [hlt, if_true, getChar_mid p s x h.view, isSpace_fun]
      by_cases hw : ws x = true
      · obtain ⟨b1, hb1, hr1⟩ := delete_mid p [x] s (by simpa using h)
        simp only [List.length_singleton] at hb1
        obtain ⟨b2, hb2, hr2⟩ := ih b1 p s hr1 (by simp at hf; omega)
        exact ⟨b2, by simpa [hw, hb1] using hb2, by simpa [hw] using hr2⟩
      · obtain ⟨b2, hb2, hr2⟩ := ih b (p ++ [x]) s (by simpa using h) (by simp at hf; omega)
        exact ⟨b2, by simpa [hw] using hb2, by simpa [hw] using hr2⟩

theorem noSpaces_spec {b : Buf} {c : Bytes} (h : Rep b c) :
    ∃ b', b.noSpaces = .ok b' ∧ Rep b' (Spec.Seq.noSpaces c) := by
  obtain ⟨b', hb, hr⟩ := noSpacesLoop_spec (b.len + 1) b [] c h (by rw [h.len]; omega)
  exact ⟨b', by simpa [Buf.noSpaces, h.dyn] using hb, by simpa [Spec.Seq.noSpaces] using hr⟩

theorem noSpaces_static {b : Buf} (hs : b.isStatic = true) : b.noSpaces = .ok b := by
  simp [Buf.noSpaces, hs]

theorem rtz_concat (init : Bytes) (x : UInt8) :
    Spec.Seq.removeTrailingZeros (init ++ [x]) =
      if x = 0 then Spec.Seq.removeTrailingZeros init else init ++ [x] := by
  unfold Spec.Seq.removeTrailingZeros
  by_cases hx : x = 0
  · subst hx; simp
  · simp [hx]

theorem rtzLoop_spec (fuel : Nat) : ∀ (b : Buf) (c : Bytes), Rep b c → c.length < fuel →
    ∃ b', rtzLoop fuel b = .ok b' ∧ Rep b' (Spec.Seq.removeTrailingZeros c) := by
  induction fuel with
  | zero => intro b c _ hf; omega
  | succ f ih =>
    intro b c h hf
    unfold rtzLoop
    rw [h.len]
    rcases List.eq_nil_or_concat c with rfl | ⟨init, x, hcx⟩
    · simp only [List.length_nil, Nat.lt_irrefl, gt_iff_lt, if_false]
      exact ⟨b, rfl, by simpa [Spec.Seq.removeTrailingZeros] using h⟩
    · rw [List.concat_eq_append] at hcx
      subst hcx
      have hpos : (init ++ [x]).length > 0 := by simp
      have hidx : (init ++ [x]).length - 1 = init.length := by simp
      have hget : (init ++ [x])[init.length]? = some x := by simp
      simp only [hpos, if_true, hidx, getChar_view h.view, hget]
      rw [rtz_concat]
      by_cases hx : x = 0
      · subst hx
        obtain ⟨b1, hb1, hr1⟩ := delete_mid init [0] [] (by simpa using h)
        simp only [List.length_singleton] at hb1
        rw [hb1]
        exact ih b1 init (by simpa using hr1) (by simp at hf; omega)
      · simp only [hx, if_false]
        refine ⟨b, ?_, h⟩
        split
        · rename_i heq; simp at heq
        · rename_i heq; simp at heq; exact absurd heq hx
        · rfl

theorem removeTrailingZeros_spec {b : Buf} {c : Bytes} (h : Rep b c) :
    ∃ b', b.removeTrailingZeros = .ok (b', true) ∧ Rep b' (Spec.Seq.removeTrailingZeros c) := by
  obtain ⟨b', hb, hr⟩ := rtzLoop_spec (b.len + 1) b c h (by rw [h.len]; omega)
  exact ⟨b', by simp [Buf.removeTrailingZeros, h.dyn, hb], hr⟩

theorem removeTrailingZeros_static {b : Buf} (hs : b.isStatic = true) :
    b.removeTrailingZeros = .ok (b, false) := by simp [Buf.removeTrailingZeros, hs]

theorem setSpace_mid {b : Buf} (p s : Bytes) (x : UInt8) (h : Rep b (p ++ x :: s)) :
    ∃ b1 r, (if x != 0x20 then b.setChar p.length 0x20 else .ok (b, true)) = .ok (b1, r)
      ∧ Rep b1 (p ++ 0x20 :: s) := by
  by_cases hc : x = 0x20
  · exact ⟨b, true, by simp [hc], hc ▸ h⟩
  · obtain ⟨b1, hb1, hr1⟩ := setChar_mid p s x 0x20 h
    exact ⟨b1, true, by simp [hc, hb1], hr1⟩

/-- Behind the end of the contents the loop only counts up to `end`. -/
theorem shrinkLoop_past {b : Buf} {c : Bytes} (h : View b c) (end_ : Nat) : ∀ (fuel i : Nat), c.length ≤ i →
    end_ - i < fuel → shrinkLoop fuel end_ i b = .ok b := by
  intro fuel
  induction fuel with
  | zero => intro i _ hf; omega
  | succ f ih =>
    intro i hi hf
    unfold shrinkLoop
    by_cases hie : i < end_
    · simp only [hie, if_true, getChar_end h hi]
      exact ih (i + 1) (by omega) (by omega)
    · simp only [hie, if_false]

theorem shrinkLoop_spec (fuel : Nat) : ∀ (b : Buf) (p s : Bytes) (end_ : Nat), Rep b (p ++ s) →
    (p ++ s).length ≤ end_ → end_ - p.length < fuel →
    ∃ b', shrinkLoop fuel end_ p.length b = .ok b' ∧ Rep b' (p ++ shrinkAux false s) := by
  induction fuel with
  | zero => intro _ _ _ _ _ _ hf; omega
  | succ f ih =>
    intro b p s end_ h he hf
    cases s with
    | nil => exact ⟨b, shrinkLoop_past h.view end_ _ _ (by simp) hf, by simpa [shrinkAux] using h⟩
    | cons x s =>
      have hie : p.length < end_ := by simp at he; omega
      unfold shrinkLoop
      simp only [hie, if_true, getChar_mid p s x h.view, isSpace_fun]
      by_cases hw : ws x = true
      · simp only [hw, if_true]
        -- the first blank of a run becomes a space
        obtain ⟨b1, r1, hb1, hr1⟩ := setSpace_mid p s x h
        rw [hb1]
        simp only
        -- the scan finds the end of the run, the rest of the run is deleted
        have hscan := scanWs_spec s (p ++ [0x20]) (b1.len + 1) (by simpa using hr1.view)
          (by rw [hr1.len]; simp; omega)
        obtain ⟨b2, hb2, hr2⟩ := delete_mid (p ++ [0x20]) (s.takeWhile ws) (s.dropWhile ws)
          (by simpa [List.takeWhile_append_dropWhile] using hr1)
        simp only [List.length_append, List.length_singleton] at hscan hb2
        rw [hscan]
        simp only
        rw [delete_guard, Nat.add_sub_cancel_left, hb2]
        simp only [shrinkAux, hw, if_true, Bool.false_eq_true, if_false]
        rw [shrinkAux_true]
        -- the loop goes on behind the byte that ended the run
        have hRlen := (List.dropWhile_sublist (l := s) ws).length_le
        generalize s.dropWhile ws = R at hr2 hRlen
        cases R with
        | nil => exact ⟨b2, shrinkLoop_past hr2.view end_ f _ (by simp) (by omega), by simpa [shrinkAux] using hr2⟩
        | cons y R =>
          obtain ⟨b3, hb3, hr3⟩ := ih b2 (p ++ [0x20, y]) R end_ (by simpa using hr2)
            (by simp at he hRlen ⊢; omega) (by simp; omega)
          exact ⟨b3, by simpa using hb3, by simpa using hr3⟩
      · obtain ⟨b2, hb2, hr2⟩ := ih b (p ++ [x]) s end_ (by simpa using h) (by simpa using he) (by simp; omega)
        exact ⟨b2, by simpa [hw] using hb2, by simpa [shrinkAux, hw] using hr2⟩

theorem shrinkBlanks_spec {b : Buf} {c : Bytes} (h : Rep b c) :
    ∃ b', b.shrinkBlanks = .ok (b', true) ∧ Rep b' (Spec.Seq.shrink c) := by
  obtain ⟨b', hb, hr⟩ := shrinkLoop_spec (b.len + 1) b [] c b.len h (by simp [h.len]) (by simp)
  exact ⟨b', by simp [shrinkBlanks, h.dyn, show shrinkLoop (b.len + 1) b.len 0 b = .ok b' from hb],
    by simpa [Spec.Seq.shrink] using hr⟩

theorem shrinkBlanks_static {b : Buf} (hs : b.isStatic = true) : b.shrinkBlanks = .ok (b, false) := by
  simp [shrinkBlanks, hs]

theorem last_nonblank (c : Bytes) (hne : c.dropWhile ws ≠ []) :
    ∃ pre x sp, c.dropWhile ws = pre ++ [x] ++ sp ∧ ws x = false ∧ (∀ y ∈ sp, ws y = true) ∧
      ((c.dropWhile ws).reverse.dropWhile ws).reverse = pre ++ [x] := by
  have hhd := List.head_dropWhile_not ws (l := c) hne
  generalize c.dropWhile ws = c1 at hne hhd ⊢
  have hdne : c1.reverse.dropWhile ws ≠ [] := by
    intro he
    have := Lemmas.dropWhile_eq_nil_iff.mp he _ (List.mem_reverse.mpr (List.head_mem hne))
    simp [hhd] at this
  cases hd : c1.reverse.dropWhile ws with
  | nil => exact absurd hd hdne
  | cons x pre' =>
    have hx : ws x = false := by
      have := List.head_dropWhile_not ws (l := c1.reverse) hdne
      simpa [hd] using this
    have hsplit := List.takeWhile_append_dropWhile (p := ws) (l := c1.reverse)
    rw [hd] at hsplit
    refine ⟨pre'.reverse, x, (c1.reverse.takeWhile ws).reverse, ?_, hx, ?_, by simp⟩
    · have := congrArg List.reverse hsplit
      simp only [List.reverse_reverse, List.reverse_append, List.reverse_cons] at this
      exact this.symm
    · intro y hy
      have hy' : y ∈ c1.reverse.takeWhile ws := by simpa using hy
      exact List.all_eq_true.mp List.all_takeWhile y hy'

theorem stripBlanks_spec {b : Buf} {c : Bytes} (h : Rep b c) (hsz : c.length < 4294967296) :
    ∃ b', b.stripBlanks = .ok (b', true) ∧ Rep b' (Spec.Seq.strip c) := by
  unfold stripBlanks
  rw [h.dyn]
  have hscan := scanWs_spec c [] (c.length + 1) (by simpa using h.view) (by omega)
  simp only [List.length_nil, Nat.zero_add] at hscan
  rw [h.len, stripScan_eq_scanWs, hscan]
  simp only
  rw [delete_guard]
  obtain ⟨b1, hb1, hr1⟩ := delete_mid [] (c.takeWhile ws) (c.dropWhile ws)
    (by simpa [List.takeWhile_append_dropWhile] using h)
  simp only [List.length_nil, List.nil_append] at hb1 hr1 ⊢
  rw [hb1]
  simp only
  generalize hc1 : c.dropWhile ws = c1 at hr1
  have hc1len : c1.length ≤ c.length := by rw [← hc1]; exact (List.dropWhile_sublist ws).length_le
  have hstrip : Spec.Seq.strip c = (c1.reverse.dropWhile ws).reverse := by simp [Spec.Seq.strip, hc1]
  rw [hstrip, hr1.len]
  by_cases hpos : c1.length > 0
  · simp only [hpos, if_true]
    have hne : c1 ≠ [] := by intro e; rw [e] at hpos; simp at hpos
    obtain ⟨pre, x, sp, hdec, hx, hsp, hrev⟩ := last_nonblank c (by rw [hc1]; exact hne)
    rw [hc1] at hdec hrev
    have hlen : c1.length - 1 = pre.length + sp.length := by rw [hdec]; simp <;> omega
    rw [hlen, backScan_spec hr1.view pre sp [] x (by simpa using hdec) hx hsp (c1.length + 1)
      (by rw [hdec]; simp <;> omega)]
    simp only
    -- `end + 1` and `len - end` are `WB_ULONG` arithmetic in the C code, modulo 2^32 in the model: the one
    -- place where the size bound (`Sized` in the history theorems) is needed
    have hm1 : (pre.length + 1) % 4294967296 = pre.length + 1 := by omega
    have hm2 : (pre.length + sp.length + 4294967296 - pre.length) % 4294967296 = sp.length := by omega
    rw [hm1, hm2, hrev]
    obtain ⟨b2, hb2, hr2⟩ := delete_mid (pre ++ [x]) sp [] (by simpa [hdec] using hr1)
    simp only [List.length_append, List.length_singleton] at hb2
    rw [hb2]
    exact ⟨b2, rfl, by simpa using hr2⟩
  · obtain rfl : c1 = [] := List.eq_nil_of_length_eq_zero (by omega)
    exact ⟨b1, rfl, by simpa using hr1⟩

theorem stripBlanks_static {b : Buf} (hs : b.isStatic = true) : b.stripBlanks = .ok (b, false) := by
  simp [stripBlanks, hs]

theorem wordsAux_skip (s : Bytes) : wordsAux s [] = wordsAux (s.dropWhile ws) [] := by
  induction s with
  | nil => rfl
  | cons x xs ih =>
    by_cases hx : ws x = true
    · simp [wordsAux, hx, ih]
    · simp [List.dropWhile, hx]

theorem wordsAux_word (s cur : Bytes) :
    wordsAux s cur =
      (let w := s.takeWhile (fun c => !ws c)
       let r := s.dropWhile (fun c => !ws c)
       if (cur ++ w).isEmpty then wordsAux r [] else (cur ++ w) :: wordsAux r []) := by
  induction s generalizing cur with
  | nil => simp [wordsAux]
  | cons x xs ih =>
    by_cases hx : ws x = true
    · simp only [wordsAux, hx, if_true, List.takeWhile, List.dropWhile, Bool.not_true, List.append_nil]
      by_cases hc : cur.isEmpty = true
      · simp [hc]
      · simp [hc]
    · have hx' : ws x = false := by simpa using hx
      simp only [wordsAux, hx', Bool.false_eq_true, if_false, List.takeWhile, List.dropWhile, Bool.not_false]
      rw [ih (cur ++ [x])]
      simp only [List.append_assoc, List.singleton_append]

theorem splitLoop_spec (fuel : Nat) (s : Bytes) (hf : s.length < fuel) :
    splitLoop fuel s = .ok (wordsAux s []) := by
  induction fuel generalizing s with
  | zero => omega
  | succ f ih =>
    unfold splitLoop
    simp only [isSpace_fun]
    rw [wordsAux_skip s, wordsAux_word (s.dropWhile ws) []]
    simp only [List.nil_append]
    generalize hs1 : s.dropWhile ws = s1
    have hl1 : s1.length ≤ s.length := by rw [← hs1]; exact (List.dropWhile_sublist _).length_le
    by_cases hw : (s1.takeWhile (fun c => !ws c)).length = 0
    · have hwe : s1.takeWhile (fun c => !ws c) = [] := List.eq_nil_of_length_eq_zero hw
      -- no word: the rest is empty or starts with white space; after skipping, nothing is left
      cases s1 with
      | nil => simp [wordsAux]
      | cons x xs =>
        have hx : ws x = true := by
          cases hh : ws x with
          | true => rfl
          | false => simp [List.takeWhile, hh] at hwe
        -- x is white space but s1 = dropWhile ws s starts with a non-white-space byte
        have : ws x = false := by
          have := List.head_dropWhile_not ws (l := s) (by rw [hs1]; simp)
          simpa [hs1] using this
        simp [hx] at this
    · have hne : (s1.takeWhile (fun c => !ws c)).isEmpty = false := by
        cases hh : s1.takeWhile (fun c => !ws c) with
        | nil => simp [hh] at hw
        | cons _ _ => rfl
      have hdrop : s1.drop (s1.takeWhile (fun c => !ws c)).length = s1.dropWhile (fun c => !ws c) := by
        conv => lhs; rw [← List.takeWhile_append_dropWhile (p := fun c => !ws c) (l := s1)]
        rw [List.drop_left' (by simp)]
      simp only [hw, if_false, hne, Bool.false_eq_true, hdrop]
      rw [ih _ (by
        have := congrArg List.length (List.takeWhile_append_dropWhile (p := fun c => !ws c) (l := s1))
        simp only [List.length_append] at this
        omega)]

theorem createAll_spec (ws' : List Bytes) :
    ∃ l, createAll ws' = .ok l ∧ l.map abs = ws' ∧ ∀ b ∈ l, DynInv b := by
  induction ws' with
  | nil => exact ⟨[], rfl, rfl, by simp⟩
  | cons w rest ih =>
    obtain ⟨l, hl, hm, hi⟩ := ih
    obtain ⟨b, hb, hr⟩ := rep_create (some w) 20
    refine ⟨b :: l, by simp [createAll, hb, hl], by simpa [hm] using hr.2, ?_⟩
    intro x hx
    rcases List.mem_cons.mp hx with rfl | hx
    · exact hr.1
    · exact hi x hx

theorem splitWords_spec {b : Buf} {c : Bytes} (h : View b c) :
    ∃ l, b.splitWords = .ok l ∧ l.map abs = words c ∧ ∀ x ∈ l, DynInv x := by
  obtain ⟨l, hl, hm, hi⟩ := createAll_spec (words c)
  refine ⟨l, ?_, hm, hi⟩
  simp only [splitWords, contents_view h, splitLoop_spec (c.length + 1) c (by omega)]
  exact hl

theorem basis64_ne_zero (n : Nat) : basis64 n ≠ 0 := by
  unfold basis64
  intro h
  split at h
  · have := congrArg UInt8.toNat h; simp at this; omega
  · split at h
    · have := congrArg UInt8.toNat h; simp at this; omega
    · split at h
      · have := congrArg UInt8.toNat h; simp at this; omega
      · split at h <;> simp at h

/-- Every output byte is a `basis64` value or `=`. -/
theorem b64Enc_no_nul (c : Bytes) : ∀ y ∈ b64Enc c, y ≠ 0 := by
  fun_induction b64Enc c with
  | case1 a b c rest ih => simpa [basis64_ne_zero] using ih
  | case2 a b => simp [basis64_ne_zero]
  | case3 a => simp [basis64_ne_zero]
  | case4 => simp

theorem cstr_b64Enc (c : Bytes) : cstr (b64Enc c) = b64Enc c := by
  apply Lemmas.takeWhile_eq_self
  intro y hy
  have := b64Enc_no_nul c y hy
  simpa using this

theorem encodeBase64_spec {b : Buf} {c : Bytes} (h : Rep b c) :
    let r := if c.isEmpty then (c, false) else (b64Enc c, true)
    ∃ b', b.encodeBase64 = .ok (b', r.2) ∧ Rep b' r.1 := by
  unfold encodeBase64
  rw [h.dyn, getCstr_view h.view]
  by_cases hc : c = []
  · subst hc; exact ⟨b, by simp, by simpa using h⟩
  · have hl : c.length ≠ 0 := by simpa using hc
    have hne : c.isEmpty = false := by cases c <;> simp_all
    obtain ⟨b1, hb1, hr1⟩ := delete_mid [] c [] (by simpa using h)
    simp only [List.length_nil, List.append_nil] at hb1 hr1
    obtain ⟨b2, hb2, hr2⟩ := appendData_spec hr1 (some (b64Enc c))
    simp only [appendBytes, List.nil_append] at hb2 hr2
    refine ⟨b2, ?_, by simpa [hne] using hr2⟩
    simp only [Bool.false_eq_true, if_false, hl, h.len, hb1, appendCstr_eq, Option.map_some, cstr_b64Enc, hb2, hne]

theorem encodeBase64_static {b : Buf} (hs : b.isStatic = true) : b.encodeBase64 = .ok (b, false) := by
  simp [encodeBase64, hs]

theorem decodeBase64_spec {b : Buf} {c : Bytes} (h : Rep b c) :
    let r := if (b64Dec (Spec.Seq.noSpaces c)).isEmpty then (Spec.Seq.noSpaces c, false)
      else (b64Dec (Spec.Seq.noSpaces c), true)
    ∃ b', b.decodeBase64 = .ok (b', r.2) ∧ Rep b' r.1 := by
  unfold decodeBase64
  rw [h.dyn]
  obtain ⟨b1, hb1, hr1⟩ := noSpaces_spec h
  simp only [Bool.false_eq_true, if_false, hb1, getCstr_view hr1.view]
  generalize Spec.Seq.noSpaces c = s at hr1 ⊢
  by_cases hd : b64Dec s = []
  · exact ⟨b1, by simp [hd], by simpa [hd] using hr1⟩
  · have hdl : (b64Dec s).length ≠ 0 := by simpa using hd
    have hde : (b64Dec s).isEmpty = false := by cases hh : b64Dec s <;> simp_all
    obtain ⟨b2, hb2, hr2⟩ := delete_mid [] s [] (by simpa using hr1)
    simp only [List.length_nil, List.append_nil] at hb2 hr2
    obtain ⟨b3, hb3, hr3⟩ := appendData_spec hr2 (some (b64Dec s))
    simp only [appendBytes, List.nil_append] at hb3 hr3
    refine ⟨b3, ?_, by simpa [hde] using hr3⟩
    simp only [hdl, if_false, hr1.len, hb2, hb3, hde, Bool.false_eq_true]

theorem decodeBase64_static {b : Buf} (hs : b.isStatic = true) : b.decodeBase64 = .ok (b, false) := by
  simp [decodeBase64, hs]

end Buf
end Wbxml.Model
