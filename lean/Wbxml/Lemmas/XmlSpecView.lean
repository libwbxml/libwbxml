/-
  The specification reader `Spec/Xml.lean` on tags and elements written the way the printer writes
  them (one blank before each attribute, double quotes, `/>` or `>` right after the last attribute,
  `</name>`); what a tree denotes as the printer model writes it (`vNode`, `vText`, `vAttrs`), the
  precondition (`okNode`), and the pieces of output the reader reads back (`Piece`).
-/
import Wbxml.Lemmas.XmlSpecText
import Wbxml.Lemmas.XmlNs
namespace Wbxml.Lemmas.XmlSpec
open Wbxml Wbxml.Model Wbxml.Spec Wbxml.Spec.Xml Wbxml.Lemmas.EncW Wbxml.Lemmas.XmlPrint Wbxml.Lemmas.XmlNs

theorem nameStartByte_facts (a : UInt8) (h : isNameStartByte a = true) :
    a ≠ 62 ∧ a ≠ 47 ∧ a ≠ 33 ∧ isS a = false := by
  refine ⟨?_, ?_, ?_, ?_⟩
  · rintro rfl; exact absurd h (by decide)
  · rintro rfl; exact absurd h (by decide)
  · rintro rfl; exact absurd h (by decide)
  · cases hs : isS a with
    | false => rfl
    | true =>
      simp only [isS, Bool.or_eq_true, beq_iff_eq] at hs
      rcases hs with ((rfl | rfl) | rfl) | rfl <;> exact absurd h (by decide)

/-- One attribute as the printer writes it: ` name="ev"`, where `ev` between double quotes is read as `v`. -/
structure PAttr where
  name : Bytes
  ev : Bytes
  v : Bytes

def PAttr.bytes (a : PAttr) : Bytes := 32 :: (a.name ++ 61 :: 34 :: (a.ev ++ [34]))

/-- What `attributes_reads` needs of a printed attribute. -/
def PAttr.ok (a : PAttr) : Prop := isName a.name = true ∧ ∀ rest, AReads (a.ev ++ 34 :: rest) (a.v, rest)

def tagEnd (empty : Bool) : Bytes := if empty then b!"/>" else b!">"

/-- `(S Attribute)* S? ('>' | '/>')` on a printed attribute list. -/
theorem attributes_reads (l : List PAttr) (hl : ∀ a ∈ l, a.ok) (e : Bool) (rest : Bytes) :
    ∀ f, (l.flatMap PAttr.bytes ++ (tagEnd e ++ rest)).length < f →
      attributes f (l.flatMap PAttr.bytes ++ (tagEnd e ++ rest)) = some (l.map (fun a => (a.name, a.v)), e, rest) := by
  induction l with
  | nil =>
    intro f hf
    cases f with
    | zero => simp at hf
    | succ f =>
      cases e
      · simp [attributes, tagEnd, skipS, isS, strip]
      · simp [attributes, tagEnd, skipS, isS, strip]
  | cons a l ih =>
    intro f hf
    cases f with
    | zero => simp at hf
    | succ f =>
      obtain ⟨hn, hv⟩ := hl a List.mem_cons_self
      obtain ⟨b0, n', hn', hb0⟩ := isName_head a.name hn
      obtain ⟨h62, h47, _, hS⟩ := nameStartByte_facts b0 hb0
      have ih' := ih (fun x hx => hl x (List.mem_cons_of_mem _ hx))
      have hT := ih' f
      generalize hTd : l.flatMap PAttr.bytes ++ (tagEnd e ++ rest) = T at hT
      have hbs : (a :: l).flatMap PAttr.bytes ++ (tagEnd e ++ rest) = 32 :: (a.name ++ 61 :: 34 :: (a.ev ++ 34 :: T)) := by
        simp [PAttr.bytes, List.flatMap_cons, ← hTd]
      rw [hbs] at hf ⊢
      have hname : name (a.name ++ 61 :: 34 :: (a.ev ++ 34 :: T)) = some (a.name, 61 :: 34 :: (a.ev ++ 34 :: T)) :=
        name_append _ _ hn (by intro b r hbr; injection hbr with hb _; subst hb; decide)
      have hrest := hT (by simp at hf ⊢; omega)
      have hsk : skipS (32 :: (a.name ++ 61 :: 34 :: (a.ev ++ 34 :: T))) = a.name ++ 61 :: 34 :: (a.ev ++ 34 :: T) := by
        have h32 : ∀ X, skipS (32 :: X) = skipS X := by intro X; simp [skipS, List.dropWhile, isS]
        rw [h32, hn', List.cons_append, skipS_cons_of_not _ _ hS]
      rw [attributes, hsk]
      have hs1 : strip b!">" (a.name ++ 61 :: 34 :: (a.ev ++ 34 :: T)) = none := by
        rw [hn']; simp [strip, Ne.symm h62]
      have hs2 : strip b!"/>" (a.name ++ 61 :: 34 :: (a.ev ++ 34 :: T)) = none := by
        rw [hn']; simp [strip, Ne.symm h47]
      simp only [hs1, hs2, List.head?_cons, Option.any_some, hname]
      simp [isS, Spec.Xml.eq, skipS, strip, quoted]
      rw [hv T _ (by simp)]
      simp [hrest]


theorem attrs_head (l : List PAttr) (e : Bool) (rest : Bytes) :
    ∀ b r, l.flatMap PAttr.bytes ++ (tagEnd e ++ rest) = b :: r → isNameByte b = false := by
  intro b r h
  cases l with
  | nil =>
    cases e <;> (simp [tagEnd] at h; obtain ⟨rfl, _⟩ := h; decide)
  | cons a l =>
    simp [PAttr.bytes] at h
    obtain ⟨rfl, _⟩ := h; decide

def PAttr.view (a : PAttr) : Bytes × Bytes := (a.name, a.v)

/-- [40] STag / [44] EmptyElemTag as the printer writes them: `element` has read the name and the attribute list and
    goes on with the content, or is done. -/
theorem element_stag (n : Bytes) (hn : isName n = true) (l : List PAttr) (hl : ∀ a ∈ l, a.ok)
    (hnd : nodup (l.map (·.name)) = true) (e : Bool) (rest : Bytes) (f : Nat) :
    element (f + 1) (60 :: (n ++ (l.flatMap PAttr.bytes ++ (tagEnd e ++ rest)))) =
      if e then some (.elem n (l.map PAttr.view) [], rest)
      else (content f rest).bind fun ir => (strip (b!"</" ++ n) ir.2).bind fun r => (strip b!">" (skipS r)).bind fun r =>
        some (.elem n (l.map PAttr.view) ir.1, r) := by
  have hname := name_append n _ hn (attrs_head l e rest)
  have hat := attributes_reads l hl e rest _ (Nat.lt_succ_self _)
  have hmap : (l.map (fun a => (a.name, a.v))).map (·.1) = l.map (·.name) := by simp [List.map_map]
  rw [element]
  simp only [strip, beq_self_eq_true, ↓reduceIte, bind, Option.bind, hname, hat, hmap, hnd, Bool.not_true,
    Bool.false_eq_true, pure]
  cases e <;> rfl

theorem reads_endtag (X : Bytes) : Reads (60 :: 47 :: X) ([], 60 :: 47 :: X) := by
  intro f hf
  cases f with
  | zero => simp at hf
  | succ f => simp [content]

theorem reads_element (a : UInt8) (E X : Bytes) (e : XItem) (R : List XItem) (rest' : Bytes)
    (h47 : a ≠ 47) (h33 : a ≠ 33)
    (he : ∀ f, (60 :: a :: (E ++ X)).length ≤ f → element f (60 :: a :: (E ++ X)) = some (e, X))
    (h : Reads X (R, rest')) : Reads (60 :: a :: (E ++ X)) (e :: R, rest') := by
  intro f hf
  cases f with
  | zero => simp at hf
  | succ f =>
    have h1 := he f (by simp at hf ⊢; omega)
    have h2 := h f (by simp at hf ⊢; omega)
    simp [content, h47, h33, h1, h2]

/-- The character data `xml_encode_text` writes (escaped) for a text node outside a CDATA section, in an
    element whose tag is `cur` (`none` after the first child: the encoder forgets the current tag after
    every node): nothing for ignorable white space, blanks stripped (both unless white space is kept,
    in canonical generation, or in a binary element), the SyncML media type rewritten, base64 in a
    binary element. -/
def vText (c : XCfg) (cur : Option TagRow) (s : Bytes) : Bytes :=
  let skipWs := !isBinaryTag cur && c.gen != 2
  if skipWs && c.ignoreEmpty && s.all isSpaceC then []
  else
    let s3 := textStr c.lang.id cur (if skipWs && c.removeBlanks then stripBlanks s else s)
    if isBinaryTag cur then b64EncodeGo s3 else s3

/-- The attributes of a start tag: the namespace declaration `xml_encode_tag` adds (an ordinary
    attribute `xmlns` for a reader without namespace processing), then — in a language with an
    attribute table — the element's attributes, names and values read as C strings. -/
def vAttrs (c : XCfg) (p : Parent) (name : Name) (attrs : List Attr) : List PAttr :=
  (match declaredNs c p name with
   | some ns => [{ name := b!"xmlns", ev := ns, v := ns }]
   | none => []) ++
  (if c.lang.attrs.isSome then
     attrs.map fun a => { name := cstrOf a.name.xmlName, ev := xmlEscape (c.gen == 2) (cstrOf a.value),
                          v := attNorm (c.gen == 2) (cstrOf a.value) }
   else [])

mutual
/-- What a node contributes to the content list `R` of its parent. -/
def vNode (c : XCfg) (p : Parent) (cur : Option TagRow) : Node → List XItem → List XItem
  | .elt name attrs kids, R =>
    .elem name.xmlName ((vAttrs c p name attrs).map PAttr.view) (vNodes c (childScope p name) (tagOf name) kids []) :: R
  | .text s, R => addText (vText c cur s) R
  | .cdata kids, R =>
    match kids with
    | [.text s] => addText (eolNorm s) R
    | _ => R
  | .tree lang _ root, R =>
    -- an embedded document: its root, printed by an encoder of its own (its language, no enclosing
    -- element, no current tag)
    match lang, root with
    | some l, some r => vNode { c with lang := l } .none none r R
    | _, _ => R
def vNodes (c : XCfg) (p : Parent) (cur : Option TagRow) : List Node → List XItem → List XItem
  | [], R => R
  | n :: rest, R => vNode c p cur n (vNodes c p none rest R)
end

/-- The conjuncts of `okNode` about one start tag. -/
def attrsOk (c : XCfg) (p : Parent) (name : Name) (attrs : List Attr) : Bool :=
  (match declaredNs c p name with
   | some ns => ns.all isPlainAtt && xmlChars ns
   | none => true) &&
  (if c.lang.attrs.isSome then
     attrs.all fun a => isName (cstrOf a.name.xmlName) && xmlChars (cstrOf a.value)
   else true) &&
  nodup ((vAttrs c p name attrs).map (·.name))

mutual
/-- The precondition of C05 node by node (`xmlRepresentable` is it at the root): under it what the printer writes for
    the node is read back as `vNode`. `cur` is the encoder's current tag when the node is printed. -/
def okNode (c : XCfg) (p : Parent) (cur : Option TagRow) : Node → Bool
  | .elt name attrs kids =>
    isName name.xmlName && attrsOk c p name attrs && okNodes c (childScope p name) (tagOf name) kids
  | .text s => xmlChars (vText c cur s)
  | .cdata kids =>
    match kids with
    | [] => true
    | [.text s] => xmlChars s
    | _ => false
  | .tree lang _ root =>
    match lang, root with
    | some l, some r => okNode { c with lang := l } .none none r
    | _, _ => false
def okNodes (c : XCfg) (p : Parent) (cur : Option TagRow) : List Node → Bool
  | [] => true
  | n :: rest => okNode c p cur n && okNodes c p none rest
end

/-- `P` is what the printer wrote for something that contributes `F` to a content list. -/
structure Piece (P : Bytes) (F : List XItem → List XItem) : Prop where
  chars : xmlChars P = true
  gt : ∀ X, gtFree X = true → gtFree (P ++ X) = true
  reads : ∀ X R rest', gtFree X = true → Reads X (R, rest') → Reads (P ++ X) (F R, rest')

theorem Piece.nil : Piece [] (fun R => R) := ⟨rfl, fun _ h => h, fun _ _ _ _ h => h⟩

theorem Piece.comp {P1 P2 : Bytes} {F1 F2 : List XItem → List XItem} (h1 : Piece P1 F1) (h2 : Piece P2 F2) :
    Piece (P1 ++ P2) (fun R => F1 (F2 R)) :=
  ⟨xmlChars_append _ _ h1.chars h2.chars,
   fun X hX => by rw [List.append_assoc]; exact h1.gt _ (h2.gt X hX),
   fun X R rest' hX hR => by rw [List.append_assoc]; exact h1.reads _ _ _ (h2.gt X hX) (h2.reads X R rest' hX hR)⟩

theorem Piece.text (c : Bool) (s : Bytes) (hs : xmlChars s = true) : Piece (xmlEscape c s) (addText s) :=
  ⟨xmlChars_escape c s hs, fun X hX => by rw [gtFree_escape]; exact hX,
   fun X R rest' hX hR => reads_escape c s X R rest' hX hR⟩

theorem Piece.cdata (s : Bytes) (hs : xmlChars s = true) :
    Piece (b!"<![CDATA[" ++ (cdataText s ++ b!"]]>")) (addText (eolNorm s)) := by
  refine ⟨xmlChars_append _ _ (by decide) (xmlChars_append _ _ (xmlChars_cdataText s hs) (by decide)),
    fun X _ => by simp [gtFree], fun X R rest' _ hR => ?_⟩
  have := reads_cdata s X R rest' hR
  simpa [List.append_assoc] using this


theorem xmlChars_flatMap {α : Type} (f : α → Bytes) (l : List α) (h : ∀ a ∈ l, xmlChars (f a) = true) :
    xmlChars (l.flatMap f) = true := by
  induction l with
  | nil => rfl
  | cons a l ih =>
    rw [List.flatMap_cons]
    exact xmlChars_append _ _ (h a List.mem_cons_self) (ih fun x hx => h x (List.mem_cons_of_mem _ hx))

theorem PAttr.chars (a : PAttr) (hn : xmlChars a.name = true) (he : xmlChars a.ev = true) : xmlChars a.bytes = true := by
  unfold PAttr.bytes
  rw [xmlChars_cons_ascii 32 _ (by decide)]
  refine (Bool.and_eq_true _ _).mpr ⟨by decide, xmlChars_append _ _ hn ?_⟩
  rw [xmlChars_cons_ascii 61 _ (by decide), xmlChars_cons_ascii 34 _ (by decide)]
  simp only [Bool.and_eq_true]
  exact ⟨by decide, by decide, xmlChars_append _ _ he (by decide)⟩

/-- `P` is an element as the printer wrote it: `element` reads it as `e`, whatever follows. -/
def EPiece (P : Bytes) (e : XItem) : Prop := ∀ X f, (P ++ X).length ≤ f → element f (P ++ X) = some (e, X)

theorem EPiece.emptyElem (n : Bytes) (hn : isName n = true) (l : List PAttr) (hl : ∀ a ∈ l, a.ok)
    (hnd : nodup (l.map (·.name)) = true) :
    EPiece (60 :: (n ++ (l.flatMap PAttr.bytes ++ b!"/>"))) (.elem n (l.map PAttr.view) []) := by
  intro X f hf
  have e : 60 :: (n ++ (l.flatMap PAttr.bytes ++ b!"/>")) ++ X =
      60 :: (n ++ (l.flatMap PAttr.bytes ++ (tagEnd true ++ X))) := by simp [tagEnd]
  rw [e] at hf ⊢
  cases f with
  | zero => simp at hf
  | succ f => rw [element_stag n hn l hl hnd]; rfl

theorem EPiece.elem (n : Bytes) (hn : isName n = true) (l : List PAttr) (hl : ∀ a ∈ l, a.ok)
    (hnd : nodup (l.map (·.name)) = true) (K : Bytes) (FK : List XItem → List XItem) (hK : Piece K FK) :
    EPiece (60 :: (n ++ (l.flatMap PAttr.bytes ++ (62 :: (K ++ (b!"</" ++ n ++ [62]))))))
      (.elem n (l.map PAttr.view) (FK [])) := by
  intro X f hf
  have e : 60 :: (n ++ (l.flatMap PAttr.bytes ++ (62 :: (K ++ (b!"</" ++ n ++ [62]))))) ++ X =
      60 :: (n ++ (l.flatMap PAttr.bytes ++ (tagEnd false ++ (K ++ (b!"</" ++ n ++ 62 :: X))))) := by simp [tagEnd]
  rw [e] at hf ⊢
  have hk : Reads (K ++ (b!"</" ++ n ++ 62 :: X)) (FK [], b!"</" ++ n ++ 62 :: X) :=
    hK.reads _ [] _ (by simp [gtFree]) (by simpa using reads_endtag (n ++ 62 :: X))
  cases f with
  | zero => simp at hf
  | succ f =>
    rw [element_stag n hn l hl hnd, hk f (by simp [tagEnd] at hf ⊢; omega)]
    simp [strip_append, skipS, isS, strip]

theorem Piece.ofElem (n : Bytes) (hn : isName n = true) (T : Bytes) (e : XItem)
    (hc : xmlChars (60 :: (n ++ T)) = true) (hE : EPiece (60 :: (n ++ T)) e) :
    Piece (60 :: (n ++ T)) (fun R => e :: R) := by
  refine ⟨hc, fun X _ => by simp [gtFree], fun X R rest' _ hR => ?_⟩
  obtain ⟨a, n', rfl, ha⟩ := isName_head n hn
  obtain ⟨_, h47, h33, _⟩ := nameStartByte_facts a ha
  have e1 : 60 :: (a :: n' ++ T) ++ X = 60 :: a :: ((n' ++ T) ++ X) := by simp
  rw [e1]
  exact reads_element a _ X _ R rest' h47 h33 (fun f hf => by rw [← e1] at hf ⊢; exact hE X f hf) hR

theorem Piece.emptyElem (n : Bytes) (hn : isName n = true) (l : List PAttr) (hl : ∀ a ∈ l, a.ok)
    (hc : ∀ a ∈ l, xmlChars a.ev = true) (hnd : nodup (l.map (·.name)) = true) :
    Piece (60 :: (n ++ (l.flatMap PAttr.bytes ++ b!"/>"))) (fun R => .elem n (l.map PAttr.view) [] :: R) := by
  refine Piece.ofElem n hn _ _ ?_ (EPiece.emptyElem n hn l hl hnd)
  rw [xmlChars_cons_ascii 60 _ (by decide)]
  refine (Bool.and_eq_true _ _).mpr ⟨by decide, xmlChars_append _ _ (isName_xmlChars n hn) (xmlChars_append _ _ ?_ (by decide))⟩
  exact xmlChars_flatMap _ l fun a ha => a.chars (isName_xmlChars _ (hl a ha).1) (hc a ha)

theorem Piece.elem (n : Bytes) (hn : isName n = true) (l : List PAttr) (hl : ∀ a ∈ l, a.ok)
    (hc : ∀ a ∈ l, xmlChars a.ev = true) (hnd : nodup (l.map (·.name)) = true)
    (K : Bytes) (FK : List XItem → List XItem) (hK : Piece K FK) :
    Piece (60 :: (n ++ (l.flatMap PAttr.bytes ++ (62 :: (K ++ (b!"</" ++ n ++ [62]))))))
      (fun R => .elem n (l.map PAttr.view) (FK []) :: R) := by
  refine Piece.ofElem n hn _ _ ?_ (EPiece.elem n hn l hl hnd K FK hK)
  rw [xmlChars_cons_ascii 60 _ (by decide)]
  refine (Bool.and_eq_true _ _).mpr ⟨by decide, xmlChars_append _ _ (isName_xmlChars n hn) (xmlChars_append _ _ ?_ ?_)⟩
  · exact xmlChars_flatMap _ l fun a ha => a.chars (isName_xmlChars _ (hl a ha).1) (hc a ha)
  · rw [xmlChars_cons_ascii 62 _ (by decide)]
    refine (Bool.and_eq_true _ _).mpr ⟨by decide, xmlChars_append _ _ hK.chars
      (xmlChars_append _ _ (xmlChars_append _ _ (by decide) (isName_xmlChars n hn)) (by decide))⟩

end Wbxml.Lemmas.XmlSpec
