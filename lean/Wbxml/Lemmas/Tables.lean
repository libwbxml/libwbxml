/-
  One-pass conditions that imply the table consistency predicates of `Model/Tables.lean`, with
  their soundness lemmas, for arbitrary tables; the predicates as written search a whole table for
  every row. Distinctness is always seen the same way: one pass with the keys met so far as the
  bits of one number (`keysFresh`, `Lemmas/KeyBits.lean`). Small keys ((page, token), namespace
  pages) are told apart exactly; names are told apart by a residue, and the names themselves are
  compared only where two residues collide (`pairwiseBy`).
  The file also holds the definitions `bucket`, `contigIn` / `contigFrom`, `insPage` / `pagesOf` in
  which `Model/Compat.lean` states what C09 preserves (it imports this file for them).
-/
import Wbxml.Model.Tables
import Wbxml.Lemmas.AttrChoice
import Wbxml.Lemmas.KeyBits
namespace Wbxml.Model

def bucket (t : List TagRow) (p : Nat) : List TagRow := t.filter (fun r => r.page == p)

/-- Inside the block of page `c`: rows of page `c`, then no row of page `c` ever again. -/
def contigIn (c : Nat) : List TagRow → Bool
  | [] => true
  | r :: rs => if r.page == c then contigIn c rs else rs.all (fun x => !(x.page == c))

/-- Before the block of page `c`. `contigFrom c t = true`: the rows of page `c` stand together in `t`
    (or there is none), so the encoder's scan of the current page, which stops at the first row of
    another page after it has seen the page, sees all of them (`loop1_bucket`). -/
def contigFrom (c : Nat) : List TagRow → Bool
  | [] => true
  | r :: rs => if r.page == c then contigIn c rs else contigFrom c rs

theorem bucket_nil_of_all_ne (c : Nat) (l : List TagRow)
    (h : l.all (fun x => !(x.page == c)) = true) : bucket l c = [] :=
  List.filter_eq_nil_iff.2 fun a ha => by simpa using List.all_eq_true.1 h a ha

/-- The encoder's scan of the current page (`b`: the page has been seen) is a look-up in its bucket. -/
theorem loop1_bucket (c : Nat) (n : Bytes) : ∀ (l : List TagRow) (b : Bool),
    (if b then contigIn c l else contigFrom c l) = true →
    encTagLoop1 c n l b = (bucket l c).find? (fun x => x.name == n)
  | [], b, _ => by cases b <;> rfl
  | a :: l, b, h => by
    have h' : (if a.page == c then contigIn c l
        else if b then l.all (fun x => !(x.page == c)) else contigFrom c l) = true := by
      cases b <;> simpa [contigIn, contigFrom] using h
    rw [encTagLoop1, bucket, List.filter_cons]
    split
    · rename_i hp
      rw [if_pos hp] at h'
      rw [List.find?_cons, ← bucket, ← loop1_bucket c n l true h']
      cases a.name == n <;> rfl
    · rename_i hp
      rw [if_neg hp] at h'
      cases b with
      | true => rw [← bucket, bucket_nil_of_all_ne c l h']; rfl
      | false => exact loop1_bucket c n l false h'

theorem decTag_bucket (t : List TagRow) (p tok : Nat) :
    decTag t p tok = (bucket t p).find? (fun x => x.token == tok) := by
  unfold decTag bucket
  rw [List.find?_filter]
  congr 1
  funext a
  cases h1 : a.token == tok <;> cases h2 : a.page == p <;> simp

theorem mem_bucket {t : List TagRow} {p : Nat} {r : TagRow} (h : r ∈ bucket t p) :
    r ∈ t ∧ (r.page == p) = true := by
  simpa [bucket] using h

theorem mem_bucket_self {t : List TagRow} {r : TagRow} (h : r ∈ t) : r ∈ bucket t r.page := by
  simp [bucket, h]

def insPage (p : Nat) (acc : List Nat) : List Nat := if acc.contains p then acc else p :: acc

theorem mem_insPage_self (p : Nat) (acc : List Nat) : p ∈ insPage p acc := by
  unfold insPage
  split
  · rename_i h; simpa using h
  · exact List.mem_cons_self

theorem mem_insPage_of_mem {q p : Nat} {acc : List Nat} (h : q ∈ acc) : q ∈ insPage p acc := by
  unfold insPage
  split
  · exact h
  · exact List.mem_cons_of_mem _ h

def pagesOf (t : List TagRow) : List Nat := t.foldr (fun r acc => insPage r.page acc) []

theorem mem_pagesOf {t : List TagRow} {r : TagRow} (h : r ∈ t) : r.page ∈ pagesOf t := by
  induction t with
  | nil => cases h
  | cons a l ih =>
    simp only [pagesOf, List.foldr_cons]
    rcases List.mem_cons.mp h with rfl | h'
    · exact mem_insPage_self _ _
    · exact mem_insPage_of_mem (ih h')

theorem isGlobal_octet {t : Nat} (h : t < 256) : isGlobal t = decide (t % 64 < 5) := by
  have h1 : ∀ g ∈ globalTokens, g % 64 < 5 := by decide
  have h2 : ∀ q : Fin 4, ∀ r : Fin 5, isGlobal (64 * q + r) = true := by decide
  rw [Bool.eq_iff_iff, decide_eq_true_eq]
  constructor
  · intro hg
    exact h1 t (List.contains_iff_mem.mp hg)
  · intro hr
    have := h2 ⟨t / 64, by omega⟩ ⟨t % 64, hr⟩
    rwa [Nat.div_add_mod] at this

/-- `lo ≤ token ≤ hi`, the page is an octet, the token is not global: the range predicates of
    `Model/Tables.lean` without the search through `globalTokens`. -/
def rowRange (lo hi page token : Nat) : Bool :=
  Nat.ble lo token && Nat.ble token hi && Nat.blt page 256 && Nat.ble 5 (token % 64)

theorem rowRange_eq {lo hi page token : Nat} (hhi : hi < 256) :
    rowRange lo hi page token =
      (decide (lo ≤ token) && decide (token ≤ hi) && decide (page < 256) && !isGlobal token) := by
  have hble : ∀ a b, Nat.ble a b = decide (a ≤ b) := fun a b => by rw [Bool.eq_iff_iff]; simp
  simp only [rowRange, Nat.blt, hble]
  by_cases ht : token ≤ hi
  · rw [isGlobal_octet (by omega), ← decide_not]
    simp only [Nat.not_lt, Nat.succ_le_iff]
  · simp [ht]

/-! ### A row is the answer to its own look-up

In a table whose (page, token) pairs are distinct the first row with a row's page and token is the
row itself, which is what the consistency predicates ask of `decTag`, `decAttr`, `decVal`. -/

def rowKey (page token : Nat) : Nat := 256 * page + token

theorem find?_own_key {α : Type} (page token : α → Nat) {exc : α → Bool} {l : List α}
    (h : keysFresh (fun r => rowKey (page r) (token r)) exc 0 l = true) {r : α} (hr : r ∈ l)
    (hx : exc r = false) : l.find? (fun x => token x == token r && page x == page r) = some r :=
  find?_first (by simp) (fun a ha hk => by
    simp only [Bool.and_eq_true, beq_iff_eq] at ha
    exact hk hx (by rw [ha.1, ha.2])) (keysFresh_pairwise h).1 hr

/-! ### Tag tables in one pass

If no two rows of a page carry the same name and the pages are contiguous, each row is the answer
to its own look-ups. -/

def dropHead (a : Nat) : List Nat → List Nat
  | q :: qs => if q == a then qs else q :: qs
  | [] => []

/-- Pages in order of appearance, one entry per block of consecutive rows of one page. -/
def pageRuns : List TagRow → List Nat
  | [] => []
  | x :: t => x.page :: dropHead x.page (pageRuns t)

theorem mem_dropHead {a q : Nat} {l : List Nat} (h : q ∈ l) (hq : q ≠ a) : q ∈ dropHead a l := by
  cases l with
  | nil => cases h
  | cons q' qs =>
    rw [dropHead]
    split
    · rename_i he
      exact (List.mem_cons.mp h).resolve_left fun e => hq (e ▸ eq_of_beq he)
    · exact h

theorem nodup_of_dropHead {a : Nat} {l : List Nat} (h : (a :: dropHead a l).Nodup) : l.Nodup := by
  cases l with
  | nil => exact List.nodup_nil
  | cons q' qs =>
    rw [dropHead] at h
    split at h
    · rename_i he
      exact eq_of_beq he ▸ h
    · exact (List.nodup_cons.mp h).2

theorem absent_of_not_mem_pageRuns {p : Nat} : ∀ {t : List TagRow}, p ∉ pageRuns t →
    ∀ y ∈ t, (y.page == p) = false
  | x :: t, h, y, hy => by
    rw [pageRuns, List.mem_cons, not_or] at h
    rcases List.mem_cons.mp hy with rfl | hy
    · exact beq_false_of_ne fun e => h.1 e.symm
    · exact absent_of_not_mem_pageRuns (fun hm => h.2 (mem_dropHead hm h.1)) y hy

theorem contigIn_of_runs {p : Nat} : ∀ {t : List TagRow}, p ∉ dropHead p (pageRuns t) →
    contigIn p t = true
  | [], _ => rfl
  | x :: t, h => by
    rw [contigIn]
    rw [pageRuns, dropHead] at h
    split
    · rename_i he
      rw [if_pos he] at h
      exact contigIn_of_runs (eq_of_beq he ▸ h)
    · rename_i he
      rw [if_neg he, List.mem_cons, not_or] at h
      rw [List.all_eq_true]
      intro y hy
      rw [absent_of_not_mem_pageRuns (fun hm => h.2 (mem_dropHead hm h.1)) y hy]
      rfl

theorem contigFrom_of_runs {p : Nat} : ∀ {t : List TagRow}, (pageRuns t).Nodup → contigFrom p t = true
  | [], _ => rfl
  | x :: t, h => by
    rw [contigFrom]
    rw [pageRuns] at h
    split
    · rename_i he
      exact contigIn_of_runs (eq_of_beq he ▸ (List.nodup_cons.mp h).1)
    · exact contigFrom_of_runs (nodup_of_dropHead h)

/-- Residue of the name and the page as one key: rows of one page with the same name collide.
    65521 is the largest prime below 2 ^ 16: a page's residues fit a bit set of 8 KiB, and names of
    one table rarely share one. -/
def nameRowKey (r : TagRow) : Nat := 65521 * r.page + nameKey r.name % 65521

/-- One pass: ranges, each page heads one block, names differ within a page. -/
def tagTableOKLin (t : List TagRow) : Bool :=
  t.all (fun r => rowRange 0x05 0x3F r.page r.token) && decide (pageRuns t).Nodup &&
    pairwiseBy nameRowKey (fun a c => a.page = c.page → a.name ≠ c.name) t

theorem tagTableOKLin_spec {t : List TagRow} (h : tagTableOKLin t = true) :
    (∀ p, contigFrom p t = true) ∧ ∀ p, (bucket t p).Pairwise (fun a c => a.name ≠ c.name) := by
  simp only [tagTableOKLin, Bool.and_eq_true, decide_eq_true_eq] at h
  have hn := pairwise_of_pairwiseBy (fun a c hk hp e => hk (by rw [nameRowKey, nameRowKey, hp, e])) h.2
  exact ⟨fun p => contigFrom_of_runs h.1.2, fun p => (hn.sublist List.filter_sublist).imp_of_mem
    fun ha hc hpn => hpn ((eq_of_beq (mem_bucket ha).2).trans (eq_of_beq (mem_bucket hc).2).symm)⟩

theorem tagDecEnc_spec {t : List TagRow} {e : TagRow} (h : tagDecEnc t e = true) :
    ∃ d e', decTag t e.page e.token = some d ∧ encTag t (some e.page) d.name = some e' ∧
      (e'.page == e.page) = true ∧ (e'.token == e.token) = true := by
  unfold tagDecEnc at h
  cases hd : decTag t e.page e.token with
  | none => simp [hd] at h
  | some d =>
    simp only [hd] at h
    cases he : encTag t (some e.page) d.name with
    | none => simp [he] at h
    | some e' =>
      simp only [he, Bool.and_eq_true] at h
      exact ⟨d, e', rfl, he, h.1, h.2⟩

theorem decTag_some_spec {t : List TagRow} {p k : Nat} {d : TagRow} (h : decTag t p k = some d) :
    (d.page == p) = true ∧ (d.token == k) = true := by
  unfold decTag at h
  have := List.find?_some h
  simp only [Bool.and_eq_true] at this
  exact ⟨this.2, this.1⟩

theorem encDec_of_decEnc {t : List TagRow} {cur : Option Nat} {r e : TagRow}
    (he : encTag t cur r.name = some e) (hde : tagDecEnc t e = true) :
    tagEncDecFrom t cur r = true := by
  obtain ⟨d, e', hd, he', hp, ht⟩ := tagDecEnc_spec hde
  have hds := decTag_some_spec hd
  unfold tagEncDecFrom
  simp [he, hd, he', hp, ht, hds.1, hds.2]

theorem encTag_none_mem {t : List TagRow} {r : TagRow} (hr : r ∈ t) :
    ∃ e, encTag t none r.name = some e ∧ e ∈ t := by
  unfold encTag
  simp only
  cases h : t.find? (fun x => x.name == r.name) with
  | none =>
    have := List.find?_eq_none.mp h r hr
    simp at this
  | some e => exact ⟨e, rfl, List.mem_of_find?_eq_some h⟩

theorem encTag_self {t : List TagRow} (hc : ∀ p, contigFrom p t = true)
    (hn : ∀ p, (bucket t p).Pairwise (fun a c => a.name ≠ c.name)) {x : TagRow} (hx : x ∈ t) :
    encTag t (some x.page) x.name = some x := by
  simp only [encTag]
  rw [loop1_bucket _ _ _ false (hc x.page), find?_self (hn x.page) (mem_bucket_self hx)]

theorem tagDecEnc_of_names {t : List TagRow} (hc : ∀ p, contigFrom p t = true)
    (hn : ∀ p, (bucket t p).Pairwise (fun a c => a.name ≠ c.name)) {r : TagRow} (hr : r ∈ t) :
    tagDecEnc t r = true := by
  unfold tagDecEnc
  cases hd : decTag t r.page r.token with
  | none => simpa [decTag] using List.find?_eq_none.mp hd r hr
  | some d =>
    have hs := decTag_some_spec hd
    have := encTag_self hc hn (List.mem_of_find?_eq_some hd)
    rw [eq_of_beq hs.1] at this
    simp [this, hs.1, hs.2]

theorem tagTableOK_of_lin {t : List TagRow} (h : tagTableOKLin t = true) : tagTableOK t = true := by
  obtain ⟨hc, hn⟩ := tagTableOKLin_spec h
  simp only [tagTableOKLin, Bool.and_eq_true, List.all_eq_true] at h
  simp only [tagTableOK, tagEncDec, Bool.and_eq_true, List.all_eq_true]
  refine ⟨⟨fun r hr => (rowRange_eq (by decide)).symm.trans (h.1.1 r hr),
    fun r hr => tagDecEnc_of_names hc hn hr⟩, fun r hr => ⟨?_, ?_⟩⟩
  · exact encDec_of_decEnc (encTag_self hc hn hr) (tagDecEnc_of_names hc hn hr)
  · obtain ⟨e, he, hem⟩ := encTag_none_mem hr
    exact encDec_of_decEnc he (tagDecEnc_of_names hc hn hem)

/-! ### Attribute tables

If no two rows share (page, token), decoding a row's token gives that row; the encoder's scan
then returns a row of the same name and value, which decodes to itself: `attrDecEnc` needs no
evaluation beyond the distinctness of the keys. -/

theorem decAttr_self {t : List AttrRow} (hk : keysFresh (fun r => rowKey r.page r.token) (fun _ => false) 0 t = true)
    {r : AttrRow} (hr : r ∈ t) : decAttr t r.page r.token = some r :=
  find?_own_key AttrRow.page AttrRow.token hk hr rfl

theorem encAttr_exact {name v : Bytes} {t : List AttrRow} (h : ∃ r ∈ t, r.name = name ∧ r.value = some v) :
    ∃ e ∈ t, encAttr t name v = some (e, v.length) ∧ e.name = name ∧ e.value = some v := by
  obtain ⟨r, hr, hn, hv⟩ := h
  have : (t.find? (Lemmas.Rt.isExactRow name v)).isSome = true :=
    List.find?_isSome.mpr ⟨r, hr, by simp [Lemmas.Rt.isExactRow, hn, hv]⟩
  obtain ⟨e, he⟩ := Option.isSome_iff_exists.mp this
  have hp := List.find?_some he
  simp only [Lemmas.Rt.isExactRow, Bool.and_eq_true, beq_iff_eq] at hp
  exact ⟨e, List.mem_of_find?_eq_some he, by rw [Lemmas.Rt.encAttr_choice, he], hp.1, hp.2⟩

theorem encAttr_nil {name : Bytes} {t : List AttrRow} (h : ∃ r ∈ t, r.name = name ∧ r.value = none) :
    ∃ e ∈ t, encAttr t name [] = some (e, 0) ∧ e.name = name ∧ (e.value = none ∨ e.value = some []) := by
  rw [Lemmas.Rt.encAttr_choice]
  cases hx : t.find? (Lemmas.Rt.isExactRow name []) with
  | some e =>
    have hp := List.find?_some hx
    simp only [Lemmas.Rt.isExactRow, Bool.and_eq_true, beq_iff_eq] at hp
    exact ⟨e, List.mem_of_find?_eq_some hx, rfl, hp.1, Or.inr hp.2⟩
  | none =>
    obtain ⟨r, hr, hn, hv⟩ := h
    have : (t.find? (Lemmas.Rt.isNullRow name)).isSome = true :=
      List.find?_isSome.mpr ⟨r, hr, by simp [Lemmas.Rt.isNullRow, hn, hv]⟩
    obtain ⟨e, he⟩ := Option.isSome_iff_exists.mp this
    have hp := List.find?_some he
    simp only [Lemmas.Rt.isNullRow, Bool.and_eq_true, beq_iff_eq, Option.isNone_iff_eq_none] at hp
    exact ⟨e, List.mem_of_find?_eq_some he, by simp [Lemmas.Rt.maxFrom_nil_value, he], hp.1, Or.inl hp.2⟩

theorem attrTableOK_of_keys {t : List AttrRow} (hr : t.all (fun r => rowRange 0x05 0x7F r.page r.token) = true)
    (hk : keysFresh (fun r => rowKey r.page r.token) (fun _ => false) 0 t = true) : attrTableOK t = true := by
  unfold attrTableOK
  simp only [Bool.and_eq_true, List.all_eq_true]
  refine ⟨fun r hm => (rowRange_eq (by decide)).symm.trans (List.all_eq_true.mp hr r hm), fun r hr => ?_⟩
  · unfold attrDecEnc
    rw [decAttr_self hk hr]
    simp only
    cases hv : r.value with
    | some v =>
      obtain ⟨e, he, hgo, hen, hev⟩ := encAttr_exact ⟨r, hr, rfl, hv⟩
      simp only [hgo, decAttr_self hk he, hen, hev]
      simp
    | none =>
      obtain ⟨e, he, hgo, hen, hev⟩ := encAttr_nil ⟨r, hr, rfl, hv⟩
      simp only [hgo, decAttr_self hk he, hen]
      rcases hev with hev | hev <;> simp [hev]

/-! ### Value tables need no evaluation; the extension table is evaluated as written (it is short,
    and two of its tokens share a name) -/

/-- `valDec` asks of the first row with a row's page and token only that page and token, which the
    search itself guarantees: it holds of every table. -/
theorem valTableOK_any (t : List ValRow) : valTableOK t = true := by
  rw [valTableOK, List.all_eq_true]
  intro r hr
  rw [valDec, decVal]
  cases h : t.find? (fun x => x.token == r.token && x.page == r.page) with
  | none => simpa using List.find?_eq_none.mp h r hr
  | some d => simpa [Bool.and_comm] using List.find?_some h

/-- Extension values: token → name → token' → the same name (the token itself may be an alias). -/
def extMeaningKept (t : List ExtRow) (r : ExtRow) : Bool :=
  match decExt t r.token with
  | some d => (match encExt t d.name with
    | some e => (match decExt t e.token with
      | some d' => d'.name == d.name
      | none => false)
    | none => false)
  | none => false

/-! ### Namespace tables: distinct pages and distinct names make every row its own answer -/

def nsTableOKLin (t : List NsRow) : Bool :=
  keysFresh NsRow.page (fun _ => false) 0 t &&
    pairwiseBy (fun r => nameKey r.ns % 65521) (fun a c => a.ns ≠ c.ns) t

theorem nsTableOK_of_lin {t : List NsRow} (h : nsTableOKLin t = true) : nsTableOK t = true := by
  rw [nsTableOKLin, Bool.and_eq_true] at h
  have hn : t.Pairwise (fun a c => a.ns ≠ c.ns) :=
    pairwise_of_pairwiseBy (fun _ _ hk e => hk (congrArg (nameKey · % 65521) e)) h.2
  unfold nsTableOK
  rw [List.all_eq_true]
  intro r hr
  have h1 : pageOfNs t r.ns = r.page := by rw [pageOfNs, find?_self hn hr]
  have h2 : nsOfPage t r.page = some r.ns := by
    rw [nsOfPage, find?_first (p := fun x => x.page == r.page) (beq_self_eq_true _)
      (fun _ ha hk => hk rfl (eq_of_beq ha)) (keysFresh_pairwise h.1).1 hr]
    rfl
  simp [nsRowOK, h1, h2]

end Wbxml.Model
