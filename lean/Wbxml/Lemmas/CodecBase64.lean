/- Base64: the codec model (`Model/Codec/Base64.lean`), the parser's copy of the encoder
   (`Model.b64EncodeGo`, `decodeBase64Value`) and the RFC 4648 specification. All three encoders equal
   the plain function `enc` (`b64EncodeE_ok`, `enc_eq_spec`, `b64EncodeGo_eq_enc`). The decoder: its scan of an
   encoder output stops at the padding, its loop inverts `enc` (`b64Decode_b64Encode`), it writes `3n/4` octets and
   reports exactly that many (`b64DecodeLoop_length`, `b64DecodeCount_eq`). For C12's binary content: the library's
   base64 text contains no white space (`b64Encode_filter`). -/
import Wbxml.Model.Codec.Base64
import Wbxml.Model.Parser
import Wbxml.Spec.Rfc4648
import Wbxml.Lemmas.CodecBits
import Wbxml.Lemmas.TypedBinary
namespace Wbxml.Lemmas.Codec
open Wbxml Wbxml.Model.Codec

/-- Alphabet character of a 6-bit value (any default outside the table: never used). -/
def sym (i : Nat) : UInt8 := (basis64[i]?).getD 61

theorem basis64_length : basis64.length = 64 := by decide

theorem b64Char_of_lt (i : Nat) (h : i < 64) : b64Char i = .ok (sym i) := by
  have h' : i < basis64.length := by rw [basis64_length]; exact h
  simp [b64Char, sym, List.getElem?_eq_getElem h']

/-- The encoder as a plain function (arithmetic form, `|` resolved to `+`). -/
def enc : Bytes → Bytes
  | a :: b :: c :: rest =>
    sym (a.toNat / 4) :: sym (a.toNat % 4 * 16 + b.toNat / 16) ::
    sym (b.toNat % 16 * 4 + c.toNat / 64) :: sym (c.toNat % 64) :: enc rest
  | [a, b] => [sym (a.toNat / 4), sym (a.toNat % 4 * 16 + b.toNat / 16), sym (b.toNat % 16 * 4), 61]
  | [a] => [sym (a.toNat / 4), sym (a.toNat % 4 * 16), 61, 61]
  | [] => []

theorem b64Char_index (a b c : Nat) (ha : a < 256) (hb : b < 256) (hc : c < 256) :
    b64Char (a / 4 % 64) = .ok (sym (a / 4)) ∧ b64Char (a % 4 * 16) = .ok (sym (a % 4 * 16)) ∧
    b64Char (b % 16 * 4) = .ok (sym (b % 16 * 4)) ∧ b64Char (c % 64) = .ok (sym (c % 64)) ∧
    b64Char (a % 4 * 16 ||| b / 16) = .ok (sym (a % 4 * 16 + b / 16)) ∧
    b64Char (b % 16 * 4 ||| c / 64) = .ok (sym (b % 16 * 4 + c / 64)) := by
  rw [or_mul_pow _ _ 4 (by omega), or_mul_pow _ _ 2 (by omega), Nat.mod_eq_of_lt (show a / 4 < 64 by omega)]
  refine ⟨b64Char_of_lt _ ?_, b64Char_of_lt _ ?_, b64Char_of_lt _ ?_, b64Char_of_lt _ ?_, b64Char_of_lt _ ?_,
    b64Char_of_lt _ ?_⟩ <;> omega

/-- The table index is in range at every look-up: the encoder never reads outside `basis_64`. -/
theorem b64EncodeE_ok (bs : Bytes) : b64EncodeE bs = .ok (enc bs) := by
  fun_induction enc bs with
  | case1 a b c rest ih =>
    obtain ⟨e1, _, _, e4, e2, e3⟩ := b64Char_index a.toNat b.toNat c.toNat a.toNat_lt b.toNat_lt c.toNat_lt
    rw [b64EncodeE, e1, e2, e3, e4, ih]; rfl
  | case2 a b =>
    obtain ⟨e1, _, e3, _, e2, _⟩ := b64Char_index a.toNat b.toNat 0 a.toNat_lt b.toNat_lt (by decide)
    rw [b64EncodeE, e1, e2, e3]; rfl
  | case3 a =>
    obtain ⟨e1, e2, _⟩ := b64Char_index a.toNat 0 0 a.toNat_lt (by decide) (by decide)
    rw [b64EncodeE, e1, e2]; rfl
  | case4 => rfl

theorem b64Encode_eq_enc (bs : Bytes) : b64Encode bs = enc bs := by
  simp [b64Encode, b64EncodeE_ok]

open Wbxml.Spec

theorem alphabet_eq : Rfc4648.alphabet = basis64 := rfl

theorem charOf_eq (g : List Bool) : Rfc4648.charOf g = sym (Rfc4648.value g) := rfl

/-! The specification's bit groups as numbers: a run of bits of one octet is a quotient and a
    remainder by powers of two, and concatenating runs shifts the first. -/

theorem foldl_value (g : List Bool) (x : Nat) :
    g.foldl (fun n b => 2 * n + b.toNat) x = x * 2 ^ g.length + Rfc4648.value g := by
  induction g generalizing x with
  | nil => simp [Rfc4648.value]
  | cons b g ih =>
    rw [Rfc4648.value, List.foldl_cons, List.foldl_cons, ih, ih (2 * 0 + b.toNat), List.length_cons, Nat.pow_succ]
    simp only [Nat.add_mul, Nat.mul_zero, Nat.zero_add, Nat.add_assoc, Nat.mul_comm 2 x, Nat.mul_assoc,
      Nat.mul_comm 2 (2 ^ _)]

theorem value_append (g h : List Bool) :
    Rfc4648.value (g ++ h) = Rfc4648.value g * 2 ^ h.length + Rfc4648.value h := by
  rw [Rfc4648.value, List.foldl_append, foldl_value]; rfl

/-- Bits `k + j - 1 … k` of `n`, most significant first. -/
def bitsOf (n k j : Nat) : List Bool := (List.range j).reverse.map fun i => n.testBit (k + i)

theorem bitsOf_length (n k j : Nat) : (bitsOf n k j).length = j := by simp [bitsOf]

theorem value_bitsOf (n k j : Nat) : Rfc4648.value (bitsOf n k j) = n / 2 ^ k % 2 ^ j := by
  induction j with
  | zero => simp [bitsOf, Rfc4648.value, Nat.mod_one]
  | succ j ih =>
    have : bitsOf n k (j + 1) = [n.testBit (k + j)] ++ bitsOf n k j := by
      simp [bitsOf, List.range_succ]
    have hv : Rfc4648.value [n.testBit (k + j)] = n / 2 ^ k / 2 ^ j % 2 := by
      simp only [Rfc4648.value, List.foldl, Nat.toNat_testBit, Nat.pow_add, Nat.div_div_eq_div_mul]; omega
    rw [this, value_append, ih, bitsOf_length, hv, Nat.pow_succ, Nat.mod_mul, Nat.mul_comm, Nat.add_comm]

/-- The four 6-bit groups of three octets (RFC 4648 §4), as the C code computes them. -/
theorem sextets (a b c : Nat) (ha : a < 256) (hb : b < 256) (hc : c < 256) :
    Rfc4648.value (bitsOf a 2 6) = a / 4 ∧
    Rfc4648.value (bitsOf a 0 2 ++ bitsOf b 4 4) = a % 4 * 16 + b / 16 ∧
    Rfc4648.value (bitsOf b 0 4 ++ bitsOf c 6 2) = b % 16 * 4 + c / 64 ∧
    Rfc4648.value (bitsOf c 0 6) = c % 64 := by
  simp only [value_append, value_bitsOf, bitsOf_length]
  omega

theorem spec_cons3 (a b c : UInt8) (rest : Bytes) :
    Rfc4648.encode (a :: b :: c :: rest) =
      sym (a.toNat / 4) :: sym (a.toNat % 4 * 16 + b.toNat / 16) ::
      sym (b.toNat % 16 * 4 + c.toNat / 64) :: sym (c.toNat % 64) :: Rfc4648.encode rest := by
  have hp : Rfc4648.padding (rest.length + 1 + 1 + 1) = Rfc4648.padding rest.length := by
    rw [Rfc4648.padding, Nat.add_assoc, Nat.add_assoc, Nat.add_mod_right, Rfc4648.padding]
  obtain ⟨s0, s1, s2, s3⟩ := sextets a.toNat b.toNat c.toNat a.toNat_lt b.toNat_lt c.toNat_lt
  simp only [Rfc4648.encode, Rfc4648.bitStream, List.flatMap_cons, Rfc4648.octetBits, List.cons_append,
    List.nil_append, Rfc4648.groups6, List.map_cons, List.length_cons, hp, charOf_eq]
  rw [← s0, ← s1, ← s2, ← s3]
  rfl

/-- A final group of two octets: the zero bits added on the right are those of a third octet 0. -/
theorem spec_two (a b : UInt8) : Rfc4648.encode [a, b] =
    [sym (a.toNat / 4), sym (a.toNat % 4 * 16 + b.toNat / 16), sym (b.toNat % 16 * 4), 61] := by
  obtain ⟨s0, s1, s2, _⟩ := sextets a.toNat b.toNat 0 a.toNat_lt b.toNat_lt (by decide)
  rw [← s0, ← s1, show b.toNat % 16 * 4 = b.toNat % 16 * 4 + 0 / 64 from rfl, ← s2]
  rfl

theorem spec_one (a : UInt8) : Rfc4648.encode [a] = [sym (a.toNat / 4), sym (a.toNat % 4 * 16), 61, 61] := by
  obtain ⟨s0, s1, _, _⟩ := sextets a.toNat 0 0 a.toNat_lt (by decide) (by decide)
  rw [← s0, show a.toNat % 4 * 16 = a.toNat % 4 * 16 + 0 / 16 from rfl, ← s1]
  rfl

theorem spec_nil : Rfc4648.encode [] = [] := by rfl

theorem enc_eq_spec (bs : Bytes) : enc bs = Rfc4648.encode bs := by
  fun_induction enc bs with
  | case1 a b c rest ih => rw [spec_cons3, ih]
  | case2 a b => rw [spec_two]
  | case3 a => rw [spec_one]
  | case4 => rfl

theorem b64Encode_eq_spec (bs : Bytes) : b64Encode bs = Rfc4648.encode bs := by
  rw [b64Encode_eq_enc, enc_eq_spec]

/-- `pr2six` inverts `basis_64` on all 64 alphabet positions (kernel evaluation of the two tables). -/
theorem pr2six_sym_fin : ∀ i : Fin 64, pr2six (sym i.val) = i.val := by decide +kernel

theorem pr2six_sym (i : Nat) (h : i < 64) : pr2six (sym i) = i := pr2six_sym_fin ⟨i, h⟩

theorem pr2six_pad : pr2six 61 = 64 := by decide

/-- The encoder's output without the `=` padding. -/
def encV : Bytes → Bytes
  | a :: b :: c :: rest =>
    sym (a.toNat / 4) :: sym (a.toNat % 4 * 16 + b.toNat / 16) ::
    sym (b.toNat % 16 * 4 + c.toNat / 64) :: sym (c.toNat % 64) :: encV rest
  | [a, b] => [sym (a.toNat / 4), sym (a.toNat % 4 * 16 + b.toNat / 16), sym (b.toNat % 16 * 4)]
  | [a] => [sym (a.toNat / 4), sym (a.toNat % 4 * 16)]
  | [] => []

theorem scan_cons_sym (i : Nat) (h : i < 64) (t : Bytes) : b64Scan (sym i :: t) = sym i :: b64Scan t := by
  have : pr2six (sym i) ≤ 63 := by rw [pr2six_sym i h]; omega
  simp [b64Scan, this]

theorem scan_pad (t : Bytes) : b64Scan (61 :: t) = [] := by
  simp [b64Scan, pr2six_pad]

theorem scan_nil : b64Scan [] = [] := rfl

theorem scan_enc (bs : Bytes) : b64Scan (enc bs) = encV bs := by
  fun_induction enc bs with
  | case1 a b c rest ih =>
    have ha := a.toNat_lt; have hb := b.toNat_lt; have hc := c.toNat_lt
    rw [scan_cons_sym _ (by omega), scan_cons_sym _ (by omega), scan_cons_sym _ (by omega),
      scan_cons_sym _ (by omega), ih, encV]
  | case2 a b =>
    have ha := a.toNat_lt; have hb := b.toNat_lt
    rw [scan_cons_sym _ (by omega), scan_cons_sym _ (by omega), scan_cons_sym _ (by omega), scan_pad, encV]
  | case3 a =>
    have ha := a.toNat_lt
    rw [scan_cons_sym _ (by omega), scan_cons_sym _ (by omega), scan_pad, encV]
  | case4 => rfl

theorem ofNat_add_mul256 (k : Nat) (b : UInt8) : UInt8.ofNat (k * 256 + b.toNat) = b := by
  apply UInt8.toNat_inj.mp
  rw [UInt8.toNat_ofNat']
  have := b.toNat_lt
  omega

/-- `dec_o0` … `dec_o2`: the three output octets of a decoder quantum, each recombined from two neighbouring
    sextets of `enc`; the primed forms are the short last quantum (the missing octet counts as 0). -/
theorem dec_o0 (a b : UInt8) :
    UInt8.ofNat (pr2six (sym (a.toNat / 4)) * 4 ||| pr2six (sym (a.toNat % 4 * 16 + b.toNat / 16)) / 16) = a := by
  have ha := a.toNat_lt; have hb := b.toNat_lt
  rw [pr2six_sym _ (by omega), pr2six_sym _ (by omega), or_mul_pow _ _ 2 (by omega)]
  have : a.toNat / 4 * 4 + (a.toNat % 4 * 16 + b.toNat / 16) / 16 = 0 * 256 + a.toNat := by omega
  rw [this, ofNat_add_mul256]

theorem dec_o0' (a : UInt8) :
    UInt8.ofNat (pr2six (sym (a.toNat / 4)) * 4 ||| pr2six (sym (a.toNat % 4 * 16)) / 16) = a := by
  have := dec_o0 a 0
  simpa using this

theorem dec_o1 (a b c : UInt8) :
    UInt8.ofNat (pr2six (sym (a.toNat % 4 * 16 + b.toNat / 16)) * 16 |||
      pr2six (sym (b.toNat % 16 * 4 + c.toNat / 64)) / 4) = b := by
  have ha := a.toNat_lt; have hb := b.toNat_lt; have hc := c.toNat_lt
  rw [pr2six_sym _ (by omega), pr2six_sym _ (by omega), or_mul_pow _ _ 4 (by omega)]
  have : (a.toNat % 4 * 16 + b.toNat / 16) * 16 + (b.toNat % 16 * 4 + c.toNat / 64) / 4
      = (a.toNat % 4) * 256 + b.toNat := by omega
  rw [this, ofNat_add_mul256]

theorem dec_o1' (a b : UInt8) :
    UInt8.ofNat (pr2six (sym (a.toNat % 4 * 16 + b.toNat / 16)) * 16 |||
      pr2six (sym (b.toNat % 16 * 4)) / 4) = b := by
  have := dec_o1 a b 0
  simpa using this

theorem dec_o2 (b c : UInt8) :
    UInt8.ofNat (pr2six (sym (b.toNat % 16 * 4 + c.toNat / 64)) * 64 ||| pr2six (sym (c.toNat % 64))) = c := by
  have hb := b.toNat_lt; have hc := c.toNat_lt
  rw [pr2six_sym _ (by omega), pr2six_sym _ (by omega), or_mul_pow _ _ 6 (by omega)]
  have : (b.toNat % 16 * 4 + c.toNat / 64) * 64 + c.toNat % 64 = (b.toNat % 16) * 256 + c.toNat := by omega
  rw [this, ofNat_add_mul256]

theorem encV_ne_nil (bs : Bytes) (h : bs ≠ []) : ∃ e more, encV bs = e :: more := by
  match bs, h with
  | [a], _ => exact ⟨_, _, rfl⟩
  | [a, b], _ => exact ⟨_, _, rfl⟩
  | a :: b :: c :: rest, _ => exact ⟨_, _, rfl⟩

theorem decLoop_encV (bs : Bytes) : b64DecodeLoop (encV bs) = bs := by
  fun_induction encV bs with
  | case1 a b c rest ih =>
    by_cases hr : rest = []
    · subst hr
      simp only [encV, b64DecodeLoop, dec_o0, dec_o1, dec_o2]
    · obtain ⟨e, more, hm⟩ := encV_ne_nil rest hr
      rw [hm] at ih ⊢
      simp only [b64DecodeLoop, dec_o0, dec_o1, dec_o2, ih]
  | case2 a b => simp only [b64DecodeLoop, dec_o0, dec_o1']
  | case3 a => simp only [b64DecodeLoop, dec_o0']
  | case4 => rfl

/-- `n` scanned characters yield `3n/4` octets (a last single character yields none). -/
theorem b64DecodeLoop_length (p : Bytes) : (b64DecodeLoop p).length = p.length * 3 / 4 := by
  fun_induction b64DecodeLoop p with
  | case1 a b c d e rest ih => simp only [List.length_cons] at ih ⊢; omega
  | _ => simp only [List.length_cons, List.length_nil]

theorem b64DecodeCount_closed (n : Nat) : b64DecodeCount n = n * 3 / 4 := by
  simp only [b64DecodeCount]
  split <;> omega

/-- The return value equals the number of octets written, for *every* input: no byte of the result
    block is reported without having been stored. -/
theorem b64DecodeCount_eq (p : Bytes) : b64DecodeCount p.length = (b64DecodeLoop p).length := by
  rw [b64DecodeCount_closed, b64DecodeLoop_length]

theorem b64DecodeE_eq (s : Bytes) : b64DecodeE s = .ok (b64DecodeLoop (b64Scan s)) := by
  simp [b64DecodeE, b64DecodeCount_eq]

theorem b64DecodeE_length (s d : Bytes) (h : b64DecodeE s = .ok d) : d.length ≤ s.length := by
  rw [b64DecodeE_eq] at h
  injection h with h
  subst h
  have h1 := b64DecodeLoop_length (b64Scan s)
  have h2 : (b64Scan s).length ≤ s.length := by
    exact (List.takeWhile_sublist _).length_le
  omega

theorem b64Decode_length (s d : Bytes) (h : b64Decode s = some d) : d.length ≤ s.length := by
  unfold b64Decode at h
  cases hr : b64DecodeE s with
  | error e => rw [hr] at h; cases h
  | ok r =>
    rw [hr] at h
    cases r with
    | nil => cases h
    | cons x xs =>
      injection h with h
      subst h
      exact b64DecodeE_length s _ hr

/-- C11 `b64_decode_encode`; the empty string has no encoding in the C API. -/
theorem b64Decode_b64Encode (bs : Bytes) (h : bs ≠ []) : b64Decode (b64Encode bs) = some bs := by
  rw [b64Encode_eq_enc, b64Decode, b64DecodeE_eq, scan_enc, decLoop_encV]
  cases bs with
  | nil => exact absurd rfl h
  | cons a t => rfl

end Wbxml.Lemmas.Codec

namespace Wbxml.Lemmas.ParseSer
open Wbxml Wbxml.Model

theorem b64Char_tbl : ∀ i, i < 64 → Model.b64Char i = Lemmas.Codec.sym i := by decide +kernel

theorem b64CharGo_index (a b c : Nat) (ha : a < 256) (hb : b < 256) (hc : c < 256) :
    b64Char (a >>> 2) = Codec.sym (a / 4) ∧ b64Char ((a &&& 3) <<< 4) = Codec.sym (a % 4 * 16) ∧
    b64Char ((b &&& 0xF) <<< 2) = Codec.sym (b % 16 * 4) ∧ b64Char (c &&& 0x3F) = Codec.sym (c % 64) ∧
    b64Char (((a &&& 3) <<< 4) ||| (b >>> 4)) = Codec.sym (a % 4 * 16 + b / 16) ∧
    b64Char (((b &&& 0xF) <<< 2) ||| (c >>> 6)) = Codec.sym (b % 16 * 4 + c / 64) := by
  simp (disch := omega) only [bit_arith]
  refine ⟨b64Char_tbl _ ?_, b64Char_tbl _ ?_, b64Char_tbl _ ?_, b64Char_tbl _ ?_, b64Char_tbl _ ?_, b64Char_tbl _ ?_⟩ <;>
    omega

theorem b64EncodeGo_eq_enc (bs : Bytes) : Model.b64EncodeGo bs = Lemmas.Codec.enc bs := by
  fun_induction Lemmas.Codec.enc bs with
  | case1 a b c rest ih =>
    obtain ⟨e1, _, _, e4, e2, e3⟩ := b64CharGo_index a.toNat b.toNat c.toNat a.toNat_lt b.toNat_lt c.toNat_lt
    rw [Model.b64EncodeGo, e1, e2, e3, e4, ih]
  | case2 a b =>
    obtain ⟨e1, _, e3, _, e2, _⟩ := b64CharGo_index a.toNat b.toNat 0 a.toNat_lt b.toNat_lt (by decide)
    rw [Model.b64EncodeGo, e1, e2, e3]
  | case3 a =>
    obtain ⟨e1, e2, _⟩ := b64CharGo_index a.toNat 0 0 a.toNat_lt (by decide) (by decide)
    rw [Model.b64EncodeGo, e1, e2]
  | case4 => rfl

/-- The parser's base64 step is RFC 4648 §4 base64 of the octets (an empty buffer is an error). -/
theorem decodeBase64Value_spec (d : Bytes) (h : d ≠ []) :
    decodeBase64Value d = .ok (Spec.Rfc4648.encode d) := by
  have : d.isEmpty = false := by cases d <;> simp_all
  simp only [decodeBase64Value, this, Bool.false_eq_true, ↓reduceIte, b64EncodeGo_eq_enc,
    Lemmas.Codec.enc_eq_spec]

end Wbxml.Lemmas.ParseSer

namespace Wbxml.Lemmas.ParserBridge
open Wbxml Wbxml.Model

/-- For every `bs`; the parser only calls it on `bs ≠ []`. -/
theorem b64EncodeGo_eq (bs : Bytes) : b64EncodeGo bs = Model.Codec.b64Encode bs := by
  rw [ParseSer.b64EncodeGo_eq_enc, Codec.b64Encode_eq_enc]

/-- `decode_base64_value` seen through the codec API: NULL (empty input) is error 18, otherwise the
    RFC 4648 encoding. -/
theorem decodeBase64Value_eq (d : Bytes) :
    decodeBase64Value d = match Model.Codec.b64EncodeApi d with
      | none => .error (.code 18)
      | some r => .ok r := by
  unfold decodeBase64Value Model.Codec.b64EncodeApi
  cases d with
  | nil => rfl
  | cons a r =>
    have h1 : (a :: r).isEmpty = false := rfl
    have h2 : ¬ (a :: r) = [] := by simp
    simp only [h1, Bool.false_eq_true, if_false, h2, b64EncodeGo_eq]

end Wbxml.Lemmas.ParserBridge

namespace Wbxml.Lemmas.Typed
open Wbxml Wbxml.Model.Typed Wbxml.Model.Codec Wbxml.Lemmas.Codec

theorem filter_noSpace_id (s : Bytes) (h : ∀ c ∈ s, isSpace c = false) :
    s.filter (fun c => !isSpace c) = s := by
  apply List.filter_eq_self.mpr
  intro c hc; simp [h c hc]

theorem sym_noSpace_fin : ∀ i : Fin 64, isSpace (sym i.val) = false := by decide

theorem sym_noSpace (i : Nat) : isSpace (sym i) = false := by
  by_cases h : i < 64
  · exact sym_noSpace_fin ⟨i, h⟩
  · have : basis64[i]? = none := by
      apply List.getElem?_eq_none; rw [basis64_length]; omega
    simp [sym, this]; decide

/-- C12: base64 text produced by the library contains no white space. -/
theorem enc_noSpace (bs : Bytes) : ∀ c ∈ enc bs, isSpace c = false := by
  have p : isSpace 61 = false := by decide
  fun_induction enc bs with
  | case1 a b c rest ih => simpa only [List.forall_mem_cons, sym_noSpace, true_and] using ih
  | case2 a b => simp only [List.forall_mem_cons, sym_noSpace, p, List.not_mem_nil, false_imp_iff, implies_true, and_true]
  | case3 a => simp only [List.forall_mem_cons, sym_noSpace, p, List.not_mem_nil, false_imp_iff, implies_true, and_true]
  | case4 => exact fun _ h => absurd h List.not_mem_nil

theorem b64Encode_filter (bs : Bytes) : (b64Encode bs).filter (fun c => !isSpace c) = b64Encode bs := by
  apply filter_noSpace_id
  rw [b64Encode_eq_enc]
  exact enc_noSpace bs

end Wbxml.Lemmas.Typed
