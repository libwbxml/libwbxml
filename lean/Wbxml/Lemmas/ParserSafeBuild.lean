/-
  Parser safety: the shape of the event sequence of a successful run (start, balanced
  body, end) and the WBXML tree builder: a class of nodes closed under what the builder makes holds of
  everything it holds, over any events (`fold_goodB`); over the events of a successful run the root slot
  is filled (`bal_run`, `build_root`). Result: the tree handed to the XML generator has a root, and so has
  every embedded document in it — the two `Err.ub` flags of `Model/EncXml.lean` ("tree without root",
  "nested tree without root") are unreachable from `wbxml2xml`, and with the budget `t.xmlFuel` the conversion is
  total (`treeToXml_xmlFuel_safe`, `wbxml2xml_safe`). The same closure argument bounds the nesting of embedded
  documents, `embDepthN` / `embDepthT`, by the fuel of the tree stage (`treeOfWbxml_embDepth`).
-/
import Wbxml.Lemmas.ParserSafeTree
import Wbxml.Lemmas.ParserRun
namespace Wbxml.Lemmas.ParserSafe
open Wbxml Wbxml.Model Wbxml.Lemmas.TreeBuild

theorem parse_events_shape {cfg : PCfg} {bs : Bytes} (h : (parse cfg bs).result = .ok ()) :
    ∃ s l pis1 n attrs body pis2, parseHeader cfg bs = .ok (s, l) ∧ (parse cfg bs).events =
        Event.startDoc s.charset l.id ::
          (pis1 ++ (Event.startElt n attrs :: (body ++ Event.endElt n :: (pis2 ++ [Event.endDoc]))))
      ∧ OnlyPi pis1 ∧ Bal body ∧ OnlyPi pis2 := by
  rcases parse_anatomy cfg bs with ⟨c, _, h', _⟩ | ⟨s, l, c, _, _, h', _⟩ | ⟨s, l, ev, s', hh, hb, _, hev, _⟩
  · rw [h'] at h; cases h
  · rw [h'] at h; cases h
  · obtain ⟨pis1, n, attrs, body, pis2, e, p1, p2, p3⟩ := parseBody_events hb
    exact ⟨s, l, pis1, n, attrs, body, pis2, hh, by rw [hev, e]; simp, p1, p2, p3⟩

/-! ### Well-formed nodes: every embedded document that has a language has a root -/

def Good (n : Node) : Prop := ∃ f, okNode f n = true
def GoodL (ns : List Node) : Prop := ∀ n ∈ ns, Good n

theorem okList_of_goodL : ∀ (ns : List Node), GoodL ns → ∃ f, okList f ns = true
  | [], _ => ⟨1, rfl⟩
  | n :: rest, h => by
    obtain ⟨f1, h1⟩ := h n (by simp)
    obtain ⟨f2, h2⟩ := okList_of_goodL rest (fun x hx => h x (by simp [hx]))
    refine ⟨max f1 f2 + 1, ?_⟩
    simp only [okList, Bool.and_eq_true]
    exact ⟨(ok_mono f1).1 n _ (Nat.le_max_left _ _) h1, (ok_mono f2).2 rest _ (Nat.le_max_right _ _) h2⟩

theorem goodL_of_okList : ∀ (f : Nat) (ns : List Node), okList f ns = true → GoodL ns
  | 0, _, h => by simp [okList] at h
  | _ + 1, [], _ => fun _ h => by cases h
  | f + 1, n :: rest, h => by
    simp only [okList, Bool.and_eq_true] at h
    intro x hx
    rcases List.mem_cons.1 hx with hx | hx
    · exact hx ▸ ⟨f, h.1⟩
    · exact goodL_of_okList f rest h.2 x hx

theorem Good.text (s : Bytes) : Good (.text s) := ⟨1, rfl⟩
theorem Good.elt (n : Name) (a : List Attr) {kids : List Node} (h : GoodL kids) : Good (.elt n a kids) := by
  obtain ⟨f, hf⟩ := okList_of_goodL kids h
  exact ⟨f + 1, by simpa [okNode] using hf⟩
theorem Good.cdata {kids : List Node} (h : GoodL kids) : Good (.cdata kids) := by
  obtain ⟨f, hf⟩ := okList_of_goodL kids h
  exact ⟨f + 1, by simpa [okNode] using hf⟩
theorem Good.tree_none (cs : Nat) (r : Option Node) : Good (.tree none cs r) := ⟨1, rfl⟩
theorem Good.tree_some (l : Lang) (cs : Nat) {r : Node} (h : Good r) : Good (.tree (some l) cs (some r)) := by
  obtain ⟨f, hf⟩ := h
  exact ⟨f + 1, by simpa [okNode] using hf⟩

/-- A tree as `treeOfWbxml` delivers it: no language (never printed), or a well-formed root. -/
def GoodT (t : Tree) : Prop := t.lang = none ∨ ∃ r, t.root = some r ∧ Good r

theorem GoodT.node {t : Tree} (h : GoodT t) : Good (.tree t.lang t.origCharset t.root) := by
  rcases h with h | ⟨r, hr, hg⟩
  · rw [h]; exact Good.tree_none _ _
  · rw [hr]
    cases hl : t.lang with
    | none => exact Good.tree_none _ _
    | some l => exact Good.tree_some l _ hg

/-! ### Classes of nodes the tree builder stays inside

The builder only ever makes text nodes, elements and CDATA nodes out of children it already holds,
and attaches what the embedded-document parser hands back. Any predicate `P` closed under the first
three is therefore an invariant of the builder as soon as the embedded documents satisfy it: `Good`
(no rootless embedded document), the nesting of embedded documents, the languages (`W2XTree`), the
element nesting (`W2XDepth`). -/

structure Closed (P : Node → Prop) : Prop where
  text : ∀ s, P (.text s)
  elt : ∀ n a kids, (∀ k ∈ kids, P k) → P (.elt n a kids)
  cdata : ∀ kids, (∀ k ∈ kids, P k) → P (.cdata kids)

def AllP (P : Node → Prop) (ns : List Node) : Prop := ∀ n ∈ ns, P n

theorem good_closed : Closed Good := ⟨Good.text, fun n a _ h => Good.elt n a h, fun _ h => Good.cdata h⟩

theorem Closed.addKid {P : Node → Prop} (hP : Closed P) {kids : List Node} {n : Node}
    (hk : AllP P kids) (hn : P n) : AllP P (addKid kids n) :=
  Rt.addKid_all kids n hP.text hk hn

theorem Closed.close {P : Node → Prop} (hP : Closed P) {f : Frame} (h : AllP P f.kids) : P f.close := by
  unfold Frame.close
  split
  · exact hP.elt _ _ _ h
  · exact hP.cdata _ h

/-- Everything the builder holds is in the class `P`: the kids of every open frame, and the root. -/
structure GoodB (P : Node → Prop) (b : BState) : Prop where
  frames : ∀ fr ∈ b.stack, AllP P fr.kids
  root : ∀ r, b.root = some r → P r

variable (main : List Lang) (emb : Nat → Bytes → Option Tree) {P : Node → Prop}

theorem step_err {b : BState} (h : b.error ≠ none) (e : Event) : buildStep main emb b e = b := by
  have hs := buildStep_step main emb b e
  generalize buildStep main emb b e = b' at hs ⊢
  cases hs <;> first | rfl | exact absurd ‹b.error = none› h

theorem run_err {b : BState} (h : b.error ≠ none) (es : List Event) : es.foldl (buildStep main emb) b = b :=
  List.foldlRecOn (motive := fun b' => b' = b) es _ rfl fun _ hb e _ => by rw [hb]; exact step_err main emb h e

theorem step_pi (b : BState) (t d : Bytes) : buildStep main emb b (.pi t d) = b := by
  have hs := buildStep_step main emb b (.pi t d)
  generalize buildStep main emb b (.pi t d) = b' at hs ⊢
  cases hs with
  | stay => rfl
  | fail _ _ hr => exact hr.elim

theorem run_onlyPi {b : BState} {es : List Event} (h : ∀ e ∈ es, ∃ t d, e = Event.pi t d) :
    es.foldl (buildStep main emb) b = b :=
  List.foldlRecOn (motive := fun b' => b' = b) es _ rfl fun _ hb e he => by
    obtain ⟨t, d, rfl⟩ := h e he
    rw [hb, step_pi]

theorem attach_cons {b : BState} {f : Frame} {rest : List Frame} (h : b.stack = f :: rest) (n : Node) :
    b.attach n = { b with stack := { f with kids := addKid f.kids n } :: rest } := by
  unfold BState.attach; rw [h]

theorem GoodB.attach (hP : Closed P) {b : BState} (h : GoodB P b) {n : Node} (hn : P n) : GoodB P (b.attach n) := by
  unfold BState.attach
  split
  · rename_i f rest hs
    refine ⟨fun fr hfr => ?_, h.root⟩
    rcases List.mem_cons.1 hfr with rfl | hfr
    · exact hP.addKid (h.frames f (by rw [hs]; simp)) hn
    · exact h.frames fr (by rw [hs]; simp [hfr])
  · split
    · exact ⟨h.frames, fun r hr => by cases hr; exact hn⟩
    · exact ⟨h.frames, h.root⟩

theorem GoodB.push {b : BState} (h : GoodB P b) (k : FrameKind) : GoodB P (push b k) :=
  ⟨fun fr hfr => (by
    rcases List.mem_cons.1 hfr with rfl | hfr
    · intro x hx; cases hx
    · exact h.frames fr hfr), h.root⟩

theorem GoodB.pop (hP : Closed P) {b : BState} (h : GoodB P b) : GoodB P (pop b) := by
  unfold TreeBuild.pop
  split
  · rename_i f rest hs
    exact GoodB.attach hP (b := { b with stack := rest })
      ⟨fun fr hfr => h.frames fr (by rw [hs]; simp [hfr]), h.root⟩ (hP.close (h.frames f (by rw [hs]; simp)))
  · exact h

theorem GoodB.leaveCdata (hP : Closed P) {b : BState} (h : GoodB P b) : GoodB P b.leaveCdata := by
  rcases leaveCdata_cases b with e | ⟨_, _, _, _, _, e⟩ <;> rw [e]
  · exact h
  · exact h.pop hP

/-- What the embedded-document reader makes of a payload satisfying `Q` is in the class. -/
def EmbGood (Q : Bytes → Prop) (P : Node → Prop) : Prop :=
  ∀ cs s t, Q s → emb cs s = some t → P (.tree t.lang t.origCharset t.root)

variable {Q : Bytes → Prop}

theorem buildStep_goodB (hP : Closed P) (hemb : EmbGood emb Q P) {b : BState} (h : GoodB P b) {e : Event}
    (hq : ∀ s, e = .chars s → Q s) : GoodB P (buildStep main emb b e) := by
  have hs := buildStep_step main emb b e
  generalize buildStep main emb b e = b' at hs ⊢
  cases hs with
  | stay => exact h
  | fail | doc => exact ⟨h.frames, h.root⟩
  | start n a => exact (h.leaveCdata hP).push _
  | end_ => exact (h.leaveCdata hP).pop hP
  | chars s n _ _ hn =>
    refine h.attach hP ?_
    rcases hn with ⟨rfl, _⟩ | ⟨_, t, ht, rfl⟩
    · exact hP.text s
    · exact hemb _ _ _ (hq s rfl) ht
  | cdata s => exact (h.push .cdata).attach hP (hP.text s)

theorem fold_goodB (hP : Closed P) (hemb : EmbGood emb Q P) (es : List Event) {b : BState} (h : GoodB P b)
    (hq : ∀ s, Event.chars s ∈ es → Q s) : GoodB P (es.foldl (buildStep main emb) b) :=
  List.foldlRecOn es _ h fun _ hb _ he => buildStep_goodB main emb hP hemb hb fun s hs => hq s (hs ▸ he)

theorem goodB_init : GoodB P ({} : BState) := ⟨(fun _ h => nomatch h), fun _ h => nomatch h⟩

/-! #### A successful run leaves a root

Over a balanced sequence inside an open element the frames below stay as they are (`bal_run`); the end
of the root element then fills the root slot. -/

/-- An open element. -/
def IsElt (f : Frame) : Prop := ∃ n a, f.kind = .elt n a

/-- The open frames above `S`: one element frame, possibly with a CDATA frame on top. -/
def Shape (S st : List Frame) : Prop :=
  (∃ e, IsElt e ∧ st = e :: S) ∨ (∃ c e, c.kind = .cdata ∧ IsElt e ∧ st = c :: e :: S)

/-- Inside an open element above the frames `S`: no error, the stack is `S` under that element (`Shape`), the
    root slot still holds `r0`. -/
structure Inv (S : List Frame) (r0 : Option Node) (b : BState) : Prop where
  err : b.error = none
  shape : Shape S b.stack
  root : b.root = r0

theorem Shape.ne_nil {S st : List Frame} (h : Shape S st) : st ≠ [] := by
  rcases h with ⟨e, _, hs⟩ | ⟨c, e, _, _, hs⟩ <;> simp [hs]

theorem Inv.not_refused {S : List Frame} {r0 : Option Node} {b : BState} (h : Inv S r0 b) :
    (∀ n a, ¬ Refused b (.startElt n a)) ∧ ∀ n, ¬ Refused b (.endElt n) := by
  refine ⟨fun n a hr => h.shape.ne_nil hr.1, fun n hr => ?_⟩
  rcases hr with hr | ⟨f, hf, hk⟩
  · exact h.shape.ne_nil hr
  · rcases h.shape with ⟨e, ⟨n', a', he⟩, hs⟩ | ⟨c, e, _, _, hs⟩
    · rw [hs] at hf; cases hf; rw [he] at hk; cases hk
    · rw [hs] at hf; cases hf

theorem attach_inv {S : List Frame} {r0 : Option Node} {b : BState} (h : Inv S r0 b) (n : Node) :
    Inv S r0 (b.attach n) := by
  rcases h.shape with ⟨e, he, hs⟩ | ⟨c, e, hc, he, hs⟩ <;> rw [attach_cons hs]
  · exact ⟨h.err, .inl ⟨{ e with kids := addKid e.kids n }, he, rfl⟩, h.root⟩
  · exact ⟨h.err, .inr ⟨{ c with kids := addKid c.kids n }, e, hc, he, rfl⟩, h.root⟩

theorem step_chars_inv {S : List Frame} {r0 : Option Node} {b : BState} (h : Inv S r0 b) (s : Bytes) :
    Inv S r0 (buildStep main emb b (.chars s)) := by
  have hs := buildStep_step main emb b (.chars s)
  generalize buildStep main emb b (.chars s) = b' at hs ⊢
  cases hs with
  | stay => exact h
  | fail _ _ hr => exact hr.elim
  | chars _ n => exact attach_inv h n
  | cdata _ _ ho =>
    -- the top frame is an element: a CDATA frame is opened above it
    obtain ⟨_, f, rest, hst, hk⟩ := ho
    refine attach_inv (b := push b .cdata) ⟨h.err, ?_, h.root⟩ _
    rcases h.shape with ⟨e, he, hs'⟩ | ⟨c, e, hc, he, hs'⟩
    · exact .inr ⟨{ kind := .cdata, kids := [] }, e, rfl, he, by simp only [push, hs']⟩
    · rw [hs'] at hst; cases hst; exact absurd hc hk

theorem leaveCdata_elt {b : BState} {e : Frame} {rest : List Frame} (hs : b.stack = e :: rest) (he : IsElt e) :
    b.leaveCdata = b := by
  obtain ⟨n, a, hk⟩ := he
  unfold BState.leaveCdata
  rw [hs]
  cases rest with
  | nil => rfl
  | cons g r => simp only [hk]

theorem leaveCdata_cd {b : BState} {c e : Frame} {rest : List Frame} (hs : b.stack = c :: e :: rest) (hc : c.kind = .cdata) :
    b.leaveCdata = { b with stack := { e with kids := addKid e.kids c.close } :: rest } := by
  unfold BState.leaveCdata
  rw [hs]
  simp only [hc]

theorem leaveCdata_inv {S : List Frame} {r0 : Option Node} {b : BState} (h : Inv S r0 b) :
    Inv S r0 b.leaveCdata ∧ ∃ e, b.leaveCdata.stack = e :: S := by
  rcases h.shape with ⟨e, he, hs⟩ | ⟨c, e, hc, he, hs⟩
  · rw [leaveCdata_elt hs he]; exact ⟨h, e, hs⟩
  · rw [leaveCdata_cd hs hc]
    exact ⟨⟨h.err, .inl ⟨{ e with kids := addKid e.kids c.close }, he, rfl⟩, h.root⟩,
      { e with kids := addKid e.kids c.close }, rfl⟩

theorem step_endElt_elt {b : BState} (herr : b.error = none) {e : Frame} {rest : List Frame}
    (hs : b.stack = e :: rest) (he : IsElt e) (n : Name) :
    buildStep main emb b (.endElt n) = ({ b with stack := rest } : BState).attach e.close := by
  rw [buildStep_endElt main emb herr, leaveCdata_elt hs he]
  · simp only [TreeBuild.pop, hs]
  · obtain ⟨n', a', hk⟩ := he
    rintro (h | ⟨f, hf, hk'⟩)
    · rw [hs] at h; cases h
    · rw [hs] at hf; cases hf; rw [hk] at hk'; cases hk'

theorem step_endElt_inv {S0 : List Frame} {r0 : Option Node} {S : List Frame} {b : BState}
    (h : Inv S r0 b) (hS : Shape S0 S) (n : Name) : Inv S0 r0 (buildStep main emb b (.endElt n)) := by
  obtain ⟨h', e, hs⟩ := leaveCdata_inv h
  rw [buildStep_endElt main emb h.err (h.not_refused.2 n)]
  simp only [TreeBuild.pop, hs]
  exact attach_inv (b := { b.leaveCdata with stack := S }) ⟨h'.err, hS, h'.root⟩ _

theorem bal_run {es : List Event} (hb : Bal es) :
    ∀ (S : List Frame) (r0 : Option Node) (b : BState), Inv S r0 b →
      (es.foldl (buildStep main emb) b).error ≠ none ∨ Inv S r0 (es.foldl (buildStep main emb) b) := by
  induction hb with
  | nil => intro S r0 b h; exact Or.inr h
  | chars s _ ih =>
    intro S r0 b h
    exact ih S r0 _ (step_chars_inv main emb h s)
  | pi t d _ ih =>
    intro S r0 b h
    rw [List.foldl_cons, step_pi]
    exact ih S r0 b h
  | elt n attrs n' _ _ ihb ihe =>
    intro S r0 b h0
    -- the element start first leaves an open CDATA section
    obtain ⟨h, _⟩ := leaveCdata_inv h0
    rw [List.foldl_cons, List.foldl_append, List.foldl_cons,
      buildStep_startElt main emb h0.err (h0.not_refused.1 n attrs)]
    rcases ihb b.leaveCdata.stack r0 (push b.leaveCdata (.elt n attrs))
      ⟨h.err, .inl ⟨_, ⟨n, attrs, rfl⟩, rfl⟩, h.root⟩ with herr | h2
    · rw [step_err main emb herr, run_err main emb herr]
      exact Or.inl herr
    · exact ihe S r0 _ (step_endElt_inv main emb h2 h.shape n')

theorem build_root {cs l : Nat} {pis1 pis2 body : List Event} {n : Name} {attrs : List Attr}
    (h1 : OnlyPi pis1) (hb : Bal body) (h2 : OnlyPi pis2) :
    let b := (Event.startDoc cs l :: (pis1 ++ (Event.startElt n attrs ::
        (body ++ Event.endElt n :: (pis2 ++ [Event.endDoc]))))).foldl (buildStep main emb) {}
    b.error ≠ none ∨ ∃ r, b.root = some r := by
  intro b
  have e0 : buildStep main emb {} (Event.startDoc cs l) =
      { charset := cs, lang := main.find? (fun x => x.id == l) } := rfl
  -- startElt on the empty stack with no root
  have e1 : buildStep main emb { charset := cs, lang := main.find? (fun x => x.id == l) } (Event.startElt n attrs) =
      { charset := cs, lang := main.find? (fun x => x.id == l),
        stack := [{ kind := FrameKind.elt n attrs, kids := [] }] } := rfl
  have hb0 : b = (pis2 ++ [Event.endDoc]).foldl (buildStep main emb)
      (buildStep main emb (body.foldl (buildStep main emb)
        { charset := cs, lang := main.find? (fun x => x.id == l),
          stack := [{ kind := FrameKind.elt n attrs, kids := [] }] }) (Event.endElt n)) := by
    show List.foldl _ _ _ = _
    rw [List.foldl_cons, e0, List.foldl_append, run_onlyPi main emb h1, List.foldl_cons, e1,
      List.foldl_append, List.foldl_cons]
  -- the tail (trailing PIs, endDoc) changes nothing
  have tail : ∀ b' : BState, (pis2 ++ [Event.endDoc]).foldl (buildStep main emb) b' = b' := by
    intro b'
    rw [List.foldl_append, run_onlyPi main emb h2]
    show buildStep main emb b' Event.endDoc = b'
    have hs := buildStep_step main emb b' .endDoc
    generalize buildStep main emb b' .endDoc = b'' at hs ⊢
    cases hs with
    | stay => rfl
    | fail _ _ hr => exact hr.elim
  rw [hb0, tail]
  rcases bal_run main emb hb [] none
      { charset := cs, lang := main.find? (fun x => x.id == l), stack := [{ kind := FrameKind.elt n attrs, kids := [] }] }
      ⟨rfl, .inl ⟨_, ⟨n, attrs, rfl⟩, rfl⟩, rfl⟩ with herr | h3
  · rw [step_err main emb herr]; exact Or.inl herr
  · -- the end of the root element fills the root slot
    obtain ⟨h', e, hs⟩ := leaveCdata_inv h3
    rw [buildStep_endElt main emb h3.err (h3.not_refused.2 n)]
    exact Or.inr ⟨e.close, by simp only [TreeBuild.pop, hs, BState.attach, h'.root]⟩

/-- **Every tree delivered by `treeOfWbxml` is well formed** (it has a root, and so has every
    embedded document), for any fuel. -/
theorem treeOfWbxml_good : ∀ (f lang cs : Nat) (bs : Bytes) (t : Tree),
    treeOfWbxml main f lang cs bs = .ok t → GoodT t
  | 0, _, _, _, _, h => by simp [treeOfWbxml] at h
  | f' + 1, lang, cs, bs, t, h => by
    obtain ⟨_, b, ⟨⟩, hres, hb, herr, rfl⟩ := treeOfWbxml_ok h
    have hg : GoodB Good b := hb ▸ fold_goodB main _ good_closed (Q := fun _ => True)
      (fun cs' s t' _ ht' => (treeOfWbxml_good f' 0 cs' s t' (embOf_some ht')).node) _ goodB_init fun _ _ => trivial
    obtain ⟨s0, l0, pis1, n, attrs, body, pis2, _, hev, p1, p2, p3⟩ := parse_events_shape hres
    have := build_root main (embOf main f') (cs := s0.charset) (l := l0.id) (n := n) (attrs := attrs) p1 p2 p3
    rw [← hev, hb] at this
    obtain ⟨r, hr⟩ := this.resolve_left fun he => he herr
    exact Or.inr ⟨r, hr, hg.root r hr⟩

/-! ### Nesting of embedded documents is bounded by the tree stage's fuel

`treeOfWbxml` hands the embedded-document parser the fuel `f - 1` and keeps the payload as text when
the nested run fails for ANY reason, fuel included. So the tree it returns never nests embedded
documents deeper than `f - 1` levels: deeper nesting is cut off by the model (text fallback), where
the C code would recurse on. `embDepthN` counts `.tree` nodes along a path. -/

mutual
def embDepthN : Node → Nat
  | .elt _ _ kids => embDepthL kids
  | .text _ => 0
  | .cdata kids => embDepthL kids
  | .tree _ _ none => 1
  | .tree _ _ (some r) => embDepthN r + 1
def embDepthL : List Node → Nat
  | [] => 0
  | n :: rest => max (embDepthN n) (embDepthL rest)
end

/-- Nesting depth of embedded documents in a tree (0 = none). -/
def embDepthT (t : Tree) : Nat :=
  match t.root with
  | some r => embDepthN r
  | none => 0

theorem embDepthL_le {D : Nat} : ∀ {ns : List Node}, (∀ k ∈ ns, embDepthN k ≤ D) → embDepthL ns ≤ D
  | [], _ => by simp only [embDepthL]; omega
  | n :: rest, h => by
    simp only [embDepthL]
    have h1 := h n (by simp)
    have h2 := embDepthL_le (ns := rest) (fun k hk => h k (by simp [hk]))
    omega

theorem depthLe_closed (D : Nat) : Closed (fun n => embDepthN n ≤ D) :=
  ⟨fun _ => by simp only [embDepthN]; omega,
   fun _ _ _ h => by simp only [embDepthN]; exact embDepthL_le h,
   fun _ h => by simp only [embDepthN]; exact embDepthL_le h⟩

theorem embDepthN_tree (t : Tree) : embDepthN (.tree t.lang t.origCharset t.root) = embDepthT t + 1 := by
  unfold embDepthT
  cases t.root <;> simp only [embDepthN]

/-- **The tree stage nests embedded documents at most `f - 1` deep.** -/
theorem treeOfWbxml_embDepth : ∀ (f lang cs : Nat) (bs : Bytes) (t : Tree),
    treeOfWbxml main f lang cs bs = .ok t → embDepthT t + 1 ≤ f
  | 0, _, _, _, _, h => by simp [treeOfWbxml] at h
  | f' + 1, lang, cs, bs, t, h => by
    obtain ⟨_, b, ⟨⟩, _, hb, _, rfl⟩ := treeOfWbxml_ok h
    have hg : GoodB (fun n => embDepthN n ≤ f') b := hb ▸ fold_goodB main _ (depthLe_closed f') (Q := fun _ => True)
      (fun cs' s t' _ ht' => by
        show embDepthN _ ≤ f'
        rw [embDepthN_tree]; exact treeOfWbxml_embDepth f' 0 cs' s t' (embOf_some ht'))
      _ goodB_init fun _ _ => trivial
    cases hr : b.root with
    | none => simp only [embDepthT]; omega
    | some r => simp only [embDepthT]; exact Nat.succ_le_succ (hg.root r hr)

/-- Like `Ok`, but fuel exhaustion is allowed. -/
def OkF {β : Type} (P : β → Prop) : Except Err β → Prop
  | .ok b => P b
  | .error (.code c) => c ≠ 0
  | .error .fuel => True
  | .error _ => False

theorem OkF.not_ub {β : Type} {P : β → Prop} {m : Except Err β} (h : OkF P m) (w : String) : m ≠ .error (.ub w) := by
  intro hm; subst hm; exact h

theorem OkF.cases {β : Type} {P : β → Prop} {m : Except Err β} (h : OkF P m) :
    (∃ b, m = .ok b) ∨ (∃ c, c ≠ 0 ∧ m = .error (.code c)) ∨ m = .error .fuel := by
  cases m with
  | ok b => exact Or.inl ⟨b, rfl⟩
  | error e =>
    cases e with
    | code c => exact Or.inr (Or.inl ⟨c, h, rfl⟩)
    | fuel => exact Or.inr (Or.inr rfl)
    | ub w => exact absurd h (fun h => h)
    | crash w => exact absurd h (fun h => h)

theorem OkF.not_crash {β : Type} {P : β → Prop} {m : Except Err β} (h : OkF P m) (w : String) : m ≠ .error (.crash w) := by
  intro hm; subst hm; exact h

/-- `wbxml_tree_to_xml` on a well-formed tree: success, an error code, or (only) fuel. -/
theorem treeToXml_noub (cfg : W2XCfg) (fuel : Nat) (t : Tree) (h : GoodT t) :
    OkF (fun _ => True) (treeToXml cfg fuel t) := by
  cases hx : treeToXml cfg fuel t with
  | ok _ => exact True.intro
  | error e =>
    rcases treeToXml_rooted_error (h.imp_right fun ⟨r, hr, g, hok⟩ => ⟨r, hr, (rooted_of_ok g).1 r hok⟩) hx
      with ⟨rfl, _⟩ | ⟨k, hk, rfl⟩
    · exact True.intro
    · exact hk

theorem good_iff_rooted (n : Node) : Good n ↔ rootedN n = true := exists_ok_iff_rooted n

theorem Good.okNode_xmlFuel {n : Node} (h : Good n) : okNode n.xmlFuel n = true :=
  Lemmas.ParserSafe.okNode_xmlFuel n ((good_iff_rooted n).1 h)

theorem GoodL.okList_xmlFuelL {ns : List Node} (h : GoodL ns) : okList (Node.xmlFuelL ns) ns = true := by
  obtain ⟨f, hf⟩ := okList_of_goodL ns h
  exact okList_xmlFuelL_of_ok hf

/-- The root of a well-formed tree passes `okNode` at the budget `t.xmlFuel`. -/
theorem GoodT.okNode_xmlFuel {t : Tree} (h : GoodT t) :
    t.lang = none ∨ ∃ r, t.root = some r ∧ okNode t.xmlFuel r = true := by
  rcases h with h | ⟨r, hr, hg⟩
  · exact Or.inl h
  · refine Or.inr ⟨r, hr, ?_⟩
    have : t.xmlFuel = r.xmlFuel := by simp only [Tree.xmlFuel, hr]
    rw [this]
    exact hg.okNode_xmlFuel

/-- `wbxml_tree_to_xml` with the budget `wbxml2xml` supplies (`t.xmlFuel`) on a well-formed tree:
    success or a non-zero error code. Never `fuel`, `ub`, `crash`. -/
theorem treeToXml_xmlFuel_safe (cfg : W2XCfg) (t : Tree) (h : GoodT t) : Safe (treeToXml cfg t.xmlFuel t) :=
  treeToXml_safe cfg _ t h.okNode_xmlFuel

/-- **`wbxml2xml` is total**: success or a non-zero error code, for every option tuple (arbitrary
    language tables included) and every input. -/
theorem wbxml2xml_safe (cfg : W2XCfg) (bs : Bytes) : Safe (wbxml2xml cfg bs) := by
  rcases wbxml2xml_anatomy cfg bs with ⟨_, h⟩ | ⟨c, hc0, _, h⟩ | ⟨t, ht, h⟩
  · rw [h]; exact (by decide : (12 : Nat) ≠ 0)
  · rw [h]; exact hc0
  · rw [h]; exact treeToXml_xmlFuel_safe cfg t (treeOfWbxml_good cfg.main _ _ _ _ _ ht)

end Wbxml.Lemmas.ParserSafe
