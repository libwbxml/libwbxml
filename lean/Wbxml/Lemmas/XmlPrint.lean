/-
  Lemmas about the XML printer model (`Model/EncXml.lean`) used by `Props/C05.lean` and the printer base
  `Lemmas/EncXmlToks`:
    * `readIn` / `readCdata`: a reader for runs of CDATA sections by the letter of XML 1.0 §2.7 alone, in which
      C05's `cdata_text_no_terminator` is stated without the specification reader `Spec/Xml.lean`
      (`readIn_cdataText`; the same fact against that reader is `XmlSpecText.reads_cdata`);
    * `xml_encode_tag`, the attribute list, `xml_encode_end_attrs` and `xml_encode_end_tag` as explicit
      states (`xmlTag_out` … `xmlEndTag_out`), with the pieces they are written in: `tagOf`, `nsDecl` (what the
      tag declares), `attrBytes`, `endAttrsWs`, `endTagWs`; `allText` for C05's text-only elements.
-/
import Wbxml.Lemmas.EncXmlBasic
import Wbxml.Spec.XmlText
namespace Wbxml.Lemmas.XmlPrint
open Wbxml Wbxml.Model Wbxml.Spec

/-- Inside a CDATA section: bytes up to the first `]]>` are content; the section may be followed
    immediately by another one (`<![CDATA[`), whose content is appended; anything else is refused. -/
def readIn : Bytes → Option Bytes
  | 93 :: 93 :: 62 :: r =>
    match r with
    | [] => some []
    | 60 :: 33 :: 91 :: 67 :: 68 :: 65 :: 84 :: 65 :: 91 :: r' => readIn r'
    | _ => none
  | b :: r => (readIn r).map (b :: ·)
  | [] => none

/-- A run of adjacent CDATA sections, read as XML 1.0 §2.7 says: the character data they denote. -/
def readCdata : Bytes → Option Bytes
  | 60 :: 33 :: 91 :: 67 :: 68 :: 65 :: 84 :: 65 :: 91 :: r => readIn r
  | _ => none

theorem cdataText_head (s t : Bytes) : (cdataText s ++ t).head? = (s ++ t).head? := by
  fun_cases cdataText s <;> simp_all

theorem cdataText_93_62 (r t' x : Bytes) (h : cdataText r ++ 93 :: 93 :: t' = 93 :: 62 :: x) :
    ∃ y, r = 93 :: 62 :: y := by
  revert h
  fun_cases cdataText r <;> intro h
  · simp at h
  · rename_i b r' hne
    simp only [List.cons_append, List.cons.injEq] at h
    obtain ⟨rfl, h2⟩ := h
    have hh := cdataText_head r' (93 :: 93 :: t')
    rw [h2] at hh
    cases r' with
    | nil => simp at hh
    | cons c r'' =>
      simp only [List.head?_cons, List.cons_append, Option.some.injEq] at hh
      exact ⟨r'', by rw [hh]⟩
  · simp at h

theorem readIn_cdataText (s : Bytes) : readIn (cdataText s ++ [93, 93, 62]) = some s := by
  -- `cdataText`: 1 at `]]>`, 2 at another octet, 3 at the end; `readIn.eq_2`: `]]>` and `<![CDATA[` follow,
  -- `readIn.eq_4`: what follows does not begin with `]]>`
  fun_induction cdataText s with
  | case1 r ih =>
    show readIn (93 :: 93 :: 93 :: 93 :: 62 :: 60 :: 33 :: 91 :: 67 :: 68 :: 65 :: 84 :: 65 :: 91 :: 62 :: (cdataText r ++ [93, 93, 62])) = _
    rw [readIn.eq_4 _ _ (by intro r1 _ h; simp at h), readIn.eq_4 _ _ (by intro r1 _ h; simp at h), readIn.eq_2,
      readIn.eq_4 _ _ (by intro r1 h; simp at h), ih]
    rfl
  | case2 b r hne ih =>
    show readIn (b :: (cdataText r ++ [93, 93, 62])) = _
    rw [readIn.eq_4, ih]
    · rfl
    · intro x hb hx
      obtain ⟨y, hy⟩ := cdataText_93_62 r [62] x hx
      exact hne y hb hy
  | case3 => rfl


def allText : List Node → Bool
  | [] => true
  | .text _ :: r => allText r
  | _ => false

theorem allText_noElt (kids : List Node) (h : allText kids = true) : haveChildElt kids = false := by
  induction kids with
  | nil => rfl
  | cons k r ih =>
    cases k with
    | text s => exact ih h
    | elt _ _ _ => cases h
    | cdata _ => cases h
    | tree _ _ _ => cases h

theorem xmlTag_gen (c : XCfg) (parent : Parent) (name : Name) (st : XSt) (g : Nat) :
    xmlTag { c with gen := g } parent name st =
      { xmlTag { c with gen := 0 } parent name { st with out := [] } with
        out := st.out ++ (if g == 1 then spaces (st.indent.toNat * c.delta.toNat) else []) ++
          (xmlTag { c with gen := 0 } parent name { st with out := [] }).out } := by
  unfold xmlTag
  simp only []
  split <;> split <;> simp

/-- ` name="escaped value"` -/
def attrBytes (canonical : Bool) (a : Attr) : Bytes :=
  [32] ++ cstrOf a.name.xmlName ++ b!"=\"" ++ xmlEscape canonical (cstrOf a.value) ++ [34]

theorem xmlAttrs_out (c : XCfg) (attrs : List Attr) (st : XSt) :
    attrs.foldl (fun st a => xmlAttr c a st) st =
      { st with out := st.out ++ attrs.flatMap (attrBytes (c.gen == 2)) } := by
  induction attrs generalizing st with
  | nil => simp
  | cons a rest ih =>
    simp only [List.foldl_cons, List.flatMap_cons]
    rw [ih]
    simp [xmlAttr, attrBytes]

/-- The namespace declaration `xml_encode_tag` adds (empty when none). -/
def nsDecl (c : XCfg) (parent : Parent) (name : Name) : Bytes :=
  let nsPage : Option Nat :=
    match c.lang.ns, name, parent with
    | some _, .token r, .none => some r.page
    | some _, .token r, .elt (.token pr) => if pr.page != r.page then some r.page else none
    | _, _, _ => none
  match nsPage, c.lang.ns with
  | some p, some ns => (match nsOfPageX ns p with
    | some n => b!" xmlns=\"" ++ n ++ [34]
    | none => [])
  | _, _ => []

def tagOf : Name → Option TagRow
  | .token r => some r
  | .literal _ => none

theorem xmlTag_out (c : XCfg) (parent : Parent) (name : Name) (st : XSt) :
    xmlTag c parent name st =
      { st with curTag := tagOf name,
                out := st.out ++ (if c.gen == 1 then spaces (st.indent.toNat * c.delta.toNat) else []) ++
                  [60] ++ name.xmlName ++ nsDecl c parent name } := by
  cases hns : c.lang.ns with
  | none => cases name <;> cases parent <;> simp [xmlTag, nsDecl, tagOf, hns]
  | some ns =>
    cases name with
    | literal s => cases parent <;> simp [xmlTag, nsDecl, tagOf, hns]
    | token r =>
      cases parent with
      | none =>
        simp only [xmlTag, nsDecl, tagOf, hns]
        cases nsOfPageX ns r.page <;> simp
      | other => simp [xmlTag, nsDecl, tagOf, hns]
      | elt pn =>
        cases pn with
        | literal s => simp [xmlTag, nsDecl, tagOf, hns]
        | token pr =>
          simp only [xmlTag, nsDecl, tagOf, hns]
          by_cases hp : (pr.page != r.page) = true
          · simp only [hp, ↓reduceIte]
            cases nsOfPageX ns r.page <;> simp
          · simp [hp]


/-- The white space `xml_encode_end_attrs` puts behind `/>` or `>` (indented generation only: behind an
    empty element and in front of child elements). -/
def endAttrsWs (c : XCfg) (kids : List Node) : Bytes :=
  if c.gen == 1 && (kids.isEmpty || haveChildElt kids) then newLine else []

theorem xmlEndAttrs_out (c : XCfg) (kids : List Node) (st : XSt) :
    xmlEndAttrs c kids st =
      { st with out := st.out ++ (if kids.isEmpty then b!"/>" else [62]) ++ endAttrsWs c kids,
                indent := if c.gen == 1 && haveChildElt kids then st.indent + 1 else st.indent } := by
  cases kids with
  | nil => cases hg : c.gen == 1 <;> simp [xmlEndAttrs, endAttrsWs, haveChildElt, hg]
  | cons k r =>
    simp only [xmlEndAttrs, endAttrsWs, List.isEmpty_cons, Bool.false_or, Bool.false_eq_true, if_false]
    cases c.gen == 1 && haveChildElt (k :: r) <;> simp

/-- The white space `xml_encode_end_tag` puts in front of `</name>` (indented generation, behind child
    elements: a line feed after character data, then the indentation one level up). -/
def endTagWs (c : XCfg) (kids : List Node) (st : XSt) : Bytes :=
  if c.gen == 1 && haveChildElt kids then
    (if st.inContent then newLine else []) ++ spaces ((st.indent - 1).toNat * c.delta.toNat)
  else []

theorem xmlEndTag_out (c : XCfg) (name : Name) (kids : List Node) (st : XSt) :
    xmlEndTag c name kids st =
      { st with out := st.out ++ endTagWs c kids st ++ b!"</" ++ name.xmlName ++ [62] ++
                  (if c.gen == 1 then newLine else []),
                indent := if c.gen == 1 && haveChildElt kids then st.indent - 1 else st.indent,
                inContent := false } := by
  cases hd : c.gen == 1 && haveChildElt kids <;> cases hc : st.inContent <;>
    simp [xmlEndTag, endTagWs, hd, hc, List.append_assoc]

end Wbxml.Lemmas.XmlPrint
