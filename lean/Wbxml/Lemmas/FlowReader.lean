/-
  Lemmas about the code-page reader of `Model/Flow.lean` (`tok`, `Reads`, `readGo`, `pagesAfter`).
-/
import Wbxml.Model.Flow
namespace Wbxml.Model.Flow
open Wbxml Wbxml.Model

/-! ## What is read is a prefix, and what follows it does not matter

Each helper that succeeds on `x` with `r` left over has consumed a prefix `c` (`x = c ++ r`)
and would consume the same `c` in front of any other bytes. -/

theorem skipMb_prefix (x : Bytes) {r} (h : skipMb x = some r) :
    ∃ c, x = c ++ r ∧ ∀ y, skipMb (c ++ y) = some y := by
  induction x with
  | nil => cases h
  | cons b x ih =>
    by_cases hb : b.toNat ≥ 128
    · obtain ⟨c, rfl, hc⟩ := ih (by simpa [skipMb, hb] using h)
      exact ⟨b :: c, rfl, fun y => by simpa [skipMb, hb] using hc y⟩
    · obtain rfl : x = r := by simpa [skipMb, hb] using h
      exact ⟨[b], rfl, fun y => by simp [skipMb, hb]⟩

theorem readMb_prefix (x : Bytes) (acc : Nat) {n r} (h : readMb acc x = some (n, r)) :
    ∃ c, x = c ++ r ∧ ∀ y, readMb acc (c ++ y) = some (n, y) := by
  induction x generalizing acc with
  | nil => cases h
  | cons b x ih =>
    by_cases hb : b.toNat ≥ 128
    · obtain ⟨c, rfl, hc⟩ := ih _ (by simpa [readMb, hb] using h)
      exact ⟨b :: c, rfl, fun y => by simpa [readMb, hb] using hc y⟩
    · obtain ⟨rfl, rfl⟩ : acc * 128 + b.toNat = n ∧ x = r := by simpa [readMb, hb] using h
      exact ⟨[b], rfl, fun y => by simp [readMb, hb]⟩

theorem skipStr_prefix (x : Bytes) {r} (h : skipStr x = some r) :
    ∃ c, x = c ++ r ∧ ∀ y, skipStr (c ++ y) = some y := by
  induction x with
  | nil => cases h
  | cons b x ih =>
    by_cases hb : b = 0
    · obtain rfl : x = r := by simpa [skipStr, hb] using h
      exact ⟨[b], rfl, fun y => by simp [skipStr, hb]⟩
    · obtain ⟨c, rfl, hc⟩ := ih (by simpa [skipStr, hb] using h)
      exact ⟨b :: c, rfl, fun y => by simpa [skipStr, hb] using hc y⟩

theorem skipN_prefix (n : Nat) (x : Bytes) {r} (h : skipN n x = some r) :
    ∃ c, x = c ++ r ∧ ∀ y, skipN n (c ++ y) = some y := by
  unfold skipN at h
  split at h
  · rename_i hn
    cases h
    refine ⟨x.take n, (List.take_append_drop n x).symm, fun y => ?_⟩
    have hl : (x.take n).length = n := List.length_take_of_le hn
    simp [skipN, hl, List.drop_left' hl]
  · cases h

theorem tok_prefix (a : Bool) (p : Pages) (x : Bytes) {a1 p1 rest} (h : tok a p x = some (a1, p1, rest)) :
    ∃ c, c ≠ [] ∧ x = c ++ rest ∧ ∀ y, tok a p (c ++ y) = some (a1, p1, y) := by
  cases x with
  | nil => cases h
  | cons b r =>
    simp only [tok] at h
    cases hk : tokKind a b.toNat with
    | switchPage =>
      simp only [hk] at h
      cases r with
      | nil => cases h
      | cons pg r' =>
        cases h
        exact ⟨[b, pg], List.cons_ne_nil _ _, rfl, fun y => by simp [tok, hk]⟩
    | single a' =>
      simp only [hk] at h
      cases h
      exact ⟨[b], List.cons_ne_nil _ _, rfl, fun y => by simp [tok, hk]⟩
    | mb a' =>
      simp only [hk] at h
      cases hs : skipMb r with
      | none => simp [hs] at h
      | some r' =>
        simp only [hs] at h
        cases h
        obtain ⟨c, rfl, hc⟩ := skipMb_prefix r hs
        exact ⟨b :: c, List.cons_ne_nil _ _, rfl, fun y => by simp [tok, hk, hc]⟩
    | str =>
      simp only [hk] at h
      cases hs : skipStr r with
      | none => simp [hs] at h
      | some r' =>
        simp only [hs] at h
        cases h
        obtain ⟨c, rfl, hc⟩ := skipStr_prefix r hs
        exact ⟨b :: c, List.cons_ne_nil _ _, rfl, fun y => by simp [tok, hk, hc]⟩
    | opaq =>
      simp only [hk] at h
      cases hm : readMb 0 r with
      | none => simp [hm] at h
      | some nr =>
        obtain ⟨n, r'⟩ := nr
        simp only [hm] at h
        cases hs : skipN n r' with
        | none => simp [hs] at h
        | some r'' =>
          simp only [hs] at h
          cases h
          obtain ⟨c1, rfl, hc1⟩ := readMb_prefix r 0 hm
          obtain ⟨c2, rfl, hc2⟩ := skipN_prefix n r' hs
          exact ⟨b :: (c1 ++ c2), List.cons_ne_nil _ _, by simp,
            fun y => by simp [tok, hk, List.append_assoc, hc1, hc2]⟩

theorem tok_append (a : Bool) (p : Pages) (x y : Bytes) {a1 p1 rest}
    (h : tok a p x = some (a1, p1, rest)) : tok a p (x ++ y) = some (a1, p1, rest ++ y) := by
  obtain ⟨c, _, rfl, hc⟩ := tok_prefix a p x h
  rw [List.append_assoc]
  exact hc _

theorem tok_length (a : Bool) (p : Pages) (x : Bytes) {a1 p1 rest}
    (h : tok a p x = some (a1, p1, rest)) : rest.length < x.length := by
  obtain ⟨c, hne, rfl, _⟩ := tok_prefix a p x h
  have := List.length_pos_iff.mpr hne
  simp only [List.length_append]
  omega

theorem Reads.append {a p x a1 p1 y a2 p2} (h1 : Reads a p x a1 p1) (h2 : Reads a1 p1 y a2 p2) :
    Reads a p (x ++ y) a2 p2 := by
  induction h1 with
  | nil a p => simpa using h2
  | step ht _ ih => exact Reads.step (tok_append _ _ _ y ht) (ih h2)

theorem Reads.det {a p x a1 p1 a2 p2} (h1 : Reads a p x a1 p1) (h2 : Reads a p x a2 p2) :
    a1 = a2 ∧ p1 = p2 := by
  induction h1 with
  | nil a p =>
    cases h2 with
    | nil => exact ⟨rfl, rfl⟩
    | step ht _ => simp [tok] at ht
  | step ht _ ih =>
    cases h2 with
    | nil => simp [tok] at ht
    | step ht' hr' =>
      rw [ht] at ht'
      cases ht'
      exact ih hr'

theorem readGo_sound (f : Nat) (a : Bool) (p : Pages) (bs : Bytes) {a' p'}
    (h : readGo f a p bs = some (a', p')) : Reads a p bs a' p' := by
  induction f generalizing a p bs with
  | zero => simp [readGo] at h
  | succ f ih =>
    cases bs with
    | nil => simp only [readGo] at h; cases h; exact Reads.nil _ _
    | cons b r =>
      simp only [readGo] at h
      cases ht : tok a p (b :: r) with
      | none => simp [ht] at h
      | some v =>
        simp only [ht] at h
        exact Reads.step ht (ih _ _ _ h)

/-- `length + 1` units of fuel are enough: every token consumes a byte. -/
theorem readGo_complete {a p bs a' p'} (h : Reads a p bs a' p') (f : Nat) (hf : bs.length < f) :
    readGo f a p bs = some (a', p') := by
  induction h generalizing f with
  | nil a p =>
    cases f with
    | zero => omega
    | succ f => rfl
  | @step a p bs a1 p1 rest a2 p2 ht _ ih =>
    cases f with
    | zero => omega
    | succ f =>
      cases bs with
      | nil => simp [tok] at ht
      | cons b r =>
        have hl := tok_length _ _ _ ht
        simp only [readGo, ht]
        exact ih f (by simp only [List.length_cons] at hl hf; omega)

theorem pagesAfter_iff (p : Pages) (bs : Bytes) (p' : Pages) :
    pagesAfter p bs = some p' ↔ Reads false p bs false p' := by
  constructor
  · intro h
    unfold pagesAfter at h
    cases hg : readGo (bs.length + 1) false p bs with
    | none => simp [hg] at h
    | some v =>
      obtain ⟨a1, p1⟩ := v
      cases a1 with
      | true => simp [hg] at h
      | false => simp only [hg] at h; cases h; exact readGo_sound _ _ _ _ hg
  · intro h
    unfold pagesAfter
    rw [readGo_complete h (bs.length + 1) (Nat.lt_succ_self _)]

theorem pagesAfter_nil (p : Pages) : pagesAfter p [] = some p :=
  (pagesAfter_iff p [] p).2 (Reads.nil _ _)

theorem pagesAfter_append {p x p1 y p2} (h1 : pagesAfter p x = some p1) (h2 : pagesAfter p1 y = some p2) :
    pagesAfter p (x ++ y) = some p2 :=
  (pagesAfter_iff _ _ _).2 (((pagesAfter_iff _ _ _).1 h1).append ((pagesAfter_iff _ _ _).1 h2))

end Wbxml.Model.Flow
