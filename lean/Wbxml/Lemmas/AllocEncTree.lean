/-
  C16 — `encoder_encode_tree` and `wbxml_tree_to_wbxml` with and without string table, on top of the
  specification of `wbxml_strtbl_initialize` (`Lemmas/AllocInit.lean`).
-/
import Wbxml.Lemmas.AllocInit
namespace Wbxml.Model.Alloc
open Wbxml

/-- Request numbers of a run of `wbxml_strtbl_initialize` started in ledger `s` whose failure is
    benign: the `wbxml_list_append` calls of `wbxml_strtbl_collect_strings`, and every request of the
    second `wbxml_strtbl_check_references` (those issued after `initPrefix`). -/
def InitBenign (e : AEnc) (texts : List ABuf) (s : Ledger) (k : Nat) : Prop :=
  collectWindow texts s k ∨
  ((run (initPrefix e texts) s).2.next < k ∧ k ≤ (run (strtblInitialize e texts) s).2.next)

/-- … seen from `encoder_encode_tree` (which first creates the output buffer). -/
def EncBenign (e : AEnc) (texts : List ABuf) (s : Ledger) (k : Nat) : Prop :=
  e.useStrtbl = true ∧ ∃ e1 s1, run (encInitOutput e) s = (.ok (e1, true), s1) ∧ InitBenign e1 texts s1 k

/-- … seen from `wbxml_tree_to_wbxml` (which first creates the encoder). -/
def TreeBenign (useStrtbl : Bool) (texts : List ABuf) (s : Ledger) (k : Nat) : Prop :=
  ∃ e0 s1, run encCreate s = (.ok (some e0), s1) ∧ EncBenign { e0 with useStrtbl := useStrtbl } texts s1 k

/-- An entry of the string table that owns its string: the string is live and is not the output
    buffer. -/
theorem tbl_string_owned {e : AEnc} {l : AList StrElt} (hl : e.strstbl = some l) {x : StrElt} (hx : x ∈ l.items)
    (hs : x.stat = false) {s : Ledger} (own : Owns s e.owned) :
    x.string.hdr ∈ s.live ∧ x.string.hdr ∉ ownedBufOpt e.output := by
  rw [AEnc.owned_eq, hl] at own
  obtain ⟨_, _, own'⟩ := Owns.cons_iff.1 own
  obtain ⟨oL, _, dis⟩ := Owns.append_iff.1 own'
  have hm : x.string.hdr ∈ listOwned StrElt.owned (some l) := by
    obtain ⟨c, hc, rfl⟩ := List.mem_map.1 hx
    simp only [listOwned]
    refine List.mem_cons_of_mem _ (List.mem_flatMap.2 ⟨c, hc, ?_⟩)
    simp [StrElt.owned, hs, ABuf.owned]
  exact ⟨oL.2 _ hm, dis _ hm⟩

/-- What `encoder_encode_tree` guarantees on every exit: the encoder stays the caller's; the strings of
    its table are live and none of the output buffer's blocks; every failed request that is not benign
    is reported. -/
abbrev EncTreePost (e : AEnc) (texts : List ABuf) (s : Ledger) (r : AEnc × Nat) (s' : Ledger) : Prop :=
  EncStep e s r.1 s' ∧
  (∀ l, r.1.strstbl = some l → ∀ x ∈ l.items, x.string.hdr ∈ s'.live ∧ x.string.hdr ∉ ownedBufOpt r.1.output) ∧
  (TblInv e → TblInv r.1) ∧ Reported s s' (EncBenign e texts s) (r.2 ≠ OK)

theorem encodeTree_spec (texts : List ABuf) (body : List Bytes) (e : AEnc) (s : Ledger) (wf : s.WF)
    (own : Owns s e.owned) (hout : e.output = none)
    (htx : ∀ t ∈ texts, t.hdr ∈ s.live ∧ t.hdr ∉ e.owned)
    (htbl : ∀ l, e.strstbl = some l → l.items = []) :
    Good (encodeTree e texts body) s (EncTreePost e texts s) := by
  -- every exit: the table entries own their strings, which therefore are none of the output buffer's blocks
  have hexit : ∀ {s' : Ledger} {F : Prop} (e' : AEnc) (ret : Nat), Sofar s s' e.owned e'.owned (EncBenign e texts s) F →
      (F → ret ≠ OK) → EncGrew e e' → (∀ o, e'.output = some o → o.ok) → EncTreePost e texts s (e', ret) s' := by
    intro s' F e' ret sf hF k ok
    refine ⟨⟨k.hdr, sf.clean, ok, k.useStrtbl⟩, fun l hl x hx => tbl_string_owned hl hx ?_ sf.clean.owns, k.inv,
      sf.rep.mono (fun _ _ _ => id) hF⟩
    exact (k.grew l hl x hx).elim (fun ⟨l0, hl0, hx0⟩ => by rw [htbl l0 hl0] at hx0; cases hx0) id
  unfold encodeTree
  refine Good.next [] [] wf (.start (ben := EncBenign e texts s) (F := False) wf own) (encInitOutput_tri e (by simp [hout]))
    (by simp) nofun ?_
  rintro ⟨e1, ok⟩ s1 sf1 hr1 ⟨⟨eh1, ok1, u1⟩, et1, el1, ho1⟩
  simp only [List.nil_append, List.append_nil] at sf1 eh1 ok1 u1 et1 el1 ho1 ⊢
  have k1 : EncGrew e e1 := .of_eq eh1 u1 et1 el1
  cases ok with
  | false => exact good_ret.2 (hexit e1 ENOMEM sf1 (fun _ => ENOMEM_ne_OK) k1 ok1)
  | true =>
    obtain ⟨o1, ho1'⟩ := Option.isSome_iff_exists.1 (ho1 rfl)
    -- the rest: the body, unless the string table could not be made
    have hrest : ∀ {F : Prop} (e2 : AEnc) (ret2 : Nat) (s2 : Ledger), Sofar s s2 e.owned e2.owned (EncBenign e texts s) F →
        (F → ret2 ≠ OK) → EncGrew e e2 → e2.output = e1.output →
        Good (if (ret2 != OK) = true then Prog.ret (e2, ret2) else encodeBody e2 body) s2 (EncTreePost e texts s) := by
      intro F e2 ret2 s2 sf2 hF k2 eo2
      have ho2 : e2.output = some o1 := eo2.trans ho1'
      have ok2 : ∀ o, e2.output = some o → o.ok := fun o ho => ok1 o (eo2 ▸ ho)
      refine Good.if_ne_ok (fun hret => good_ret.2 (hexit e2 ret2 sf2 (fun _ => hret) k2 ok2)) fun hret => ?_
      subst hret
      rw [← Prog.bind_ret (encodeBody e2 body)]
      refine Good.next (e2.hdr :: ownedStrList e2.strstbl) [] wf sf2 (encodeBody_tri body e2 o1 ho2 (ok2 o1 ho2))
        (by rw [AEnc.owned_out ho2, List.append_nil]) nofun ?_
      rintro ⟨e3, ret3⟩ s3 sf3 _ ⟨⟨eh3, ok3, u3⟩, et3, el3, ho3⟩
      obtain ⟨o3, ho3'⟩ := Option.isSome_iff_exists.1 ho3
      refine good_ret.2 (hexit e3 ret3 (sf3.perm ?_ id) (fun f => f.elim (fun f => absurd rfl (hF f)) id)
        (k2.trans (.of_eq eh3 u3 et3 el3)) ok3)
      rw [AEnc.owned_out ho3', ho3', ownedBufOpt, List.append_nil, eh3, et3]
    by_cases hu : e1.useStrtbl = true
    · simp only [hu, if_true]
      have htx1 : ∀ t ∈ texts, t.hdr ∈ s1.live ∧ t.hdr ∉ e1.owned := fun t ht => sf1.clean.outside wf (htx t ht).1 (htx t ht).2
      refine Good.next_rep [] [] (A := e1.owned) (b := InitBenign e1 texts s1) (own := fun r => r.1.owned) (EA := fun r => r.2 ≠ OK)
        (X := fun r _ => TblKept e1 r.1) wf sf1 (by simp) (fun o => ?_) ?_ ?_
      · refine (strtblInitialize_spec e1 texts s1 sf1.clean.wf o htx1).with_run.mono ?_
        rintro r s2 ⟨⟨k, d, h⟩, hr⟩
        exact ⟨d, fun k hf a1 a2 hnb => h k hf a1 a2 (fun hw => hnb (.inl hw)) fun hk => hnb (.inr ⟨hk, by rw [hr]; exact a2⟩), k⟩
      · exact fun _ _ _ _ k _ _ hb => ⟨u1 ▸ hu, e1, s1, hr1, hb⟩
      · rintro ⟨e2, ret2⟩ s2 sf2 _ k
        simp only [List.nil_append, List.append_nil] at sf2
        exact hrest e2 ret2 s2 sf2 (fun f => f.resolve_left (by simp)) (k1.trans k.toEncGrew) k.output
    · simp only [hu, Bool.false_eq_true, if_false]
      exact hrest e1 OK s1 sf1 (by simp) k1 rfl

/-- `wbxml_tree_to_wbxml`: create the encoder, `encoder_encode_tree`, `wbxml_build_result`, destroy
    the encoder — once, whatever happened.  With or without string table: no fault, nothing but the
    result stays allocated, no result with an error code, and every failed request that is not one of
    the benign ones (`TreeBenign`) yields an error code. -/
theorem treeToWbxml_spec (useStrtbl : Bool) (texts : List ABuf) (body : List Bytes) (version publicId : Nat)
    (s : Ledger) (wf : s.WF) (htx : ∀ t ∈ texts, t.hdr ∈ s.live) :
    Good (treeToWbxml useStrtbl texts body version publicId) s (fun r s' =>
      Clean s s' [] (ownedResult r.2) ∧ (r.1 ≠ OK → r.2 = none) ∧
      Reported s s' (TreeBenign useStrtbl texts s) (r.1 ≠ OK)) := by
  have hexit : ∀ {s' : Ledger} {P : List Nat} {F : Prop} (r : Nat × Option (Nat × Bytes)),
      Sofar s s' [] P (TreeBenign useStrtbl texts s) F → P.Perm (ownedResult r.2) → (F → r.1 ≠ OK) → (r.1 ≠ OK → r.2 = none) →
      Clean s s' [] (ownedResult r.2) ∧ (r.1 ≠ OK → r.2 = none) ∧ Reported s s' (TreeBenign useStrtbl texts s) (r.1 ≠ OK) :=
    fun r sf hp hF hn => ⟨(sf.perm hp hF).clean, hn, (sf.perm hp hF).rep⟩
  unfold treeToWbxml
  refine Good.next [] [] wf (.start (ben := TreeBenign useStrtbl texts s) (F := False) wf (.nil s)) encCreate_tri (.refl _) nofun ?_
  rintro (_ | e0) s1 sf1 hr1 k1 <;> dsimp only
  · exact good_ret.2 (hexit (ENOMEM, none) sf1 (.refl _) (fun _ => ENOMEM_ne_OK) fun _ => rfl)
  obtain ⟨ho0, l0, hl0, hc0⟩ := k1 e0 rfl
  have sf1 : Sofar s s1 [] ({ e0 with useStrtbl := useStrtbl } : AEnc).owned (TreeBenign useStrtbl texts s) False :=
    sf1.perm (by simp [ownedEncOpt, AEnc.owned_eq]) (by simp)
  refine Good.next_rep [] [] (A := ({ e0 with useStrtbl := useStrtbl } : AEnc).owned)
    (b := EncBenign { e0 with useStrtbl := useStrtbl } texts s1) (own := fun r => r.1.owned)
    (EA := fun r => r.2 ≠ OK) (X := fun r s' => (∀ o, r.1.output = some o → o.ok) ∧
      ∀ l, r.1.strstbl = some l → ∀ x ∈ l.items, x.string.hdr ∈ s'.live) wf sf1 (by simp) (fun o => ?_) ?_ ?_
  · exact (encodeTree_spec texts body { e0 with useStrtbl := useStrtbl } s1 sf1.clean.wf o (by simpa using ho0)
      (fun t ht => sf1.clean.outside wf (htx t ht) List.not_mem_nil)
      (by intro l hl; simp only at hl; rw [hl0] at hl; cases hl; simp [AList.items, hc0])).mono
      fun r s2 ⟨⟨_, c, ok, _⟩, hs, _, rep⟩ => ⟨c, rep, ok, fun l hl x hx => (hs l hl x hx).1⟩
  · exact fun _ _ _ _ k _ _ hb => ⟨e0, s1, hr1, hb⟩
  rintro ⟨e2, ret⟩ s2 sf2 _ ⟨ok2, hs2⟩
  refine Good.if_ne_ok (fun hret => ?_) fun hret => ?_
  · refine Good.next [] [] wf sf2 (encDestroy_frees (some e2)).tri (by simp [ownedEncOpt]) nofun fun _ s4 sf4 _ _ => ?_
    exact good_ret.2 (hexit (ret, none) sf4 (by simp [ownedResult]) (fun _ => hret) fun _ => rfl)
  subst hret
  refine Good.next e2.owned [] wf sf2 (buildResult_tri e2 version publicId ok2) (by simp)
    (AEnc.reads_live (sf2.clean.mem_live List.mem_cons_self)
      (fun o ho => sf2.clean.mem_live (by simp [AEnc.owned_eq, ho, ownedBufOpt, ABuf.owned])) hs2) ?_
  rintro ⟨ret3, out⟩ s3 sf3 _ e3
  refine Good.next [] (ownedResult out) wf sf3 (encDestroy_frees (some e2)).tri (by simp [ownedEncOpt]) nofun fun _ s4 sf4 _ _ => ?_
  exact good_ret.2 (hexit (ret3, out) sf4 (by simp) (fun f => f.elim (fun f => f.resolve_left (by simp)) False.elim) e3)

end Wbxml.Model.Alloc
