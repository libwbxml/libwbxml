/-
  `parse_ser`: the `is_attr_value` look-ahead (its FIRST and FOLLOW facts), then the productions:
  attribute values, attribute starts, attributes, attribute lists and processing instructions.
-/
import Wbxml.Lemmas.ParseSerLex
import Wbxml.Lemmas.SpecWbxml
namespace Wbxml.Lemmas.ParseSer
open Wbxml Wbxml.Model Wbxml.Spec
open Wbxml.Lemmas.ParserSafe (itemOf attrValueStep parseAttrValue_eq attrTyped parseAttribute_eq)

theorem valTok_class (t : Nat) (h : isAttrValueTok t = true) : t < 256 ∧ 128 ≤ t ∧ 4 ≤ t % 64 := by
  simp only [isAttrValueTok, Bool.or_eq_true, Bool.and_eq_true, decide_eq_true_eq] at h; omega

theorem startTok_class (t : Nat) (h : isAttrStartTok t = true) : t < 128 ∧ 5 ≤ t % 64 := by
  simp only [isAttrStartTok, Bool.or_eq_true, Bool.and_eq_true, decide_eq_true_eq] at h; omega

@[simp] theorem isString_cons (c : Ctx) (ver) (b : UInt8) (r : Bytes) (tp ap cur) :
    isString (st c ver (b :: r) tp ap cur) = (b == 0x03 || b == 0x83) := by
  simp [isString]

theorem isToken_serSw (c : Ctx) (ver) (sw : Option Nat) (b t : UInt8) (hb : (b == t) = false)
    (ht : ((0 : UInt8) == t) = false) (r : Bytes) (tp ap cur) :
    isToken (st c ver (serSw sw ++ b :: r) tp ap cur) t = false := by
  cases sw <;> simp only [serSw, List.nil_append, List.cons_append, isToken_cons, hb, ht]

theorem isAttrValue_cons (c : Ctx) (ver) (b : UInt8) (hb : (b == 0) = false) (r : Bytes) (tp ap cur) :
    isAttrValue (st c ver (b :: r) tp ap cur) =
      ((b.toNat &&& 0x80 == 0x80) || (b == 0x03 || b == 0x83) || isExtToken b || b == 0x02 || b == 0xC3) := by
  simp only [isAttrValue, peekAt_zero, isToken_cons, hb, Bool.false_eq_true, ↓reduceIte, isString_cons,
    isExtension_cons c ver b hb]

theorem isAttrValue_sw (c : Ctx) (ver) (p b : UInt8) (r : Bytes) (tp ap cur) :
    isAttrValue (st c ver (0 :: p :: b :: r) tp ap cur) = ((b.toNat &&& 0x80 == 0x80) || isExtToken b) := by
  simp only [isAttrValue, peekAt_zero, isToken_cons, beq_self_eq_true, ↓reduceIte, peekAt_two, isString_cons,
    isExtension_sw]
  by_cases h : (b.toNat &&& 0x80 == 0x80) = true <;> simp [h]

theorem isAttrValue_serSw (c : Ctx) (ver) (sw : Option Nat) (b : UInt8) (h0 : (b == 0) = false)
    (h2 : (b == 2) = false) (h3 : (b == 3) = false) (h83 : (b == 0x83) = false) (hc3 : (b == 0xC3) = false)
    (r : Bytes) (tp ap cur) :
    isAttrValue (st c ver (serSw sw ++ b :: r) tp ap cur) = (decide (128 ≤ b.toNat) || isExtToken b) := by
  cases sw with
  | none => simp only [serSw, List.nil_append, isAttrValue_cons c ver b h0, h2, h3, h83, hc3, hi_bit,
      Bool.or_self, Bool.or_false]
  | some p => simp only [serSw, List.cons_append, List.nil_append, isAttrValue_sw, hi_bit]

/-- What follows an attribute's value pieces makes the look-ahead answer "no": `END` or the next
    attribute start. -/
def Stops (c : Ctx) (ver : Nat) (suf : Bytes) : Prop :=
  ∀ tp ap cur, isAttrValue (st c ver suf tp ap cur) = false

theorem stops_END (c : Ctx) (ver) (suf : Bytes) : Stops c ver (0x01 :: suf) := by
  intro tp ap cur
  rw [isAttrValue_cons c ver 1 (by decide)]
  decide

/-- FIRST(attrStart): behind an optional page switch an octet below `0x80` that is no global token. -/
theorem serAStart_first (c : Ctx) (ap0 : Nat) (a : AStart) (ha : wfAStart c ap0 a = true) :
    ∃ sw b t, serAStart a = serSw sw ++ b :: t ∧ b.toNat < 128 ∧ 4 ≤ b.toNat % 64 := by
  cases a with
  | tok sw t =>
    simp only [wfAStart, Bool.and_eq_true] at ha
    obtain ⟨hlt, h5⟩ := startTok_class t ha.1.2
    refine ⟨sw, byte t, [], rfl, ?_⟩
    rw [byte_toNat t (by omega)]; omega
  | lit off => exact ⟨none, 4, mb off, rfl, by decide, by decide⟩

theorem stops_serAStart (c : Ctx) (ver) (ap0 : Nat) (a : AStart) (ha : wfAStart c ap0 a = true) (suf : Bytes) :
    Stops c ver (serAStart a ++ suf) := by
  intro tp ap cur
  obtain ⟨sw, b, t, hs, hlt, h4⟩ := serAStart_first c ap0 a ha
  obtain ⟨f0, -, f2, f3, -, f83, fc3, fe⟩ := not_global b h4
  rw [hs, List.append_assoc, List.cons_append, isAttrValue_serSw c ver sw _ f0 f2 f3 f83 fc3, fe, Bool.or_false,
    decide_eq_false_iff_not]
  omega

theorem isAttrValue_serAVal (c : Ctx) (ver) (ap0 : Nat) (v : AVal) (hv : wfAVal c ap0 v = true) (suf : Bytes)
    (tp ap cur) : isAttrValue (st c ver (serAVal v ++ suf) tp ap cur) = true := by
  cases v with
  | tok sw t =>
    simp only [wfAVal, Bool.and_eq_true] at hv
    obtain ⟨hlt, hhi, h4⟩ := valTok_class t hv.1.2
    have hn := byte_toNat t hlt
    obtain ⟨f0, -, f2, f3, -, f83, fc3, -⟩ := not_global (byte t) (by rw [hn]; exact h4)
    rw [serAVal, List.append_assoc, List.cons_append, List.nil_append,
      isAttrValue_serSw c ver sw _ f0 f2 f3 f83 fc3, hn, decide_eq_true hhi, Bool.true_or]
  | str s =>
    cases s with
    | inl s => simp only [serAVal, serStr, List.cons_append]; rw [isAttrValue_cons c ver _ (by decide)]; decide
    | tbl off => simp only [serAVal, serStr, List.cons_append]; rw [isAttrValue_cons c ver _ (by decide)]; decide
  | entity code =>
    simp only [serAVal, List.cons_append]; rw [isAttrValue_cons c ver _ (by decide)]; decide
  | «opaque» d =>
    simp only [serAVal, serOpaque, List.cons_append]; rw [isAttrValue_cons c ver _ (by decide)]; decide
  | ext sw x =>
    simp only [wfAVal, Bool.and_eq_true] at hv
    obtain ⟨hb0, hbe⟩ := extByte_facts c x hv.2
    obtain ⟨-, -, f2, f3, f83, fc3, -⟩ := extTok_facts _ hbe
    rw [serAVal, serExt_eq, List.append_assoc, List.cons_append,
      isAttrValue_serSw c ver sw _ hb0 f2 f3 f83 fc3, hbe, Bool.or_true]

theorem notEnd_serAStart (c : Ctx) (ver) (ap0 : Nat) (a : AStart) (ha : wfAStart c ap0 a = true) (r : Bytes)
    (tp ap cur) : isToken (st c ver (serAStart a ++ r) tp ap cur) 0x01 = false := by
  obtain ⟨sw, b, t, hs, -, h4⟩ := serAStart_first c ap0 a ha
  rw [hs, List.append_assoc, List.cons_append]
  exact isToken_serSw c ver sw _ _ (not_global b h4).2.1 (by decide) _ tp ap cur

/-- A value piece does not begin with `END`: there the look-ahead would say "no". -/
theorem notEnd_serAVal (c : Ctx) (ver) (ap0 : Nat) (v : AVal) (hv : wfAVal c ap0 v = true) (r : Bytes)
    (tp ap cur) : isToken (st c ver (serAVal v ++ r) tp ap cur) 0x01 = false := by
  have h := isAttrValue_serAVal c ver ap0 v hv r tp ap cur
  cases hs : serAVal v ++ r with
  | nil => exact isToken_nil c ver tp ap cur 1
  | cons b t =>
    rw [hs] at h
    rw [isToken_cons, beq_eq_false_iff_ne]
    rintro rfl
    rw [stops_END c ver t tp ap cur] at h
    cases h

/-- The piece as the parser returns it (`none` = an extension that carries no text). -/
def avalOpt (c : Ctx) (ap : Nat) : AVal → Option Bytes
  | .ext _ x => extText c x
  | v => some (avalText c ap v).1

theorem avalOpt_getD (c : Ctx) (ap : Nat) (v : AVal) : (avalOpt c ap v).getD [] = (avalText c ap v).1 := by
  cases v <;> rfl

theorem parseAttrValue_ser (c : Ctx) (ver) (hc : c.ok = true) (ap : Nat) (v : AVal)
    (hv : wfAVal c ap v = true) (suf : Bytes) (tp cur) :
    parseAttrValue (st c ver (serAVal v ++ suf) tp ap cur) =
      .ok (avalOpt c ap v, st c ver suf tp (avalText c ap v).2 cur) := by
  rw [parseAttrValue_eq]
  cases v with
  | tok sw t =>
    simp only [wfAVal, Bool.and_eq_true] at hv
    obtain ⟨⟨hsw, ht⟩, hrow⟩ := hv
    obtain ⟨hlt, -, h4⟩ := valTok_class t ht
    have hn := byte_toNat t hlt
    obtain ⟨f0, -, -, -, -, -, -, fe⟩ := not_global (byte t) (by rw [hn]; exact h4)
    obtain ⟨row, hrow⟩ := Option.isSome_iff_exists.mp hrow
    have hfind := hrow
    simp only [valRow] at hfind
    -- a value token is in the class of everything the tests do not name, with or without a page switch
    have hk : attrValueStep (st c ver (serSw sw ++ byte t :: suf) tp ap cur)
        (itemOf (st c ver (serSw sw ++ byte t :: suf) tp ap cur)) =
        attrValueStep (st c ver (serSw sw ++ byte t :: suf) tp ap cur) .elem := by
      rw [itemOf_serSw c ver sw _ f0]
      cases sw <;> simp only [kindOf_elem _ (by rw [hn]; exact h4), fe, Bool.false_eq_true, ↓reduceIte] <;> rfl
    cases hvals : c.lang.values with
    | none => simp [hvals] at hfind
    | some vals =>
      simp only [hvals] at hfind
      rw [serAVal, List.append_assoc, List.singleton_append, hk]
      simp only [attrValueStep, optSwitch_bind _ false c ver sw hsw _ f0, parseU8_cons, ok_bind, hvals, hn,
        cond_false, hfind, avalOpt, avalText, hrow, Option.map_some, Option.getD_some]
      rfl
  | str s =>
    simp only [wfAVal] at hv
    rw [serAVal, itemOf_str]
    simp only [attrValueStep, parseString_ser c ver hc s hv, ok_bind, avalOpt, avalText]; rfl
  | entity code =>
    simp only [wfAVal] at hv
    rw [serAVal, List.cons_append, itemOf_entity]
    simp only [attrValueStep, parseEntity_ser c ver code hv, ok_bind, avalOpt, avalText]; rfl
  | «opaque» d =>
    simp only [wfAVal, Bool.and_eq_true, decide_eq_true_eq] at hv
    obtain ⟨hlen, hdec⟩ := hv
    obtain ⟨b, hb⟩ := Option.isSome_iff_exists.mp hdec
    rw [serAVal, itemOf_opaque]
    simp only [attrValueStep, parseOpaque_ser c ver d hlen, ok_bind, opaqueAttrText_eq_some hb, avalOpt, avalText, hb, Option.getD_some]
    rfl
  | ext sw x =>
    simp only [wfAVal, Bool.and_eq_true] at hv
    rw [serAVal, List.append_assoc, itemOf_ext c ver sw x hv.2]
    simp only [attrValueStep, parseExtension_ser c ver hc false sw hv.1 x hv.2, cond_false, avalOpt, avalText]

theorem serAVal_length (v : AVal) : 1 ≤ (serAVal v).length := by
  cases v with
  | tok sw t => simp [serAVal]
  | str s => cases s <;> simp [serAVal, serStr]
  | entity code => simp [serAVal]
  | «opaque» d => simp [serAVal, serOpaque]
  | ext sw x => cases x <;> simp [serAVal, serExt] <;> omega

theorem attrValueLoop_ser (c : Ctx) (ver) (hc : c.ok = true) (vs : List AVal) : ∀ (ap : Nat)
    (_ : wfAVals c ap vs = true) (suf : Bytes) (_ : Stops c ver suf) (f : Nat) (_ : (serAVals vs).length < f)
    (acc : Bytes) (tp cur),
    attrValueLoop f acc (st c ver (serAVals vs ++ suf) tp ap cur) =
      .ok (acc ++ (avalsText c ap vs).1, st c ver suf tp (avalsText c ap vs).2 cur) := by
  induction vs with
  | nil =>
    intro ap _ suf hstop f hf acc tp cur
    obtain ⟨f', rfl⟩ := Nat.exists_eq_add_one.mpr (Nat.zero_lt_of_lt hf)
    simp only [serAVals, List.nil_append, attrValueLoop, hstop tp ap cur, Bool.false_eq_true, ↓reduceIte,
      avalsText, List.append_nil, pure, Except.pure]
  | cons v vs ih =>
    intro ap hwf suf hstop f hf acc tp cur
    obtain ⟨f', rfl⟩ := Nat.exists_eq_add_one.mpr (Nat.zero_lt_of_lt hf)
    simp only [wfAVals, Bool.and_eq_true] at hwf
    simp only [serAVals, List.append_assoc, attrValueLoop, isAttrValue_serAVal c ver ap v hwf.1, ↓reduceIte,
      bind, Except.bind, parseAttrValue_ser c ver hc ap v hwf.1, avalOpt_getD]
    rw [ih _ hwf.2 suf hstop f' (by have := serAVal_length v; simp only [serAVals, List.length_append] at hf; omega)]
    simp only [avalsText, List.append_assoc]

/-- The value prefix as the parser returns it (`none` = the row has no prefix / literal name). -/
def astartOpt (c : Ctx) (ap : Nat) : AStart → Option Bytes
  | .tok sw t => (attrRow c (swPage sw ap) t).bind (·.value)
  | .lit _ => none

theorem astartOpt_getD (c : Ctx) (ap : Nat) (a : AStart) (ha : wfAStart c ap a = true) :
    (astartOpt c ap a).getD [] = (astartName c ap a).2.1 := by
  cases a with
  | tok sw t =>
    simp only [wfAStart, Bool.and_eq_true] at ha
    obtain ⟨row, hrow⟩ := Option.isSome_iff_exists.mp ha.2
    simp [astartOpt, astartName, hrow]
  | lit off => rfl

theorem parseAttrStart_ser (c : Ctx) (ver) (hc : c.ok = true) (ap : Nat) (a : AStart)
    (ha : wfAStart c ap a = true) (suf : Bytes) (tp cur) :
    parseAttrStart (st c ver (serAStart a ++ suf) tp ap cur) =
      .ok (((astartName c ap a).1, astartOpt c ap a), st c ver suf tp (astartName c ap a).2.2 cur) := by
  cases a with
  | tok sw t =>
    simp only [wfAStart, Bool.and_eq_true] at ha
    obtain ⟨⟨hsw, ht⟩, hrow⟩ := ha
    obtain ⟨hlt, h5⟩ := startTok_class t ht
    have hn := byte_toNat t (by omega)
    have f0 := (not_global (byte t) (by rw [hn]; omega)).1
    have f4 : (byte t == 4) = false := by
      rw [beq_eq_toNat_beq, hn, beq_eq_false_iff_ne]; show t ≠ 4; omega
    obtain ⟨row, hrow⟩ := Option.isSome_iff_exists.mp hrow
    have hfind := hrow
    simp only [attrRow] at hfind
    cases hattrs : c.lang.attrs with
    | none => simp [hattrs] at hfind
    | some attrs =>
      simp only [hattrs] at hfind
      simp only [parseAttrStart, serAStart, List.append_assoc, List.cons_append, List.nil_append,
        isToken_serSw c ver sw _ _ f4 (by decide), Bool.false_eq_true, ↓reduceIte,
        optSwitch_bind _ false c ver sw hsw _ f0]
      simp only [parseU8_cons, bind, Except.bind, hattrs, hn, cond_false, hfind, pure, Except.pure, astartName,
        astartOpt, hrow, Option.bind_some]
  | lit off =>
    simp only [wfAStart, Bool.and_eq_true, decide_eq_true_eq] at ha
    unfold parseAttrStart
    simp only [serAStart, List.cons_append, isToken_cons, beq_self_eq_true, ↓reduceIte, bind, Except.bind,
      parseLiteral_ser c ver hc ha.1 4 off ha.2, pure, Except.pure, astartName, astartOpt]

theorem attrTyped_spec (c : Ctx) (name : AName) (v : Bytes) :
    attrTyped (some c.lang) name v =
      if (!v.isEmpty && isDatetimeAttr c name) = true then decodeDatetime v else .ok v := by
  unfold attrTyped
  cases name with
  | literal s => simp [isDatetimeAttr]
  | token r =>
    by_cases he : (!v.isEmpty) = true
    · simp only [he, ↓reduceIte, Bool.true_and, isDatetimeAttr, Bool.or_eq_true]
      by_cases h1 : (c.lang.id == 1301 && r.page == 0 && (r.token == 0x0a || r.token == 0x10)) = true <;>
        by_cases h2 : (c.lang.id == 1701 && r.page == 0 && r.token == 0x05) = true <;> simp [h1, h2]
    · simp [he]

theorem attrTyped_of_text (c : Ctx) (name : AName) (v b : Bytes) (h : attrValueText c name v = some b) :
    attrTyped (some c.lang) name v = .ok b := by
  rw [attrTyped_spec]
  unfold attrValueText at h
  split at h
  · rw [if_pos (by assumption)]
    cases hd : decodeDatetime v <;> simp_all
  · rw [if_neg (by assumption)]
    exact congrArg Except.ok (Option.some.inj h)

theorem parseAttribute_ser (c : Ctx) (ver) (hc : c.ok = true) (ap : Nat) (a : Attribute)
    (ha : wfAttr c ap a = true) (suf : Bytes) (hstop : Stops c ver suf) (tp cur) :
    parseAttribute (st c ver (serAttr a ++ suf) tp ap cur) =
      .ok ((evAttr c ap a).1, st c ver suf tp (evAttr c ap a).2 cur) := by
  simp only [wfAttr, wfPi, Bool.and_eq_true] at ha
  obtain ⟨⟨hst, hvs⟩, hdt⟩ := ha
  obtain ⟨b, hb⟩ := Option.isSome_iff_exists.mp hdt
  rw [parseAttribute_eq]
  simp only [serAttr, List.append_assoc, parseAttrStart_ser c ver hc ap a.start hst, ok_bind]
  rw [attrValueLoop_ser c ver hc a.vals _ hvs suf hstop _ (by simp only [List.length_append]; omega)]
  simp only [ok_bind, astartOpt_getD c ap a.start hst, attrTyped_of_text c _ _ b hb, evAttr, hb, Option.getD_some,
    withNul]
  rfl

theorem serAttr_length (a : Attribute) : 1 ≤ (serAttr a).length := by
  cases a with
  | mk start vals => cases start <;> simp [serAttr, serAStart] <;> omega

theorem serAttrs_length (as : List Attribute) : as.length ≤ (serAttrs as).length := by
  induction as with
  | nil => simp
  | cons a as ih => have := serAttr_length a; simp only [serAttrs, List.length_cons, List.length_append]; omega

/-- The fuel counts attributes, not octets: `Props.C04.parse_ser_attributes` states it so. -/
theorem attrsLoop_ser (c : Ctx) (ver) (hc : c.ok = true) (a : Attribute) (as : List Attribute) : ∀ (ap : Nat)
    (_ : wfAttrs c ap (a :: as) = true) (suf : Bytes) (f : Nat) (_ : as.length < f)
    (acc : List Attr) (tp cur),
    attrsLoop f acc (st c ver (serAttrs (a :: as) ++ 0x01 :: suf) tp ap cur) =
      .ok (acc ++ (evAttrs c ap (a :: as)).1, st c ver (0x01 :: suf) tp (evAttrs c ap (a :: as)).2 cur) := by
  induction as generalizing a with
  | nil =>
    intro ap hwf suf f hf acc tp cur
    obtain ⟨f', rfl⟩ := Nat.exists_eq_add_one.mpr (Nat.zero_lt_of_lt hf)
    simp only [wfAttrs, Bool.and_eq_true, and_true] at hwf
    simp only [serAttrs, List.append_nil, attrsLoop, bind, Except.bind,
      parseAttribute_ser c ver hc ap a hwf (0x01 :: suf) (stops_END c ver suf), isToken_cons,
      beq_self_eq_true, ↓reduceIte, pure, Except.pure, evAttrs]
  | cons a2 as ih =>
    intro ap hwf suf f hf acc tp cur
    obtain ⟨f', rfl⟩ := Nat.exists_eq_add_one.mpr (Nat.zero_lt_of_lt hf)
    simp only [wfAttrs, Bool.and_eq_true] at hwf
    obtain ⟨h1, h2, h3⟩ := hwf
    have h2s : wfAStart c (evAttr c ap a).2 a2.start = true := by
      simp only [wfAttr, wfPi, Bool.and_eq_true] at h2; exact h2.1.1
    have hstop : Stops c ver (serAttrs (a2 :: as) ++ 0x01 :: suf) := by
      simp only [serAttrs, serAttr, List.append_assoc]
      exact stops_serAStart c ver _ a2.start h2s _
    have hrest : wfAttrs c (evAttr c ap a).2 (a2 :: as) = true := by
      simp only [wfAttrs, Bool.and_eq_true]; exact ⟨h2, h3⟩
    rw [serAttrs, List.append_assoc, attrsLoop]
    simp only [bind, Except.bind, parseAttribute_ser c ver hc ap a h1 _ hstop]
    have hnot : isToken (st c ver (serAttrs (a2 :: as) ++ 0x01 :: suf) tp (evAttr c ap a).2 cur) 0x01 = false := by
      simp only [serAttrs, serAttr, List.append_assoc]
      exact notEnd_serAStart c ver _ a2.start h2s _ tp _ cur
    simp only [hnot, Bool.false_eq_true, ↓reduceIte]
    rw [ih a2 _ hrest suf f' (by simpa using hf)]
    simp only [evAttrs, List.append_assoc, List.singleton_append]

theorem piValueLoop_ser (c : Ctx) (ver) (hc : c.ok = true) (vs : List AVal) : ∀ (ap : Nat)
    (_ : wfAVals c ap vs = true) (suf : Bytes) (f : Nat) (_ : (serAVals vs).length < f) (acc : Bytes) (tp cur),
    piValueLoop f acc (st c ver (serAVals vs ++ 0x01 :: suf) tp ap cur) =
      .ok (acc ++ (avalsText c ap vs).1, st c ver (0x01 :: suf) tp (avalsText c ap vs).2 cur) := by
  induction vs with
  | nil =>
    intro ap _ suf f hf acc tp cur
    obtain ⟨f', rfl⟩ := Nat.exists_eq_add_one.mpr (Nat.zero_lt_of_lt hf)
    simp only [serAVals, List.nil_append, piValueLoop, isToken_cons, beq_self_eq_true, ↓reduceIte,
      avalsText, List.append_nil, pure, Except.pure]
  | cons v vs ih =>
    intro ap hwf suf f hf acc tp cur
    obtain ⟨f', rfl⟩ := Nat.exists_eq_add_one.mpr (Nat.zero_lt_of_lt hf)
    simp only [wfAVals, Bool.and_eq_true] at hwf
    simp only [serAVals, List.append_assoc, piValueLoop, notEnd_serAVal c ver ap v hwf.1, Bool.false_eq_true, ↓reduceIte,
      bind, Except.bind, parseAttrValue_ser c ver hc ap v hwf.1, avalOpt_getD]
    rw [ih _ hwf.2 suf f' (by have := serAVal_length v; simp only [serAVals, List.length_append] at hf; omega)]
    simp only [avalsText, List.append_assoc]

theorem parsePi_ser (c : Ctx) (ver) (hc : c.ok = true) (ap : Nat) (a : Attribute)
    (ha : wfPi c ap a = true) (suf : Bytes) (tp cur) :
    parsePi (st c ver (serPi a ++ suf) tp ap cur) =
      .ok ((evPi c ap a).1, st c ver suf tp (evPi c ap a).2 cur) := by
  simp only [wfPi, Bool.and_eq_true] at ha
  have hfuel : (serAVals a.vals).length < (serAVals a.vals ++ 0x01 :: suf).length + 1 := by
    simp only [List.length_append]; omega
  unfold parsePi
  simp only [serPi, serAttr, List.cons_append, List.append_assoc, List.nil_append, skip1_cons, bind, Except.bind,
    parseAttrStart_ser c ver hc ap a.start ha.1]
  rw [piValueLoop_ser c ver hc a.vals _ ha.2 suf _ hfuel]
  simp only [skip1_cons, astartOpt_getD c ap a.start ha.1, pure, Except.pure, evPi, withNul]

end Wbxml.Lemmas.ParseSer
