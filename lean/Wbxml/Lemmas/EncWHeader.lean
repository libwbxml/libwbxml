/-
  WBXML encoder proofs: the options of a run and the header. `wcfgOf` / `dcfgOf` are the options
  `wbxml_tree_to_wbxml` derives from its parameter block, before and after the language switch of
  `encoder_encode_tree`, with their projections (`dcfgOf_lang` …; `dcfgOf_view_eq`: the white-space
  options depend on `keepWs` only). A successful `treeToWbxml` run is the header of the final state
  followed by the body (`treeToWbxml_ok`), and `wbxml_fill_header` writes the serialisation of the
  `Spec.Header` `hdrOf c st`, whose table is the body's plus the textual public identifier
  (`fillHeaderW_ser`, `finalTbl_prefix`, `finalTbl_offs`). What changes when only the version or only
  fields outside `core` change: `dcfgOf_version_eq`, `hdrOf_version`, `docStartW_version`, `docStartW_core`.
-/
import Wbxml.Lemmas.EncWCfg
import Wbxml.Lemmas.EncWBasic
import Wbxml.Spec.Wbxml
namespace Wbxml.Lemmas.EncW
open Wbxml Wbxml.Model Wbxml.Spec
open Wbxml.Model.Codec (mbEncode)

/-- The encoder options `wbxml_tree_to_wbxml` derives from its parameter block. -/
def wcfgOf (cfg : X2WCfg) (lang : Lang) : WCfg :=
  { lang := lang, ignoreEmpty := !cfg.keepWs, removeBlanks := !cfg.keepWs,
    useStrtbl := cfg.useStrtbl, version := cfg.version, anonymous := cfg.anonymous }

/-- … and after `encoder_encode_tree`'s language switch. -/
def dcfgOf (cfg : X2WCfg) (lang : Lang) : WCfg := deriveCfg (wcfgOf cfg lang)

theorem deriveCfg_lang (c : WCfg) : (deriveCfg c).lang = c.lang := by unfold deriveCfg; split <;> rfl
theorem deriveCfg_version (c : WCfg) : (deriveCfg c).version = c.version := by unfold deriveCfg; split <;> rfl
theorem deriveCfg_anonymous (c : WCfg) : (deriveCfg c).anonymous = c.anonymous := by unfold deriveCfg; split <;> rfl
theorem deriveCfg_textual (c : WCfg) : (deriveCfg c).textualPublicId = c.textualPublicId := by
  unfold deriveCfg; split <;> rfl
theorem deriveCfg_ignoreEmpty (c : WCfg) : (deriveCfg c).ignoreEmpty = c.ignoreEmpty := by unfold deriveCfg; split <;> rfl
theorem deriveCfg_removeBlanks (c : WCfg) : (deriveCfg c).removeBlanks = c.removeBlanks := by
  unfold deriveCfg; split <;> rfl
theorem deriveCfg_useStrtbl (c : WCfg) :
    (deriveCfg c).useStrtbl = (if isWv c.lang.id || c.lang.id == 1901 then false else c.useStrtbl) := by
  unfold deriveCfg; split <;> rfl

@[simp] theorem dcfgOf_lang (cfg lang) : (dcfgOf cfg lang).lang = lang := deriveCfg_lang _
@[simp] theorem dcfgOf_version (cfg lang) : (dcfgOf cfg lang).version = cfg.version := deriveCfg_version _
@[simp] theorem dcfgOf_anonymous (cfg lang) : (dcfgOf cfg lang).anonymous = cfg.anonymous := deriveCfg_anonymous _
@[simp] theorem dcfgOf_textual (cfg lang) : (dcfgOf cfg lang).textualPublicId = false := deriveCfg_textual _
theorem dcfgOf_useStrtbl (cfg lang) :
    (dcfgOf cfg lang).useStrtbl = (if isWv lang.id || lang.id == 1901 then false else cfg.useStrtbl) := deriveCfg_useStrtbl _

theorem dcfgOf_view_eq (cfg₁ cfg₂ : X2WCfg) (hk : cfg₁.keepWs = cfg₂.keepWs) (lang : Lang) :
    (dcfgOf cfg₂ lang).ignoreEmpty = (dcfgOf cfg₁ lang).ignoreEmpty ∧
    (dcfgOf cfg₂ lang).removeBlanks = (dcfgOf cfg₁ lang).removeBlanks := by
  unfold dcfgOf
  rw [deriveCfg_ignoreEmpty, deriveCfg_removeBlanks, deriveCfg_ignoreEmpty, deriveCfg_removeBlanks]
  simp only [wcfgOf, hk, and_self]

theorem treeToWbxml_eq (cfg : X2WCfg) (t : Tree) :
    treeToWbxml cfg t =
      match t.lang with
      | none => .error (.code EW.badParameter)
      | some lang =>
        match t.root with
        | none => .error (.ub "tree without root node (NULL dereferenced)")
        | some r =>
          encNodeG (dcfgOf cfg lang) none true r (docStartW (dcfgOf cfg lang) r) >>= fun st =>
            pure ((fillHeaderW (dcfgOf cfg lang) st).1 ++ st.out) := by
  unfold treeToWbxml
  cases t.lang with
  | none => rfl
  | some lang =>
    unfold encodeDocW
    cases t.root with
    | none => rfl
    | some r => rfl

theorem treeToWbxml_ok {cfg : X2WCfg} {t : Tree} {bs : Bytes} (h : treeToWbxml cfg t = .ok bs) :
    ∃ lang r st, t.lang = some lang ∧ t.root = some r ∧
      encNodeG (dcfgOf cfg lang) none true r (docStartW (dcfgOf cfg lang) r) = .ok st ∧
      bs = (fillHeaderW (dcfgOf cfg lang) st).1 ++ st.out := by
  rw [treeToWbxml_eq] at h
  cases hl : t.lang with
  | none => rw [hl] at h; cases h
  | some lang =>
    cases hr : t.root with
    | none => rw [hl, hr] at h; cases h
    | some r =>
      rw [hl, hr] at h
      obtain ⟨st, he, h⟩ := bind_eq_ok h
      exact ⟨lang, r, st, rfl, rfl, he, (Except.ok.inj h).symm⟩

theorem treeToWbxml_of {cfg : X2WCfg} {t : Tree} {lang r st}
    (hl : t.lang = some lang) (hr : t.root = some r)
    (he : encNodeG (dcfgOf cfg lang) none true r (docStartW (dcfgOf cfg lang) r) = .ok st) :
    treeToWbxml cfg t = .ok ((fillHeaderW (dcfgOf cfg lang) st).1 ++ st.out) := by
  rw [treeToWbxml_eq, hl, hr]
  simp only [he]
  rfl

/-- The public identifier `wbxml_fill_header` decides to write in text form, if any. -/
def hdrPid (c : WCfg) : Option Bytes :=
  if (c.textualPublicId || (if c.anonymous then 1 else c.lang.pub.wbxmlId) == 1) && !c.anonymous
  then c.lang.pub.xmlId else none

/-- The string table as it is when the header is written. -/
def finalTbl (c : WCfg) (st : WSt) : List StrEntry :=
  match hdrPid c with
  | some p => if c.useStrtbl then (strtblAdd st p none).1.strtbl else [⟨p, 0, none⟩]
  | none => if c.useStrtbl then st.strtbl else []

def hdrPubid (c : WCfg) (st : WSt) : PubIdent :=
  match hdrPid c with
  | some p => if c.useStrtbl then .str (strtblAdd st p none).2 else .str 0
  | none => .num (if c.anonymous then 1 else c.lang.pub.wbxmlId)

/-- The header `wbxml_fill_header` writes, as a value of the grammar. -/
def hdrOf (c : WCfg) (st : WSt) : Header :=
  { version := c.version, pubid := hdrPubid c st, charset := 106, strtbl := (finalTbl c st).map (·.str) }

theorem tblBytes_map (tbl : List StrEntry) : tblBytes (tbl.map (·.str)) = strtblBytes tbl := by
  induction tbl with
  | nil => rfl
  | cons e es ih => simp only [List.map_cons, tblBytes, ih, strtblBytes_cons]; simp

theorem mb106 : mb 106 = [0x6A] := by decide

/-- `wbxml_fill_header` writes `Spec.serHeader (hdrOf c st)`: in particular the declared
    string-table length is the exact octet length of the table that follows. -/
theorem fillHeaderW_ser (c : WCfg) (st : WSt) (hinv : StrInv st) (hno : c.useStrtbl = false → st.strtbl = []) :
    (fillHeaderW c st).1 = serHeader (hdrOf c st) := by
  unfold fillHeaderW hdrOf serHeader
  simp only [hdrPubid, finalTbl]
  have hp : (if (c.textualPublicId || (if c.anonymous then 1 else c.lang.pub.wbxmlId) == 1) && !c.anonymous
      then c.lang.pub.xmlId else none) = hdrPid c := rfl
  rw [hp]
  have hcs : (if (c.version == 0) = true then ([] : Bytes) else [0x6A]) = (if c.version = 0 then [] else mb 106) := by
    rw [mb106]; by_cases h : c.version = 0 <;> simp [h]
  cases hpid : hdrPid c with
  | some p =>
    cases hu : c.useStrtbl with
    | true =>
      have hinv' := strtblAdd_inv st p hinv
      simp only [↓reduceIte, tblBytes_map, strtblBytes_length, hcs, serPubid, ← hinv'.len]
      simp [byte]
    | false =>
      simp only [Bool.false_eq_true, ↓reduceIte, List.map_cons, List.map_nil, tblBytes, hcs, serPubid]
      simp [byte]
  | none =>
    cases hu : c.useStrtbl with
    | true =>
      simp only [↓reduceIte, tblBytes_map, strtblBytes_length, hcs, serPubid, ← hinv.len]
      simp [byte]
    | false =>
      have h0 : st.strtblLen = 0 := by rw [hinv.len, hno hu]; rfl
      simp only [Bool.false_eq_true, ↓reduceIte, List.map_nil, tblBytes, hcs, serPubid, h0]
      simp [byte]

theorem finalTbl_prefix (c : WCfg) (st : WSt) (hu : c.useStrtbl = true) : st.strtbl <+: finalTbl c st := by
  unfold finalTbl
  split
  · simp only [hu, ↓reduceIte]; exact strtblAdd_prefix _ _ _
  · simp only [hu, ↓reduceIte]; exact List.prefix_refl _

theorem finalTbl_offs (c : WCfg) (st : WSt) (hinv : StrInv st) : OffsFrom 0 (finalTbl c st) := by
  unfold finalTbl
  split
  · split
    · exact (strtblAdd_inv st _ hinv).offs
    · exact ⟨rfl, trivial⟩
  · split
    · exact hinv.offs
    · trivial

theorem dcfgOf_version_eq (cfg : X2WCfg) (v : Nat) (lang : Lang) :
    dcfgOf { cfg with version := v } lang = { dcfgOf cfg lang with version := v } := by
  unfold dcfgOf wcfgOf deriveCfg
  split <;> rfl

theorem docStartW_version (c : WCfg) (v : Nat) (r : Node) : docStartW { c with version := v } r = docStartW c r := rfl

theorem hdrOf_version (c : WCfg) (v : Nat) (st : WSt) :
    hdrOf { c with version := v } st = { hdrOf c st with version := v } := rfl

theorem docStartW_core (c c' : WCfg) (h : core c = core c') (r : Node) : docStartW c r = docStartW c' r := by
  have h1 : c.useStrtbl = c'.useStrtbl := by have := congrArg WCfg.useStrtbl h; exact this
  have h2 : c.lang = c'.lang := by have := congrArg WCfg.lang h; exact this
  unfold docStartW
  rw [h1, h2]

end Wbxml.Lemmas.EncW
