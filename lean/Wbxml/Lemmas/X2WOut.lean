/-
  C02, bounds, encoder half: the WBXML octets `treeToWbxml` produces are linearly bounded by the tree.

  Potential of an encoder state: `wpot st = |output| + declared string-table length + |CDATA buffer|`.
  Every step of the node walk raises it by at most a constant more than the octets the item carries:

    inline string  +2        table reference ≤ 6        opaque ≤ 6 + length
    tag token ≤ 3 (page switch included), literal tag ≤ 6 + its string-table entry (name + 1)
    attribute start likewise, attribute value tokens ≤ 3, extension tokens ≤ 6

  A text of `n` octets that is cut up by value tokens / table references costs at most `8 n + 2`
  (`vpot`: every cut removes at least one octet and adds one token and one string frame), typed
  content (base64, integers, date-times) only shrinks, and the SyncML `+xml` → `+wbxml` label is two
  octets longer. The string table collected before the walk holds only strings of the tree
  (`strtblInitialize_len`). Result: `encNodeG_walk`, the one induction over `parse_node`: success with a
  sound string table and `wpot st' + lsize n ≤ wpot st + 10 * size n + hdr n`, or an error code; totality
  (`treeToWbxml_safe`) and the output bound (`treeToWbxml_length`) are read off it.
-/
import Wbxml.Lemmas.X2WEnc
import Wbxml.Lemmas.EncWTbl
import Wbxml.Lemmas.EncWHeader

namespace Wbxml.Model

mutual
/-- Size of a sub-tree without the contents of embedded documents (a document node counts 1). -/
def Node.lsize : Node → Nat
  | .elt n a kids => 1 + n.size + attrsSize a + Node.lsizeL kids
  | .text s => 1 + s.length
  | .cdata kids => 1 + Node.lsizeL kids
  | .tree _ _ _ => 1
def Node.lsizeL : List Node → Nat
  | [] => 0
  | n :: rest => n.lsize + Node.lsizeL rest
end

mutual
/-- Sum of `w lang` over the embedded documents of a sub-tree (at every depth). -/
def Node.hdr (w : Option Lang → Nat) : Node → Nat
  | .elt _ _ kids => Node.hdrL w kids
  | .text _ => 0
  | .cdata kids => Node.hdrL w kids
  | .tree l _ none => w l
  | .tree l _ (some r) => w l + r.hdr w
def Node.hdrL (w : Option Lang → Nat) : List Node → Nat
  | [] => 0
  | n :: rest => n.hdr w + Node.hdrL w rest
end

def Tree.hdr (w : Option Lang → Nat) (t : Tree) : Nat := (Node.tree t.lang t.origCharset t.root).hdr w

def pubLen (l : Lang) : Nat := (l.pub.xmlId.getD []).length

/-- What one document costs besides its nodes: header (version, public id, charset, table length:
    ≤ 14 octets with the terminator of a textual id), the public identifier text, and the OPAQUE
    frame of an embedded document (≤ 6). -/
def docW : Option Lang → Nat
  | some l => pubLen l + 20
  | none => 20

end Wbxml.Model

namespace Wbxml.Lemmas.X2W
open Wbxml Wbxml.Model Wbxml.Lemmas.ParserSafe
open Wbxml.Model.Codec (mbEncode b64DecodeE)
open Wbxml.Model.Typed (encodeDatetime encodeWvInt encodeWvDate wvEncKind WvKind WvItem)

mutual
theorem sizeW_eq (w : Option Lang → Nat) : ∀ (n : Node), n.sizeW w = n.size + n.hdr w
  | .elt name a kids => by
    have := sizeWL_eq w kids
    simp only [Node.size, Node.sizeL, Node.sizeW, Node.hdr] at this ⊢
    omega
  | .text s => by simp [Node.size, Node.sizeW, Node.hdr]
  | .cdata kids => by
    have := sizeWL_eq w kids
    simp only [Node.size, Node.sizeL, Node.sizeW, Node.hdr] at this ⊢
    omega
  | .tree l cs none => by simp [Node.size, Node.sizeW, Node.hdr]
  | .tree l cs (some r) => by
    have := sizeW_eq w r
    simp only [Node.size, Node.sizeW, Node.hdr] at this ⊢
    omega
theorem sizeWL_eq (w : Option Lang → Nat) : ∀ (l : List Node), Node.sizeWL w l = Node.sizeL l + Node.hdrL w l
  | [] => by simp [Node.sizeL, Node.sizeWL, Node.hdrL]
  | n :: rest => by
    have h1 := sizeW_eq w n
    have h2 := sizeWL_eq w rest
    simp only [Node.size, Node.sizeL, Node.sizeWL, Node.hdrL] at h1 h2 ⊢
    omega
end

mutual
theorem lsize_le : ∀ (n : Node), n.lsize ≤ n.size
  | .elt name a kids => by
    have := lsizeL_le kids
    simp only [Node.size, Node.sizeL, Node.sizeW, Node.lsize] at this ⊢
    omega
  | .text s => by simp [Node.size, Node.sizeW, Node.lsize]
  | .cdata kids => by
    have := lsizeL_le kids
    simp only [Node.size, Node.sizeL, Node.sizeW, Node.lsize] at this ⊢
    omega
  | .tree l cs none => by simp only [Node.size, Node.sizeW, Node.lsize]; omega
  | .tree l cs (some r) => by simp only [Node.size, Node.sizeW, Node.lsize]; omega
theorem lsizeL_le : ∀ (l : List Node), Node.lsizeL l ≤ Node.sizeL l
  | [] => by simp [Node.sizeL, Node.sizeWL, Node.lsizeL]
  | n :: rest => by
    have h1 := lsize_le n
    have h2 := lsizeL_le rest
    simp only [Node.size, Node.sizeL, Node.sizeWL, Node.lsizeL] at h1 h2 ⊢
    omega
end

/-- The octets a list of candidates / of counted references would take in the string table: each string with its
    terminator (`candTot`, `refTot`; words are counted as candidates, `splitWordsGo_tot`). -/
def candTot : List Cand → Nat
  | [] => 0
  | c :: r => c.str.length + 1 + candTot r

def refTot : List Ref → Nat
  | [] => 0
  | c :: r => c.str.length + 1 + refTot r

theorem candTot_append : ∀ (a b : List Cand), candTot (a ++ b) = candTot a + candTot b
  | [], b => by simp [candTot]
  | c :: a, b => by simp only [List.cons_append, candTot, candTot_append a b]; omega

theorem refTot_append : ∀ (a b : List Ref), refTot (a ++ b) = refTot a + refTot b
  | [], b => by simp [refTot]
  | c :: a, b => by simp only [List.cons_append, refTot, refTot_append a b]; omega

theorem collectAttr_tot (lang : Lang) (a : Attr) : candTot (collectAttr lang a) ≤ a.size := by
  unfold collectAttr
  split
  · simp only
    split <;> (split <;> simp only [candTot, Attr.size] <;> omega)
  · simp [candTot]

theorem collectAttrs_tot (lang : Lang) : ∀ (attrs : List Attr), candTot (collectAttrs lang attrs) ≤ attrsSize attrs
  | [] => by simp [collectAttrs, candTot, attrsSize]
  | a :: rest => by
    have h1 := collectAttr_tot lang a
    have h2 := collectAttrs_tot lang rest
    unfold collectAttrs at h2 ⊢
    simp only [List.flatMap_cons, candTot_append, attrsSize]
    omega

mutual
theorem collectNode_tot (lang : Lang) : ∀ (n : Node) (c : Coll),
    candTot (collectNode lang n c).cands ≤ candTot c.cands + n.lsize
  | .text s, c => by
    simp only [collectNode, Node.lsize]
    split
    · simp only [candTot_append, candTot]; omega
    · omega
  | .elt _ attrs kids, c => by
    have h1 := collectNodes_tot lang kids { c with cands := c.cands ++ collectAttrs lang attrs }
    have h2 := collectAttrs_tot lang attrs
    simp only [candTot_append] at h1
    simp only [collectNode, Node.lsize]
    omega
  | .cdata kids, c => by
    have h1 := collectNodes_tot lang kids c
    simp only [collectNode, Node.lsize]
    omega
  | .tree _ _ _, c => by simp only [collectNode, Node.lsize]; omega
theorem collectNodes_tot (lang : Lang) : ∀ (l : List Node) (c : Coll),
    candTot (collectNodes lang l c).cands ≤ candTot c.cands + Node.lsizeL l
  | [], c => by simp [collectNodes, Node.lsizeL]
  | n :: rest, c => by
    have h1 := collectNode_tot lang n c
    have h2 := collectNodes_tot lang rest (collectNode lang n c)
    simp only [collectNodes, Node.lsizeL]
    omega
end

theorem bumpRef_tot (c : Cand) : ∀ (refs : List Ref), refTot (bumpRef c refs) ≤ refTot refs + c.str.length + 1
  | [] => by simp [bumpRef, refTot]
  | r :: rs => by
    have ih := bumpRef_tot c rs
    unfold bumpRef
    split
    · simp only [refTot]; omega
    · simp only [refTot]; omega

theorem countRefs_tot : ∀ (cs : List Cand) (refs : List Ref),
    refTot (cs.foldl (fun refs c => bumpRef c refs) refs) ≤ refTot refs + candTot cs
  | [], refs => by simp [candTot]
  | c :: cs, refs => by
    have h1 := bumpRef_tot c refs
    have h2 := countRefs_tot cs (bumpRef c refs)
    simp only [List.foldl_cons, candTot]
    omega

theorem strtblAdd_len (st : WSt) (s : Bytes) (a : Option Nat) :
    (strtblAdd st s a).1.strtblLen ≤ st.strtblLen + s.length + 1 := by
  unfold strtblAdd
  split
  · simp only; omega
  · simp only; omega

theorem keepRefs_tot : ∀ (rs : List Ref) (st : WSt) (one : List Ref),
    (keepRefs rs st one).1.strtblLen + refTot (keepRefs rs st one).2 ≤ st.strtblLen + refTot one + refTot rs
  | [], st, one => by simp [keepRefs, refTot]
  | r :: rs, st, one => by
    unfold keepRefs
    split
    · have h1 := keepRefs_tot rs (strtblAdd st r.str none).1 one
      have h2 := strtblAdd_len st r.str none
      simp only [refTot]
      omega
    · have h1 := keepRefs_tot rs st (one ++ [r])
      simp only [refTot_append, refTot] at h1 ⊢
      omega

theorem splitWordsGo_tot : ∀ (s cur : Bytes),
    candTot ((splitWordsGo s cur).map fun w => ({ str := w } : Cand)) ≤ s.length + cur.length + 1
  | [], cur => by
    unfold splitWordsGo
    split <;> simp [candTot]
  | b :: r, cur => by
    unfold splitWordsGo
    split
    · have ih := splitWordsGo_tot r []
      split
      · simp only [List.length_cons, List.length_nil] at ih ⊢; omega
      · simp only [List.map_cons, candTot, List.length_cons, List.length_nil] at ih ⊢; omega
    · have ih := splitWordsGo_tot r (cur ++ [b])
      simp only [List.length_cons, List.length_append, List.length_nil] at ih ⊢
      omega

theorem collectWords_tot : ∀ (one : List Ref), candTot (collectWords one) ≤ refTot one
  | [] => by simp [collectWords, candTot, refTot]
  | r :: rest => by
    have ih := collectWords_tot rest
    have h1 : candTot ((splitWords r.str).map fun w => ({ str := w } : Cand)) ≤ r.str.length + 1 := by
      unfold splitWords
      simpa using splitWordsGo_tot r.str []
    unfold collectWords at ih ⊢
    simp only [List.flatMap_cons, candTot_append, refTot]
    omega

/-- **The table built before the walk holds only strings of the tree**: its declared length is at
    most the size of the nodes outside embedded documents. -/
theorem strtblInitialize_len (lang : Lang) (root : Node) :
    (strtblInitialize lang root {}).strtblLen ≤ root.lsize := by
  have h0 := collectNode_tot lang root {}
  have h1 := countRefs_tot (collectNode lang root {}).cands []
  have h2 := keepRefs_tot (countRefs (collectNode lang root {}).cands) {} []
  have h3 := collectWords_tot (keepRefs (countRefs (collectNode lang root {}).cands) {} []).2
  have h4 := countRefs_tot (collectWords (keepRefs (countRefs (collectNode lang root {}).cands) {} []).2) []
  have h5 := keepRefs_tot (countRefs (collectWords (keepRefs (countRefs (collectNode lang root {}).cands) {} []).2))
    (keepRefs (countRefs (collectNode lang root {}).cands) {} []).1 []
  have e : (strtblInitialize lang root {}).strtblLen =
      (keepRefs (countRefs (collectWords (keepRefs (countRefs (collectNode lang root {}).cands) {} []).2))
        (keepRefs (countRefs (collectNode lang root {}).cands) {} []).1 []).1.strtblLen := rfl
  rw [e]
  unfold countRefs at h1 h2 h3 h4 h5 ⊢
  have z2 : candTot ({} : Coll).cands = 0 := rfl
  simp only [refTot] at h1 h2 h4 h5
  omega

theorem docStartW_pot (c : WCfg) (r : Node) : wpot (docStartW c r) ≤ r.lsize := by
  have hf := EncW.docStartW_fields c r
  have hl : (docStartW c r).strtblLen ≤ r.lsize := by
    unfold docStartW
    split
    · exact strtblInitialize_len _ _
    · exact Nat.zero_le _
  simp only [wpot, hf.out, hf.cdata, contentLen, List.length_nil]
  omega

theorem nestedCfg_lang (c : WCfg) (l : Lang) : (nestedCfg c l).lang = l := by
  unfold nestedCfg
  rw [Wbxml.Lemmas.EncW.deriveCfg_lang]

/-- **Header and body of one document**: at most 14 octets, the textual public identifier, the
    string table and the body. -/
theorem buildResultW_length (c : WCfg) (st : WSt) (hinv : Wbxml.Lemmas.EncW.StrInv st) :
    (buildResultW c st).length ≤ 14 + pubLen c.lang + wpot st := by
  have hver : (if c.version == 0 then ([] : Bytes) else [0x6A]).length ≤ 1 := by split <;> simp
  have htbl : (strtblBytes st.strtbl).length = st.strtblLen := by
    rw [Wbxml.Lemmas.EncW.strtblBytes_length, hinv.len]
  unfold buildResultW fillHeaderW
  simp only []
  generalize (if c.anonymous = true then 1 else c.lang.pub.wbxmlId) = pubId
  split
  · rename_i p hp
    have hpl : p.length = pubLen c.lang := by
      split at hp
      · unfold pubLen; rw [hp]; rfl
      · cases hp
    split
    · have hinv' := Wbxml.Lemmas.EncW.strtblAdd_inv st p hinv
      have h1 := strtblAdd_len st p none
      generalize hadd : strtblAdd st p none = q at hinv' h1
      obtain ⟨st1, idx⟩ := q
      simp only at hinv' h1 ⊢
      have h2 : (strtblBytes st1.strtbl).length = st1.strtblLen := by
        rw [Wbxml.Lemmas.EncW.strtblBytes_length, hinv'.len]
      have h3 := Codec.mbEncode_length_le idx
      have h4 := Codec.mbEncode_length_le st1.strtblLen
      simp only [List.length_append, List.length_cons, List.length_nil, wpot, h2]
      omega
    · have h3 := Codec.mbEncode_length_le 0
      have h4 := Codec.mbEncode_length_le (p.length + 1)
      simp only [List.length_append, List.length_cons, List.length_nil, wpot]
      omega
  · have h3 := Codec.mbEncode_length_le pubId
    have h4 := Codec.mbEncode_length_le st.strtblLen
    have h5 : (if c.useStrtbl = true then strtblBytes st.strtbl else []).length ≤ st.strtblLen := by
      split
      · rw [htbl]; exact Nat.le_refl _
      · simp
    simp only [List.length_append, List.length_cons, List.length_nil, wpot]
    omega

attribute [local simp] EW.badParameter EW.internal

/-- What `parse_node` promises on a well-named sub-tree `n`: a sound string table, and the potential
    raised by at most ten octets per unit of size. `lsize n` stands on the left because the strings of `n`
    outside embedded documents may already be in the table: `docStartW` fills it with at most `lsize root`
    octets before the walk (`docStartW_pot`), and the walk must not pay for them a second time. The term
    cancels where a document is closed: in the `.tree` case and in `treeToWbxml_state`. -/
def NodePost (st : WSt) (lsize size hdr : Nat) (st' : WSt) : Prop :=
  StOk st' ∧ wpot st' + lsize ≤ wpot st + 10 * size + hdr

mutual
theorem encNodeG_walk : ∀ (n : Node) (c : WCfg), CfgOk c → ∀ (parent : Option Name) (encEnd : Bool),
    nodeOk n = true → ∀ (st : WSt), StOk st →
      Ok (NodePost st n.lsize n.size (n.hdr docW)) (encNodeG c parent encEnd n st)
  | .elt name attrs kids, c, hc, parent, encEnd, hn, st, hst => by
    simp only [nodeOk, Bool.and_eq_true] at hn
    simp only [encNodeG]
    bind_ok (encElementStartW_ok c hc (some attrs) name hn.1.1 attrs hn.1.2 _ st hst) with st1 h1
    bind_ok (encNodesW_walk kids c hc (some name) hn.2 st1 h1.1) with st2 h2
    simp only [Ok_pure]
    have := h2.2
    rw [size_elt]
    simp only [Node.lsize, Node.hdr]
    constructor
    · split <;> exact h2.1.of_eq rfl
    · simp only [wpot] at *
      split
      · simp only [WSt.emit, List.length_append, List.length_cons, List.length_nil]; omega
      · omega
  | .text s, c, hc, parent, encEnd, hn, st, hst => by
    simp only [encNodeG]
    bind_ok (encTextW_ok c parent s st hst) with st1 h1
    simp only [Ok_pure]
    refine ⟨h1.1.of_eq rfl, ?_⟩
    rw [size_text]
    simp only [Node.lsize, Node.hdr]
    show wpot st1 + _ ≤ _
    omega
  | .cdata kids, c, hc, parent, encEnd, hn, st, hst => by
    simp only [nodeOk] at hn
    simp only [encNodeG]
    split
    · simp
    · rename_i hcd
      bind_ok (encNodesW_walk kids c hc none hn { st with inCdata := true, cdata := some [] } (hst.of_eq rfl)) with st2 h2
      have e0 : wpot ({ st with inCdata := true, cdata := some [] } : WSt) = wpot st := by
        simp only [wpot, hcd, contentLen, List.length_nil]
      split
      · simp
      · rename_i cd hcd2
        simp only [Ok_pure]
        refine ⟨by split <;> exact h2.1.of_eq rfl, ?_⟩
        have hc2 : contentLen st2.cdata = cd.length := by
          have : st2.cdata = some cd := hcd2
          rw [this]; rfl
        have := opaqueW_length cd
        have := h2.2
        rw [size_cdata]
        simp only [Node.lsize, Node.hdr]
        split
        · simp only [wpot, WSt.emit, List.length_append, contentLen] at *
          omega
        · simp only [wpot, contentLen] at *
          omega
  | .tree lang cs root, c, hc, parent, encEnd, hn, st, hst => by
    cases lang with
    | none => unfold encNodeG; simp
    | some l =>
      cases root with
      | none => unfold nodeOk at hn; simp at hn
      | some r =>
        unfold nodeOk at hn
        simp only [Bool.and_eq_true] at hn
        unfold encNodeG
        bind_ok (ok_and_of (encNodeG_walk r (nestedCfg c l) (cfgOk_derive _ hn.1) none true hn.2 _ (docStartW_ok _ r))
          (fun st2 h2 => (Wbxml.Lemmas.EncW.doc_final_inv (nestedCfg c l) r st2 h2).1)) with st2 h2
        simp only [Ok_pure]
        refine ⟨hst.of_eq rfl, ?_⟩
        have a2 := h2.1.2
        have a0 := docStartW_pot (nestedCfg c l) r
        have a3 := buildResultW_length (nestedCfg c l) st2 h2.2
        rw [nestedCfg_lang] at a3
        have a4 := opaqueW_length (buildResultW (nestedCfg c l) st2)
        show wpot (st.emit _) + _ ≤ _
        rw [wpot_emit, size_tree_some]
        simp only [Node.lsize, Node.hdr, docW]
        omega

theorem encNodesW_walk : ∀ (l : List Node) (c : WCfg), CfgOk c → ∀ (parent : Option Name),
    nodesOk l = true → ∀ (st : WSt), StOk st →
      Ok (NodePost st (Node.lsizeL l) (Node.sizeL l) (Node.hdrL docW l)) (encNodesW c parent l st)
  | [], c, hc, parent, hl, st, hst => by
    simp only [encNodesW, Ok_pure]
    exact ⟨hst, by simp [Node.lsizeL, Node.hdrL, sizeL_nil]⟩
  | n :: rest, c, hc, parent, hl, st, hst => by
    simp only [nodesOk, Bool.and_eq_true] at hl
    simp only [encNodesW]
    bind_ok (encNodeG_walk n c hc parent true hl.1 st hst) with st1 h1
    refine (encNodesW_walk rest c hc parent hl.2 st1 h1.1).mono (fun st' h2 => ⟨h2.1, ?_⟩)
    have := h1.2
    have := h2.2
    rw [sizeL_cons]
    simp only [Node.lsizeL, Node.hdrL]
    omega
end

theorem encNodeG_ok (n : Node) (c : WCfg) (hc : CfgOk c) (parent : Option Name) (encEnd : Bool)
    (hn : nodeOk n = true) (st : WSt) (hst : StOk st) : Ok StOk (encNodeG c parent encEnd n st) :=
  (encNodeG_walk n c hc parent encEnd hn st hst).mono (fun _ h => h.1)

theorem encNodesW_ok : ∀ (l : List Node) (c : WCfg), CfgOk c → ∀ (parent : Option Name),
    nodesOk l = true → ∀ (st : WSt), StOk st → Ok StOk (encNodesW c parent l st) :=
  fun l c hc parent hl st hst => (encNodesW_walk l c hc parent hl st hst).mono (fun _ h => h.1)

theorem encNodeG_pot (n : Node) (c : WCfg) (hc : CfgOk c) (parent : Option Name) (encEnd : Bool)
    (hn : nodeOk n = true) (st : WSt) (hst : StOk st) (st' : WSt) (h : encNodeG c parent encEnd n st = .ok st') :
    wpot st' + n.lsize ≤ wpot st + 10 * n.size + n.hdr docW :=
  ((encNodeG_walk n c hc parent encEnd hn st hst).of_ok h).2

theorem encNodesW_pot : ∀ (l : List Node) (c : WCfg), CfgOk c → ∀ (parent : Option Name),
    nodesOk l = true → ∀ (st : WSt), StOk st → ∀ (st' : WSt), encNodesW c parent l st = .ok st' →
      wpot st' + Node.lsizeL l ≤ wpot st + 10 * Node.sizeL l + Node.hdrL docW l :=
  fun l c hc parent hl st hst _ h => ((encNodesW_walk l c hc parent hl st hst).of_ok h).2

/-- **`wbxml_tree_to_wbxml` is total on such trees**: WBXML bytes, or a non-zero error code; never a
    NULL dereference, a pointer past a terminator, or a loop that does not end. -/
theorem treeToWbxml_safe (cfg : X2WCfg) (t : Tree) (ht : treeOk t = true) : Safe (treeToWbxml cfg t) := by
  unfold treeToWbxml
  cases hl : t.lang with
  | none => simp [Safe]
  | some lang =>
    simp only [treeOk, hl] at ht
    cases hr : t.root with
    | none => rw [hr] at ht; unfold nodeOk at ht; simp at ht
    | some r =>
      rw [hr] at ht
      unfold nodeOk at ht
      simp only [Bool.and_eq_true] at ht
      simp only [encodeDocW, encNodeW]
      refine Ok.bind (encNodeG_ok r _ (cfgOk_derive _ ht.1) none true ht.2 _ (docStartW_ok _ r)) ?_
      intro st _
      simp

/-- The final encoder state of a successful conversion: its potential — output octets so far plus the
    declared string table — is at most ten octets per unit of size of the root (the string table is one
    of the bounded objects). -/
theorem treeToWbxml_state (cfg : X2WCfg) (t : Tree) (ht : treeOk t = true) (bs : Bytes)
    (h : treeToWbxml cfg t = .ok bs) :
    ∃ lang r st, t.lang = some lang ∧ t.root = some r ∧
      encNodeG (Wbxml.Lemmas.EncW.dcfgOf cfg lang) none true r (docStartW (Wbxml.Lemmas.EncW.dcfgOf cfg lang) r) = .ok st ∧
      bs = (fillHeaderW (Wbxml.Lemmas.EncW.dcfgOf cfg lang) st).1 ++ st.out ∧
      wpot st ≤ 10 * r.size + r.hdr docW := by
  obtain ⟨lang, r, st, hl, hr, henc, hbs⟩ := EncW.treeToWbxml_ok h
  refine ⟨lang, r, st, hl, hr, henc, hbs, ?_⟩
  unfold treeOk at ht
  rw [hl, hr] at ht
  unfold nodeOk at ht
  simp only [Bool.and_eq_true] at ht
  have a2 := encNodeG_pot r _ (cfgOk_derive _ ht.1) none true ht.2 _ (docStartW_ok _ r) st henc
  have a0 := docStartW_pot (Wbxml.Lemmas.EncW.dcfgOf cfg lang) r
  omega

/-- **Output bound on every well-named tree** (`treeOk`: what `treeOfXml` delivers, and any tree
    built through the API with non-empty names): at most ten octets per unit of tree size plus, for
    the document and every embedded document, its public identifier and 20 octets. -/
theorem treeToWbxml_length (cfg : X2WCfg) (t : Tree) (ht : treeOk t = true) (bs : Bytes)
    (h : treeToWbxml cfg t = .ok bs) : bs.length ≤ 10 * t.size + t.hdr docW := by
  obtain ⟨lang, r, st, hl, hr, henc, hbs, hst⟩ := treeToWbxml_state cfg t ht bs h
  have a3 := buildResultW_length (Wbxml.Lemmas.EncW.dcfgOf cfg lang) st (Wbxml.Lemmas.EncW.doc_final_inv _ r st henc).1
  rw [Wbxml.Lemmas.EncW.dcfgOf_lang] at a3
  have e : bs = buildResultW (Wbxml.Lemmas.EncW.dcfgOf cfg lang) st := hbs
  rw [e]
  simp only [Tree.size, Tree.sizeW, Tree.hdr, hl, hr, Node.hdr, docW]
  have e2 : (Node.tree (some lang) t.origCharset (some r)).sizeW (fun _ => 0) = 1 + r.size := by
    simp [Node.sizeW, Node.size]
  omega

def pubMax : List Lang → Nat
  | [] => 0
  | l :: rest => max (pubLen l) (pubMax rest)

theorem pubLen_le_pubMax : ∀ (main : List Lang) (l : Lang), l ∈ main → pubLen l ≤ pubMax main
  | [], l, h => by cases h
  | x :: rest, l, h => by
    simp only [pubMax]
    rcases List.mem_cons.mp h with rfl | h
    · omega
    · have := pubLen_le_pubMax rest l h
      omega

theorem docW_le (main : List Lang) (lang : Option Lang) (h : ∀ l, lang = some l → l ∈ main) :
    1 + docW lang ≤ pubMax main + 21 := by
  cases lang with
  | none => simp only [docW]; omega
  | some l =>
    have := pubLen_le_pubMax main l (h l rfl)
    simp only [docW]
    omega

theorem tree_sizeW_eq (w : Option Lang → Nat) (t : Tree) : t.sizeW w = t.size + t.hdr w := by
  simp only [Tree.sizeW, Tree.size, Tree.hdr]
  exact sizeW_eq w _

end Wbxml.Lemmas.X2W
