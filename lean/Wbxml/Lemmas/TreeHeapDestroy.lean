/-
  C18 lemmas: the iterative teardown `wbxml_tree_node_destroy_all`.

  Loop invariant, in big-step form: started at the head of a matched sibling chain `t` whose parent is
  `p` (`current_node = head of t`, `previous_node = p`), the walk comes back to
  `current_node = NULL, previous_node = p` after exactly `2 * |t|` iterations, having destroyed every
  cell of `t` exactly once (a second `free` of a cell is `Err.ub` in the model, so a successful run
  cannot contain one) and no other cell.  The fuel of the model (`2 * heap + 2`) therefore suffices.
-/
import Wbxml.Lemmas.TreeHeapAdd
namespace Wbxml.Model.TreeHeap
open Wbxml Wbxml.Model

/-- The view with the cells at the addresses `l` dead. -/
def vdelAll (v : View) (l : List Nat) : View := fun j => if j ∈ l then none else v j

theorem vdelAll_nil (v : View) : vdelAll v [] = v := by
  funext j; simp [vdelAll]

theorem destroy_chain : ∀ (t : BT) (p : Nat) (prv : Option Nat) (s : St) (k : Nat) (cp : Cell),
    Match s.cellAt (some p) prv t → t.ids.Nodup → p ∉ t.ids → s.cellAt p = some cp →
    ∃ s', destroyLoop none (2 * t.size + k) s t.rid (some p) = destroyLoop none k s' none (some p) ∧
      s'.cellAt = vdelAll s.cellAt t.ids ∧ SameMeta s s'
  | .nil, p, prv, s, k, cp, _, _, _, _ => by
    refine ⟨s, ?_, by rw [BT.ids_nil, vdelAll_nil], SameMeta.refl s⟩
    simp [BT.size]
  | .node i ch nx, p, prv, s, k, cp, ⟨⟨ci, hci, hpar, hpv, hfi, hnxt, hb⟩, mc, mn⟩, hnd, hp, hcp => by
    obtain ⟨hi1, hi2, hcn, hnn, hd⟩ := BT.nodup_node.mp hnd
    have hpi : p ≠ i := fun e => hp (BT.mem_node.mpr (Or.inl e))
    have hpc : p ∉ ch.ids := fun h => hp (BT.mem_node.mpr (Or.inr (Or.inl h)))
    have hpn : p ∉ nx.ids := fun h => hp (BT.mem_node.mpr (Or.inr (Or.inr h)))
    -- go deeper into i, destroy its children
    obtain ⟨s1, e1, v1, m1⟩ := destroy_chain ch i none s (1 + (2 * nx.size + k)) ci mc hcn hi1 hci
    have hi_s1 : s1.cellAt i = some ci := by
      rw [v1]; simp only [vdelAll, hi1, if_false]; exact hci
    -- destroy i itself
    obtain ⟨s2, e2, v2, m2⟩ := free_step hi_s1
    have hmn2 : Match s2.cellAt (some p) (some i) nx := by
      apply Match.frame nx _ _ _ mn
      intro j hj
      have hji : j ≠ i := fun e => hi2 (e ▸ hj)
      have hjc : j ∉ ch.ids := fun h => hd j h hj
      rw [v2, vdel_ne _ hji, v1]; simp only [vdelAll, hjc, if_false]
    have hp_s2 : s2.cellAt p = some cp := by
      rw [v2, vdel_ne _ hpi, v1]; simp only [vdelAll, hpc, if_false]; exact hcp
    -- continue with the next sibling
    obtain ⟨s3, e3, v3, m3⟩ := destroy_chain nx p (some i) s2 k cp hmn2 hnn hpn hp_s2
    refine ⟨s3, ?_, ?_, (m1.trans m2).trans m3⟩
    · have hfuel : 2 * (BT.node i ch nx).size + k = (2 * ch.size + (1 + (2 * nx.size + k))) + 1 := by
        simp only [BT.size]; omega
      have hfuel2 : 1 + (2 * nx.size + k) = (2 * nx.size + k) + 1 := by omega
      rw [hfuel, BT.rid_node]
      simp only [destroyLoop, deref_of_cellAt hci, hfi]
      rw [e1, hfuel2]
      simp only [destroyLoop, deref_of_cellAt hi_s1, hpar, e2, hnxt]
      exact e3
    · rw [v3, v2, v1]
      funext j
      simp only [vdelAll, vdel, BT.ids_node, List.mem_cons, List.mem_append]
      by_cases h1 : j ∈ nx.ids
      · simp [h1]
      · by_cases h2 : j = i
        · simp [h2]
        · simp [h1, h2]

/-- `wbxml_tree_node_destroy_all` on a node without parent (a detached sub-tree, or the root):
    never faults, never runs out of fuel, destroys exactly the node and everything below it. -/
theorem destroyAll_spec {s : St} {T c T' : BT} {n : Nat} (hF : Forest s (T.snoc (.node n c T'))) :
    ∃ s', destroyAll s n = .ok s' ∧ s'.cellAt = vdelAll s.cellAt (n :: c.ids) ∧ SameMeta s s' := by
  obtain ⟨cn, hcn, hp, _, _, hf, _, hm⟩ := Loc.top_at hF.m
  obtain ⟨_, dc, _, _, nc, _⟩ := BT.nodup_split hF.nodup
  have hsz := hF.sub_size_lt
  obtain ⟨k, hk⟩ : ∃ k, 2 * s.heap.length + 2 = (2 * c.size + (k + 1)) + 1 :=
    ⟨2 * s.heap.length - 2 * c.size, by omega⟩
  obtain ⟨s1, e1, v1, m1⟩ := destroy_chain c n none s (k + 1) cn hm dc nc hcn
  have hn1 : s1.cellAt n = some cn := by
    rw [v1]; simp only [vdelAll, nc, if_false]; exact hcn
  obtain ⟨s2, e2, v2, m2⟩ := free_step hn1
  refine ⟨s2, ?_, ?_, m1.trans m2⟩
  · simp only [destroyAll, deref_of_cellAt hcn, bind, Except.bind, hp]
    rw [hk]
    simp only [destroyLoop, deref_of_cellAt hcn, hf]
    rw [e1]
    simp only [destroyLoop, deref_of_cellAt hn1, hp, if_true]
    exact e2
  · rw [v2, v1]
    funext j
    simp only [vdelAll, vdel, List.mem_cons]
    by_cases h1 : j = n
    · simp [h1]
    · simp [h1]

theorem Forest.after_destroy {s s' : St} {T c T' : BT} {n : Nat} (hF : Forest s (T.snoc (.node n c T')))
    (hv : s'.cellAt = vdelAll s.cellAt (n :: c.ids))
    (hroot' : s'.root = s.root) (hroot : s.root ≠ some n) : Forest s' (T.snoc T') := by
  obtain ⟨_, _, _, nT, _, nT', dTc, dcT'⟩ := BT.nodup_split hF.nodup
  have hkeep : ∀ i, i ≠ n → i ∉ c.ids → s'.cellAt i = s.cellAt i := by
    intro i h1 h2
    rw [hv]; simp only [vdelAll, List.mem_cons, h1, h2, or_self, if_false]
  obtain ⟨m1, _, _, m2⟩ := (Loc.top_snoc _ T _ none none).mp hF.m
  apply hF.of_perm (n :: c.ids)
  · apply (Loc.top_snoc _ T T' none (some n)).mpr
    exact ⟨Loc.mono T _ _ (fun i hi _ _ _ _ l =>
        LinkF.congr (hkeep i (fun e => nT (e ▸ hi)) (dTc i hi).1) l) m1,
      Loc.mono T' _ _ (fun i hi _ _ _ _ l =>
        LinkF.congr (hkeep i (fun e => nT' (e ▸ hi)) (fun h => dcT' i h hi)) l) m2⟩
  · simp only [BT.snoc_ids_eq, BT.ids_node]
    exact List.perm_append_comm_assoc _ _ _
  · intro i c' hc'
    rw [hv] at hc'
    simp only [vdelAll] at hc'
    by_cases h : i ∈ n :: c.ids
    · simp [h] at hc'
    · simp only [h, if_false] at hc'
      exact ⟨⟨c', hc'⟩, h⟩
  · intro r hr'
    rw [hroot'] at hr'
    exact BT.tops_without (hF.root r hr') (fun e => hroot (e ▸ hr'))

end Wbxml.Model.TreeHeap
