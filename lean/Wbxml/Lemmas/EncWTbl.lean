/-
  WBXML encoder proofs: the string-table invariant is kept by the node walk on EVERY tree (no
  hypothesis on the language tables or on the names in the tree): the table only grows at its end,
  offsets stay the running sums of `length + 1`, the declared length stays exact, and nothing is
  added when the string table is disabled.
-/
import Wbxml.Lemmas.EncWText
import Wbxml.Lemmas.EncWAttr
namespace Wbxml.Lemmas.EncW
open Wbxml Wbxml.Model Wbxml.Spec Wbxml.Lemmas.ParseSer
open Wbxml.Model.Codec (mbEncode)

/-- `parse_element`: after `current_tag` has become the row chosen for the name, a `Step`. -/
theorem encElementStartW_step (c : WCfg) (na : Option (List Attr)) (name : Name) (attrs : List Attr) (hasContent : Bool)
    (st st' : WSt) (h : encElementStartW c na name attrs hasContent st = .ok st') :
    Step c { st with curTag := foundAt c.lang st.tagPage name } st' := by
  unfold encElementStartW at h
  obtain ⟨st1, h1, h⟩ := bind_eq_ok h
  obtain ⟨st2, h2, h⟩ := bind_eq_ok h
  cases Except.ok.inj h
  refine (encTagW_step c name _ _ st st1 h1).trans ((encAttrsW_step c na attrs st1 st2 h2).trans ?_)
  split
  · exact ⟨TblExt.of_eq rfl rfl, rfl, rfl⟩
  · exact Step.refl _ _

theorem encNode_tbl :
    (∀ (c : WCfg) (parent : Option Name) (encEnd : Bool) (n : Node) (st : WSt), StrInv st →
      ∀ st', encNodeG c parent encEnd n st = .ok st' → TblExt c st st') ∧
    (∀ (c : WCfg) (parent : Option Name) (l : List Node) (st : WSt), StrInv st →
      ∀ st', encNodesW c parent l st = .ok st' → TblExt c st st') := by
  apply encNodeG.mutual_induct
  · intro c parent encEnd name attrs kids st ih hinv st' h
    simp only [encNodeG] at h
    obtain ⟨st1, h1, h⟩ := bind_eq_ok h
    obtain ⟨st2, h2, rfl⟩ := bind_pure_eq_ok h
    have t1 : TblExt c st st1 := (TblExt.of_eq rfl rfl : TblExt c st { st with curTag := foundAt c.lang st.tagPage name }).trans
      (encElementStartW_step c _ name attrs _ st st1 h1).tbl
    have t2 := ih st1 (t1.inv hinv) st2 h2
    have t3 : TblExt c st2 (if (encEnd && !kids.isEmpty) = true then st2.emit [0x01] else st2) := by
      split
      · exact TblExt.of_eq rfl rfl
      · exact TblExt.refl _ _
    exact t1.trans (t2.trans (t3.trans (TblExt.of_eq rfl rfl)))
  · intro c parent encEnd s st hinv st' h
    simp only [encNodeG] at h
    obtain ⟨st1, h1, rfl⟩ := bind_pure_eq_ok h
    obtain ⟨items, _, _, _, _, ht, hlen, _⟩ := encTextW_spec c parent s st st1 hinv h1
    exact (TblExt.of_eq ht hlen).trans (TblExt.of_eq rfl rfl)
  · intro c parent encEnd kids st s hs _ st' h
    simp only [encNodeG, hs] at h
    cases h
  · intro c parent encEnd kids st hs ih hinv st' h
    simp only [encNodeG, hs] at h
    obtain ⟨st2, h2, h⟩ := bind_eq_ok h
    have t1 := ih (hinv.of_eq rfl rfl) st2 h2
    have t0 : TblExt c st { st with inCdata := true, cdata := some [] } := TblExt.of_eq rfl rfl
    split at h
    · cases h
    · rename_i cd hcd
      obtain rfl := Except.ok.inj h
      have t3 : TblExt c st2 (if cd.length > 0 then ({ st2 with inCdata := false } : WSt).emit (opaqueW cd)
          else { st2 with inCdata := false }) := by
        split
        · exact TblExt.of_eq rfl rfl
        · exact TblExt.of_eq rfl rfl
      exact t0.trans (t1.trans (t3.trans (TblExt.of_eq rfl rfl)))
  · intro c parent encEnd cs root st _ st' h
    simp only [encNodeG] at h
    cases h
  · intro c parent encEnd cs st l _ st' h
    simp only [encNodeG] at h
    cases h
  · intro c parent encEnd cs st l r c' _ _ st' h
    simp only [encNodeG] at h
    obtain ⟨st2, _, rfl⟩ := bind_pure_eq_ok h
    exact TblExt.of_eq rfl rfl
  · intro c parent st _ st' h
    simp only [encNodesW] at h
    obtain rfl := Except.ok.inj h
    exact TblExt.refl _ _
  · intro c parent n rest st ih1 ih2 hinv st' h
    simp only [encNodesW] at h
    obtain ⟨st1, h1, h⟩ := bind_eq_ok h
    have t1 := ih1 hinv st1 h1
    exact t1.trans (ih2 st1 (t1.inv hinv) st' h)

theorem doc_final_inv (c : WCfg) (r : Node) (st : WSt)
    (h : encNodeG c none true r (docStartW c r) = .ok st) :
    StrInv st ∧ (c.useStrtbl = false → st.strtbl = []) := by
  have t := encNode_tbl.1 c none true r _ (docStartW_inv c r) st h
  exact ⟨t.inv (docStartW_inv c r), fun hu => by rw [t.no hu]; exact docStartW_noStrtbl _ _ hu⟩

end Wbxml.Lemmas.EncW

