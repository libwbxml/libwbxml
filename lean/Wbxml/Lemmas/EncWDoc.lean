/-
  WBXML encoder proofs: whole documents. A successful `treeToWbxml` run on a tree whose root is an
  element over the tree's language writes `Spec.ser d` for a document `d` of the grammar
  (`treeToWbxml_doc`, `DocRes`), every string-table index of `d` is the start of a table entry
  (`DocRes.refs`), and `d` is well-formed as soon as its root element is (`DocRes.wf_of_root`): when
  no OPAQUE token was written (`DocRes.wf`), and with typed content under the four source hypotheses
  (`DocRes.wfAt`, `DocRes.wfTyped`). The last part says where those hypotheses hold of every tree:
  in a language without typed content all four (`untyped_node`), and for a plain tree of a language
  without typed attribute values and without `ds:KeyValue` (`plain_node`; `attrHyps_node` for the
  three that do not look for CDATA, `noCdata_untyped` / `noCdata_plain` for the fourth).
-/
import Wbxml.Lemmas.EncWNode
import Wbxml.Lemmas.EncWHeader
namespace Wbxml.Lemmas.EncW
open Wbxml Wbxml.Model Wbxml.Spec Wbxml.Lemmas.ParseSer
open Wbxml.Model.Codec (mbEncode)

/-- The root is an element and every token name below it is a row of the language's tables. -/
def treeOver (lang : Lang) (t : Tree) : Bool :=
  match t.root with
  | some r => isElt r && nodeOver lang r
  | none => false

/-- The events of a document without processing instructions: `startDoc`, the root element, `endDoc`. -/
theorem events_root (pcfg : PCfg) (d : Doc) (lang : Lang) (hl : headerLang pcfg d.hdr = some lang)
    (hpre : d.pre = []) (hpost : d.post = []) :
    Spec.events pcfg d = .startDoc (headerCharset pcfg d.hdr) lang.id ::
      ((evElem (headerCtx pcfg d.hdr lang) ⟨0, 0⟩ d.root).1 ++ [.endDoc]) := by
  unfold Spec.events
  rw [hl, hpre, hpost]
  simp only [evPis, List.nil_append, headerCtx]

structure DocRes (cfg : X2WCfg) (lang : Lang) (r : Node) (bs : Bytes) (d : Doc) (st : WSt) : Prop where
  run : encNodeG (dcfgOf cfg lang) none true r (docStartW (dcfgOf cfg lang) r) = .ok st
  ser : bs = Spec.ser d
  hdr : d.hdr = hdrOf (dcfgOf cfg lang) st
  pre : d.pre = []
  post : d.post = []
  inv : StrInv st
  no : (dcfgOf cfg lang).useStrtbl = false → st.strtbl = []
  body : Seg (dcfgOf cfg lang) (docStartW (dcfgOf cfg lang) r) st [.elem d.root]
  view : ViewN (dcfgOf cfg lang) r (docStartW (dcfgOf cfg lang) r) st [.elem d.root]
  wfT : WfN (dcfgOf cfg lang) none r (docStartW (dcfgOf cfg lang) r) st [.elem d.root]
  viewT : ViewT (dcfgOf cfg lang) none r (docStartW (dcfgOf cfg lang) r) st [.elem d.root]
  treeT : TreeT (dcfgOf cfg lang) none r (docStartW (dcfgOf cfg lang) r) st [.elem d.root]

theorem treeToWbxml_doc (cfg : X2WCfg) (t : Tree) (bs : Bytes) (lang : Lang) (hlang : t.lang = some lang)
    (hl : langOk lang = true) (hover : treeOver lang t = true) (h : treeToWbxml cfg t = .ok bs) :
    ∃ r d st, t.root = some r ∧ DocRes cfg lang r bs d st := by
  obtain ⟨lang', r, st, hl', hr, hrun, hbs⟩ := treeToWbxml_ok h
  rw [hlang] at hl'; injection hl' with hl'; subst hl'
  simp only [treeOver, hr, Bool.and_eq_true] at hover
  have hinv0 := docStartW_inv (dcfgOf cfg lang) r
  have hov : nodeOver (dcfgOf cfg lang).lang r = true := by rw [dcfgOf_lang]; exact hover.2
  obtain ⟨items, hn, hshape⟩ := encNode_seg.1 (dcfgOf cfg lang) none true r _ rfl
    (by rw [dcfgOf_lang]; exact hl) hov hinv0 st hrun
  obtain ⟨e, rfl⟩ := hshape hover.1
  have hseg := hn.seg
  have hviewT := ViewT.of_tree hov hn.page hn.tree
  have hview := ViewN.of_viewT_root hov (docStartW_fields _ r).curTag hn.noOpq hviewT
  obtain ⟨hinv, hno⟩ := doc_final_inv _ r st hrun
  refine ⟨r, { hdr := hdrOf (dcfgOf cfg lang) st, pre := [], root := e, post := [] }, st, hr,
    ⟨hrun, ?_, rfl, rfl, rfl, hinv, hno, hseg, hview, hn.wf, hviewT, hn.tree⟩⟩
  rw [hbs, fillHeaderW_ser _ _ hinv hno]
  have hout := hseg.out
  rw [(docStartW_fields _ r).out, List.nil_append, serItems_single, serItem_elem] at hout
  simp [Spec.ser, serBody, serPis, hout]

theorem DocRes.tblBytes {cfg lang r bs d st} (h : DocRes cfg lang r bs d st) :
    tblBytes d.hdr.strtbl = strtblBytes (finalTbl (dcfgOf cfg lang) st) := by
  rw [h.hdr]; exact tblBytes_map _

theorem offsFrom_index (b : Nat) (l : List StrEntry) (h : OffsFrom b l) (e : StrEntry) (he : e ∈ l) :
    ∃ i, i < l.length ∧ e.offset = b + tblLen (l.take i) := by
  induction l generalizing b with
  | nil => cases he
  | cons x xs ih =>
    rcases List.mem_cons.mp he with rfl | hm
    · exact ⟨0, by simp, by simpa [tblLen] using h.1⟩
    · obtain ⟨i, hi, ho⟩ := ih _ h.2 hm
      exact ⟨i + 1, by simp; omega, by rw [ho]; simp only [List.take_succ_cons, tblLen]; omega⟩

theorem finalTbl_mem_of_body (c : WCfg) (st : WSt) (hno : c.useStrtbl = false → st.strtbl = []) (e : StrEntry)
    (he : e ∈ st.strtbl) : e ∈ finalTbl c st := by
  cases hu : c.useStrtbl with
  | false => rw [hno hu] at he; cases he
  | true => exact (finalTbl_prefix c st hu).subset he

theorem hdrPubid_mem (c : WCfg) (st : WSt) (idx : Nat) (h : hdrPubid c st = .str idx) :
    ∃ e ∈ finalTbl c st, e.offset = idx := by
  unfold hdrPubid at h
  unfold finalTbl
  cases hp : hdrPid c with
  | none => rw [hp] at h; cases h
  | some p =>
    rw [hp] at h
    cases hu : c.useStrtbl with
    | true =>
      simp only [hu, ↓reduceIte] at h ⊢
      injection h with h
      obtain ⟨e, he, ho, _⟩ := strtblAdd_idx st p none
      exact ⟨e, he, ho.trans h⟩
    | false =>
      simp only [hu, Bool.false_eq_true, ↓reduceIte] at h ⊢
      injection h with h
      exact ⟨⟨p, 0, none⟩, List.mem_singleton.mpr rfl, h⟩

theorem DocRes.refs {cfg lang r bs d st} (h : DocRes cfg lang r bs d st) :
    ∀ off ∈ refsDoc d, ∃ e ∈ finalTbl (dcfgOf cfg lang) st, e.offset = off := by
  intro off ho
  unfold refsDoc at ho
  rw [h.pre, h.post] at ho
  simp only [refsAttrs, List.append_nil, List.nil_append, List.mem_append] at ho
  rcases ho with ho | ho
  · have hp : d.hdr.pubid = hdrPubid (dcfgOf cfg lang) st := by rw [h.hdr]; rfl
    cases hpid : d.hdr.pubid with
    | num id => rw [hpid] at ho; cases ho
    | str idx =>
      rw [hpid] at ho
      simp only [List.mem_cons, List.mem_nil_iff, or_false] at ho
      subst ho
      exact hdrPubid_mem _ _ _ (hp ▸ hpid)
  · obtain ⟨e, he, heo⟩ := h.body.refs off (by rw [refsItems_single, refsItem_elem]; exact ho)
    exact ⟨e, finalTbl_mem_of_body _ _ h.no e he, heo⟩

/-- An entry of a table with running-sum offsets starts inside the octets of the table. -/
theorem offset_lt_of_offs {l : List StrEntry} (h : OffsFrom 0 l) {e : StrEntry} (he : e ∈ l) :
    e.offset < (strtblBytes l).length := by
  obtain ⟨pre, post, hs, ho⟩ := offsFrom_split 0 _ h e he
  rw [hs, ho]
  simp only [List.length_append, List.length_cons, List.length_nil]
  omega

/-- The header `wbxml_fill_header` writes is well-formed for every reader configuration whose
    effective character set is one in which the textual public identifier can be read. -/
theorem hdrOf_wf (c : WCfg) (st : WSt) (hinv : StrInv st)
    (hpub : 0 < c.lang.pub.wbxmlId ∧ c.lang.pub.wbxmlId < 4294967296) (pcfg : PCfg)
    (hcs : headerCharset pcfg (hdrOf c st) = 3 ∨ headerCharset pcfg (hdrOf c st) = 106)
    (hcsk : pcfg.charsets.contains (headerCharset pcfg (hdrOf c st)) = true)
    (hver : c.version < 256) (hsize : (strtblBytes (finalTbl c st)).length < 4294967295) :
    wfHeader pcfg (hdrOf c st) = true := by
  have htb : tblBytes (hdrOf c st).strtbl = strtblBytes (finalTbl c st) := tblBytes_map _
  simp only [wfHeader, Bool.and_eq_true, decide_eq_true_eq, Bool.or_eq_true, beq_iff_eq]
  refine ⟨⟨⟨hver, ?_⟩, Or.inr ⟨by simp [hdrOf], hcsk⟩⟩, by rw [htb]; omega⟩
  unfold wfPubid
  cases hp : (hdrOf c st).pubid with
  | num id =>
    have hp' : hdrPubid c st = .num id := hp
    unfold hdrPubid at hp'
    split at hp'
    · split at hp' <;> cases hp'
    · injection hp' with hp'
      simp only [Bool.and_eq_true, decide_eq_true_eq]
      split at hp' <;> omega
  | str idx =>
    have hp' : hdrPubid c st = .str idx := hp
    obtain ⟨e, he, heo⟩ := hdrPubid_mem _ _ _ hp'
    have := offset_lt_of_offs (finalTbl_offs c st hinv) he
    simp only [Bool.and_eq_true, decide_eq_true_eq, Bool.or_eq_true, bne_iff_ne, ne_eq, beq_iff_eq]
    exact ⟨by omega, Or.inr ⟨by rw [htb]; omega, hcs⟩⟩

/-- The reader context selected by the header of ANY option tuple with the same effective
    string-table switch, written over the same final state, agrees with the encoder. -/
theorem compat_header (c c' : WCfg) (st : WSt) (hinv : StrInv st) (hno : c'.useStrtbl = false → st.strtbl = [])
    (pcfg : PCfg)
    (hcs : headerCharset pcfg (hdrOf c' st) = 3 ∨ headerCharset pcfg (hdrOf c' st) = 106) :
    Compat c st.strtbl (headerCtx pcfg (hdrOf c' st) c.lang) := by
  refine ⟨rfl, ?_, ?_⟩
  · simp only [csOk, headerCtx, Bool.or_eq_true, beq_iff_eq]; exact hcs
  · intro e he
    show e.offset < (tblBytes (hdrOf c' st).strtbl).length
    have : tblBytes (hdrOf c' st).strtbl = strtblBytes (finalTbl c' st) := tblBytes_map _
    rw [this]
    exact offset_lt_of_offs (finalTbl_offs c' st hinv) (finalTbl_mem_of_body c' st hno e he)

theorem DocRes.compat {cfg lang r bs d st} (h : DocRes cfg lang r bs d st) (pcfg : PCfg)
    (hcs : headerCharset pcfg d.hdr = 3 ∨ headerCharset pcfg d.hdr = 106) :
    Compat (dcfgOf cfg lang) st.strtbl (headerCtx pcfg d.hdr lang) := by
  have := compat_header (dcfgOf cfg lang) (dcfgOf cfg lang) st h.inv h.no pcfg (by rw [← h.hdr]; exact hcs)
  rw [dcfgOf_lang, ← h.hdr] at this
  exact this

theorem DocRes.root_le {cfg lang r bs d st} (h : DocRes cfg lang r bs d st) : (serElem d.root).length ≤ bs.length := by
  rw [h.ser, Spec.ser, serBody]
  simp only [List.length_append]
  omega

/-- A header `wbxml_fill_header` writes, no processing instructions and one root element: well-formed
    as soon as the root element is (header and string table are). -/
theorem doc_wf_of_root (c : WCfg) (st : WSt) (hinv : StrInv st) (hl : langOk c.lang = true) (root : Elem)
    (bs rest : Bytes) (hbs : bs = serHeader (hdrOf c st) ++ rest) (hsize : bs.length < 4294967296)
    (hver : c.version < 256) (pcfg : PCfg) (lang : Lang) (hlang : headerLang pcfg (hdrOf c st) = some lang)
    (hcs : headerCharset pcfg (hdrOf c st) = 3 ∨ headerCharset pcfg (hdrOf c st) = 106)
    (hcsk : pcfg.charsets.contains (headerCharset pcfg (hdrOf c st)) = true)
    (hroot : wfElem (headerCtx pcfg (hdrOf c st) lang) none ⟨0, 0⟩ root = true) :
    ({ hdr := hdrOf c st, pre := [], root := root, post := [] } : Doc).WF pcfg := by
  have htb : tblBytes (hdrOf c st).strtbl = strtblBytes (finalTbl c st) := tblBytes_map _
  have hlen : (strtblBytes (finalTbl c st)).length < bs.length := by
    rw [hbs, serHeader, htb]
    simp only [List.length_append, List.length_cons]
    omega
  unfold Doc.WF Doc.wf
  rw [hlang]
  simp only [Bool.and_eq_true]
  exact ⟨hdrOf_wf c st hinv (langOk_pub hl) pcfg hcs hcsk hver (by omega), ⟨rfl, hroot⟩, rfl⟩

theorem DocRes.wf_of_root {cfg lang r bs d st} (h : DocRes cfg lang r bs d st) (hl : langOk lang = true)
    (pcfg : PCfg) (hlang : headerLang pcfg d.hdr = some lang)
    (hcs : headerCharset pcfg d.hdr = 3 ∨ headerCharset pcfg d.hdr = 106)
    (hcsk : pcfg.charsets.contains (headerCharset pcfg d.hdr) = true)
    (hver : cfg.version < 256) (hsize : bs.length < 4294967296)
    (hroot : wfElem (headerCtx pcfg d.hdr lang) none ⟨0, 0⟩ d.root = true) : d.WF pcfg := by
  have hser := h.ser
  obtain ⟨hdr, pre, root, post⟩ := d
  obtain rfl : hdr = _ := h.hdr
  obtain rfl : pre = [] := h.pre
  obtain rfl : post = [] := h.post
  exact doc_wf_of_root _ st h.inv (by rw [dcfgOf_lang]; exact hl) root bs _ hser hsize
    (by rw [dcfgOf_version]; exact hver) pcfg lang hlang hcs hcsk hroot

/-- Well-formedness of the produced document for a reader configuration `pcfg` under which the
    header selects the tree's language and a character set in which strings can be delivered. -/
theorem DocRes.wf {cfg lang r bs d st} (h : DocRes cfg lang r bs d st) (hl : langOk lang = true)
    (pcfg : PCfg) (hlang : headerLang pcfg d.hdr = some lang)
    (hcs : headerCharset pcfg d.hdr = 3 ∨ headerCharset pcfg d.hdr = 106)
    (hcsk : pcfg.charsets.contains (headerCharset pcfg d.hdr) = true)
    (hver : cfg.version < 256) (hsize : bs.length < 4294967296)
    (hno : opqsDoc d = [] ∨ untypedLang lang.id = true) : d.WF pcfg := by
  refine h.wf_of_root hl pcfg hlang hcs hcsk hver hsize ?_
  have hbody := h.root_le
  have := h.body.wf (headerCtx pcfg d.hdr lang) (h.compat pcfg hcs) (by rw [dcfgOf_lang]; exact hl)
    (by rw [opqsItems_single, opqsItem_elem]
        rcases hno with hno | hu
        · unfold opqsDoc at hno
          rw [h.pre, h.post] at hno
          exact Or.inl (by simpa [opqsAttrs] using hno)
        · refine Or.inr ⟨by rw [dcfgOf_lang]; exact hu, ?_⟩
          intro x hx
          have := h.body.osz x (by rw [opqsItems_single, opqsItem_elem]; exact hx)
          rw [serItems_single, serItem_elem] at this
          omega) none none
  rw [(docStartW_fields _ r).tagPage, (docStartW_fields _ r).attrPage, wfItems_single, wfItem_elem] at this
  exact this

/-- The root element a successful run wrote is well-formed for EVERY reader context that agrees
    with the encoder (language, deliverable character set, the body's table entries inside the
    context's table) — under the four source hypotheses (each a recorded finding): `noCdataInTyped`
    (`cdata-in-typed-element`), `validDatetimeAttrs` (`invalid-datetime-attribute-accepted`),
    `b64TextDecodes` (D5: text that is not base64 becomes an empty OPAQUE) and `keyValueTextFirst`
    (DRMREL text behind a child element). `typedLangOk` is a table fact (true for every language of
    the library). -/
theorem DocRes.wfAt {cfg lang r bs d st} (h : DocRes cfg lang r bs d st)
    (htl : typedLangOk lang = true)
    (h1 : noCdataInTyped lang false r = true) (h2 : validDatetimeAttrs lang r = true)
    (h3 : b64TextDecodes (dcfgOf cfg lang) none r = true)
    (h4 : keyValueTextFirst (dcfgOf cfg lang) none true r = true)
    (hsize : (serElem d.root).length < 4294967296)
    (ctx : Ctx) (hc : Compat (dcfgOf cfg lang) st.strtbl ctx) : wfElem ctx none ⟨0, 0⟩ d.root = true := by
  have hpos : Pos (dcfgOf cfg lang) ctx none (docStartW (dcfgOf cfg lang) r).curTag false true none none := by
    rw [(docStartW_fields _ r).curTag]; exact Pos.root _ _ true
  have := h.wfT false true (by rw [dcfgOf_lang]; exact htl) (by rw [dcfgOf_lang]; exact h1)
    (by rw [dcfgOf_lang]; exact h2) h3 h4 ctx hc
    (by intro x hx
        have := h.body.osz x hx
        rw [serItems_single, serItem_elem] at this
        omega) none none hpos
  rw [(docStartW_fields _ r).tagPage, (docStartW_fields _ r).attrPage, wfItems_single, wfItem_elem] at this
  exact this

/-- **Well-formedness with typed content.** The produced document is well-formed for every reader
    configuration that selects the tree's language and a deliverable character set, under the four
    source hypotheses of `DocRes.wfAt`. -/
theorem DocRes.wfTyped {cfg lang r bs d st} (h : DocRes cfg lang r bs d st) (hl : langOk lang = true)
    (htl : typedLangOk lang = true)
    (h1 : noCdataInTyped lang false r = true) (h2 : validDatetimeAttrs lang r = true)
    (h3 : b64TextDecodes (dcfgOf cfg lang) none r = true)
    (h4 : keyValueTextFirst (dcfgOf cfg lang) none true r = true)
    (pcfg : PCfg) (hlang : headerLang pcfg d.hdr = some lang)
    (hcs : headerCharset pcfg d.hdr = 3 ∨ headerCharset pcfg d.hdr = 106)
    (hcsk : pcfg.charsets.contains (headerCharset pcfg d.hdr) = true)
    (hver : cfg.version < 256) (hsize : bs.length < 4294967296) : d.WF pcfg :=
  h.wf_of_root hl pcfg hlang hcs hcsk hver hsize
    (h.wfAt htl h1 h2 h3 h4 (Nat.lt_of_le_of_lt h.root_le hsize) _ (h.compat pcfg hcs))

theorem untyped_typedRow (id : Nat) (h : untypedLang id = true) (r : TagRow) : typedRow id r = false := by
  simp only [untypedLang, Bool.and_eq_true, Bool.not_eq_true'] at h
  simp [typedRow, h.1.1.1.1.1, h.1.1.1.1.2, h.1.1.1.2]

theorem untyped_kidsTy (l : Lang) (h : untypedLang l.id = true) (nm : Name) : kidsTy l false nm = false := by
  cases nm with
  | token r => exact untyped_typedRow _ h r
  | literal s => simp [kidsTy, untyped_typedRow _ h]

theorem untyped_kvPar (l : Lang) (h : untypedLang l.id = true) (p : Option Name) : kvPar l p = false := by
  simp only [untypedLang, Bool.and_eq_true, Bool.not_eq_true'] at h
  exact plain_kvPar l h.1.1.1.1.2 p

theorem noTypedAttr_dtAttrOk (l : Lang) (h : noTypedAttr l.id = true) (a : Attr) : dtAttrOk l a = true := by
  simp [dtAttrOk, dtAttrName, noTypedAttr_dt _ h]

theorem noTypedAttr_iconAttrOk (l : Lang) (h : noTypedAttr l.id = true) (na) (a : Attr) : iconAttrOk l na a = true := by
  simp [iconAttrOk, iconValName, iconRow, noTypedAttr_not_ota _ h]

/-! Three of the four source hypotheses hold of every tree as soon as the language has no typed attribute
    value and no `ds:KeyValue` parent; only `noCdataInTyped` needs the tree: no typed rule ever applies
    (`noCdata_untyped`), or there is no CDATA section and no embedded document (`noCdata_plain`). -/

mutual
theorem attrHyps_node (c : WCfg) (hn : noTypedAttr c.lang.id = true) (hkv : ∀ p, kvPar c.lang p = false) :
    ∀ (n : Node) (parent : Option Name) (pre : Bool),
    validDatetimeAttrs c.lang n = true ∧ b64TextDecodes c parent n = true ∧ keyValueTextFirst c parent pre n = true
  | .elt nm attrs kids, parent, pre => by
    have ih := attrHyps_nodes c hn hkv kids (some nm) true
    rw [validDatetimeAttrs, b64TextDecodes, keyValueTextFirst, Bool.and_eq_true, Bool.and_eq_true]
    exact ⟨⟨List.all_eq_true.mpr fun a _ => noTypedAttr_dtAttrOk _ hn a, ih.1⟩,
      ⟨List.all_eq_true.mpr fun a _ => noTypedAttr_iconAttrOk _ hn _ a, ih.2.1⟩, ih.2.2⟩
  | .text s, parent, pre => by
    rw [validDatetimeAttrs, b64TextDecodes, keyValueTextFirst, hkv]; simp
  | .cdata kids, parent, pre => by
    rw [validDatetimeAttrs, b64TextDecodes, keyValueTextFirst]; exact attrHyps_nodes c hn hkv kids none pre
  | .tree _ _ _, parent, pre => by
    rw [validDatetimeAttrs, b64TextDecodes, keyValueTextFirst]; simp
theorem attrHyps_nodes (c : WCfg) (hn : noTypedAttr c.lang.id = true) (hkv : ∀ p, kvPar c.lang p = false) :
    ∀ (l : List Node) (parent : Option Name) (pre : Bool),
    validDatetimeAttrsL c.lang l = true ∧ b64TextDecodesL c parent l = true ∧ keyValueTextFirstL c parent pre l = true
  | [], _, _ => by rw [validDatetimeAttrsL, b64TextDecodesL, keyValueTextFirstL]; simp
  | n :: rest, parent, pre => by
    have h1 := attrHyps_node c hn hkv n parent pre
    have h2 := attrHyps_nodes c hn hkv rest parent (pre && isTextN n)
    rw [validDatetimeAttrsL, b64TextDecodesL, keyValueTextFirstL]
    simp [h1.1, h1.2.1, h1.2.2, h2.1, h2.2.1, h2.2.2]
end

mutual
theorem noCdata_untyped (l : Lang) (h : ∀ nm, kidsTy l false nm = false) : ∀ n, noCdataInTyped l false n = true
  | .elt nm _ kids => by rw [noCdataInTyped, h]; exact noCdataL_untyped l h kids
  | .text _ => rfl
  | .cdata kids => by rw [noCdataInTyped, noCdataL_untyped l h kids]; rfl
  | .tree _ _ _ => rfl
theorem noCdataL_untyped (l : Lang) (h : ∀ nm, kidsTy l false nm = false) : ∀ ns, noCdataInTypedL l false ns = true
  | [] => rfl
  | n :: rest => by rw [noCdataInTypedL, noCdata_untyped l h n, noCdataL_untyped l h rest]; rfl
end

mutual
theorem noCdata_plain (l : Lang) : ∀ n ty, plainNode n = true → noCdataInTyped l ty n = true
  | .elt nm _ kids, ty, hp => by rw [plainNode] at hp; rw [noCdataInTyped]; exact noCdataL_plain l kids _ hp
  | .text _, _, _ => rfl
  | .cdata _, _, hp => by rw [plainNode] at hp; cases hp
  | .tree _ _ _, _, hp => by rw [plainNode] at hp; cases hp
theorem noCdataL_plain (l : Lang) : ∀ ns ty, plainNodes ns = true → noCdataInTypedL l ty ns = true
  | [], _, _ => rfl
  | n :: rest, ty, hp => by
    rw [plainNodes, Bool.and_eq_true] at hp
    rw [noCdataInTypedL, noCdata_plain l n ty hp.1, noCdataL_plain l rest ty hp.2]; rfl
end

theorem untyped_node (c : WCfg) (h : untypedLang c.lang.id = true) (n : Node) (parent : Option Name) (pre : Bool) :
    noCdataInTyped c.lang false n = true ∧ validDatetimeAttrs c.lang n = true ∧
    b64TextDecodes c parent n = true ∧ keyValueTextFirst c parent pre n = true :=
  ⟨noCdata_untyped _ (untyped_kidsTy _ h) n,
    attrHyps_node c (untyped_noTypedAttr _ h) (untyped_kvPar _ h) n parent pre⟩

theorem untyped_nodes (c : WCfg) (h : untypedLang c.lang.id = true) : ∀ (l : List Node) (parent : Option Name) (pre : Bool),
    noCdataInTypedL c.lang false l = true ∧ validDatetimeAttrsL c.lang l = true ∧
    b64TextDecodesL c parent l = true ∧ keyValueTextFirstL c parent pre l = true :=
  fun l parent pre => ⟨noCdataL_untyped _ (untyped_kidsTy _ h) l,
    attrHyps_nodes c (untyped_noTypedAttr _ h) (untyped_kvPar _ h) l parent pre⟩

theorem plain_node (c : WCfg) (hd : (c.lang.id == 1801) = false) (hn : noTypedAttr c.lang.id = true)
    (n : Node) (ty : Bool) (parent : Option Name) (pre : Bool) (hp : plainNode n = true) :
    noCdataInTyped c.lang ty n = true ∧ validDatetimeAttrs c.lang n = true ∧
    b64TextDecodes c parent n = true ∧ keyValueTextFirst c parent pre n = true :=
  ⟨noCdata_plain _ n ty hp, attrHyps_node c hn (plain_kvPar _ hd) n parent pre⟩

end Wbxml.Lemmas.EncW
