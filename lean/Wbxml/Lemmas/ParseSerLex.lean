/-
  `parse_ser`: `string`, `entity`, `opaque`, literal names and `extension`; and the look-ahead of
  `parse_content` / `parse_attr_value` (`ParserSafe.itemOf`) evaluated on a normal-form state: it depends on
  the first octet only, or behind a page switch on the third (`itemOf_serSw`), so each production names its
  class once (`itemOf_str`, …) for both dispatching functions.
-/
import Wbxml.Lemmas.ParseSerBasic
import Wbxml.Lemmas.CodecEntity
import Wbxml.Lemmas.ParserSafeBasic
namespace Wbxml.Lemmas.ParseSer
open Wbxml Wbxml.Model Wbxml.Spec
open Wbxml.Lemmas.ParserSafe (ItemKind itemOf)

theorem entityBytes_spec (code : Nat) (h : wfEntity code = true) :
    Model.entityBytes code = .ok (entityText code) := by
  simp only [wfEntity, Bool.and_eq_true, decide_eq_true_eq, bne_iff_ne, ne_eq] at h
  rw [ParserBridge.entityBytes_eq]
  exact Lemmas.Codec.entityBytes_eq_utf8 code h.1 h.2

theorem wfEntity_lt (code : Nat) (h : wfEntity code = true) : code < 4294967296 := by
  simp only [wfEntity, Bool.and_eq_true, decide_eq_true_eq] at h
  have := h.1
  unfold isScalar at this
  omega

theorem parseEntity_ser (c : Ctx) (ver) (code : Nat) (h : wfEntity code = true) (suf : Bytes) (tp ap cur) :
    parseEntity (st c ver (0x02 :: (mb code ++ suf)) tp ap cur) =
      .ok (entityText code, st c ver suf tp ap cur) := by
  simp only [parseEntity, skip1_cons, bind, Except.bind, parseMb_ser c ver code (wfEntity_lt code h),
    entityBytes_spec code h, pure, Except.pure]

theorem parseOpaque_ser (c : Ctx) (ver) (d : Bytes) (h : d.length < 4294967296) (suf : Bytes) (tp ap cur) :
    parseOpaque (st c ver (serOpaque d ++ suf) tp ap cur) = .ok (d, st c ver suf tp ap cur) := by
  have h1 : ¬ (d.length > (d ++ suf).length) := by simp
  simp only [parseOpaque, serOpaque, List.cons_append, List.append_assoc, skip1_cons, bind, Except.bind,
    parseMb_ser c ver d.length h, h1, ↓reduceIte, pure, Except.pure, List.take_left, List.drop_left]

theorem parseString_ser (c : Ctx) (ver) (hc : c.ok = true) (s : Str) (hs : wfStr c s = true)
    (suf : Bytes) (tp ap cur) :
    parseString (st c ver (serStr s ++ suf) tp ap cur) = .ok (strText c s, st c ver suf tp ap cur) := by
  cases s with
  | inl s =>
    simp only [wfStr, Bool.and_eq_true] at hs
    simp only [parseString, serStr, List.cons_append, List.append_assoc, List.nil_append, isToken_cons,
      beq_self_eq_true, ↓reduceIte, skip1_cons, bind, Except.bind, parseTermstr_ser c ver hs.1 s hs.2, strText]
  | tbl off =>
    simp only [wfStr, Bool.and_eq_true, decide_eq_true_eq] at hs
    have h3 : ((0x83 : UInt8) == 0x03) = false := by decide
    simp only [parseString, serStr, List.cons_append, isToken_cons, h3, Bool.false_eq_true,
      beq_self_eq_true, ↓reduceIte, skip1_cons, bind, Except.bind,
      parseMb_ser c ver off (off_lt c hc off hs.2), strtblRef_ser c ver hc hs.1 off hs.2, strText,
      pure, Except.pure]

theorem parseLiteral_ser (c : Ctx) (ver) (hc : c.ok = true) (hcs : csOk c = true) (b : UInt8) (off : Nat)
    (hoff : off < c.tbl.length) (suf : Bytes) (tp ap cur) :
    parseLiteral (st c ver (b :: (mb off ++ suf)) tp ap cur) =
      if b == 0x04 then .ok ((0x3F, strAt c.tbl off), st c ver suf tp ap cur)
      else if b == 0x44 then .ok ((0x40, strAt c.tbl off), st c ver suf tp ap cur)
      else if b == 0x84 then .ok ((0x80, strAt c.tbl off), st c ver suf tp ap cur)
      else if b == 0xC4 then .ok ((0xC0, strAt c.tbl off), st c ver suf tp ap cur)
      else .error (.code E.internal) := by
  simp only [parseLiteral, parseU8_cons, bind, Except.bind, parseMb_ser c ver off (off_lt c hc off hoff),
    strtblRef_ser c ver hc hcs off hoff, pure, Except.pure]
  repeat (first | rfl | split)

theorem isExtension_cons (c : Ctx) (ver) (b : UInt8) (hb : (b == 0) = false) (r : Bytes) (tp ap cur) :
    isExtension (st c ver (b :: r) tp ap cur) = isExtToken b := by
  simp [isExtension, hb]

theorem isExtension_sw (c : Ctx) (ver) (p b : UInt8) (r : Bytes) (tp ap cur) :
    isExtension (st c ver (0 :: p :: b :: r) tp ap cur) = isExtToken b := by
  simp [isExtension]

/-- The class of an octet that is not `SWITCH_PAGE`, as `parse_content` tests it. -/
def kindOf (b : UInt8) : ItemKind :=
  if b == 0x01 then .end_ else if isExtToken b then .ext else if b == 0x02 then .entity
  else if b == 0x03 || b == 0x83 then .str else if b == 0xC3 then .opaq else if b == 0x43 then .pi else .elem

theorem itemOf_cons (c : Ctx) (ver) (b : UInt8) (hb : (b == 0) = false) (r : Bytes) (tp ap cur) :
    itemOf (st c ver (b :: r) tp ap cur) = kindOf b := by
  simp only [itemOf, kindOf, isToken_cons, peekAt_zero, isExtension_cons c ver b hb, isString, hb,
    Bool.false_eq_true, ↓reduceIte]

/-- Behind a page switch only the extension test looks further (at the third octet). -/
theorem itemOf_sw (c : Ctx) (ver) (p b : UInt8) (r : Bytes) (tp ap cur) :
    itemOf (st c ver (0 :: p :: b :: r) tp ap cur) = if isExtToken b then .ext else .switch := by
  simp only [itemOf, isToken_cons, peekAt_zero, isExtension_sw, isString,
    show ((0 : UInt8) == 1) = false by decide, show ((0 : UInt8) == 2) = false by decide,
    show ((0 : UInt8) == 3) = false by decide, show ((0 : UInt8) == 0x83) = false by decide,
    show ((0 : UInt8) == 0xC3) = false by decide, show ((0 : UInt8) == 0x43) = false by decide,
    Bool.or_self, beq_self_eq_true, Bool.false_eq_true, ↓reduceIte]

theorem itemOf_serSw (c : Ctx) (ver) (sw : Option Nat) (b : UInt8) (hb : (b == 0) = false) (r : Bytes) (tp ap cur) :
    itemOf (st c ver (serSw sw ++ b :: r) tp ap cur) =
      match sw with
      | none => kindOf b
      | some _ => if isExtToken b then .ext else .switch := by
  cases sw with
  | none => exact itemOf_cons c ver b hb r tp ap cur
  | some p => exact itemOf_sw c ver _ b r tp ap cur

theorem kindOf_elem (b : UInt8) (h : 4 ≤ b.toNat % 64) : kindOf b = .elem := by
  obtain ⟨-, g1, g2, g3, g43, g83, gc3, ge⟩ := not_global b h
  simp only [kindOf, g1, g2, g3, g43, g83, gc3, ge, Bool.or_self, Bool.false_eq_true, ↓reduceIte]

theorem kindOf_ext (b : UInt8) (h : isExtToken b = true) : kindOf b = .ext := by
  simp only [kindOf, (extTok_facts b h).2.1, h, Bool.false_eq_true, ↓reduceIte]

theorem itemOf_str (c : Ctx) (ver) (s : Str) (r : Bytes) (tp ap cur) :
    itemOf (st c ver (serStr s ++ r) tp ap cur) = .str := by
  cases s <;> exact itemOf_cons c ver _ (by decide) _ tp ap cur

theorem itemOf_entity (c : Ctx) (ver) (r : Bytes) (tp ap cur) :
    itemOf (st c ver (0x02 :: r) tp ap cur) = .entity := itemOf_cons c ver _ (by decide) _ tp ap cur

theorem itemOf_opaque (c : Ctx) (ver) (d r : Bytes) (tp ap cur) :
    itemOf (st c ver (serOpaque d ++ r) tp ap cur) = .opaq := itemOf_cons c ver _ (by decide) _ tp ap cur

theorem itemOf_pi (c : Ctx) (ver) (a : Attribute) (r : Bytes) (tp ap cur) :
    itemOf (st c ver (serPi a ++ r) tp ap cur) = .pi := itemOf_cons c ver _ (by decide) _ tp ap cur

def extByte : Ext → UInt8
  | .inl k _ => byte (0x40 + k)
  | .tbl k _ => byte (0x80 + k)
  | .tok k => byte (0xC0 + k)

def extTail : Ext → Bytes
  | .inl _ s => s ++ [0x00]
  | .tbl _ v => mb v
  | .tok _ => []

theorem serExt_eq (x : Ext) : serExt x = extByte x :: extTail x := by cases x <;> rfl

def extK : Ext → Nat
  | .inl k _ => k
  | .tbl k _ => k
  | .tok k => k

theorem wfExt_k (c : Ctx) (x : Ext) (h : wfExt c x = true) : extK x = 0 ∨ extK x = 1 ∨ extK x = 2 := by
  have : extK x < 3 := by
    cases x <;> simp only [wfExt, Bool.and_eq_true, decide_eq_true_eq] at h <;> simp only [extK]
    · exact h.1.1.1
    · exact h.1
    · exact h
  omega

/-- The nine extension tokens: `EXT_I_k`, `EXT_T_k`, `EXT_k` are `0x40`, `0x80`, `0xC0` plus `k < 3`. -/
theorem extTok_table (k : Nat) (hk : k = 0 ∨ k = 1 ∨ k = 2) :
    ((byte (0x40 + k) == 0) = false ∧ isExtToken (byte (0x40 + k)) = true) ∧
    ((byte (0x80 + k) == 0) = false ∧ isExtToken (byte (0x80 + k)) = true) ∧
    ((byte (0xC0 + k) == 0) = false ∧ isExtToken (byte (0xC0 + k)) = true) := by
  rcases hk with rfl | rfl | rfl <;> decide

theorem extByte_facts (c : Ctx) (x : Ext) (h : wfExt c x = true) :
    (extByte x == 0) = false ∧ isExtToken (extByte x) = true := by
  have hk := wfExt_k c x h
  cases x with
  | inl k s => exact (extTok_table k hk).1
  | tbl k v => exact (extTok_table k hk).2.1
  | tok k => exact (extTok_table k hk).2.2

theorem itemOf_ext (c : Ctx) (ver) (sw : Option Nat) (x : Ext) (hx : wfExt c x = true) (r : Bytes) (tp ap cur) :
    itemOf (st c ver (serSw sw ++ (serExt x ++ r)) tp ap cur) = .ext := by
  obtain ⟨h0, he⟩ := extByte_facts c x hx
  rw [serExt_eq, List.cons_append, itemOf_serSw c ver sw _ h0]
  cases sw <;> simp only [kindOf_ext _ he, he, ↓reduceIte]

/-- `extension = [switchPage] ((EXT_I termstr) | (EXT_T index) | EXT)`. After the page switch and the
    token octet, what is left is the parser's ladder of comparisons on one of nine concrete octets. -/
theorem parseExtension_ser (c : Ctx) (ver) (hc : c.ok = true) (tagSpace : Bool) (sw : Option Nat)
    (hsw : wfSw sw = true) (x : Ext) (hx : wfExt c x = true) (suf : Bytes) (tp ap cur) :
    parseExtension tagSpace (st c ver (serSw sw ++ (serExt x ++ suf)) tp ap cur) =
      .ok (extText c x, st c ver suf (bif tagSpace then swPage sw tp else tp)
        (bif tagSpace then ap else swPage sw ap) cur) := by
  have hk := wfExt_k c x hx
  rw [serExt_eq, List.cons_append]
  simp only [parseExtension, optSwitch_bind _ tagSpace c ver sw hsw _ (extByte_facts c x hx).1]
  simp only [parseU8_cons, bind, Except.bind]
  cases x with
  | inl k s =>
    simp only [wfExt, Bool.and_eq_true, decide_eq_true_eq] at hx
    obtain ⟨⟨⟨_, hw⟩, hcs⟩, hs⟩ := hx
    simp only [extK] at hk
    rcases hk with rfl | rfl | rfl <;>
      simp [extByte, extTail, extText, hw, byte, parseTermstr_ser c ver hcs s hs, wmlVar, wmlVarSuffix, pure,
        Except.pure]
  | tbl k v =>
    simp only [extK] at hk
    simp only [wfExt, Bool.and_eq_true, decide_eq_true_eq] at hx
    by_cases hw : isWml c.lang.id = true
    · simp only [hw, ↓reduceIte, Bool.and_eq_true, decide_eq_true_eq] at hx
      obtain ⟨_, hcs, hv⟩ := hx
      rcases hk with rfl | rfl | rfl <;>
        simp [extByte, extTail, extText, hw, byte, parseMb_ser c ver v (off_lt c hc v hv),
          strtblRef_ser c ver hc hcs v hv, wmlVar, wmlVarSuffix, pure, Except.pure]
    · simp only [hw, Bool.false_eq_true, ↓reduceIte, Bool.and_eq_true, decide_eq_true_eq, beq_iff_eq] at hx
      obtain ⟨_, ⟨⟨hwv, rfl⟩, hex⟩, hv⟩ := hx
      obtain ⟨exts, hexts⟩ := Option.isSome_iff_exists.mp hex
      cases hf : exts.find? (fun r => r.token == v) <;>
        simp [extByte, extTail, extText, hw, hwv, hexts, hf, byte, parseMb_ser c ver v hv, pure, Except.pure]
  | tok k =>
    simp only [extK] at hk
    rcases hk with rfl | rfl | rfl <;>
    · by_cases hw : isWml c.lang.id = true
      · simp [extByte, extTail, extText, hw, byte, pure, Except.pure]
      · by_cases hwv : isWv c.lang.id = true <;>
          simp [extByte, extTail, extText, hw, hwv, byte, pure, Except.pure]

end Wbxml.Lemmas.ParseSer
