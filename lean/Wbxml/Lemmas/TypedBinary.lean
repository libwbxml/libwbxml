/-
  Binary content: opaque in WBXML, base64 in XML.  The four places of the library that convert, written over
  the base64 model of component C11 (`Wbxml.Model.Codec.b64Encode / b64Decode`). Definitions only, under the
  names the statements of C12 use: `Driver/Typed.lean` is linked against this file and must not see `Model/Parser.lean`
  (it opens `Model` and `Model.Typed`, whose decoders share names), so the lemmas the C12 binary clauses need stand
  in `Lemmas/CodecBase64.lean`.

    parser   decode_base64_value            OTA attribute values, DRMREL ds:KeyValue, SyncML NextNonce
    xml enc  xml_encode_text                base64 for WBXML_TAG_OPTION_BINARY elements (wbxml_buffer_encode_base64)
    xml dec  wbxml_tree_clb_xml_end_element wbxml_buffer_decode_base64 (white space removed first) for binary elements
    encoder  wbxml_encode_ota_nokia_icon, wbxml_encode_drmrel_content   copy of the text, wbxml_buffer_no_spaces, then
                                                                        wbxml_base64_decode(cstr, -1, …) (white space removed first
                                                                        since the fix of finding b64-whitespace-ota-drmrel)
-/
import Wbxml.Model.Typed.Datetime
import Wbxml.Model.Codec.Base64
namespace Wbxml.Model.Typed
open Wbxml Wbxml.Model.Codec

/-- `decode_base64_value` / `wbxml_buffer_encode_base64`: base64 of an empty buffer is an error
    (`wbxml_base64_encode` returns NULL for `len <= 0`): `WBXML_ERROR_B64_ENC` (18). -/
def opaqueToBase64 (p : Bytes) : Except Err Bytes :=
  if p = [] then .error (.code 18) else .ok (b64Encode p)

/-- `isspace` in the C locale. -/
def isSpace (c : UInt8) : Bool := c == 0x20 || (0x09 ≤ c && c ≤ 0x0D)

/-- `wbxml_buffer_decode_base64`: `wbxml_buffer_no_spaces`, then decode; nothing decoded ⇒ `WBXML_ERROR_B64_DEC` (19). -/
def base64ToBytesStrip (s : Bytes) : Except Err Bytes :=
  match b64Decode (s.filter (fun c => !isSpace c)) with
  | some r => .ok r
  | none => .error (.code 19)

/-- What an element flagged `WBXML_TAG_OPTION_BINARY` contributes to the WBXML output for XML text `s`
    (`parse_text` → `wbxml_encode_opaque`). -/
def binaryElemItem (s : Bytes) : Except Err Bytes := (base64ToBytesStrip s).map opaqueItem

/-- `wbxml_encode_ota_nokia_icon` / `wbxml_encode_drmrel_content` on a C string: white space is removed from
    a copy of the text (`wbxml_buffer_create_from_cstr`, `wbxml_buffer_no_spaces`), the rest is decoded up to the
    first character outside the alphabet, a zero count gives an empty opaque (no error, unlike
    `wbxml_buffer_decode_base64`). Before the fix the text itself was decoded: up to the first white space. -/
def base64ToOpaqueStrip (s : Bytes) : Bytes :=
  match b64Decode (s.filter (fun c => !isSpace c)) with
  | some r => opaqueItem r
  | none => opaqueItem []

end Wbxml.Model.Typed
