/-
  C02, bounds, tree half: one weighted count of the tree under construction.

  * `stW ω`: the weighted count `wsum ω` (`TreeMeasure`) over the builder's open frames, their closed
    children and cached text, and the root.
  * `Wts.Fits ω ew`: the weights fit a budget `ew` per event. `step_w`: one callback raises `stW ω` by at
    most `ew e`, plus the tree of the embedded document it asked for.
  * `expSum wt` / `expDocs`: sum of `wt` over the events / number of documents of a run with the runs of
    all embedded documents (DevInf, DM-DDF) it re-parses, recursively, as `treeOfXml` visits them.
  * `treeOfXml_w`: `wsum ω t ≤ expSum ew + D * expDocs` when a document node weighs at most `D`.

  The size bound (`X2WSize`) and the bound on element nesting (`X2WDepth`: nesting ≤ number of element
  nodes) are the two weightings used.
-/
import Wbxml.Lemmas.X2WFuel
namespace Wbxml.Lemmas.X2W
open Wbxml Wbxml.Model

/-- The text a character-data callback attaches: vObject types turn a lone LF into CR LF. -/
def CharsOf (s s' : Bytes) : Prop := s' = s ∨ (s = [10] ∧ s' = [13, 10])

/-- The weights fit the budget `ew` of the events: merging two texts, decoding cached base64 text at an
    end tag, a CDATA node, a text below a possibly new CDATA node (attached or cached), an element. -/
structure Wts.Fits (ω : Wts) (ew : XEvent → Nat) : Prop where
  text_append : ∀ s t, ω.text (s ++ t) ≤ ω.text s + ω.text t
  held_none : ω.held none = 0
  decode : ∀ c d name idx, Codec.b64Decode (base64NoSpaces c) = some d →
    ω.text d ≤ ω.held (some c) + ew (.endElt name idx)
  startCdata : ω.cdata ≤ ew .startCdata
  chars : ∀ s s', CharsOf s s' → ω.cdata + ω.text s' ≤ ew (.chars s)
  cache : ∀ c s s', CharsOf s s' → ω.cdata + ω.held (some (c.getD [] ++ s')) ≤ ω.held c + ew (.chars s)
  start : ∀ lang name attrs idx, ω.elt (xeTag lang name).1 (attrs.map (xeAttr lang)) ≤ ew (.startElt name attrs idx)

def kindW (ω : Wts) : FrameKind → Nat
  | .elt n a => ω.elt n a
  | .cdata => ω.cdata

def frameW (ω : Wts) (f : XFrame) : Nat := kindW ω f.kind + wsumL ω f.kids + ω.held f.content

def stackW (ω : Wts) : List XFrame → Nat
  | [] => 0
  | f :: r => frameW ω f + stackW ω r

def rootW (ω : Wts) : Option Node → Nat
  | some r => wsum ω r
  | none => 0

def stW (ω : Wts) (b : XBState) : Nat := stackW ω b.stack + rootW ω b.root

variable {ω : Wts} {ew : XEvent → Nat}

theorem close_w (f : XFrame) : wsum ω f.close ≤ frameW ω f := by
  unfold XFrame.close frameW
  cases f.kind with
  | elt n a => simp only [wsum, kindW]; omega
  | cdata => simp only [wsum, kindW]; omega

theorem frameW_addKid (hω : ω.Fits ew) (f : XFrame) (n : Node) :
    frameW ω { f with kids := addKid f.kids n } ≤ frameW ω f + wsum ω n := by
  unfold frameW
  have := addKid_w hω.text_append f.kids n
  simp only
  omega

theorem attach_w (hω : ω.Fits ew) (b : XBState) (n : Node) : stW ω (b.attach n) ≤ stW ω b + wsum ω n := by
  rcases attach_cases b n with ⟨f, rest, hs, e⟩ | ⟨hs, hr, e⟩ | ⟨_, _, e⟩ <;> rw [e]
  · have := frameW_addKid hω f n
    simp only [stW, hs, stackW]
    omega
  · simp only [stW, hs, hr, stackW, rootW]
    omega
  · simp only [stW]
    omega

/-- Leaving the innermost frame costs nothing. -/
theorem popAttach_w (hω : ω.Fits ew) (b : XBState) (f : XFrame) (rest : List XFrame) (hs : b.stack = f :: rest) :
    stW ω (({ b with stack := rest } : XBState).attach f.close) ≤ stW ω b := by
  have h1 := attach_w hω ({ b with stack := rest } : XBState) f.close
  have h4 := close_w (ω := ω) f
  simp only [stW, hs, stackW] at h1 ⊢
  omega

theorem xPop_w (hω : ω.Fits ew) (b : XBState) : stW ω (xPop b) ≤ stW ω b := by
  rcases xPop_cases b with ⟨_, e⟩ | ⟨f, rest, hs, e⟩ | ⟨f, g, rest, hs, _, e⟩ | ⟨_, _, e⟩ <;> rw [e]
  · exact Nat.le_refl _
  · exact popAttach_w hω b f rest hs
  · -- two frames are left at once: the CDATA frame into the element below it, then that element
    have h1 := popAttach_w hω b f (g :: rest) hs
    rw [attach_cons (b := { b with stack := g :: rest }) rfl] at h1
    have h2 := popAttach_w hω ({ b with stack := { g with kids := addKid g.kids f.close } :: rest } : XBState) _ rest rfl
    exact Nat.le_trans h2 h1
  · exact Nat.le_refl _

theorem decodeTop_w (hω : ω.Fits ew) (b : XBState) (name : Bytes) (idx : Nat) :
    stW ω (decodeTop b) ≤ stW ω b + ew (.endElt name idx) := by
  rcases decodeTop_cases b with e | ⟨f, rest, _, _, c, hs, _, hc, ⟨_, e⟩ | ⟨d, hd, e⟩⟩ <;> rw [e]
  · omega
  all_goals
    have hfs : frameW ω ({ f with content := none } : XFrame) + ω.held (some c) = frameW ω f := by
      simp only [frameW, hc, hω.held_none]
      omega
  · simp only [stW, hs, stackW]
    omega
  · have h1 := attach_w hω ({ b with stack := { f with content := none } :: rest } : XBState) (.text d)
    have h2 := hω.decode c d name idx hd
    simp only [stW, hs, stackW, wsum] at h1 ⊢
    omega

/-- The budget of the embedded document a callback asks for, 0 when it asks for none. -/
def queryCost (S : Bytes → Nat) : Option Bytes → Nat
  | some d => S d
  | none => 0

/-- `S doc` bounds the count of the tree `sub` answers for `doc`. -/
def SubW (ω : Wts) (sub : Bytes → Option (Except Nat Tree)) (S : Bytes → Nat) : Prop :=
  ∀ doc t, sub doc = some (.ok t) → Tree.wsum ω t ≤ S doc

theorem answer_w (hω : ω.Fits ew) {sub : Bytes → Option (Except Nat Tree)} {S : Bytes → Nat}
    (hsub : SubW ω sub S) (b : XBState) (doc : Bytes) :
    stW ω (answer b doc (sub doc)) ≤ stW ω b + S doc := by
  cases hs : sub doc with
  | none => simp only [answer, stW]; omega
  | some r =>
    cases r with
    | error e => simp only [answer, stW]; omega
    | ok t =>
      have h1 := attach_w hω ({ b with skipLvl := 0 } : XBState) (.tree t.lang t.origCharset t.root)
      have h2 := hsub doc t hs
      simp only [Tree.wsum] at h2
      simp only [answer, stW] at h1 ⊢
      omega

theorem endTailNQ_w (hω : ω.Fits ew) (b : XBState) (name : Bytes) : stW ω (endTailNQ b name) ≤ stW ω b := by
  rcases endTailNQ_cases b name with e | e | e | e <;> rw [e]
  · exact Nat.le_refl _
  · exact Nat.le_refl _
  · exact Nat.le_refl _
  · exact xPop_w hω b

/-- **One callback**: the count of the builder's state grows by at most the budget of the event, plus
    the tree of the embedded document the callback asked for. -/
theorem step_w (hω : ω.Fits ew) (main : List Lang) (input : Bytes)
    {sub : Bytes → Option (Except Nat Tree)} {S : Bytes → Nat} (hsub : SubW ω sub S) (b : XBState) (e : XEvent) :
    stW ω (xbuildStep main input sub b e) ≤ stW ω b + ew e + queryCost S (queryOf main input b e) := by
  rw [xbuildStep_eq]
  split
  · omega
  rename_i hneed
  cases e with
  | endElt name idx =>
    have hd := decodeTop_w hω b name idx
    simp only [liveStep, queryOf, hneed, Bool.false_eq_true, ↓reduceIte]
    unfold endTail
    cases hq : queryTail main input (decodeTop b) name idx with
    | none =>
      have := endTailNQ_w hω (decodeTop b) name
      simp only [queryCost]
      omega
    | some doc =>
      have := answer_w hω hsub (decodeTop b) doc
      simp only [queryCost]
      omega
  | xmlDecl v enc =>
    obtain ⟨cs, e⟩ := live_xmlDecl main input sub b v enc
    rw [e]
    exact Nat.le_trans (Nat.le_add_right _ _) (Nat.le_add_right _ _)
  | doctype sysid pubid =>
    rcases live_doctype main input sub b sysid pubid with ⟨_, e⟩ | ⟨l, _, e⟩ <;> rw [e] <;>
      exact Nat.le_trans (Nat.le_add_right _ _) (Nat.le_add_right _ _)
  | pi => exact Nat.le_trans (Nat.le_add_right _ _) (Nat.le_add_right _ _)
  | startCdata =>
    have := hω.startCdata
    simp only [liveStep, queryOf, queryCost]
    split
    · omega
    · simp only [stW, stackW, frameW, kindW, wsumL, hω.held_none]
      omega
  | endCdata =>
    simp only [liveStep, queryOf, queryCost]
    split
    · omega
    · split
      · simp only [stW]; omega
      · rename_i f rest hs
        have := popAttach_w hω b f rest hs
        omega
  | chars s =>
    simp only [liveStep, queryOf, queryCost]
    split
    · omega
    · have hs' : CharsOf s (charsText b s) := by
        unfold charsText
        split
        · rename_i hc
          simp only [Bool.and_eq_true, beq_iff_eq] at hc
          exact Or.inr ⟨hc.2, rfl⟩
        · exact Or.inl rfl
      have hb1 : stW ω (charsPrep b) ≤ stW ω b + ω.cdata := by
        rcases charsPrep_cases b with e | ⟨_, _, _, _, _, _, e⟩ <;> rw [e]
        · omega
        · simp only [stW, stackW, frameW, kindW, wsumL, hω.held_none]
          omega
      generalize charsText b s = s' at hs'
      generalize charsPrep b = b1 at hb1
      rcases charsTail_cases b1 s' with ⟨_, e⟩ | ⟨f, rest, hst, ⟨_, _, _, _, e⟩ | e⟩ <;> rw [e]
      · have := hω.chars s s' hs'
        simp only [stW] at hb1 ⊢
        omega
      · have := hω.cache f.content s s' hs'
        simp only [stW, hst, stackW, frameW] at hb1 ⊢
        omega
      · have hf := frameW_addKid hω f (.text s')
        have := hω.chars s s' hs'
        simp only [stW, hst, stackW, wsum] at hb1 hf ⊢
        omega
  | startElt name attrs idx =>
    simp only [liveStep, queryOf, queryCost]
    split
    · omega
    · split
      · simp only [stW]; omega
      · have hb1 : stW ω (startLang main b name) = stW ω b := by
          rcases startLang_cases main b name with e | ⟨_, _, _, ⟨_, _, e⟩ | e⟩ <;> rw [e] <;> rfl
        generalize startLang main b name = b1 at hb1
        rcases startTail_cases b1 (b.stack.isEmpty && b.root.isNone) name attrs idx with
          ⟨_, e⟩ | e | ⟨_, _, _, e⟩ | ⟨lang, _, _, _, e⟩ <;> rw [e]
        · omega
        · simp only [stW] at hb1 ⊢; omega
        · simp only [stW] at hb1 ⊢; omega
        · have hle := hω.start lang name attrs idx
          simp only [stW, stackW, xmlElt_closed, frameW, kindW, wsumL, hω.held_none] at hb1 ⊢
          omega

def evSum (wt : XEvent → Nat) : List XEvent → Nat
  | [] => 0
  | e :: r => wt e + evSum wt r

theorem evSum_le (wt wt' : XEvent → Nat) (h : ∀ e, wt e ≤ wt' e) : ∀ (evs : List XEvent), evSum wt evs ≤ evSum wt' evs
  | [] => Nat.le_refl _
  | e :: r => by
    have := h e
    have := evSum_le wt wt' h r
    simp only [evSum]; omega

theorem evSum_mul (c : Nat) (wt : XEvent → Nat) : ∀ (evs : List XEvent), evSum (fun e => c * wt e) evs = c * evSum wt evs
  | [] => rfl
  | e :: r => by simp only [evSum, evSum_mul c wt r, Nat.mul_add]

theorem fold_w (hω : ω.Fits ew) (main : List Lang) (input : Bytes)
    {sub : Bytes → Option (Except Nat Tree)} {S : Bytes → Nat} (hsub : SubW ω sub S) :
    ∀ (evs : List XEvent) (b : XBState),
      stW ω (evs.foldl (xbuildStep main input sub) b) ≤
        stW ω b + evSum ew evs + ((queries main input sub evs b).map S).sum
  | [], b => by simp [evSum, queries]
  | e :: evs, b => by
    have h1 := step_w hω main input hsub b e
    have h2 := fold_w hω main input hsub evs (xbuildStep main input sub b e)
    simp only [List.foldl_cons, evSum, queries, List.map_append, List.sum_append]
    cases hq : queryOf main input b e with
    | none => rw [hq] at h1; simp only [queryCost, List.map_nil, List.sum_nil] at h1 ⊢; omega
    | some d =>
      rw [hq] at h1
      simp only [queryCost, List.map_cons, List.map_nil, List.sum_cons, List.sum_nil] at h1 ⊢
      omega

theorem sum_map_add (a b : Bytes → Nat) : ∀ (l : List Bytes),
    (l.map (fun d => a d + b d)).sum = (l.map a).sum + (l.map b).sum
  | [] => rfl
  | x :: l => by simp only [List.map_cons, List.sum_cons, sum_map_add a b l]; omega

theorem sum_map_mul (D : Nat) (a : Bytes → Nat) : ∀ (l : List Bytes),
    (l.map (fun d => D * a d)).sum = D * (l.map a).sum
  | [] => rfl
  | x :: l => by simp only [List.map_cons, List.sum_cons, sum_map_mul D a l, Nat.mul_add]

theorem sum_map_le (a b : Bytes → Nat) : ∀ (l : List Bytes), (∀ d ∈ l, a d ≤ b d) →
    (l.map a).sum ≤ (l.map b).sum
  | [], _ => by simp
  | x :: l, h => by
    have h1 := h x (by simp)
    have h2 := sum_map_le a b l (fun d hd => h d (by simp [hd]))
    simp only [List.map_cons, List.sum_cons]
    omega

/-- Sum of `wt` over the events of the run of `xml` and of the runs of all embedded documents the
    builder asks for, recursively (the recursion `treeOfXml` performs, with its fuel). -/
def expSum (wt : XEvent → Nat) (main : List Lang) (env : List (Bytes × ExpatRun)) : Nat → Bytes → Nat
  | 0, _ => 0
  | f + 1, xml =>
    match env.find? (fun p => p.1 == xml) with
    | none => 0
    | some (_, run) =>
      evSum wt run.events +
        ((queries main xml (subOf main env f) run.events {}).map (expSum wt main env f)).sum

/-- Number of documents visited: the document and, recursively, every embedded one. -/
def expDocs (main : List Lang) (env : List (Bytes × ExpatRun)) : Nat → Bytes → Nat
  | 0, _ => 0
  | f + 1, xml =>
    match env.find? (fun p => p.1 == xml) with
    | none => 0
    | some (_, run) =>
      1 + ((queries main xml (subOf main env f) run.events {}).map (expDocs main env f)).sum

theorem expSum_le (wt wt' : XEvent → Nat) (h : ∀ e, wt e ≤ wt' e) (main : List Lang) (env : List (Bytes × ExpatRun)) :
    ∀ (f : Nat) (xml : Bytes), expSum wt main env f xml ≤ expSum wt' main env f xml
  | 0, _ => Nat.le_refl _
  | f + 1, xml => by
    simp only [expSum]
    split
    · exact Nat.le_refl _
    · rename_i k run hfind
      have h1 := evSum_le wt wt' h run.events
      have h2 := sum_map_le (expSum wt main env f) (expSum wt' main env f)
        (queries main xml (subOf main env f) run.events {}) (fun d _ => expSum_le wt wt' h main env f d)
      omega

theorem expSum_mul (c : Nat) (wt : XEvent → Nat) (main : List Lang) (env : List (Bytes × ExpatRun)) :
    ∀ (f : Nat) (xml : Bytes), expSum (fun e => c * wt e) main env f xml = c * expSum wt main env f xml
  | 0, _ => rfl
  | f + 1, xml => by
    have : expSum (fun e => c * wt e) main env f = fun d => c * expSum wt main env f d :=
      funext (expSum_mul c wt main env f)
    simp only [expSum, evSum_mul, this, sum_map_mul]
    cases List.find? (fun p => p.fst == xml) env with
    | none => rfl
    | some p => simp only [Nat.mul_add]

/-- **The count of the delivered tree is bounded by the budgets of the events** of the run and of the
    embedded runs, plus `D` per document when a document node weighs at most `D`. -/
theorem treeOfXml_w (hω : ω.Fits ew) (main : List Lang) (env : List (Bytes × ExpatRun)) (D : Nat)
    (hD : ∀ f xml t, treeOfXml main env f xml = .ok t → ω.doc t.lang ≤ D) :
    ∀ (f : Nat) (xml : Bytes) (t : Tree), treeOfXml main env f xml = .ok t →
      Tree.wsum ω t ≤ expSum ew main env f xml + D * expDocs main env f xml
  | 0, xml, t, h => by rw [treeOfXml] at h; cases h
  | f + 1, xml, t, h => by
    have hd := hD (f + 1) xml t h
    obtain ⟨f', k, run, bf, e, hfind, _, hbf, _, _, rfl⟩ := treeOfXml_ok_run h
    cases e
    have hfold := fold_w hω main xml (S := fun d => expSum ew main env f d + D * expDocs main env f d)
      (fun doc t' ht' => treeOfXml_w hω main env D hD f doc t' (subOf_ok ht')) run.events {}
    rw [sum_map_add, sum_map_mul, ← hbf] at hfold
    have h0 : stW ω ({} : XBState) = 0 := rfl
    have hroot : Tree.wsum ω { lang := bf.lang, origCharset := bf.charset, root := bf.root } ≤
        ω.doc bf.lang + stW ω bf := by
      simp only [Tree.wsum, stW]
      cases bf.root with
      | none => simp only [wsum, rootW]; omega
      | some r => simp only [wsum, rootW]; omega
    simp only [expSum, expDocs, hfind, Nat.mul_add, Nat.mul_one]
    simp only at hd
    omega

end Wbxml.Lemmas.X2W
