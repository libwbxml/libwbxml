/-
  `parse_ser`: the header. `parseHeader` on `serHeader h ++ body` consumes exactly the
  header, installs the string table, and selects the character set and language the
  specification says the header denotes (numeric identifier, textual identifier through the
  string table, forced language).
-/
import Wbxml.Lemmas.ParseSerBasic
import Wbxml.Lemmas.ParserSafeBasic
namespace Wbxml.Lemmas.ParseSer
open Wbxml Wbxml.Model Wbxml.Spec
open Wbxml.Lemmas.ParserSafe (headerPre)

theorem mb_head (v : Nat) (h0 : 0 < v) (hv : v < 4294967296) : ∃ b r, mb v = b :: r ∧ (b == 0) = false := by
  cases hm : mb v with
  | nil =>
    have := mbLoop_ser v hv []
    rw [hm] at this
    simp [Model.mbLoop] at this
  | cons b r =>
    refine ⟨b, r, rfl, ?_⟩
    by_cases hb : b = 0
    · subst hb
      have := mbLoop_ser v hv []
      rw [hm] at this
      simp [Model.mbLoop] at this
      omega
    · simp [hb]

theorem tblBytes_last (es : List Bytes) (h : tblBytes es ≠ []) : (tblBytes es).getLast? = some 0 := by
  induction es with
  | nil => simp [tblBytes] at h
  | cons e es ih =>
    simp only [tblBytes]
    by_cases hes : tblBytes es = []
    · simp [hes]
    · simp [ih hes, List.getLast?_cons]

theorem headerCtx_ok (cfg : PCfg) (h : Header) (l : Lang) (hwf : wfHeader cfg h = true) :
    (headerCtx cfg h l).ok = true := by
  simp only [wfHeader, Bool.and_eq_true, decide_eq_true_eq] at hwf
  simp only [Ctx.ok, headerCtx, Bool.and_eq_true, Bool.or_eq_true, beq_iff_eq]
  refine ⟨decide_eq_true hwf.2, ?_⟩
  by_cases he : tblBytes h.strtbl = []
  · left; simp [he]
  · right; exact tblBytes_last _ he

/-- `parse_strtbl` on `length *byte` where the octets are a list of terminated entries. -/
theorem parseStrtbl_ser (s : PState) (es : List Bytes) (body : Bytes)
    (hlen : (tblBytes es).length < 4294967296)
    (hs : s.rest = mb (tblBytes es).length ++ (tblBytes es ++ body)) (hnone : s.strtbl = none) :
    parseStrtbl s = Except.ok ({ s with rest := body, strtbl := (if (tblBytes es).isEmpty then none else some (tblBytes es)) } : PState) := by
  rw [ParserSafe.parseStrtbl_of_len s _ _ (by rw [hs]; exact mbLoop_ser _ hlen _)]
  by_cases he : tblBytes es = []
  · simp [he, hnone]
  · have hl : ¬ ((tblBytes es).length = 0) := by simpa using he
    have hl2 : ¬ ((tblBytes es).length > (tblBytes es ++ body).length) := by simp
    have hemp : (tblBytes es).isEmpty = false := by simpa using he
    simp only [hl, ↓reduceIte, hl2, List.take_left, List.drop_left, tblBytes_last es he, hemp, Bool.false_eq_true]

/-- `check_public_id` selects what the specification says, for a numeric identifier … -/
theorem checkPublicId_num (cfg : PCfg) (h : Header) (s : PState) (id : Nat) (hp : h.pubid = .num id) :
    checkPublicId cfg s (if (cfg.langForced != 0) = true then publicIdOfLang cfg.main cfg.langForced else id) none =
      headerLang cfg h := by
  unfold checkPublicId headerLang
  by_cases hf : cfg.langForced = 0
  · by_cases h1 : id = 1
    · simp [hf, hp, h1]
    · simp [hf, hp, h1]
  · simp [hf]

/-- … and for a textual identifier in the string table. -/
theorem checkPublicId_str (cfg : PCfg) (h : Header) (s : PState) (idx : Nat) (hp : h.pubid = .str idx)
    (hs1 : s.strtbl = if (tblBytes h.strtbl).isEmpty then none else some (tblBytes h.strtbl))
    (hs2 : s.charset = headerCharset cfg h) (hpub : wfPubid cfg h = true) :
    checkPublicId cfg s (if (cfg.langForced != 0) = true then publicIdOfLang cfg.main cfg.langForced else 1)
      (some idx) = headerLang cfg h := by
  unfold checkPublicId headerLang
  by_cases hf : cfg.langForced = 0
  · simp only [wfPubid, hp, hf, bne_self_eq_false, Bool.false_or, Bool.and_eq_true, decide_eq_true_eq,
      Bool.or_eq_true, beq_iff_eq] at hpub
    obtain ⟨_, hidx, hcs⟩ := hpub
    have hne : tblBytes h.strtbl ≠ [] := by intro e; rw [e] at hidx; simp at hidx
    have hemp : (tblBytes h.strtbl).isEmpty = false := by simpa using hne
    rw [hemp] at hs1
    have href := strtblRef_of s _ hs1 (by rw [hs2]; exact hcs) idx hidx (tblBytes_last _ hne)
    simp [hf, hp, href] <;> congr 1
  · simp [hf]

/-- Version, public identifier and character set: what `parse_publicid` leaves in `parser->public_id` (the forced
    language's identifier wins; `1` beside a string-table index) and the character set in force for the strings. -/
theorem headerPre_ser (cfg : PCfg) (h : Header) (hwf : wfHeader cfg h = true) (body : Bytes) :
    headerPre cfg (serHeader h ++ body) = .ok
      ((if (cfg.langForced != 0) = true then publicIdOfLang cfg.main cfg.langForced
          else match h.pubid with | .num id => id | .str _ => 1),
        (match h.pubid with | .num _ => none | .str idx => some idx),
        { rest := mb (tblBytes h.strtbl).length ++ (tblBytes h.strtbl ++ body), version := h.version,
          charset := headerCharset cfg h }) := by
  simp only [wfHeader, Bool.and_eq_true, decide_eq_true_eq, Bool.or_eq_true, beq_iff_eq] at hwf
  obtain ⟨⟨⟨hver, hpub⟩, hcs⟩, -⟩ := hwf
  unfold headerPre
  simp only [serHeader, List.cons_append, parseU8, bind, Except.bind, byte_toNat _ hver, List.append_assoc]
  cases hp : h.pubid
  case' num id =>
    simp only [wfPubid, hp, Bool.and_eq_true, decide_eq_true_eq] at hpub
    obtain ⟨b, r, hbr, hb0⟩ := mb_head id hpub.1 hpub.2
    have hmb := mbLoop_ser id hpub.2 ((if h.version = 0 then [] else mb h.charset) ++
      (mb (List.length (tblBytes h.strtbl)) ++ (tblBytes h.strtbl ++ body)))
    rw [hbr, List.cons_append] at hmb
    simp only [serPubid, hbr, List.cons_append, hb0, Bool.false_eq_true, ↓reduceIte, parseMb, hmb, bind,
      Except.bind, pure, Except.pure]
  case' str idx =>
    simp only [wfPubid, hp, Bool.and_eq_true, decide_eq_true_eq] at hpub
    have hne : (idx == 4294967295) = false := by
      have := hpub.1; simp; omega
    simp only [serPubid, List.cons_append, beq_self_eq_true, ↓reduceIte, parseMb,
      mbLoop_ser idx (by have := hpub.1; omega), bind, Except.bind, pure, Except.pure, hne, Bool.false_eq_true]
  all_goals
    by_cases hv0 : h.version = 0
    · have hcse : headerCharset cfg h = if (cfg.metaCharset != 0) = true then cfg.metaCharset else 106 := by
        simp [headerCharset, hv0]
      simp only [hv0, bne_self_eq_false, Bool.false_eq_true, ↓reduceIte, List.nil_append, beq_self_eq_true, hcse]
    · have hcs' : h.charset < 4294967296 ∧ cfg.charsets.contains (headerCharset cfg h) = true :=
        hcs.resolve_left hv0
      have hvne : (h.version != 0) = true := by simpa using hv0
      have hcse : (if (h.charset == 0) = true then if (cfg.metaCharset != 0) = true then cfg.metaCharset else 106
          else h.charset) = headerCharset cfg h := by
        by_cases hc0 : h.charset = 0 <;> simp [headerCharset, hv0, hc0]
      have hnz : (headerCharset cfg h == 0) = false := by
        by_cases hc0 : h.charset = 0
        · by_cases hm : cfg.metaCharset = 0 <;> simp [headerCharset, hv0, hc0, hm]
        · simp [headerCharset, hv0, hc0]
      simp only [hv0, hvne, ↓reduceIte, mbLoop_ser h.charset hcs'.1, hcse, hcs'.2, hnz, Bool.false_eq_true]

theorem parseHeader_ser (cfg : PCfg) (h : Header) (hwf : wfHeader cfg h = true) (l : Lang)
    (hl : headerLang cfg h = some l) (body : Bytes) :
    parseHeader cfg (serHeader h ++ body) = .ok (st (headerCtx cfg h l) h.version body 0 0 none, l) := by
  have hpub : wfPubid cfg h = true ∧ (tblBytes h.strtbl).length < 4294967296 := by
    simp only [wfHeader, Bool.and_eq_true, decide_eq_true_eq] at hwf; exact ⟨hwf.1.1.2, hwf.2⟩
  rw [ParserSafe.parseHeader_eq, headerPre_ser cfg h hwf body]
  simp only [serHeader, List.cons_append, List.isEmpty_cons, Bool.false_eq_true, ↓reduceIte, ok_bind]
  rw [parseStrtbl_ser _ h.strtbl body hpub.2 rfl rfl]
  simp only [ok_bind]
  cases hp : h.pubid with
  | num id => rw [checkPublicId_num cfg h _ _ hp, hl]; rfl
  | str idx => rw [checkPublicId_str cfg h _ _ hp rfl rfl hpub.1, hl]; rfl

end Wbxml.Lemmas.ParseSer
