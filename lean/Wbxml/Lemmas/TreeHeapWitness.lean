/-
  C18 lemmas: concrete histories (witnesses and non-vacuity), evaluated one call at a time by
  kernel reduction.  `w`k, `x`k, `m`k is the state after the k-th call of the history of its section; the
  histories share their first calls (`w1` serves all three, `w2` the first and the third), and a state reached twice has one name (`m4`
  after calls 4 and 6, `m5` after calls 5 and 7).
-/
import Wbxml.Lemmas.TreeHeapRun
namespace Wbxml.Model.TreeHeap
open Wbxml Wbxml.Model

/-! ### Root `<r>`, text "a", element `<e/>`, text "b", extraction of `<e/>` -/

def adjWitness : List Op :=
  [.addElt none (.literal b!"r"), .addText (some 0) b!"a", .addElt (some 0) (.literal b!"e"),
   .addText (some 0) b!"b", .extract 2]

def w1 : St := { heap := [{ pay := .elt (.literal b!"r") [] }], root := some 0 }
def w2 : St :=
  { heap := [{ pay := .elt (.literal b!"r") [], first := some 1 }, { pay := .text b!"a", parent := some 0 }],
    root := some 0 }
def w3 : St :=
  { heap := [{ pay := .elt (.literal b!"r") [], first := some 1 },
             { pay := .text b!"a", parent := some 0, next := some 2 },
             { pay := .elt (.literal b!"e") [], parent := some 0, prev := some 1 }], root := some 0 }
def w4 : St :=
  { heap := [{ pay := .elt (.literal b!"r") [], first := some 1 },
             { pay := .text b!"a", parent := some 0, next := some 2 },
             { pay := .elt (.literal b!"e") [], parent := some 0, prev := some 1, next := some 3 },
             { pay := .text b!"b", parent := some 0, prev := some 2 }], root := some 0 }
/-- The state the witness ends in: the two text nodes (addresses 1 and 3) are siblings, `1.next = 3`. -/
def adjWitnessState : St :=
  { heap := [{ pay := .elt (.literal b!"r") [], first := some 1 },
             { pay := .text b!"a", parent := some 0, next := some 3 },
             { pay := .elt (.literal b!"e") [] },
             { pay := .text b!"b", parent := some 0, prev := some 1 }], root := some 0 }

theorem adj_h1 : stepChecked (create [] 0 0) (.addElt none (.literal b!"r")) = .ok (.node (some 0), w1) := by rfl
theorem adj_h2 : stepChecked w1 (.addText (some 0) b!"a") = .ok (.node (some 1), w2) := by rfl
theorem adj_h3 : stepChecked w2 (.addElt (some 0) (.literal b!"e")) = .ok (.node (some 2), w3) := by rfl
theorem adj_h4 : stepChecked w3 (.addText (some 0) b!"b") = .ok (.node (some 3), w4) := by rfl
theorem adj_h5 : stepChecked w4 (.extract 2) = .ok (.code 0, adjWitnessState) := by rfl

theorem adjWitness_runs : run (create [] 0 0) adjWitness = .ok adjWitnessState := by
  unfold adjWitness
  rw [run_cons _ adj_h1, run_cons _ adj_h2, run_cons _ adj_h3, run_cons _ adj_h4, run_cons _ adj_h5]; rfl

theorem adjWitness_adjacent : ¬ NoAdjText adjWitnessState :=
  fun hN => hN 1 3 _ _ rfl rfl rfl ⟨rfl, rfl⟩

/-! ### Root `<r>`, child `<c/>`, extraction of the child — then extracting it again -/

def x2 : St :=
  { heap := [{ pay := .elt (.literal b!"r") [], first := some 1 },
             { pay := .elt (.literal b!"c") [], parent := some 0 }], root := some 0 }
def x3 : St :=
  { heap := [{ pay := .elt (.literal b!"r") [] }, { pay := .elt (.literal b!"c") [] }], root := some 0 }

theorem ext_h2 : stepChecked w1 (.addElt (some 0) (.literal b!"c")) = .ok (.node (some 1), x2) := by rfl
theorem ext_h3 : stepChecked x2 (.extract 1) = .ok (.code 0, x3) := by rfl

theorem extWitness_runs :
    run (create [] 0 0) [.addElt none (.literal b!"r"), .addElt (some 0) (.literal b!"c"), .extract 1] = .ok x3 := by
  rw [run_cons _ adj_h1, run_cons _ ext_h2, run_cons _ ext_h3]; rfl

/-! ### Merge, CDATA, extraction, re-insertion, destruction (non-vacuity of the preconditions) -/

def m3 : St :=
  { heap := [{ pay := .elt (.literal b!"r") [], first := some 2 },
             { pay := .text b!"a", parent := some 0, live := false },
             { pay := .text b!"ab", parent := some 0 }], root := some 0 }
def m4 : St :=
  { heap := [{ pay := .elt (.literal b!"r") [], first := some 2 },
             { pay := .text b!"a", parent := some 0, live := false },
             { pay := .text b!"ab", parent := some 0, next := some 3 },
             { pay := .cdata, parent := some 0, prev := some 2 }], root := some 0 }
def m5 : St :=
  { heap := [{ pay := .elt (.literal b!"r") [], first := some 2 },
             { pay := .text b!"a", parent := some 0, live := false },
             { pay := .text b!"ab", parent := some 0 },
             { pay := .cdata }], root := some 0 }
def m8 : St :=
  { heap := [{ pay := .elt (.literal b!"r") [], first := some 2 },
             { pay := .text b!"a", parent := some 0, live := false },
             { pay := .text b!"ab", parent := some 0 },
             { pay := .cdata, live := false }], root := some 0 }

theorem mix_h3 : stepChecked w2 (.addText (some 0) b!"b") = .ok (.node (some 2), m3) := by rfl
theorem mix_h4 : stepChecked m3 (.addCdata (some 0)) = .ok (.node (some 3), m4) := by rfl
theorem mix_h5 : stepChecked m4 (.extract 3) = .ok (.code 0, m5) := by rfl
theorem mix_h6 : stepChecked m5 (.addNode (some 0) 3) = .ok (.bool true, m4) := by rfl
theorem mix_h8 : stepChecked m5 (.destroy 3) = .ok (.unit, m8) := by rfl

theorem mixWitness_runs :
    run (create [] 0 0)
      [.addElt none (.literal b!"r"), .addText (some 0) b!"a", .addText (some 0) b!"b",
       .addCdata (some 0), .extract 3, .addNode (some 0) 3, .extract 3, .destroy 3] = .ok m8 := by
  rw [run_cons _ adj_h1, run_cons _ adj_h2, run_cons _ mix_h3, run_cons _ mix_h4, run_cons _ mix_h5,
    run_cons _ mix_h6, run_cons _ mix_h5, run_cons _ mix_h8]; rfl

/-! ### Root `<r>` with the text child "a", a fresh text node "b": `wbxml_tree_node_add_child` links them as
    adjacent text siblings -/

theorem addChild_witness : ∃ s s', Inv s ∧ NoAdjText s ∧ addChild s 0 2 = .ok s' ∧ ¬ NoAdjText s' := by
  have hrun : run (create [] 0 0) [.addElt none (.literal b!"r"), .addText (some 0) b!"a"] = .ok w2 := by
    rw [run_cons _ adj_h1, run_cons _ adj_h2]; rfl
  obtain ⟨s1, e1, hI1, _, hna⟩ := run_inv [.addElt none (.literal b!"r"), .addText (some 0) b!"a"] _
    (inv_create [] 0 0)
  cases hrun.symm.trans e1
  have hN1 : NoAdjText w2 := hna (by intro op hop; simp at hop; rcases hop with h | h <;> subst h <;> rfl) (by
    intro i j ci cj hci; simp [create, St.cellAt] at hci)
  obtain ⟨G, hF⟩ := hI1
  refine ⟨(w2.alloc (.text b!"b")).2, _, ⟨_, (hF.alloc _).1⟩, alloc_noadj ⟨G, hF⟩ hN1 _, rfl, ?_⟩
  intro hN
  exact hN 1 2 _ _ rfl rfl rfl ⟨rfl, rfl⟩

end Wbxml.Model.TreeHeap
