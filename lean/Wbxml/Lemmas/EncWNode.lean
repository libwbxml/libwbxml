/-
  WBXML encoder proofs: the node walk. `parse_node` on a node (with its children and the element
  END) writes the serialisation of a list of content items of the grammar (`Seg`):

    * the bytes appended to the output are `Spec.serItems items`                      (`out`);
    * the tracked code pages are the pages a reader has after those items             (`pages`);
    * the string table only grows at its end and keeps its invariant                  (`tbl`);
    * every STR_T / literal index in `items` is the offset of a table entry            (`refs`);
    * under `OpqCond` — no OPAQUE token was written, or the language has no typed content and
      every payload is shorter than 2^32 octets — `items` is well-formed for every reader
      context that agrees with the encoder                                             (`wf`);
    * every OPAQUE payload in `items` lies inside the bytes written                    (`osz`).

  What the walk establishes of a node is the record `NodeOk` (`NodesOk` for a sibling chain): `Seg`,
  well-formedness with typed content under the source hypotheses (`WfN`) and ONE reading of the items —
  the tree a reader at the same position builds (`TreeT`, `xNode`). There are two well-formedness
  statements because there are two theorems: `Seg.wf` has its condition on the OUTPUT and needs no
  reader position (`C06.enc_is_ser_wf_partial`), `WfN` has its conditions on the SOURCE tree and
  follows the reader's two tags through the items (`C06.enc_is_ser_wf`); neither implies the other. Each kind of node is one step
  (`NodeOk.elem`, `.text`, `.cdata`, `.embedded`, `NodesOk.cons`); `encNode_seg`, the one induction over
  the tree, opens the code and applies them. The readings are defined in `EncWView`, which also reads
  the token views `ViewT` and `ViewN` off that tree.
-/
import Wbxml.Lemmas.EncWView
import Wbxml.Lemmas.EncWTbl
namespace Wbxml.Lemmas.EncW
open Wbxml Wbxml.Model Wbxml.Spec Wbxml.Lemmas.ParseSer Wbxml.Lemmas.Rt
open Wbxml.Model.Codec (mbEncode)

structure Seg (c : WCfg) (st st' : WSt) (items : List Item) : Prop where
  out : st'.out = st.out ++ serItems items
  pages : ∀ ctx own, (evItems ctx own ⟨st.tagPage, st.attrPage⟩ items).2 = ⟨st'.tagPage, st'.attrPage⟩
  tbl : TblExt c st st'
  refs : ∀ off ∈ refsItems items, ∃ e ∈ st'.strtbl, e.offset = off
  wf : ∀ ctx, Compat c st'.strtbl ctx → langOk c.lang = true → OpqCond c (opqsItems items) →
    ∀ own slot, wfItems ctx own slot ⟨st.tagPage, st.attrPage⟩ items = true
  /-- every opaque payload lies inside the bytes written -/
  osz : ∀ d ∈ opqsItems items, d.length ≤ (serItems items).length

theorem Seg.nil (c : WCfg) (st : WSt) : Seg c st st [] :=
  ⟨by rw [serItems_nil, List.append_nil], fun _ _ => by rw [evItems_nil], TblExt.refl _ _,
    (by intro o ho; rw [refsItems_nil] at ho; cases ho), fun _ _ _ _ _ _ => by rw [wfItems],
    (by intro d hd; rw [opqsItems_nil] at hd; cases hd)⟩

theorem Seg.append {c : WCfg} {st st1 st2 : WSt} {a b : List Item} (h1 : Seg c st st1 a) (h2 : Seg c st1 st2 b) :
    Seg c st st2 (a ++ b) := by
  refine ⟨?_, ?_, h1.tbl.trans h2.tbl, ?_, ?_, ?_⟩
  · rw [h2.out, h1.out, serItems_append, List.append_assoc]
  · intro ctx own; rw [evItems_append_pages, h1.pages, h2.pages]
  · intro off ho
    rw [refsItems_append, List.mem_append] at ho
    rcases ho with ho | ho
    · obtain ⟨e, he, heo⟩ := h1.refs off ho
      exact ⟨e, h2.tbl.pre.subset he, heo⟩
    · exact h2.refs off ho
  · intro ctx hc hl hno own slot
    rw [opqsItems_append] at hno
    rw [wfItems_append, h1.wf ctx (hc.mono h2.tbl.pre) hl hno.left own slot, Bool.true_and, h1.pages]
    exact h2.wf ctx hc hl hno.right own _
  · intro d hd
    rw [opqsItems_append, List.mem_append] at hd
    rw [serItems_append, List.length_append]
    rcases hd with hd | hd
    · have := h1.osz d hd; omega
    · have := h2.osz d hd; omega

/-- A state that differs only in fields the grammar does not see. -/
theorem Seg.congr_right {c : WCfg} {st st1 st2 : WSt} {a : List Item} (h : Seg c st st1 a)
    (ho : st2.out = st1.out) (htp : st2.tagPage = st1.tagPage) (hap : st2.attrPage = st1.attrPage)
    (ht : st2.strtbl = st1.strtbl) (hl : st2.strtblLen = st1.strtblLen) : Seg c st st2 a :=
  ⟨ho ▸ h.out, fun ctx own => by rw [htp, hap]; exact h.pages ctx own, h.tbl.trans (TblExt.of_eq ht hl),
    ht ▸ h.refs, ht ▸ h.wf, h.osz⟩

theorem Seg.congr_left {c : WCfg} {st0 st st1 : WSt} {a : List Item} (h : Seg c st st1 a)
    (ho : st.out = st0.out) (htp : st.tagPage = st0.tagPage) (hap : st.attrPage = st0.attrPage)
    (ht : st.strtbl = st0.strtbl) (hl : st.strtblLen = st0.strtblLen) : Seg c st0 st1 a :=
  ⟨ho ▸ h.out, fun ctx own => by rw [← htp, ← hap]; exact h.pages ctx own,
    (TblExt.of_eq ht hl).trans h.tbl, h.refs, fun ctx hc hlk hno own slot => by
      rw [← htp, ← hap]; exact h.wf ctx hc hlk hno own slot, h.osz⟩

theorem opqsAVals_le (vs : List AVal) : ∀ d ∈ opqsAVals vs, d.length ≤ (serAVals vs).length := by
  induction vs with
  | nil => intro d hd; cases hd
  | cons v rest ih =>
    intro d hd
    simp only [opqsAVals, List.mem_append] at hd
    simp only [serAVals, List.length_append]
    rcases hd with hd | hd
    · cases v with
      | «opaque» d' =>
        simp only [opqsAVal, List.mem_singleton] at hd
        subst hd
        simp only [serAVal, serOpaque, List.length_cons, List.length_append]
        omega
      | tok sw t => cases hd
      | str s => cases hd
      | entity cd => cases hd
      | ext sw x => cases hd
    · have := ih d hd; omega

theorem opqsAttrs_le (as : List Attribute) : ∀ d ∈ opqsAttrs as, d.length ≤ (serAttrs as).length := by
  induction as with
  | nil => intro d hd; cases hd
  | cons a rest ih =>
    intro d hd
    simp only [opqsAttrs, List.mem_append] at hd
    simp only [serAttrs, List.length_append]
    rcases hd with hd | hd
    · have := opqsAVals_le a.vals d hd
      simp only [serAttr, List.length_append]
      omega
    · have := ih d hd; omega

/-- … hence inside the element that carries the attributes. -/
theorem opqsAttrs_le_elem (sw tag) (as : List Attribute) (content) :
    ∀ d ∈ opqsAttrs as, d.length ≤ (serElem (.mk sw tag as content)).length := by
  intro d hd
  have h1 := opqsAttrs_le as d hd
  rw [serElem_mk]
  cases as with
  | nil => cases hd
  | cons a rest =>
    simp only [List.isEmpty_cons, Bool.false_eq_true, ↓reduceIte, List.length_append]
    omega

/-- One leaf, written without touching pages or table. -/
theorem Seg.leaf (c : WCfg) (st : WSt) (it : Item) (h : Leaf c st.strtbl it) : Seg c st (st.emit (serItem it)) [it] := by
  refine ⟨by rw [serItems_single]; rfl, fun ctx own => ?_, TblExt.of_eq rfl rfl, fun off ho => ?_,
    fun ctx hc hl hno own slot => ?_, fun d hd => ?_⟩
  · rw [evItems_single_pages, leaf_page c st.strtbl ctx own _ it h]; rfl
  · rw [refsItems_single] at ho
    cases h with
    | ref o hoo => rw [refsItem_str] at ho; obtain rfl := List.mem_singleton.mp ho; exact hoo
    | inl s _ => rw [refsItem_str] at ho; cases ho
    | ext v _ _ => rw [refsItem_ext] at ho; cases ho
    | opq d => rw [refsItem_opaque] at ho; cases ho
  · rw [opqsItems_single] at hno
    rw [wfItems_single]; exact leaf_wf c st.strtbl ctx hc hl own slot _ it h hno
  · rw [opqsItems_single] at hd
    cases h with
    | opq d' =>
      rw [opqsItem_opaque, List.mem_singleton] at hd
      subst hd
      rw [serItems_single, serItem_opaque]
      simp only [serOpaque, List.length_cons, List.length_append]
      omega
    | inl s _ => rw [opqsItem_str] at hd; cases hd
    | ref o _ => rw [opqsItem_str] at hd; cases hd
    | ext v _ _ => rw [opqsItem_ext] at hd; cases hd

/-- Leaves written without touching pages or table: one `Seg.leaf` after the other. -/
theorem Seg.leaves (c : WCfg) (st st' : WSt) (items : List Item) (hleaf : ∀ it ∈ items, Leaf c st.strtbl it)
    (ho : st'.out = st.out ++ serItems items) (htp : st'.tagPage = st.tagPage) (hap : st'.attrPage = st.attrPage)
    (ht : st'.strtbl = st.strtbl) (hl : st'.strtblLen = st.strtblLen) : Seg c st st' items := by
  have key : ∀ (items : List Item) (st : WSt), (∀ it ∈ items, Leaf c st.strtbl it) →
      Seg c st (st.emit (serItems items)) items := by
    intro items
    induction items with
    | nil => intro st _; rw [serItems_nil, emit_nil]; exact Seg.nil c st
    | cons it rest ih =>
      intro st h
      rw [serItems_cons, ← emit_emit]
      exact (Seg.leaf c st it (h it List.mem_cons_self)).append (ih _ (fun x hx => h x (List.mem_cons_of_mem _ hx)))
  exact (key items st hleaf).congr_right ho htp hap ht hl

/-- The content an element is written with, against the items of its children: `none` (an element
    without children) reads like no items at all. -/
structure ContentOf (content : Option (List Item)) (items : List Item) : Prop where
  ser : serContent content = if content.isSome then serItems items ++ [0x01] else []
  nil : content.isSome = false → items = []
  ev : ∀ ctx own pg, evContent ctx own pg content = evItems ctx own pg items
  wf : ∀ ctx own slot pg, wfContent ctx own slot pg content = wfItems ctx own slot pg items
  kids : ∀ ctx own pg acc, kidsOfContent ctx own pg content acc = kidsOfItems ctx own pg items acc
  refs : refsContent content = refsItems items
  opqs : opqsContent content = opqsItems items

theorem ContentOf.none : ContentOf none [] :=
  ⟨by rw [serContent_none]; rfl, fun _ => rfl, fun _ _ _ => by rw [evContent_none, evItems_nil],
    fun _ _ _ _ => by rw [wfContent, wfItems], fun _ _ _ _ => by rw [kidsOfContent_none, kidsOfItems_nil],
    by rw [refsContent_none, refsItems_nil], by rw [opqsContent_none, opqsItems_nil]⟩

theorem ContentOf.some (items : List Item) : ContentOf (some items) items :=
  ⟨by rw [serContent_some]; rfl, fun h => (by cases h), fun _ _ _ => evContent_some _ _ _ _,
    fun _ _ _ _ => wfContent_some _ _ _ _ _, fun _ _ _ _ => kidsOfContent_some _ _ _ _ _, refsContent_some _,
    opqsContent_some _⟩

/-- An element: start, children, and END when there is content. -/
theorem Seg.elem (c : WCfg) (nm : Bytes) (src : List (Bytes × Bytes)) (st st1 st2 : WSt) (sw tag as) (items : List Item)
    (content : Option (List Item)) (hs : StartRes c nm src st st1 content.isSome sw tag as) (hk : Seg c st1 st2 items)
    (hc : ContentOf content items) :
    Seg c st (st2.emit (if content.isSome then [0x01] else [])) [.elem (.mk sw tag as content)] := by
  refine ⟨?_, ?_, hs.tbl.trans (hk.tbl.trans (TblExt.of_eq rfl rfl)), ?_, ?_, ?_⟩
  · rw [serItems_single, serItem_elem, serElem_mk, hc.ser, emit_out, hk.out, hs.out]
    cases h : content.isSome
    · rw [hc.nil h, serItems_nil]; simp
    · simp
  · intro ctx own
    rw [evItems_single_pages, evItem_elem, evElem_mk, hc.ev]
    rw [← hs.tp, ← hs.ap ctx]
    exact hk.pages ctx _
  · intro off ho
    rw [refsItems_single, refsItem_elem, refsElem_mk, hc.refs] at ho
    simp only [List.mem_append] at ho
    show ∃ e ∈ st2.strtbl, _
    rcases ho with ho | ho | ho
    · obtain ⟨e, he, heo⟩ := tagOk_refs c _ _ _ _ _ hs.tag off ho
      exact ⟨e, hk.tbl.pre.subset he, heo⟩
    · obtain ⟨e, he, heo⟩ := hs.refs off ho
      exact ⟨e, hk.tbl.pre.subset he, heo⟩
    · exact hk.refs off ho
  · intro ctx hcx hl hno own slot
    have hc2 : Compat c st2.strtbl ctx := hcx
    have hc1 : Compat c st1.strtbl ctx := hc2.mono hk.tbl.pre
    rw [opqsItems_single, opqsItem_elem, opqsElem_mk, hc.opqs] at hno
    have hna : opqsAttrs as = [] := by
      rcases hno.left with h | ⟨hu, _⟩
      · exact h
      · exact hs.noopq (untyped_noTypedAttr _ hu)
    have htag := tagOk_wf c _ _ _ _ _ hs.tag ctx hc1 hl
    rw [wfItems_single, wfItem_elem, wfElem_mk, hc.wf, htag.1, htag.2, hs.wf ctx hc1 hl hna]
    rw [← hs.tp, ← hs.ap ctx]
    exact hk.wf ctx hc2 hl hno.right _ _
  · intro d hd
    rw [opqsItems_single, opqsItem_elem, opqsElem_mk, hc.opqs, List.mem_append] at hd
    rw [serItems_single, serItem_elem]
    rcases hd with hd | hd
    · exact opqsAttrs_le_elem sw tag as _ d hd
    · have := hk.osz d hd
      rw [serElem_mk, hc.ser]
      cases h : content.isSome
      · rw [hc.nil h, opqsItems_nil] at hd; cases hd
      · simp only [↓reduceIte, List.length_append]
        omega


/-- What the walk establishes of a node written from `st` to `st'` as `items`. -/
structure NodeOk (c : WCfg) (parent : Option Name) (n : Node) (st st' : WSt) (items : List Item) : Prop where
  seg : Seg c st st' items
  /-- `parse_node` clears `current_tag` behind every node: the next sibling starts from `none` -/
  cur : st'.curTag = none
  /-- the conjunct `opqsItems items = []` of `ViewN` (`ViewN.of_viewT_root`) -/
  noOpq : NoOpq c (plainNode n) st items
  wf : WfN c parent n st st' items
  /-- a text node leaves the reader's `current_tag` slot alone: `Pos.next` asks it as long as only
      text nodes have gone before (`pre`; used in `NodesOk.cons`) -/
  slot : isTextN n = true → ∀ slot, slotEnd slot items = slot
  /-- the tag page behind the node is the one `vNode` computes: the position argument of the next
      sibling's `vNode` / `xNode` -/
  page : PageT (plainNode n) (vNode c parent st.curTag st.tagPage n).2 st st'
  tree : TreeT c parent n st st' items

/-- … and of a `next` chain. -/
structure NodesOk (c : WCfg) (parent : Option Name) (l : List Node) (st st' : WSt) (items : List Item) : Prop where
  seg : Seg c st st' items
  noOpq : NoOpq c (plainNodes l) st items
  wf : WfL c parent l st st' items
  page : PageT (plainNodes l) (vNodes c parent st.curTag st.tagPage l).2 st st'
  tree : TreeTL c parent l st st' items

theorem NodesOk.nil (c : WCfg) (parent : Option Name) (st : WSt) : NodesOk c parent [] st st [] :=
  ⟨Seg.nil c st, fun _ _ _ _ _ => opqsItems_nil, fun _ _ _ _ _ _ _ _ _ _ _ _ _ => by rw [wfItems],
    fun _ hcd => ⟨hcd, by simp only [vNodes]⟩,
    fun _ _ _ _ ctx _ _ _ own _ _ acc => by rw [kidsOfItems_nil]; simp only [xKids]⟩

/-- A node and its later siblings: the reader goes on from where the node's items leave it (`Pos.next`). -/
theorem NodesOk.cons {c : WCfg} {parent : Option Name} {n : Node} {rest : List Node} {st st1 st' : WSt}
    {a b : List Item} (h1 : NodeOk c parent n st st1 a) (h2 : NodesOk c parent rest st1 st' b) :
    NodesOk c parent (n :: rest) st st' (a ++ b) := by
  have ha := h1.seg
  have hb := h2.seg
  have hcur1 := h1.cur
  refine ⟨ha.append hb, ?_, ?_, ?_, ?_⟩
  · intro hpn hpl hnta hcd hbin
    rw [plainNodes, Bool.and_eq_true] at hpn
    rw [opqsItems_append, h1.noOpq hpn.1 hpl hnta hcd hbin,
      h2.noOpq hpn.2 hpl hnta (h1.page hpn.1 hcd).1 (by rw [hcur1]; rfl)]
    rfl
  · intro ty pre htl h1' h2' h3' h4' ctx hc hsz own slot hpos
    rw [noCdataInTypedL, Bool.and_eq_true] at h1'
    rw [validDatetimeAttrsL, Bool.and_eq_true] at h2'
    rw [b64TextDecodesL, Bool.and_eq_true] at h3'
    rw [keyValueTextFirstL, Bool.and_eq_true] at h4'
    rw [wfItems_append, h1.wf ty pre htl h1'.1 h2'.1 h3'.1 h4'.1 ctx (hc.mono hb.tbl.pre)
      (fun d hd => hsz d (by rw [opqsItems_append]; exact List.mem_append_left _ hd)) own slot hpos,
      Bool.true_and, ha.pages ctx own]
    refine h2.wf ty (pre && isTextN n) htl h1'.2 h2'.2 h3'.2 h4'.2 ctx hc
      (fun d hd => hsz d (by rw [opqsItems_append]; exact List.mem_append_right _ hd)) own _ ?_
    rw [hcur1]
    refine hpos.next a _ ?_
    intro hp
    rw [Bool.and_eq_true] at hp
    exact ⟨hp.1, h1.slot hp.2 slot⟩
  · intro hpn hcd
    rw [plainNodes, Bool.and_eq_true] at hpn
    obtain ⟨hcd1, htp1⟩ := h1.page hpn.1 hcd
    obtain ⟨hcd2, htp2⟩ := h2.page hpn.2 hcd1
    rw [hcur1, htp1] at htp2
    exact ⟨hcd2, by rw [htp2]; simp only [vNodes]⟩
  · intro hpn hnw hno hcd ctx hr ty pre own slot hpos acc
    rw [plainNodes, Bool.and_eq_true] at hpn
    obtain ⟨hcd1, htp1⟩ := h1.page hpn.1 hcd
    have hposN : Pos c ctx parent none ty false own (slotEnd slot a) := hpos.next a false (fun h => by cases h)
    have e1 := h1.tree hpn.1 hnw hno hcd ctx (hr.mono hb.tbl.pre) ty pre own slot hpos acc
    have e2 := h2.tree hpn.2 hnw hno hcd1 ctx hr ty false own _ (by rw [hcur1]; exact hposN)
      (addN acc (xNode c parent st.curTag st.tagPage n))
    rw [hcur1, htp1] at e2
    have hpg : (⟨st1.tagPage, st1.attrPage⟩ : Pages) = ⟨(vNode c parent st.curTag st.tagPage n).2, st1.attrPage⟩ := by
      rw [htp1]
    rw [kidsOfItems_append, ha.pages ctx own, e1, hpg, e2]
    simp only [xKids]

/-- One OPAQUE: the `Seg` of it. -/
theorem Seg.opaque (c : WCfg) (st : WSt) (d : Bytes) : Seg c st (st.emit (opaqueW d)) [.opaque d] := by
  rw [← serItem_opq]; exact Seg.leaf c st _ (.opq d)

/-- CDATA sections and embedded documents are outside the plain fragment: the readings ask nothing of them. -/
theorem NodeOk.of_notPlain {c : WCfg} {parent : Option Name} {n : Node} {st st' : WSt} {items : List Item}
    (hp : plainNode n = false) (ht : isTextN n = false) (hseg : Seg c st st' items) (hcur : st'.curTag = none)
    (hwf : WfN c parent n st st' items) : NodeOk c parent n st st' items :=
  ⟨hseg, hcur, fun h => (by rw [hp] at h; cases h), hwf, fun h => (by rw [ht] at h; cases h),
    fun h => (by rw [hp] at h; cases h), fun h => (by rw [hp] at h; cases h)⟩

/-- `wbxml_encode_tree`: an embedded document is one OPAQUE, whatever is in it. -/
theorem NodeOk.embedded (c : WCfg) (parent : Option Name) (l : Option Lang) (cs : Nat) (r : Option Node) (st : WSt) (d : Bytes) :
    NodeOk c parent (.tree l cs r) st { st.emit (opaqueW d) with curTag := none } [.opaque d] := by
  refine .of_notPlain rfl rfl ((Seg.opaque c st d).congr_right rfl rfl rfl rfl rfl) rfl ?_
  intro ty pre htl h1' _ _ _ ctx hc hsz own slot hpos
  rw [noCdataInTyped] at h1'
  have hty : ty = false := by simpa using h1'
  obtain ⟨hu1, hu2⟩ := hpos.unt hty
  refine opaque_wf_untyped ctx own slot _ _ ?_ (by rw [hc.lang]; exact hu1) (by rw [hc.lang]; exact hu2)
  exact hsz _ (by rw [opqsItems_single, opqsItem_opaque]; exact List.mem_cons_self)

/-- `parse_cdata`: the children's items (written with `in_cdata` set: text is collected, not written),
    then the collected text as one OPAQUE unless it is empty. -/
theorem NodeOk.cdata {c : WCfg} {parent : Option Name} {kids : List Node} {st st2 : WSt} {items : List Item}
    (hk : NodesOk c none kids { st with inCdata := true, cdata := some [] } st2 items) (cd : Bytes) :
    ∃ items', NodeOk c parent (.cdata kids) st
      { (if cd.length > 0 then ({ st2 with inCdata := false } : WSt).emit (opaqueW cd) else { st2 with inCdata := false })
        with cdata := none, curTag := none } items' := by
  have hk' : Seg c st st2 items := hk.seg.congr_left rfl rfl rfl rfl rfl
  have hkw' : ∀ (ty pre : Bool), typedLangOk c.lang = true → noCdataInTyped c.lang ty (.cdata kids) = true →
      validDatetimeAttrs c.lang (.cdata kids) = true → b64TextDecodes c parent (.cdata kids) = true →
      keyValueTextFirst c parent pre (.cdata kids) = true →
      ∀ ctx, Compat c st2.strtbl ctx → (∀ d ∈ opqsItems items, d.length < 4294967296) →
      ∀ own slot, Pos c ctx parent st.curTag ty pre own slot →
        ty = false ∧ wfItems ctx own slot ⟨st.tagPage, st.attrPage⟩ items = true := by
    intro ty pre htl h1' h2' h3' h4' ctx hc hsz own slot hpos
    rw [noCdataInTyped, Bool.and_eq_true] at h1'
    rw [validDatetimeAttrs] at h2'
    rw [b64TextDecodes] at h3'
    rw [keyValueTextFirst] at h4'
    exact ⟨by simpa using h1'.1, hk.wf ty pre htl h1'.2 h2' h3' h4' ctx hc hsz own slot hpos.cdata⟩
  by_cases hlen : cd.length > 0
  · simp only [hlen, ↓reduceIte]
    refine ⟨_, .of_notPlain rfl rfl ((hk'.append ((Seg.opaque c { st2 with inCdata := false } cd).congr_left
      rfl rfl rfl rfl rfl)).congr_right rfl rfl rfl rfl rfl) rfl ?_⟩
    intro ty pre htl h1' h2' h3' h4' ctx hc hsz own slot hpos
    have hc2 : Compat c st2.strtbl ctx := hc
    obtain ⟨hty, hkids⟩ := hkw' ty pre htl h1' h2' h3' h4' ctx hc2
      (fun d hd => hsz d (by rw [opqsItems_append]; exact List.mem_append_left _ hd)) own slot hpos
    rw [wfItems_append, hkids, Bool.true_and]
    -- behind the children the reader's slot is unchanged or cleared: still no typed rule
    obtain ⟨hu1, hu2⟩ := (hpos.next items false (fun h => by cases h)).unt hty
    refine opaque_wf_untyped ctx own _ _ cd ?_ (by rw [hc.lang]; exact hu1) (by rw [hc.lang]; exact hu2)
    exact hsz cd (by rw [opqsItems_append, opqsItems_single, opqsItem_opaque]
                     exact List.mem_append_right _ List.mem_cons_self)
  · simp only [hlen, ↓reduceIte]
    refine ⟨items, .of_notPlain rfl rfl (hk'.congr_right rfl rfl rfl rfl rfl) rfl ?_⟩
    intro ty pre htl h1' h2' h3' h4' ctx hc hsz own slot hpos
    exact (hkw' ty pre htl h1' h2' h3' h4' ctx hc hsz own slot hpos).2

/-- `parse_text`: leaves; the only OPAQUE a text may become is the raw or the typed one (`text_wfT`). -/
theorem NodeOk.text {c : WCfg} {parent : Option Name} {s : Bytes} {st st1 : WSt} (hl : langOk c.lang = true)
    (hinv : StrInv st) (h1 : encTextW c parent s st = .ok st1) :
    ∃ items, NodeOk c parent (.text s) st { st1 with curTag := none } items := by
  obtain ⟨items, hleaf, ho, htp, hap, ht, hlen, hcdeq, hout, hvT⟩ := encTextW_spec c parent s st st1 hinv h1
  have hseg := Seg.leaves c st st1 items hleaf ho htp hap ht hlen
  refine ⟨items, ⟨hseg.congr_right rfl rfl rfl rfl rfl,
    rfl, ?_, ?_, fun _ slot => leaves_slotEnd c st.strtbl slot items hleaf, ?_, ?_⟩⟩
  · intro _ hpl _ hcd hbin
    simp only [plainLang, Bool.and_eq_true, Bool.not_eq_true'] at hpl
    exact hout.plain hpl.1.1 hpl.1.2 hbin
  · intro ty pre htl _ _ h3 h4 ctx hc hsz own slot hpos
    have hc0 : Compat c st.strtbl ctx := ht ▸ (hc : Compat c st1.strtbl ctx)
    exact text_wfT c parent s st items hout htl ty pre h3 h4 ctx hc0 hsz own slot hpos _
      (fun hno => hseg.wf ctx hc hl (Or.inl hno) own slot)
  · intro _ hcd
    exact ⟨by show st1.inCdata = false; rw [hcdeq, hcd], by show st1.tagPage = _; rw [htp]; simp only [vNode]⟩
  · intro _ hnw _ hcd ctx hr ty pre own slot hpos acc
    have hres : Resolves ctx.tbl st.strtbl := ht ▸ (hr.res : Resolves ctx.tbl st1.strtbl)
    have hv := hvT hnw hl hr.tl hcd ctx hr.lang hres own (fun r hr0 => (hpos.cur r hr0).2) hpos.par
      ⟨st.tagPage, st.attrPage⟩
    rw [kidsOfItems_of_view ctx own items _ acc
      (List.all_eq_true.mpr (fun it hit => leaf_of_Leaf (hleaf it hit))) _ hv]
    simp only [xNode, addN]

/-- `parse_element`, the children, END: one element; the children's reader stands where `Pos.kids` says,
    on the pages the start leaves. -/
theorem NodeOk.elem {c : WCfg} {parent : Option Name} {name : Name} {attrs : List Attr} {kids : List Node}
    {st st1 st2 : WSt} {items : List Item} (hl : langOk c.lang = true) (hname : nameOver c.lang name = true)
    (hattrs : attrs.all (attrOver c.lang) = true)
    (h1 : encElementStartW c (some attrs) name attrs (!kids.isEmpty) st = .ok st1)
    (hk : NodesOk c (some name) kids st1 st2 items) (hnil : kids = [] → items = []) :
    ∃ e, NodeOk c parent (.elt name attrs kids) st
      { (if kids.isEmpty then st2 else st2.emit [0x01]) with curTag := none } [.elem e] := by
  obtain ⟨sw, tag, as, hs, hlink, hwfA, hxA⟩ := encElementStartW_spec' c name attrs (!kids.isEmpty) st st1 hl hname hattrs h1
  have hpageT := tagLink_page c name st sw tag hlink
  have hstep := encElementStartW_step c _ name attrs _ st st1 h1
  have hcd1 : st1.inCdata = st.inCdata := hstep.inCdata
  have hcur1 : st1.curTag = foundAt c.lang st.tagPage name := hstep.curTag
  -- The content written is `none` for an element without children and `some items` otherwise.
  obtain ⟨content, hcs, hcont⟩ : ∃ content, content.isSome = !kids.isEmpty ∧ ContentOf content items := by
    cases kids with
    | nil => obtain rfl := hnil rfl; exact ⟨none, rfl, .none⟩
    | cons k ks => exact ⟨some items, rfl, .some items⟩
  have hst' : (if kids.isEmpty then st2 else st2.emit [0x01]) = st2.emit (if content.isSome then [0x01] else []) := by
    rw [hcs]; cases kids.isEmpty
    · rfl
    · exact (emit_nil st2).symm
  rw [hst']
  rw [← hcs] at hs
  have hoq := hcont.opqs
  refine ⟨.mk sw tag as content, ⟨(Seg.elem c _ _ st st1 st2 sw tag as items content hs hk.seg hcont).congr_right
    rfl rfl rfl rfl rfl, rfl, ?_, ?_, fun h => (by cases h), ?_, ?_⟩⟩
  · intro hpn hpl hnta hcd _
    rw [plainNode] at hpn
    rw [opqsItems_single, opqsItem_elem, opqsElem_mk, hoq, hs.noopq hnta,
      hk.noOpq hpn hpl hnta (by rw [hcd1, hcd]) (by rw [hcur1]; exact plainLang_found c.lang name st.tagPage hname hpl)]
    rfl
  · intro ty pre htl h1' h2' h3' h4' ctx hc hsz own slot hpos
    rw [noCdataInTyped] at h1'
    rw [validDatetimeAttrs, Bool.and_eq_true] at h2'
    rw [b64TextDecodes, Bool.and_eq_true] at h3'
    rw [keyValueTextFirst] at h4'
    have hc2 : Compat c st2.strtbl ctx := hc
    have hc1 : Compat c st1.strtbl ctx := hc2.mono hk.seg.tbl.pre
    have htag := tagOk_wf c _ _ _ _ _ hs.tag ctx hc1 hl
    rw [wfItems_single, wfItem_elem, wfElem_mk, htag.1, htag.2, hwfA ctx hc1 hl htl h2'.1 h3'.1, hcont.wf,
      ← hs.tp, ← hs.ap ctx]
    refine hk.wf _ true htl h1' h2'.2 h3'.2 h4' ctx hc2 ?_ _ _
      (by rw [hcur1, hs.tp]; exact hpos.kids hc1.lang hl name hname st sw tag hlink)
    intro d hd
    exact hsz d (by rw [opqsItems_single, opqsItem_elem, opqsElem_mk, hoq]
                    exact List.mem_append_right _ hd)
  · intro hpn hcd
    rw [plainNode] at hpn
    obtain ⟨hcd2, htp2⟩ := hk.page hpn (by rw [hcd1, hcd])
    rw [hcur1, hs.tp, hpageT] at htp2
    exact ⟨hcd2, by show st2.tagPage = _; rw [htp2]; simp only [vNode]⟩
  · intro hpn hnw hno hcd ctx hr ty pre own slot hpos acc
    rw [plainNode] at hpn
    have hr2 : RdT c st2.strtbl ctx := hr
    have hr1 : RdT c st1.strtbl ctx := hr2.mono hk.seg.tbl.pre
    have hnm := tagLink_exact c name st st1.strtbl sw tag hs.tag hlink hname ctx hr1.lang hl hr1.res
    have hposK := hpos.kids hr1.lang hl name hname st sw tag hlink
    have hbody := hk.tree hpn hnw hno (by rw [hcd1, hcd]) ctx hr2 _ true _ _ (by rw [hcur1]; exact hposK) []
    rw [hcur1, hs.tp, hs.ap ctx, hpageT] at hbody
    rw [kidsOfItems_single, kidOfItem_elem, nodeOfElem_mk, hcont.kids, hnm, hxA ctx hr1 hno, hpageT, hbody]
    simp only [xNode, addN]

/-- **The node walk writes content items of the grammar** (`Seg`), for every node (any depth, any
    language whose tables satisfy `langOk`, any tree over that language) and every state that
    satisfies the string-table invariant; an element node yields exactly one element; `current_tag`
    is NULL after every node; the items are well-formed with typed content under the source
    hypotheses (`WfN`); and a reader at the same position builds the tree `xNode` from them
    (`TreeT`) — the ONE reading the walk carries: the token views `ViewT` and `ViewN` are read off
    that tree in `EncWView`. The induction only opens the code: each kind of node is one of the
    steps `NodeOk.elem`, `.text`, `.cdata`, `.embedded`, a chain `NodesOk.nil`, `.cons`. -/
theorem encNode_seg :
    (∀ (c : WCfg) (parent : Option Name) (encEnd : Bool) (n : Node) (st : WSt), encEnd = true →
      langOk c.lang = true → nodeOver c.lang n = true → StrInv st →
      ∀ st', encNodeG c parent encEnd n st = .ok st' →
        ∃ items, NodeOk c parent n st st' items ∧ (isElt n = true → ∃ e, items = [.elem e])) ∧
    (∀ (c : WCfg) (parent : Option Name) (l : List Node) (st : WSt),
      langOk c.lang = true → nodesOver c.lang l = true → StrInv st →
      ∀ st', encNodesW c parent l st = .ok st' →
        ∃ items, NodesOk c parent l st st' items ∧ (l = [] → items = [])) := by
  apply encNodeG.mutual_induct
  · intro c parent encEnd name attrs kids st ih hend hl hover hinv st' h
    subst hend
    rw [nodeOver, Bool.and_eq_true, Bool.and_eq_true] at hover
    obtain ⟨⟨hname, hattrs⟩, hkids⟩ := hover
    simp only [encNodeG] at h
    obtain ⟨st1, h1, h⟩ := bind_eq_ok h
    obtain ⟨st2, h2, h⟩ := bind_eq_ok h
    have hinv1 : StrInv st1 :=
      ((TblExt.of_eq rfl rfl : TblExt c st { st with curTag := foundAt c.lang st.tagPage name }).trans
        (encElementStartW_step c _ name attrs _ st st1 h1).tbl).inv hinv
    obtain ⟨items, hk, hnil⟩ := ih st1 hl hkids hinv1 st2 h2
    obtain ⟨e, he⟩ := NodeOk.elem (parent := parent) hl hname hattrs h1 hk hnil
    obtain rfl : { (if kids.isEmpty then st2 else st2.emit [0x01]) with curTag := none } = st' := by
      rw [← Except.ok.inj h]; cases kids.isEmpty <;> rfl
    exact ⟨_, he, fun _ => ⟨e, rfl⟩⟩
  · intro c parent encEnd s st _ hl _ hinv st' h
    simp only [encNodeG] at h
    obtain ⟨st1, h1, rfl⟩ := bind_pure_eq_ok h
    obtain ⟨items, hn⟩ := NodeOk.text hl hinv h1
    exact ⟨items, hn, fun h => (by cases h)⟩
  · -- CDATA inside CDATA
    intro c parent encEnd kids st s hs _ _ _ _ st' h
    simp only [encNodeG, hs] at h
    cases h
  · intro c parent encEnd kids st hs ih _ hl hover hinv st' h
    rw [nodeOver] at hover
    simp only [encNodeG, hs] at h
    obtain ⟨st2, h2, h⟩ := bind_eq_ok h
    obtain ⟨items, hk, _⟩ := ih hl hover (hinv.of_eq rfl rfl) st2 h2
    split at h
    · cases h
    · rename_i cd hcd
      obtain rfl := Except.ok.inj h
      obtain ⟨items', hn⟩ := NodeOk.cdata (parent := parent) hk cd
      exact ⟨items', hn, fun h => (by cases h)⟩
  · -- nested tree without language
    intro c parent encEnd cs root st _ _ _ _ st' h
    simp only [encNodeG] at h
    cases h
  · -- nested tree without root
    intro c parent encEnd cs st l _ _ _ _ st' h
    simp only [encNodeG] at h
    cases h
  · intro c parent encEnd cs st l r c' _ _ _ _ _ st' h
    simp only [encNodeG] at h
    obtain ⟨st2, _, rfl⟩ := bind_pure_eq_ok h
    exact ⟨_, NodeOk.embedded c parent (some l) cs (some r) st _, fun h => (by cases h)⟩
  · intro c parent st _ _ _ st' h
    simp only [encNodesW] at h
    obtain rfl := Except.ok.inj h
    exact ⟨[], NodesOk.nil c parent st, fun _ => rfl⟩
  · intro c parent n rest st ih1 ih2 hl hover hinv st' h
    rw [nodesOver, Bool.and_eq_true] at hover
    simp only [encNodesW] at h
    obtain ⟨st1, h1, h⟩ := bind_eq_ok h
    obtain ⟨a, ha, _⟩ := ih1 rfl hl hover.1 hinv st1 h1
    obtain ⟨b, hb, _⟩ := ih2 st1 hl hover.2 (ha.seg.tbl.inv hinv) st' h
    exact ⟨a ++ b, NodesOk.cons ha hb, fun h => (nomatch h)⟩

end Wbxml.Lemmas.EncW
