/-
  Round trip (C03), typed and exact: `normNodeTyped c r` — the tree `wbxml_tree_from_wbxml` builds
  from what `wbxml_tree_to_wbxml` writes for the plain tree `r`, as a function of `r` alone
  (`xNode` of `Lemmas/EncWView.lean` at the root position) — and the document-level consequence of
  the tree-level conjunct `TreeT` of `encNode_seg`: the tree read off the grammar value the encoder
  wrote IS `normNodeTyped` (`DocRes.exactRoot`), names with their representation (token row or
  literal), typed content included.
  Then: the table facts behind "the same row comes back" (`namesUniqPerPage`, `tokensUniq`, `selfFind`,
  `exactName_token`); idempotence of `xNode` where names, attributes and texts are fixed points of their
  own normal forms (`fixedNode`, `StX`, `xNode_fixed`, `normNodeTyped_idem`, the per-form facts `textFixed_*`,
  `nameFixed_*`); which attribute start row the encoder works with (`startRow_literal`, `startRow_token`);
  and in a plain language `canon` turns `xNode` into `normNode` (`canon_xNode`, `canon_normNodeTyped`).
-/
import Wbxml.Lemmas.RtNorm
import Wbxml.Lemmas.EncWReadBack
import Wbxml.Lemmas.Tables
namespace Wbxml.Lemmas.Rt
open Wbxml Wbxml.Model Wbxml.Spec Wbxml.Lemmas.EncW Wbxml.Lemmas.ParseSer

/-- **The typed, exact normalisation of C03**: the root position (no parent, no `current_tag`, tag
    code page 0) of `xNode`.

    * element name ↦ `exactName`: `.token d` with `d` the FIRST row of the tag table with the page
      and token of the row `wbxml_encode_tag` works with (a token name's own row; for a literal name
      the row `wbxml_tables_get_tag_from_xml` finds, current code page first), or `.literal` of the
      name read as a C string when there is no such row;
    * attribute ↦ `xAttr`: name `exactAName` of the start row `wbxml_tables_get_attr_from_xml` /
      `wbxml_encode_attr_start` choose (`startRow`), value `vAttrValue` (the C string; under an SI /
      EMN `%Datetime` start token the text `decode_datetime` makes of the BCD payload) with the
      handlers' trailing NUL; no attributes for a language without attribute table;
    * text ↦ `vText`: `normText`; the raw octets as first child of a binary-flagged element; under a
      DRMREL `ds:KeyValue` token element the base64 text of the decoded octets;
    * children folded with `addN` (empty text dropped, adjacent text merged). -/
def normNodeTyped (c : WCfg) (r : Node) : Node := xNode c none none 0 r

theorem evPis_nil_page (c : Ctx) (ap : Nat) : (evPis c ap []).2 = ap := rfl

/-- **The tree read off the document the encoder wrote is the typed exact normalisation of the
    source tree** — every language but Wireless Village and OTA settings, plain trees. -/
theorem _root_.Wbxml.Lemmas.EncW.DocRes.exactRoot {cfg lang r bs d st} (h : DocRes cfg lang r bs d st)
    (hl : langOk lang = true) (htl : typedLangOk lang = true) (helt : isElt r = true)
    (hpn : plainNode r = true) (hnw : isWv lang.id = false) (hno : (lang.id == 1901) = false)
    (hvs : valSemOk lang = true) (has : attrSemOk lang = true) (han : attrNameSemOk lang = true)
    (pcfg : PCfg) : rootOfDoc pcfg d lang = normNodeTyped (dcfgOf cfg lang) r := by
  have hf := docStartW_fields (dcfgOf cfg lang) r
  have hrd : RdT (dcfgOf cfg lang) st.strtbl (headerCtx pcfg d.hdr lang) :=
    ⟨by simp [headerCtx], h.resolves pcfg, by rw [dcfgOf_lang]; exact hl, by rw [dcfgOf_lang]; exact hvs,
      by rw [dcfgOf_lang]; exact has, by rw [dcfgOf_lang]; exact han, by rw [dcfgOf_lang]; exact htl⟩
  have hpos : Pos (dcfgOf cfg lang) (headerCtx pcfg d.hdr lang) none
      (docStartW (dcfgOf cfg lang) r).curTag false true none none := by
    rw [hf.curTag]; exact Pos.root _ _ true
  have hv := h.treeT hpn (by rw [dcfgOf_lang]; exact hnw) (by rw [dcfgOf_lang]; exact hno) hf.inCdata
    (headerCtx pcfg d.hdr lang) hrd false true none none hpos []
  rw [hf.tagPage, hf.attrPage, hf.curTag, kidsOfItems_single, kidOfItem_elem] at hv
  unfold rootOfDoc normNodeTyped
  rw [h.pre, evPis_nil_page]
  cases r with
  | elt name attrs kids =>
    have e1 : addKid [] (nodeOfElem (headerCtx pcfg d.hdr lang) ⟨0, 0⟩ d.root) =
        [nodeOfElem (headerCtx pcfg d.hdr lang) ⟨0, 0⟩ d.root] := by
      rw [addKid_not_text _ _ (by cases hd : d.root; rw [nodeOfElem_mk]; rfl)]; rfl
    rw [e1] at hv
    exact List.head_eq_of_cons_eq hv
  | _ => cases helt

/-- Within one code page no two rows of a tag table share a name: every row is the first row of the
    table with its (page, name). -/
def namesUniqPerPage (tags : List TagRow) : Bool :=
  tags.all (fun r => tags.find? (fun q => q.page == r.page && q.name == r.name) == some r)

/-- No two rows share a (page, token): every row is the first row with its page and token (C08's
    `decTag`). -/
def tokensUniq (tags : List TagRow) : Bool :=
  tags.all (fun r => decTag tags r.page r.token == some r)

/-- The converse of the encoder's name resolution: looking a row's name up from the row's own code
    page (`wbxml_tables_get_tag_from_xml`) finds that very row. -/
def selfFind (tags : List TagRow) : Bool :=
  tags.all (fun r => encTag tags (some r.page) r.name == some r)

def tagNamesUniqPerPage (l : Lang) : Bool :=
  match l.tags with
  | some tags => namesUniqPerPage tags
  | none => true

theorem namesUniqPerPage_spec (tags : List TagRow) (h : namesUniqPerPage tags = true) (r q : TagRow)
    (hr : r ∈ tags) (hq : q ∈ tags) (hp : q.page = r.page) (hn : q.name = r.name) : q = r := by
  simp only [namesUniqPerPage, List.all_eq_true, beq_iff_eq] at h
  have h1 := h r hr
  have h2 := h q hq
  rw [hp, hn] at h2
  rw [h1] at h2
  injection h2 with h2
  exact h2.symm

theorem tokensUniq_spec (tags : List TagRow) (h : tokensUniq tags = true) (r : TagRow) (hr : r ∈ tags) :
    decTag tags r.page r.token = some r := by
  simp only [tokensUniq, List.all_eq_true, beq_iff_eq] at h
  exact h r hr

theorem decTag_idem (tags : List TagRow) (p t : Nat) (d : TagRow) (h : decTag tags p t = some d) :
    decTag tags d.page d.token = some d := by
  have hd := List.find?_some h
  simp only [Bool.and_eq_true, beq_iff_eq] at hd
  rw [hd.1, hd.2]; exact h

/-- A token name whose row is the first with its (page, token) — every row of every table but the
    second of ActiveSync's two names for token 0x10 of page 14 — comes back as the SAME row. -/
theorem exactName_token (l : Lang) (tags : List TagRow) (ht : l.tags = some tags) (r : TagRow)
    (h : decTag tags r.page r.token = some r) (nm : Bytes) : exactName l (some r) nm = .token r := by
  simp only [exactName, ht, h]

theorem exactName_token_first (l : Lang) (tags : List TagRow) (ht : l.tags = some tags) (r : TagRow)
    (hr : r ∈ tags) (nm : Bytes) : ∃ d, decTag tags r.page r.token = some d ∧ exactName l (some r) nm = .token d := by
  cases hd : decTag tags r.page r.token with
  | none =>
    have := List.find?_eq_none.mp hd r hr
    simp at this
  | some d => exact ⟨d, rfl, by simp only [exactName, ht, hd]⟩

theorem find_page_name (t : List TagRow) (r : TagRow) :
    t.find? (fun q => q.page == r.page && q.name == r.name) = (bucket t r.page).find? (fun x => x.name == r.name) := by
  unfold bucket
  rw [List.find?_filter]
  congr 1
  funext a
  cases h1 : a.page == r.page <;> cases h2 : a.name == r.name <;> simp

theorem namesUniq_of_buckets (t : List TagRow) (h : ∀ p, (bucket t p).Pairwise (fun a c => a.name ≠ c.name)) :
    namesUniqPerPage t = true := by
  simp only [namesUniqPerPage, List.all_eq_true, beq_iff_eq]
  exact fun r hr => (find_page_name t r).trans (find?_self (h r.page) (mem_bucket_self hr))

/-- The element name is already in round-trip form at this tag page: a token row that is the first
    with its page and token, or a NUL-free literal that no row of the table resolves. -/
def nameFixed (l : Lang) (tp : Nat) (name : Name) : Bool := decide (exactName l (foundAt l tp name) name.cName = name)

/-- `xAttr` leaves what it made of the attribute alone (no general lemma per attribute form: decided on the tree). -/
def attrFixed (c : WCfg) (a : Attr) : Bool := decide (xAttr c (xAttr c a) = xAttr c a)

/-- `vText` at this position leaves what it made of the text alone (`textFixed_normal`, `textFixed_binary`;
    under `ds:KeyValue` decided on the tree). -/
def textFixed (c : WCfg) (parent : Option Name) (cur : Option TagRow) (s : Bytes) : Bool :=
  vText c parent cur (vText c parent cur s) == vText c parent cur s

mutual
/-- The hypothesis of `xNode_fixed`, decidable: every element name, attribute and text of the tree is a fixed
    point of its own normal form at its position (parent, `current_tag` and tag page threaded as `xNode`
    threads them), and no two text siblings are adjacent. -/
def fixedNode (c : WCfg) (parent : Option Name) (cur : Option TagRow) (tp : Nat) : Node → Bool
  | .elt name attrs kids =>
    nameFixed c.lang tp name && (c.lang.attrs.isNone || attrs.all (attrFixed c)) && noAdj kids &&
      fixedKids c (some name) (foundAt c.lang tp name) (pageAfter (foundAt c.lang tp name) tp) kids
  | .text s => textFixed c parent cur s
  | .cdata _ => true
  | .tree _ _ _ => true
def fixedKids (c : WCfg) (parent : Option Name) (cur : Option TagRow) (tp : Nat) : List Node → Bool
  | [] => true
  | n :: r => fixedNode c parent cur tp n && fixedKids c parent none (vNode c parent cur tp n).2 r
end

/-- Only a text node looks at `current_tag`. -/
theorem xNode_cur (c : WCfg) (parent : Option Name) (cur cur' : Option TagRow) (tp : Nat) (n : Node)
    (h : isText n = false) : xNode c parent cur tp n = xNode c parent cur' tp n ∧
      (vNode c parent cur tp n).2 = (vNode c parent cur' tp n).2 := by
  cases n with
  | text s => cases h
  | elt nm a k => exact ⟨by rw [xNode_elt, xNode_elt], by rw [vNode_elt_2, vNode_elt_2]⟩
  | _ => exact ⟨by rw [xNode, xNode], by rw [vNode, vNode]⟩

/-- A child list that the exact normalisation reproduces when it starts at `(cur, tp)`. -/
def StX (c : WCfg) (parent : Option Name) : Option TagRow → Nat → List Node → Prop
  | _, _, [] => True
  | cur, tp, k :: rest => xNode c parent cur tp k = k ∧ nonEmptyText k = true ∧
      StX c parent none (vNode c parent cur tp k).2 rest

/-- `current_tag` for the node behind the list `acc` that started with `cur0`. -/
def curAfter (cur0 : Option TagRow) (acc : List Node) : Option TagRow := if acc.isEmpty then cur0 else none

theorem vNodes_append_2 (c : WCfg) (parent : Option Name) : ∀ (a b : List Node) (cur : Option TagRow) (tp : Nat),
    (vNodes c parent cur tp (a ++ b)).2 = (vNodes c parent (curAfter cur a) (vNodes c parent cur tp a).2 b).2
  | [], b, cur, tp => by rw [List.nil_append, vNodes_nil_2]; rfl
  | x :: a, b, cur, tp => by
    rw [List.cons_append, vNodes_cons_2, vNodes_cons_2, vNodes_append_2 c parent a b]
    cases a <;> rfl

theorem StX_snoc (c : WCfg) (parent : Option Name) : ∀ (acc : List Node) (cur0 : Option TagRow) (tp0 : Nat) (x : Node),
    StX c parent cur0 tp0 acc →
    xNode c parent (curAfter cur0 acc) (vNodes c parent cur0 tp0 acc).2 x = x → nonEmptyText x = true →
    StX c parent cur0 tp0 (acc ++ [x])
  | [], cur0, tp0, x, _, hx, hne => by
    rw [vNodes_nil_2] at hx
    exact ⟨hx, hne, trivial⟩
  | k :: rest, cur0, tp0, x, h, hx, hne => by
    obtain ⟨h1, h2, h3⟩ := h
    rw [vNodes_cons_2] at hx
    refine ⟨h1, h2, StX_snoc c parent rest none _ x h3 ?_ hne⟩
    cases rest with
    | nil => exact hx
    | cons _ _ => exact hx

theorem xKids_of_StX (c : WCfg) (parent : Option Name) : ∀ (K acc : List Node) (cur : Option TagRow) (tp : Nat),
    StX c parent cur tp K → noAdj K = true → (lastText acc && headText K) = false →
    xKids c parent cur tp K acc = acc ++ K
  | [], acc, cur, tp, _, _, _ => by rw [xKids_nil, List.append_nil]
  | k :: K, acc, cur, tp, h, hadj, ha => by
    obtain ⟨h1, h2, h3⟩ := h
    rw [noAdj] at hadj
    simp only [Bool.and_eq_true, Bool.not_eq_true'] at hadj
    rw [xKids_cons, h1, addN_snoc acc k h2 (by simpa [headText] using ha),
      xKids_of_StX c parent K (acc ++ [k]) none _ h3 hadj.2 (by rw [lastText_snoc]; exact hadj.1), List.append_assoc]
    rfl

theorem xAttrs_fixed (c : WCfg) (attrs : List Attr) (h : (c.lang.attrs.isNone || attrs.all (attrFixed c)) = true) :
    xAttrs c (xAttrs c attrs) = xAttrs c attrs := by
  unfold xAttrs
  cases ha : c.lang.attrs with
  | none => rfl
  | some t =>
    simp only [ha, Option.isNone_some, Bool.false_or, List.all_eq_true] at h
    simp only [Option.isSome_some, if_true, List.map_map]
    apply List.map_congr_left
    intro a hm
    exact of_decide_eq_true (h a hm)

theorem isText_xNode (c parent cur tp) (n : Node) : isText (xNode c parent cur tp n) = isText n := by
  cases n with
  | elt nm a k => rw [xNode_elt]; rfl
  | text s => rw [xNode_text]; rfl
  | _ => rw [xNode]

theorem lastText_addN_nontext' (acc : List Node) (n : Node) (h : isText n = false) : lastText (addN acc n) = false :=
  lastText_addN_nontext acc n h

mutual
/-- **Structure theorem.** At a position where names, attributes and texts are fixed points of their
    own normal forms and no two text nodes are adjacent, the exact normalisation is idempotent. -/
theorem xNode_fixed (c : WCfg) : ∀ (n : Node) (parent : Option Name) (cur : Option TagRow) (tp : Nat),
    fixedNode c parent cur tp n = true →
    xNode c parent cur tp (xNode c parent cur tp n) = xNode c parent cur tp n ∧
      (vNode c parent cur tp (xNode c parent cur tp n)).2 = (vNode c parent cur tp n).2
  | .elt name attrs kids, parent, cur, tp, h => by
    rw [fixedNode] at h
    simp only [Bool.and_eq_true] at h
    obtain ⟨⟨⟨hn, ha⟩, hadj⟩, hk⟩ := h
    have hname : exactName c.lang (foundAt c.lang tp name) name.cName = name := of_decide_eq_true hn
    obtain ⟨hst, hadjK, htp⟩ := xKids_out c kids (some name) [] (foundAt c.lang tp name)
      (pageAfter (foundAt c.lang tp name) tp) (foundAt c.lang tp name) (pageAfter (foundAt c.lang tp name) tp)
      hk hadj trivial rfl (fun h => by cases h) (by rw [vNodes_nil_2]) (fun _ => Or.inl rfl) (fun h => absurd rfl h)
    rw [xNode_elt, hname]
    constructor
    · rw [xNode_elt, hname, xAttrs_fixed c attrs ha,
        xKids_of_StX c (some name) _ [] _ _ hst hadjK rfl, List.nil_append]
    · rw [vNode_elt_2, vNode_elt_2, htp]
  | .text s, parent, cur, tp, h => by
    rw [fixedNode] at h
    rw [xNode_text, xNode_text, vNode_text_2, vNode_text_2]
    exact ⟨by rw [beq_iff_eq.mp h], rfl⟩
  | .cdata k, parent, cur, tp, _ => by
    have e : xNode c parent cur tp (.cdata k) = .cdata k := by rw [xNode]
    rw [e, e]; exact ⟨rfl, rfl⟩
  | .tree l cs r, parent, cur, tp, _ => by
    have e : xNode c parent cur tp (.tree l cs r) = .tree l cs r := by rw [xNode]
    rw [e, e]; exact ⟨rfl, rfl⟩
/-- `acc` is what a first pass over the children that started at `(cur0, tp0)` has put out so far, `(cur, tp)`
    where that pass stands. A second pass over `acc` stands behind it at `(curAfter cur0 acc, tp)`; only a text
    node looks at `current_tag`, so the two side conditions ask for `cur` to be that position just where a text
    may come next: `cur0` (or no text ahead) while `acc` is empty, `none` once it has a member. -/
theorem xKids_out (c : WCfg) : ∀ (kids : List Node) (parent : Option Name) (acc : List Node) (cur : Option TagRow) (tp : Nat)
    (cur0 : Option TagRow) (tp0 : Nat),
    fixedKids c parent cur tp kids = true → noAdj kids = true →
    StX c parent cur0 tp0 acc → noAdj acc = true → (lastText acc = true → headText kids = false) →
    (vNodes c parent cur0 tp0 acc).2 = tp →
    (acc = [] → cur = cur0 ∨ headText kids = false) → (acc ≠ [] → cur = none) →
    StX c parent cur0 tp0 (xKids c parent cur tp kids acc) ∧ noAdj (xKids c parent cur tp kids acc) = true ∧
      (vNodes c parent cur0 tp0 (xKids c parent cur tp kids acc)).2 = (vNodes c parent cur tp kids).2
  | [], parent, acc, cur, tp, cur0, tp0, _, _, hst, hadjA, _, htp, _, _ => by
    rw [xKids_nil, vNodes_nil_2]; exact ⟨hst, hadjA, htp⟩
  | k :: rest, parent, acc, cur, tp, cur0, tp0, hf, hadj, hst, hadjA, hla, htp, hc1, hc2 => by
    rw [fixedKids, Bool.and_eq_true] at hf
    rw [noAdj] at hadj
    simp only [Bool.and_eq_true, Bool.not_eq_true'] at hadj
    obtain ⟨hfix, htpk⟩ := xNode_fixed c k parent cur tp hf.1
    rw [xKids_cons, vNodes_cons_2]
    -- the position a second pass has behind `acc` is the position of `k` in the first pass
    have hpos : isText k = true → curAfter cur0 acc = cur := by
      intro ht
      unfold curAfter
      cases acc with
      | nil =>
        rcases hc1 rfl with h | h
        · exact h.symm
        · simp [headText, ht] at h
      | cons a as => exact (hc2 (by intro h; cases h)).symm
    cases hk : isText k with
    | true =>
      cases k with
      | text s =>
        have hrest : headText rest = false := by simpa [isText] using hadj.1
        rw [xNode_text, addN_text]
        rw [xNode_text, xNode_text] at hfix
        rw [vNode_text_2]
        cases hv : vText c parent cur s with
        | nil =>
          rw [addChars_nil]
          exact xKids_out c rest parent acc none tp cur0 tp0 (by rw [vNode_text_2] at hf; exact hf.2) hadj.2 hst hadjA
            (fun _ => hrest) htp (fun _ => Or.inr hrest) (fun _ => rfl)
        | cons b v =>
          have hl : lastText acc = false := lastText_before_text rfl hla
          rw [addChars_cons, addKid_text_after _ _ hl]
          have hx : xNode c parent (curAfter cur0 acc) (vNodes c parent cur0 tp0 acc).2 (.text (b :: v)) = .text (b :: v) := by
            rw [hpos rfl, htp, ← hv]; exact hfix
          refine xKids_out c rest parent (acc ++ [.text (b :: v)]) none tp cur0 tp0
            (by rw [vNode_text_2] at hf; exact hf.2) hadj.2 (StX_snoc c parent acc cur0 tp0 _ hst hx rfl)
            (by rw [noAdj_snoc, hadjA, hl]; rfl) (fun _ => hrest) ?_ (fun h => by simp at h) (fun _ => rfl)
          rw [vNodes_append_2, vNodes_cons_2, vNodes_nil_2, vNode_text_2, htp]
      | _ => cases hk
    | false =>
      have hk' : isText (xNode c parent cur tp k) = false := by rw [isText_xNode]; exact hk
      have hne : nonEmptyText (xNode c parent cur tp k) = true := by
        generalize xNode c parent cur tp k = y at hk'
        cases y <;> first | rfl | cases hk'
      rw [addN_snoc acc _ hne (by rw [hk', Bool.and_false])]
      have hx : xNode c parent (curAfter cur0 acc) (vNodes c parent cur0 tp0 acc).2 (xNode c parent cur tp k) =
          xNode c parent cur tp k := by
        rw [htp, (xNode_cur c parent (curAfter cur0 acc) cur tp _ hk').1]; exact hfix
      refine xKids_out c rest parent (acc ++ [xNode c parent cur tp k]) none _ cur0 tp0 hf.2 hadj.2
        (StX_snoc c parent acc cur0 tp0 _ hst hx hne) (by rw [noAdj_snoc, hadjA, hk', Bool.and_false]; rfl)
        (fun h => by rw [lastText_snoc, hk'] at h; cases h) ?_ (fun h => by simp at h) (fun _ => rfl)
      rw [vNodes_append_2, vNodes_cons_2, vNodes_nil_2, htp,
        (xNode_cur c parent (curAfter cur0 acc) cur tp _ hk').2, htpk]
end

/-- **`normNodeTyped` is idempotent** on trees whose names are in round-trip form (`nameFixed`),
    whose attributes and texts are fixed points of their own per-form normal forms (`attrFixed`,
    `textFixed`: decidable, evaluated with the model's own functions) and that have no two adjacent
    text nodes — in every language, typed content included. The per-form facts: `textFixed_normal`
    (`normText` on NUL-free text), `textFixed_binary` (raw octets), `b64Norm_idem` and
    `datetimeNorm_canon` (canonical texts of valid date-times) of `Lemmas/EncWTyped.lean`. -/
theorem normNodeTyped_idem (c : WCfg) (r : Node) (h : fixedNode c none none 0 r = true) :
    normNodeTyped c (normNodeTyped c r) = normNodeTyped c r := (xNode_fixed c r none none 0 h).1

/-- Ordinary character data (not under a binary-flagged `current_tag`, not under a DRMREL
    `ds:KeyValue` token element), NUL-free: `normText` of it is a fixed point — in every language,
    SyncML included (one text node: nothing is merged). -/
theorem textFixed_normal (c : WCfg) (parent : Option Name) (cur : Option TagRow) (s : Bytes)
    (hb : isBinaryTag cur = false) (hk : kvPar c.lang parent = false) (hn : nulFree s = true) :
    textFixed c parent cur s = true := by
  have hv : ∀ t, vText c parent cur t = normText c t := by
    intro t; simp only [vText, hb, hk, Bool.false_and, Bool.false_eq_true, if_false]
  unfold textFixed
  rw [hv, hv, beq_iff_eq]
  rcases normText_solidS c s hn with h0 | hs
  · rw [h0, normText_nil]
  · exact normText_of_solidS c _ hs

/-- Under a binary-flagged `current_tag` (ActiveSync) the octets are carried as they are. -/
theorem textFixed_binary (c : WCfg) (parent : Option Name) (cur : Option TagRow) (s : Bytes)
    (hb : isBinaryTag cur = true) : textFixed c parent cur s = true := by
  unfold textFixed
  simp only [vText, hb, if_true, beq_self_eq_true]

theorem nameFixed_token (l : Lang) (tags : List TagRow) (ht : l.tags = some tags) (tp : Nat) (r : TagRow)
    (h : decTag tags r.page r.token = some r) : nameFixed l tp (.token r) = true := by
  unfold nameFixed
  exact decide_eq_true (exactName_token l tags ht r h r.name)

theorem nameFixed_exact (l : Lang) (tags : List TagRow) (ht : l.tags = some tags) (tp' : Nat) (r : TagRow)
    (hr : r ∈ tags) (nm : Bytes) : nameFixed l tp' (exactName l (some r) nm) = true := by
  obtain ⟨d, hd, he⟩ := exactName_token_first l tags ht r hr nm
  rw [he]
  exact nameFixed_token l tags ht tp' d (decTag_idem tags _ _ d hd)

/-- `startRow` (the row behind `exactAName` / `xAttr`) for a literal attribute name is the row
    `encAttr` picks for the name and value read as C strings. -/
theorem startRow_literal (c : WCfg) (a : Attr) (s : Bytes) (ha : a.name = .literal s) (hs : s.isEmpty = false)
    (attrs : List AttrRow) (hattrs : c.lang.attrs = some attrs) :
    startRow c a = (encAttr attrs (cstrOf s) (cstrOf a.value)).map (·.1) := by
  unfold startRow
  rw [ha]
  simp only [hs, Bool.false_eq_true, if_false, attrLookup, hattrs]
  cases encAttr attrs (cstrOf s) (cstrOf a.value) with
  | none => rfl
  | some p =>
    obtain ⟨r, n⟩ := p
    simp only [Option.map_some]
    by_cases hx : (r.value == some (cstrOf a.value)) = true
    · simp only [hx, if_true]
    · simp only [hx, Bool.false_eq_true, if_false]

/-- … and for a token name it is the name's own row when its value prefix matches, none (the name
    is then written as a literal) when it does not. -/
theorem startRow_token (c : WCfg) (a : Attr) (r : AttrRow) (ha : a.name = .token r) :
    startRow c a = match r.value with
      | none => some r
      | some p => if p.isPrefixOf (cstrOf a.value) then some r else none := by
  unfold startRow
  rw [ha]
  rfl

theorem cName_eq (l : Lang) (hts : tagSemOk l = true) (name : Name) (hn : nameOver l name = true) :
    name.cName = cstrOf name.xmlName := by
  cases name with
  | literal s => rfl
  | token r => exact (cstrOf_of_nulFree _ (nameOver_nulFree l (.token r) hn hts)).symm

theorem canonAttr_xAttr (c : WCfg) (attrs : List AttrRow) (hattrs : c.lang.attrs = some attrs)
    (hnta : noTypedAttr c.lang.id = true) (han : attrNameSemOk c.lang = true) (a : Attr) (ha : attrOver c.lang a = true) :
    canonAttr (xAttr c a) = normAttr a := by
  have hnf := attrOver_nulFree c.lang a attrs hattrs ha han
  have hc : cstrOf a.name.xmlName = a.name.cName := by
    cases hn : a.name with
    | literal s => rfl
    | token r => rw [hn] at hnf; exact cstrOf_of_nulFree _ hnf
  have hv : vAttrValue c (startRow c a) (cstrOf a.value) = cstrOf a.value := by
    unfold vAttrValue
    cases startRow c a with
    | none => rfl
    | some r => simp only [noTypedAttr_dt _ hnta r, Bool.false_and, Bool.false_eq_true, if_false]
  have hx : (exactAName c.lang (startRow c a) a.name.cName).xmlName = a.name.cName :=
    xAttr_name c a attrs hattrs ha han
  simp only [canonAttr, xAttr, normAttr, hx, hv, hc]

mutual
/-- **The typed exact normal form refines `normNode`**: in a plain language (no typed content, no
    aliases) forgetting the representation of names (`canon`) turns `xNode` into `normNode`. -/
theorem canon_xNode (c : WCfg) (hpl : plainLang c.lang = true) (hnta : noTypedAttr c.lang.id = true)
    (hts : tagSemOk c.lang = true) (han : attrNameSemOk c.lang = true) :
    ∀ (n : Node) (parent : Option Name) (cur : Option TagRow) (tp : Nat), nodeOver c.lang n = true →
      plainNode n = true → isBinaryTag cur = false → canon (xNode c parent cur tp n) = normNode c n
  | .elt name attrs kids, parent, cur, tp, hov, hp, _ => by
    rw [nodeOver, Bool.and_eq_true, Bool.and_eq_true] at hov
    rw [plainNode] at hp
    obtain ⟨⟨hname, hattrs⟩, hkids⟩ := hov
    have hb : isBinaryTag (foundAt c.lang tp name) = false := plainLang_found c.lang name tp hname hpl
    rw [xNode_elt, canon_elt, normNode_elt,
      canonL_xKids c hpl hnta hts han kids (some name) _ _ [] hkids hp hb, canonL_nil]
    have h1 : canonName (exactName c.lang (foundAt c.lang tp name) name.cName) = normName name := by
      simp only [canonName, normName, exactName_xmlName]
      rw [nameView_plain c.lang hts tp name hname, cName_eq c.lang hts name hname]
    have h2 : (xAttrs c attrs).map canonAttr = normAttrs c attrs := by
      unfold xAttrs normAttrs
      cases hat : c.lang.attrs with
      | none => rfl
      | some t =>
        simp only [Option.isSome_some, if_true, List.map_map]
        apply List.map_congr_left
        intro a ha
        exact canonAttr_xAttr c t hat hnta han a (List.all_eq_true.mp hattrs a ha)
    rw [h1, h2]
  | .text s, parent, cur, tp, _, _, hb => by
    have hk : kvPar c.lang parent = false := by
      simp only [plainLang, Bool.and_eq_true, Bool.not_eq_true'] at hpl
      exact plain_kvPar c.lang hpl.1.2 parent
    rw [xNode_text, canon_text, normNode_text]
    simp only [vText, hb, hk, Bool.false_and, Bool.false_eq_true, if_false]
  | .cdata k, _, _, _, _, hp, _ => by rw [plainNode] at hp; cases hp
  | .tree l cs r, _, _, _, _, hp, _ => by rw [plainNode] at hp; cases hp
theorem canonL_xKids (c : WCfg) (hpl : plainLang c.lang = true) (hnta : noTypedAttr c.lang.id = true)
    (hts : tagSemOk c.lang = true) (han : attrNameSemOk c.lang = true) :
    ∀ (kids : List Node) (parent : Option Name) (cur : Option TagRow) (tp : Nat) (acc : List Node),
      nodesOver c.lang kids = true → plainNodes kids = true → isBinaryTag cur = false →
      canonL (xKids c parent cur tp kids acc) = normKidsAcc c kids (canonL acc)
  | [], parent, cur, tp, acc, _, _, _ => by rw [xKids_nil, normKidsAcc_nil]
  | k :: rest, parent, cur, tp, acc, hov, hp, hb => by
    rw [nodesOver, Bool.and_eq_true] at hov
    rw [plainNodes, Bool.and_eq_true] at hp
    rw [xKids_cons, normKidsAcc_cons,
      canonL_xKids c hpl hnta hts han rest parent none _ _ hov.2 hp.2 rfl, canonL_addN,
      canon_xNode c hpl hnta hts han k parent cur tp hov.1 hp.1 hb]
end

/-- For a plain language `rt_preserves_partial`'s normal form is the `canon` of the exact one. -/
theorem canon_normNodeTyped (c : WCfg) (hpl : plainLang c.lang = true) (hnta : noTypedAttr c.lang.id = true)
    (hts : tagSemOk c.lang = true) (han : attrNameSemOk c.lang = true) (r : Node)
    (hov : nodeOver c.lang r = true) (hp : plainNode r = true) : canon (normNodeTyped c r) = normNode c r :=
  canon_xNode c hpl hnta hts han r none none 0 hov hp rfl

end Wbxml.Lemmas.Rt
