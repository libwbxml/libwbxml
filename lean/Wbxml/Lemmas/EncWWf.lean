/-
  WBXML encoder proofs: well-formedness (`Spec.wf*`) of the pieces the value encoder writes, under

    `langOk`   row-range facts of the language's tables (decidable; holds for every entry of the
               regenerated main table, `Props/C06.lean: main_langOk`),
    `Compat`   the reader's context agrees with the encoder: same language, a character set in
               which strings can be delivered, every string-table entry inside the table octets.
-/
import Wbxml.Lemmas.EncWValue
import Wbxml.Lemmas.Tables
namespace Wbxml.Lemmas.EncW
open Wbxml Wbxml.Model Wbxml.Spec Wbxml.Lemmas.ParseSer

/-- `%Datetime` attribute start tokens (SI `created` / `si-expires`, EMN `timestamp`). -/
def dtRow (langId : Nat) (r : AttrRow) : Bool :=
  (langId == 1301 && r.page == 0 && (r.token == 0x0a || r.token == 0x10)) ||
  (langId == 1701 && r.page == 0 && r.token == 0x05)

/-- Table facts the encoder relies on: tokens inside their ranges, code pages are octets, extension
    tables only for Wireless Village, `%Datetime` start tokens carry no value prefix. -/
def langOk (l : Lang) : Bool :=
  (match l.tags with | some t => t.all tagRowRange | none => true) &&
  (match l.attrs with | some t => t.all attrRowRange && t.all (fun r => !dtRow l.id r || (r.value.getD []).isEmpty)
                      | none => true) &&
  (match l.values with | some t => t.all valRowRange | none => true) &&
  (match l.exts with | some _ => isWv l.id | none => true) &&
  (decide (0 < l.pub.wbxmlId) && decide (l.pub.wbxmlId < 4294967296))

theorem langOk_pub {l : Lang} (h : langOk l = true) : 0 < l.pub.wbxmlId ∧ l.pub.wbxmlId < 4294967296 := by
  simp only [langOk, Bool.and_eq_true, decide_eq_true_eq] at h
  exact h.2

theorem langOk_tags {l : Lang} (h : langOk l = true) {t} (ht : l.tags = some t) {r} (hr : r ∈ t) :
    tagRowRange r = true := by
  simp only [langOk, ht, Bool.and_eq_true, List.all_eq_true] at h
  exact h.1.1.1.1 r hr

theorem langOk_attrs {l : Lang} (h : langOk l = true) {t} (ht : l.attrs = some t) {r} (hr : r ∈ t) :
    attrRowRange r = true ∧ (dtRow l.id r = true → r.value.getD [] = []) := by
  simp only [langOk, ht, Bool.and_eq_true, List.all_eq_true] at h
  refine ⟨h.1.1.1.2.1 r hr, ?_⟩
  intro hd
  have := h.1.1.1.2.2 r hr
  simp only [hd, Bool.not_true, Bool.false_or, List.isEmpty_iff] at this
  exact this

theorem langOk_values {l : Lang} (h : langOk l = true) {t} (ht : l.values = some t) {r} (hr : r ∈ t) :
    valRowRange r = true := by
  simp only [langOk, ht, Bool.and_eq_true, List.all_eq_true] at h
  exact h.1.1.2 r hr

theorem tagRange (r : TagRow) (h : tagRowRange r = true) : 5 ≤ r.token ∧ r.token < 64 ∧ r.page < 256 := by
  simp only [tagRowRange, Bool.and_eq_true, decide_eq_true_eq] at h
  omega

theorem attrRange (r : AttrRow) (h : attrRowRange r = true) : isAttrStartTok r.token = true ∧ r.page < 256 := by
  simp only [attrRowRange, Bool.and_eq_true, decide_eq_true_eq, Bool.not_eq_true'] at h
  obtain ⟨⟨⟨h1, h2⟩, h3⟩, h4⟩ := h
  rw [isGlobal_octet (by omega), decide_eq_false_iff_not] at h4
  refine ⟨?_, h3⟩
  simp only [isAttrStartTok, Bool.or_eq_true, Bool.and_eq_true, decide_eq_true_eq]
  omega

theorem valRange (r : ValRow) (h : valRowRange r = true) : isAttrValueTok r.token = true ∧ r.page < 256 := by
  simp only [valRowRange, Bool.and_eq_true, decide_eq_true_eq, Bool.not_eq_true'] at h
  obtain ⟨⟨⟨h1, h2⟩, h3⟩, h4⟩ := h
  rw [isGlobal_octet (by omega), decide_eq_false_iff_not] at h4
  refine ⟨?_, h3⟩
  simp only [isAttrValueTok, Bool.or_eq_true, Bool.and_eq_true, decide_eq_true_eq]
  omega

theorem langOk_exts {l : Lang} (h : langOk l = true) (he : l.exts.isSome = true) : isWv l.id = true := by
  simp only [langOk, Bool.and_eq_true] at h
  cases hx : l.exts with
  | none => simp [hx] at he
  | some x => simpa [hx] using h.1.2

theorem isWv_not_isWml (id : Nat) (h : isWv id = true) : isWml id = false := by
  simp only [isWv, Bool.or_eq_true, beq_iff_eq] at h
  rcases h with rfl | rfl <;> rfl

structure Compat (c : WCfg) (tbl : List StrEntry) (ctx : Ctx) : Prop where
  lang : ctx.lang = c.lang
  cs : csOk ctx = true
  offs : ∀ e ∈ tbl, e.offset < ctx.tbl.length

theorem Compat.mono {c : WCfg} {tbl tbl' : List StrEntry} {ctx : Ctx} (h : Compat c tbl' ctx) (hp : tbl <+: tbl') :
    Compat c tbl ctx := ⟨h.lang, h.cs, fun e he => h.offs e (hp.subset he)⟩

/-! ### Opaque data

  `Doc.WF` asks of every OPAQUE token that the language's typed-content rule be defined on it. For
  the languages below there is no such rule (content opaque = the octets, no typed attribute
  values), so any opaque shorter than 2^32 octets is well-formed; for the others (Wireless Village,
  DRMREL, SyncML, SI, EMN, OTA) `OpqCond` asks for outputs without OPAQUE (their typed opaques are the
  subject of `WfN`, `Lemmas/EncWView.lean`). -/

def untypedLang (id : Nat) : Bool :=
  !isWv id && !(id == 1801) && !isSyncml id && !(id == 1301) && !(id == 1701) && !(id == 1901)

/-- Languages without typed attribute values (`%Datetime` of SI / EMN, OTA opaque values). -/
def noTypedAttr (id : Nat) : Bool := !(id == 1301) && !(id == 1701) && !(id == 1901)

theorem untyped_noTypedAttr (id : Nat) (h : untypedLang id = true) : noTypedAttr id = true := by
  simp only [untypedLang, noTypedAttr, Bool.and_eq_true] at h ⊢
  exact ⟨⟨h.1.1.2, h.1.2⟩, h.2⟩

theorem noTypedAttr_dt (id : Nat) (h : noTypedAttr id = true) (r : AttrRow) : dtRow id r = false := by
  simp only [noTypedAttr, Bool.and_eq_true, Bool.not_eq_true'] at h
  simp [dtRow, h.1.1, h.1.2]

theorem untyped_content (id : Nat) (h : untypedLang id = true) (own : Option TagRow) (d : Bytes) :
    decodeOpaqueContent id own d = .ok d := by
  simp only [untypedLang, Bool.and_eq_true, Bool.not_eq_true', beq_eq_false_iff_ne, ne_eq] at h
  unfold decodeOpaqueContent
  simp [h.1.1.1.1.1, h.1.1.1.1.2, h.1.1.1.2]

def OpqCond (c : WCfg) (ds : List Bytes) : Prop :=
  ds = [] ∨ (untypedLang c.lang.id = true ∧ ∀ d ∈ ds, d.length < 4294967296)

theorem OpqCond.nil (c : WCfg) : OpqCond c [] := Or.inl rfl

theorem OpqCond.left {c : WCfg} {a b : List Bytes} (h : OpqCond c (a ++ b)) : OpqCond c a := by
  rcases h with h | ⟨hu, hs⟩
  · exact Or.inl (List.append_eq_nil_iff.mp h).1
  · exact Or.inr ⟨hu, fun d hd => hs d (List.mem_append_left _ hd)⟩

theorem OpqCond.right {c : WCfg} {a b : List Bytes} (h : OpqCond c (a ++ b)) : OpqCond c b := by
  rcases h with h | ⟨hu, hs⟩
  · exact Or.inl (List.append_eq_nil_iff.mp h).2
  · exact Or.inr ⟨hu, fun d hd => hs d (List.mem_append_right _ hd)⟩

theorem leaf_wf (c : WCfg) (tbl) (ctx : Ctx) (hc : Compat c tbl ctx) (hl : langOk c.lang = true)
    (own slot) (pg : Pages) (it : Item) (h : Leaf c tbl it) (hno : OpqCond c (opqsItem it)) :
    wfItem ctx own slot pg it = true := by
  cases h with
  | inl s hs => rw [wfItem_str]; simp [wfStr, hc.cs, hs]
  | ref off ho =>
    obtain ⟨e, he, rfl⟩ := ho
    rw [wfItem_str]; simp [wfStr, hc.cs, hc.offs e he]
  | ext v h1 h2 =>
    rw [wfItem_ext]
    have hwv : isWv ctx.lang.id = true := by rw [hc.lang]; exact langOk_exts hl h1
    have hx : ctx.lang.exts.isSome = true := by rw [hc.lang]; exact h1
    simp only [wfSw, wfExt, isWv_not_isWml _ hwv, hwv, hx, Bool.true_and, Bool.false_eq_true, ↓reduceIte,
      Bool.and_eq_true, decide_eq_true_eq, beq_self_eq_true]
    omega
  | opq d =>
    rw [opqsItem_opaque] at hno
    rcases hno with hno | ⟨hu, hs⟩
    · cases hno
    · rw [wfItem_opaque]
      have hu' : untypedLang ctx.lang.id = true := by rw [hc.lang]; exact hu
      simp [opaqueText, untyped_content _ hu', hs d (List.mem_singleton.mpr rfl)]

theorem valRow_isSome (ctx : Ctx) (vals : List ValRow) (hv : ctx.lang.values = some vals) (r : ValRow) (hr : r ∈ vals)
    (hp : r.page < 256) : (valRow ctx (r.page % 256) r.token).isSome = true := by
  simp only [valRow, hv]
  rw [List.find?_isSome]
  exact ⟨r, hr, by simp [Nat.mod_eq_of_lt hp]⟩

theorem avalsOf_wf (c : WCfg) (tbl) (ctx : Ctx) (hc : Compat c tbl ctx) (hl : langOk c.lang = true)
    (l : List VElt) (h : ∀ e ∈ l, VOk c tbl e) (hne : ∀ e ∈ l, notExt e) (ap : Nat) :
    wfAVals ctx ap (avalsOf ap l).1 = true := by
  induction l generalizing ap with
  | nil => rfl
  | cons e es ih =>
    rw [avalsOf]
    rw [wfAVals_append]
    have ih' := ih (fun x hx => h x (List.mem_cons_of_mem _ hx)) (fun x hx => hne x (List.mem_cons_of_mem _ hx))
    rw [avalsOfVElt_page, ih', Bool.and_true]
    have he := h e List.mem_cons_self
    cases e with
    | str s =>
      simp only [avalsOfVElt]
      split
      · simp only [wfAVals, wfAVal, wfStr, hc.cs, Bool.true_and, Bool.and_true]; exact he
      · rfl
    | ext r => exact absurd (hne _ List.mem_cons_self) (by simp [notExt])
    | ref o =>
      obtain ⟨x, hx, rfl⟩ := he
      simp [avalsOfVElt, wfAVals, wfAVal, wfStr, hc.cs, hc.offs x hx]
    | tok r =>
      obtain ⟨vals, hv, hr⟩ := he
      have hrange := valRange r (langOk_values hl hv hr)
      have hv' : ctx.lang.values = some vals := by rw [hc.lang]; exact hv
      simp only [avalsOfVElt, wfAVals, wfAVal, wfSw_swFor, swPage_swFor, hrange.1,
        valRow_isSome ctx vals hv' r hr hrange.2, Bool.and_self]

end Wbxml.Lemmas.EncW
