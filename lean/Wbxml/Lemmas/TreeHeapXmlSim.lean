/-
  C18 lemmas: the simulation.  The XML front end keeps a stack of open frames, each with the
  list of its CLOSED children, and attaches a node to its parent when it is closed; the API history
  links every node into the heap at once.  `Open` relates the two while the root element is open
  (the heap has the shape of a spine, `TreeHeapSpine.lean`), `Done` after the root was closed, `Prolog`
  before it was opened; `Sim` is the three by phase of `plainStep`, `sim_step` one event on both sides.
-/
import Wbxml.Lemmas.TreeHeapAbs
import Wbxml.Lemmas.TreeHeapFresh
import Wbxml.Lemmas.TreeHeapSpine
import Wbxml.Lemmas.TreeHeapXml
import Wbxml.Lemmas.TreeBuildBasic
namespace Wbxml.Model.TreeHeap
open Wbxml Wbxml.Model
open Wbxml.Lemmas.X2W (step_pi step_xmlDecl step_doctype attach_cons attach_root XQuiet xstep_start_root xstep_start_known
  xstep_end_elt xstep_startCdata xstep_endCdata xstep_chars_plain)

def kindPay : FrameKind → Pay
  | .elt n a => .elt n a
  | .cdata => .cdata

theorem close_eq (f : XFrame) : f.close = mkNode (kindPay f.kind) f.kids := by
  unfold XFrame.close; cases f.kind <;> rfl

theorem kindPay_branch (k : FrameKind) : (kindPay k).isBranch = true := by cases k <;> rfl

theorem addKid_close (ks : List Node) (f : XFrame) : addKid ks f.close = ks ++ [f.close] :=
  Lemmas.Rt.addKid_not_text ks _ (by unfold XFrame.close; cases f.kind <;> rfl)

/-- What `plainEvents` remembers about an open node is true of the frame. -/
def POpen.ok (p : POpen) (k : FrameKind) : Prop :=
  match p with
  | .elt ok => ∃ n a, k = .elt n a ∧ (ok = true → isBinaryName n = false ∧ (n.xmlName == b!"Data") = false)
  | .cdata => k = .cdata

/-- An open frame of the front end and the open node at address `a` with closed children `C`. -/
structure FRel (v : View) (f : XFrame) (p : POpen) (a : Nat) (C : BT) : Prop where
  content : f.content = none
  kids : absBT v C = f.kids
  pay : payOf v a = kindPay f.kind
  kind : p.ok f.kind

/-- The stack of the front end, what `plainEvents` remembers of the open nodes, and the spine of the heap
    (address and closed children of each open node), innermost first: related frame by frame by `FRel`. -/
def SRel (v : View) : List XFrame → List POpen → List (Nat × BT) → Prop
  | [], [], [] => True
  | f :: fs, p :: ps, (a, C) :: rs => FRel v f p a C ∧ SRel v fs ps rs
  | _, _, _ => False

theorem FRel.frame {v v' : View} {f : XFrame} {p : POpen} {a : Nat} {C : BT} (h : FRel v f p a C)
    (hp : ∀ j, j = a ∨ j ∈ C.ids → payOf v' j = payOf v j) : FRel v' f p a C :=
  ⟨h.content, by rw [absBT_frame C (fun j hj => hp j (Or.inr hj))]; exact h.kids,
   by rw [hp a (Or.inl rfl)]; exact h.pay, h.kind⟩

theorem SRel.cons_inv {v : View} {fs : List XFrame} {p : POpen} {ps : List POpen} {rs : List (Nat × BT)}
    (h : SRel v fs (p :: ps) rs) :
    ∃ f fs' a C rs', fs = f :: fs' ∧ rs = (a, C) :: rs' ∧ FRel v f p a C ∧ SRel v fs' ps rs' := by
  cases fs with
  | nil => cases rs <;> simp [SRel] at h
  | cons f fs' =>
    cases rs with
    | nil => simp [SRel] at h
    | cons x rs' =>
      obtain ⟨a, C⟩ := x
      exact ⟨f, fs', a, C, rs', rfl, rfl, h.1, h.2⟩

theorem SRel.nil_inv {v : View} {fs : List XFrame} {rs : List (Nat × BT)} (h : SRel v fs [] rs) :
    fs = [] ∧ rs = [] := by
  cases fs with
  | nil =>
    cases rs with
    | nil => exact ⟨rfl, rfl⟩
    | cons x rs' => simp [SRel] at h
  | cons f fs' => cases rs <;> simp [SRel] at h

theorem SRel.frame {v v' : View} : ∀ (fs : List XFrame) (ps : List POpen) (rs : List (Nat × BT)),
    SRel v fs ps rs → (∀ j, j ∈ spineIds rs → payOf v' j = payOf v j) → SRel v' fs ps rs
  | fs, [], rs, h, _ => by
    obtain ⟨h1, h2⟩ := h.nil_inv
    subst h1; subst h2; trivial
  | fs, p :: ps, rs, h, hp => by
    obtain ⟨f, fs', a, C, rs', e1, e2, hf, hr⟩ := h.cons_inv
    subst e1; subst e2
    refine ⟨hf.frame ?_, SRel.frame fs' ps rs' hr ?_⟩
    · intro j hj
      apply hp
      simp only [spineIds, List.mem_cons, List.mem_append]
      rcases hj with hj | hj
      · exact Or.inl hj
      · exact Or.inr (Or.inl hj)
    · intro j hj
      apply hp
      simp only [spineIds, List.mem_cons, List.mem_append]
      exact Or.inr (Or.inr hj)

/-- Before the root start tag: the API side is still the empty tree. -/
structure Prolog (L : Lang) (b : XBState) (s : St) : Prop where
  heap : s.heap = []
  sroot : s.root = none
  slang : s.lang = some L
  stack : b.stack = []
  broot : b.root = none
  quiet : XQuiet b

/-- While the root element is open. -/
structure Open (L : Lang) (b : XBState) (s : St) (stk : List POpen) (frames : List (Nat × BT)) : Prop where
  forest : Forest s (spineAux .nil frames)
  rel : SRel s.cellAt b.stack stk frames
  broot : b.root = none
  sroot : frames ≠ [] → s.root.isSome = true
  slang : s.lang = some L
  blang : b.lang = some L
  quiet : XQuiet b

/-- After the root element was closed. -/
structure Done (b : XBState) (s : St) : Prop where
  ex : ∃ r K, Forest s (.node r K .nil) ∧ s.root = some r ∧
    b.root = some (mkNode (payOf s.cellAt r) (absBT s.cellAt K))

theorem Done.abs {b : XBState} {s : St} (h : Done b s) :
    Inv s ∧ absTree s = .ok { lang := s.lang, origCharset := s.charset, root := b.root } := by
  obtain ⟨r, K, hF, hr, hb⟩ := h.ex
  refine ⟨⟨_, hF⟩, ?_⟩
  obtain ⟨c, hc, habs⟩ := absNode_top (T := .nil) hF
  have hp : payOf s.cellAt r = c.pay := by simp [payOf, hc]
  unfold absTree
  rw [hr]
  simp only [habs, hb, hp]

/-- The event `e` takes the API side from `s` (open nodes `frames`) to `s1` (open nodes `frames1`). -/
structure StepTo (s : St) (frames : List (Nat × BT)) (e : XEvent) (s1 : St) (frames1 : List (Nat × BT)) : Prop where
  run : ∀ es, run s (histGo s.heap.length (frames.map (·.1)) (e :: es)) =
    run s1 (histGo s1.heap.length (frames1.map (·.1)) es)
  lang : s1.lang = s.lang
  charset : s1.charset = s.charset

variable (main : List Lang) (input : Bytes) (sub : Bytes → Option (Except Nat Tree))

theorem Open.top {L : Lang} {b : XBState} {s : St} {p : POpen} {ps : List POpen} {frames : List (Nat × BT)}
    (hO : Open L b s (p :: ps) frames) :
    ∃ f fs a C rs cP, b.stack = f :: fs ∧ frames = (a, C) :: rs ∧ FRel s.cellAt f p a C ∧ SRel s.cellAt fs ps rs ∧
      Forest s (spineAux (.node a C .nil) rs) ∧ s.cellAt a = some cP ∧ cP.pay.isBranch = true ∧
      BT.kidsOf a (spineAux (.node a C .nil) rs) = C ∧
      (∀ j, j ∈ spineIds rs → j ∈ (spineAux (.node a C .nil) rs).ids ∧ j ≠ a ∧ j ∉ C.ids) := by
  obtain ⟨f, fs, a, C, rs, hs, hfr, hf, hrest⟩ := hO.rel.cons_inv
  have hF := hO.forest
  rw [hfr, spineAux_nil_cons] at hF
  obtain ⟨_, hdisj⟩ := nodup_spineAux rs _ hF.nodup
  have haG : a ∈ (spineAux (.node a C .nil) rs).ids := (mem_spineAux a rs _).mpr (Or.inl (by simp))
  obtain ⟨cP, hcP⟩ := hF.live haG
  have hbr : cP.pay.isBranch = true := by
    have := hf.pay
    simp only [payOf, hcP] at this
    rw [this]; exact kindPay_branch _
  refine ⟨f, fs, a, C, rs, cP, hs, hfr, hf, hrest, hF, hcP, hbr, spine_kidsOf a C rs hF.nodup, ?_⟩
  intro j hj
  refine ⟨(mem_spineAux j rs _).mpr (Or.inr hj), ?_, ?_⟩
  · intro e; subst e; exact hdisj j (by simp) hj
  · intro hC; exact hdisj j (by simp [hC]) hj

theorem textPlain_ok (L : Lang) (name : Bytes) (as : List Attr) :
    (POpen.elt (textPlain L name)).ok (.elt (xmlEltName L name).1 as) := by
  refine ⟨_, _, rfl, ?_⟩
  intro h
  unfold textPlain at h
  simp only [Bool.and_eq_true, Bool.not_eq_true'] at h
  exact h

/-- A start tag / the start of a CDATA section below the root: the front end pushes a frame of kind `k`,
    the call `op` links a fresh childless node with that payload below the innermost open node. -/
theorem open_push {L : Lang} {b b1 : XBState} {s : St} {ok : Bool} {ps : List POpen} {frames : List (Nat × BT)}
    (hO : Open L b s (.elt ok :: ps) frames) {e : XEvent} {op : Option Nat → Op} {k : FrameKind} {pg : Nat} {p : POpen}
    (hh : ∀ cnt qs es, histGo cnt qs (e :: es) = op qs.head? :: histGo (cnt + 1) (cnt :: qs) es)
    (hapi : ∀ {G : BT} {P : Nat} {cP : Cell}, Forest s G → s.cellAt P = some cP → cP.pay.isBranch = true →
      ∃ s', AddsUnder s G P (op (some P)) (kindPay k) s')
    (hb1 : b1 = { b with stack := { kind := k, kids := [] } :: b.stack, curPage := pg }) (hp : p.ok k) :
    ∃ s1 frames1, StepTo s frames e s1 frames1 ∧ Open L b1 s1 (p :: .elt ok :: ps) frames1 := by
  obtain ⟨f, fs, a, C, rs, cP, hs, hfr, hf, hrest, hF, hcP, hbr, hkids, hrs⟩ := hO.top
  obtain ⟨s1, h1⟩ := hapi hF hcP hbr
  have hF1 := h1.forest
  rw [hkids, spine_setKids a C _ rs hF.nodup] at hF1
  refine ⟨s1, (s.heap.length, .nil) :: frames, ⟨?_, h1.lang, h1.charset⟩, ?_⟩
  · intro es
    rw [hfr, hh]
    simp only [List.map_cons, List.head?_cons]
    rw [run_cons _ h1.ok, h1.len]
  · subst hb1
    -- the cells of the open nodes are not the fresh one
    have hold : ∀ j, j ∈ spineIds frames → payOf s1.cellAt j = payOf s.cellAt j := by
      intro j hj
      apply h1.frame
      intro e
      apply h1.fresh
      rw [← e]
      rw [hfr] at hj
      simp only [spineIds, List.mem_cons, List.mem_append] at hj
      rcases hj with hj | hj | hj
      · rw [hj]; exact (mem_spineAux a rs _).mpr (Or.inl (by simp))
      · exact (mem_spineAux j rs _).mpr (Or.inl (by simp [hj]))
      · exact (hrs j hj).1
    refine ⟨?_, ⟨⟨rfl, rfl, h1.new, hp⟩, SRel.frame _ _ _ hO.rel hold⟩, hO.broot, ?_, h1.lang.trans hO.slang,
      hO.blang, hO.quiet.congr rfl rfl rfl⟩
    · rw [hfr]
      simp only [spineAux, BT.snoc]
      exact hF1
    · intro _
      rw [h1.root]
      exact hO.sroot (by rw [hfr]; simp)

/-- An end tag / the end of a CDATA section below the root: the closed node becomes a closed child of
    the frame below (no call). -/
theorem open_close {L : Lang} {b : XBState} {s : St} {p p' : POpen} {ps : List POpen} {frames : List (Nat × BT)}
    (hO : Open L b s (p :: p' :: ps) frames) (b1 : XBState)
    (hb1 : ∀ f fs, b.stack = f :: fs → b1 = ({ b with stack := fs } : XBState).attach f.close) :
    ∃ frames1, frames.tail.map (·.1) = frames1.map (·.1) ∧ Open L b1 s (p' :: ps) frames1 := by
  obtain ⟨f, fs, a, C, rs, cP, hs, hfr, hf, hrest, hF, hcP, hbr, hkids, hrs⟩ := hO.top
  obtain ⟨g, fs', a', C', rs', hs', hfr', hg, hrest'⟩ := hrest.cons_inv
  subst hs'; subst hfr'
  refine ⟨(a', BT.snoc C' (.node a C .nil)) :: rs', by rw [hfr]; rfl, ?_⟩
  rw [hb1 f (g :: fs') hs, attach_cons (f := g) (rest := fs') rfl, addKid_close]
  refine ⟨?_, ?_, hO.broot, fun _ => hO.sroot (by rw [hfr]; simp), hO.slang, hO.blang,
    hO.quiet.congr rfl rfl rfl⟩
  · have := hO.forest
    rw [hfr] at this
    simp only [spineAux, BT.snoc_nil] at this ⊢
    exact this
  · refine ⟨⟨hg.content, ?_, hg.pay, hg.kind⟩, hrest'⟩
    simp only [absBT_snoc, absBT, hg.kids, hf.kids, hf.pay, close_eq]

theorem open_close_root {L : Lang} {b : XBState} {s : St} {p : POpen} {frames : List (Nat × BT)}
    (hO : Open L b s [p] frames) (b1 : XBState)
    (hb1 : ∀ f fs, b.stack = f :: fs → b1 = ({ b with stack := fs } : XBState).attach f.close) :
    Done b1 s := by
  obtain ⟨f, fs, a, C, rs, cP, hs, hfr, hf, hrest, hF, hcP, hbr, hkids, hrs⟩ := hO.top
  obtain ⟨e1, e2⟩ := hrest.nil_inv
  subst e1; subst e2
  rw [hb1 f [] hs, attach_root (b := { b with stack := [] }) rfl hO.broot]
  have hroot : s.root = some a := by
    have h1 := hO.sroot (by rw [hfr]; simp)
    cases hr : s.root with
    | none => rw [hr] at h1; cases h1
    | some r =>
      have := hF.root r hr
      simp only [spineAux, BT.tops, List.mem_cons, List.not_mem_nil, or_false] at this
      rw [this]
  refine ⟨⟨a, C, hF, hroot, ?_⟩⟩
  simp only [close_eq, hf.pay, hf.kids]

theorem open_chars {L : Lang} {b : XBState} {s : St} {stk : List POpen} {frames : List (Nat × BT)}
    (hO : Open L b s stk frames) (ht : textAllowed stk = true) (t : Bytes) :
    ∃ s1 frames1, StepTo s frames (.chars t) s1 frames1 ∧
      Open L (xbuildStep main input sub b (.chars t)) s1 stk frames1 := by
  have hshape : ∃ p ps, stk = p :: ps := by
    cases stk with
    | nil => simp [textAllowed] at ht
    | cons p ps => exact ⟨p, ps, rfl⟩
  obtain ⟨p, ps, hstk⟩ := hshape
  subst hstk
  obtain ⟨f, fs, a, C, rs, cP, hs, hfr, hf, hrest, hF, hcP, hbr, hkids, hrs⟩ := hO.top
  -- the front end sees a plain text position
  have hplain : syncmlDataType (xStackFrames b.stack) = .normal ∧
      (∀ n at', f.kind = .elt n at' → isBinaryName n = false) := by
    rw [hs]
    cases p with
    | elt ok =>
      have hok : ok = true := by simpa [textAllowed] using ht
      obtain ⟨n, at', hk, hn⟩ := hf.kind
      obtain ⟨hb, hd⟩ := hn hok
      refine ⟨?_, ?_⟩
      · exact Lemmas.TreeBuild.syncml_normal_elt (f := { kind := f.kind, kids := f.kids }) (rest := xStackFrames fs) hk hd
      · intro n' a' hk'
        rw [hk] at hk'; injection hk' with h1 h2; subst h1; exact hb
    | cdata =>
      have hfk : f.kind = .cdata := hf.kind
      cases ps with
      | nil => simp [textAllowed] at ht
      | cons p' ps' =>
        cases p' with
        | cdata => simp [textAllowed] at ht
        | elt ok =>
          have hok : ok = true := by simpa [textAllowed] using ht
          obtain ⟨g, fs', a', C', rs', hs', hfr', hg, hrest'⟩ := hrest.cons_inv
          subst hs'
          obtain ⟨n, at', hk, hn⟩ := hg.kind
          obtain ⟨hb, hd⟩ := hn hok
          refine ⟨?_, ?_⟩
          · exact Lemmas.TreeBuild.syncml_normal_cdata (f := { kind := f.kind, kids := f.kids }) (g := { kind := g.kind, kids := g.kids })
              (rest := xStackFrames fs') hfk hk hd
          · intro n' a'' hk'
            rw [hfk] at hk'; cases hk'
  obtain ⟨s1, K', h1⟩ := api_text_under hF hcP hbr t
  have habs := h1.abs
  have hpay := h1.frame
  have hF1 := h1.forest
  rw [hkids] at habs hpay
  rw [spine_setKids a C K' rs hF.nodup] at hF1
  have hKnd := BT.kidsOf_nodup a _ hF.nodup
  rw [hkids] at hKnd
  refine ⟨s1, (a, K') :: rs, ⟨?_, h1.lang, h1.charset⟩, ?_⟩
  · intro es
    rw [hfr]
    simp only [histGo, List.map_cons, List.head?_cons]
    rw [run_cons _ h1.ok, h1.len]
  · rw [xstep_chars_plain main input sub hO.quiet hs hplain.1 hplain.2 t]
    refine ⟨?_, ?_, hO.broot, ?_, h1.lang.trans hO.slang, hO.blang, hO.quiet.congr rfl rfl rfl⟩
    · rw [spineAux_nil_cons]; exact hF1
    · refine ⟨⟨hf.content, ?_, ?_, hf.kind⟩, ?_⟩
      · rw [habs, hf.kids]
      · rw [hpay a ((mem_spineAux a rs _).mpr (Or.inl (by simp))) hKnd.2]; exact hf.pay
      · exact SRel.frame _ _ _ hrest (fun j hj => hpay j (hrs j hj).1 (hrs j hj).2.2)
    · intro _
      rw [h1.root]
      exact hO.sroot (by rw [hfr]; simp)

theorem prolog_start {L : Lang} {b : XBState} {s : St} (hP : Prolog L b s)
    (name : Bytes) (attrs : List (Bytes × Bytes)) (idx : Nat) (hat : attrs.all attrPlain = true)
    (hlang : (xbuildStep main input sub b (.startElt name attrs idx)).lang = some L)
    (herr : (xbuildStep main input sub b (.startElt name attrs idx)).error = none) :
    ∃ s1 frames1, StepTo s [] (.startElt name attrs idx) s1 frames1 ∧
      Open L (xbuildStep main input sub b (.startElt name attrs idx)) s1 [.elt (textPlain L name)] frames1 := by
  obtain ⟨L', e⟩ := xstep_start_root main input sub hP.quiet hP.stack hP.broot name attrs idx herr
  rw [e] at hlang
  have hLL : L' = L := by
    have : some L' = some L := hlang
    injection this
  subst hLL
  obtain ⟨s1, h1⟩ := api_xml_elt_root hP.heap hP.sroot hP.slang name attrs
  have hlen : s.heap.length = 0 := by rw [hP.heap]; rfl
  refine ⟨s1, [(0, .nil)], ⟨?_, h1.lang, h1.charset⟩, ?_⟩
  · intro es
    simp only [histGo, List.map_nil, List.head?_nil, List.map_cons, hlen]
    rw [run_cons _ h1.ok, h1.len]
  · rw [e, xmlElt_plain L' name attrs hat]
    refine ⟨?_, ?_, hP.broot, ?_, h1.lang.trans hP.slang, rfl, hP.quiet.congr rfl rfl rfl⟩
    · simp only [spineAux, BT.snoc]; exact h1.forest
    · exact ⟨⟨rfl, rfl, h1.new, textPlain_ok _ _ _⟩, trivial⟩
    · intro _; rw [h1.root]; rfl

theorem prolog_abs {L : Lang} {b : XBState} {s : St} (hP : Prolog L b s) :
    Inv s ∧ absTree s = .ok { lang := s.lang, origCharset := s.charset, root := b.root } := by
  refine ⟨⟨.nil, Forest.empty hP.heap hP.sroot⟩, ?_⟩
  unfold absTree
  rw [hP.sroot, hP.broot]

/-- The simulation relation: front-end state `b`, heap state `s`, addresses `ps` of the open nodes, by phase. -/
def Sim (L : Lang) (b : XBState) (s : St) (ps : List Nat) : PPhase → Prop
  | .prolog => Prolog L b s ∧ ps = []
  | .body stk => ∃ frames, Open L b s stk frames ∧ ps = frames.map (·.1)
  | .epilog => Done b s

/-- An event that leaves the unfinished tree alone (and, past the prolog, the language). -/
theorem Sim.silent {L : Lang} {b b' : XBState} {s : St} {ps : List Nat} {ph : PPhase} (h : Sim L b s ps ph)
    (hst : b'.stack = b.stack) (hr : b'.root = b.root) (hl : ph ≠ .prolog → b'.lang = b.lang)
    (q : XQuiet b → XQuiet b') : Sim L b' s ps ph := by
  cases ph with
  | prolog => exact ⟨⟨h.1.heap, h.1.sroot, h.1.slang, hst.trans h.1.stack, hr.trans h.1.broot, q h.1.quiet⟩, h.2⟩
  | body stk =>
    obtain ⟨frames, hO, e⟩ := h
    exact ⟨frames, ⟨hO.forest, hst ▸ hO.rel, hr.trans hO.broot, hO.sroot, hO.slang,
      (hl PPhase.noConfusion).trans hO.blang, q hO.quiet⟩, e⟩
  | epilog => exact ⟨hr ▸ h.ex⟩

theorem Sim.abs {L : Lang} {b : XBState} {s : St} {ps : List Nat} {ph : PPhase} (h : Sim L b s ps ph)
    (hph : ∀ stk, ph ≠ .body stk) :
    Inv s ∧ absTree s = .ok { lang := s.lang, origCharset := s.charset, root := b.root } := by
  cases ph with
  | prolog => exact prolog_abs h.1
  | body stk => exact absurd rfl (hph stk)
  | epilog => exact Done.abs h

/-- One event on both sides: a row of `plainStep`, the call-back, the calls `histGo` issues for it. -/
theorem sim_step {L : Lang} {b : XBState} {s : St} {ps : List Nat} {ph ph' : PPhase} {e : XEvent}
    (hS : Sim L b s ps ph) (hp : PStep L ph e ph')
    (herr : (xbuildStep main input sub b e).error = none)
    (hlang : ph = .prolog → ph' ≠ .prolog → (xbuildStep main input sub b e).lang = some L) :
    ∃ s1 ps1, (∀ es, run s (histGo s.heap.length ps (e :: es)) = run s1 (histGo s1.heap.length ps1 es)) ∧
      s1.lang = s.lang ∧ s1.charset = s.charset ∧ Sim L (xbuildStep main input sub b e) s1 ps1 ph' := by
  cases hp with
  | pi => exact ⟨s, ps, fun _ => rfl, rfl, rfl, by rw [step_pi]; exact hS⟩
  | xmlDecl _ v enc =>
    obtain ⟨cs, e1⟩ := step_xmlDecl main input sub b v enc
    exact ⟨s, ps, fun _ => rfl, rfl, rfl, by rw [e1]; exact hS.silent rfl rfl (fun _ => rfl) (·.congr rfl rfl rfl)⟩
  | doctype sid pid =>
    obtain ⟨l, e1⟩ := step_doctype main input sub b sid pid
    exact ⟨s, ps, fun _ => rfl, rfl, rfl, by
      rw [e1]; exact hS.silent rfl rfl (fun h => absurd rfl h) (·.congr rfl rfl rfl)⟩
  | root name attrs idx hat =>
    obtain ⟨hP, rfl⟩ := hS
    obtain ⟨s1, frames1, ⟨h1, hl1, hc1⟩, hO1⟩ :=
      prolog_start main input sub hP name attrs idx hat (hlang rfl PPhase.noConfusion) herr
    have hlen : s.heap.length = 0 := by rw [hP.heap]; rfl
    exact ⟨s1, _, fun es => by have := h1 es; simpa only [List.map_nil, hlen] using this, hl1, hc1, frames1, hO1, rfl⟩
  | start ok r name attrs idx hne hat =>
    obtain ⟨frames, hO, rfl⟩ := hS
    obtain ⟨s1, frames1, ⟨h1, hl1, hc1⟩, hO1⟩ := open_push hO (e := .startElt name attrs idx)
      (b1 := xbuildStep main input sub b (.startElt name attrs idx)) (op := fun q => .addXmlEltAttrs q name attrs)
      (k := .elt (xmlEltName L name).1 (attrs.map (xmlAttr L))) (pg := (xmlEltName L name).2) (fun _ _ _ => rfl)
      (fun hF hcP hbr => api_xml_elt_under hF hcP hbr hO.slang name attrs)
      (by rw [xstep_start_known main input sub hO.quiet hO.blang (fun _ => hO.broot) name attrs idx hne, xmlElt_plain L name attrs hat])
      (textPlain_ok L name _)
    exact ⟨s1, _, h1, hl1, hc1, frames1, hO1, rfl⟩
  | startCdata ok r =>
    obtain ⟨frames, hO, rfl⟩ := hS
    obtain ⟨s1, frames1, ⟨h1, hl1, hc1⟩, hO1⟩ := open_push hO (e := .startCdata)
      (b1 := xbuildStep main input sub b .startCdata) (op := fun q => .addCdata q) (k := .cdata) (pg := b.curPage)
      (p := .cdata) (fun _ _ _ => rfl) (fun hF hcP hbr => api_cdata_under hF hcP hbr)
      (xstep_startCdata main input sub hO.quiet) rfl
    exact ⟨s1, _, h1, hl1, hc1, frames1, hO1, rfl⟩
  | chars stk t hc =>
    obtain ⟨frames, hO, rfl⟩ := hS
    obtain ⟨s1, frames1, ⟨h1, hl1, hc1⟩, hO1⟩ := open_chars main input sub hO hc t
    exact ⟨s1, _, h1, hl1, hc1, frames1, hO1, rfl⟩
  | endRoot ok name idx =>
    obtain ⟨frames, hO, rfl⟩ := hS
    obtain ⟨f, fs, a, C, rs, cP, hs, hfr, hf, _⟩ := hO.top
    obtain ⟨n, at', hk, _⟩ := hf.kind
    refine ⟨s, (frames.map (·.1)).tail, fun _ => rfl, rfl, rfl, open_close_root hO _ ?_⟩
    intro f' fs' hs'
    rw [hs] at hs'; injection hs' with h1 h2; subst h1; subst h2
    exact xstep_end_elt main input sub hO.quiet hs hf.content hk name idx
  | endElt ok p r name idx =>
    obtain ⟨frames, hO, rfl⟩ := hS
    obtain ⟨f, fs, a, C, rs, cP, hs, hfr, hf, _⟩ := hO.top
    obtain ⟨n, at', hk, _⟩ := hf.kind
    obtain ⟨frames1, hfm, hO1⟩ := open_close hO (xbuildStep main input sub b (.endElt name idx)) (by
      intro f' fs' hs'
      rw [hs] at hs'; injection hs' with h1 h2; subst h1; subst h2
      exact xstep_end_elt main input sub hO.quiet hs hf.content hk name idx)
    exact ⟨s, _, fun es => by simp only [histGo, ← List.map_tail, hfm], rfl, rfl, frames1, hO1, rfl⟩
  | endCdata p r =>
    obtain ⟨frames, hO, rfl⟩ := hS
    obtain ⟨frames1, hfm, hO1⟩ := open_close hO (xbuildStep main input sub b .endCdata)
      (fun f' fs' hs' => xstep_endCdata main input sub hO.quiet hs')
    exact ⟨s, _, fun es => by simp only [histGo, ← List.map_tail, hfm], rfl, rfl, frames1, hO1, rfl⟩

end Wbxml.Model.TreeHeap
