/-
  C16 — what the specification triple (`Lemmas/AllocTri.lean`) is built from: the frame lemmas for the
  footprint fact `Clean` (a run that does not touch the blocks `F` carries them along), what a run
  cannot do to a block it was not given (`Clean.outside`), permutations of block lists by counting,
  the few steps that leave the ledger alone (`Good.deref`, `bind_read`, `if_ne_ok`), `Frees` — the
  specification of a destructor, with its own rules — and the link between failing
  request numbers and `hits`.
-/
import Wbxml.Lemmas.AllocCore
namespace Wbxml.Model.Alloc
open Wbxml

variable {s s' : Ledger} {A A' B B' : List Nat}

theorem Owns.perm (h : Owns s A) (p : A.Perm B) : Owns s B :=
  ⟨p.nodup_iff.1 h.1, fun i hi => h.2 i (p.mem_iff.2 hi)⟩

theorem Owns.left (h : Owns s (A ++ B)) : Owns s A := (Owns.append_iff.1 h).1
theorem Owns.right (h : Owns s (A ++ B)) : Owns s B := (Owns.append_iff.1 h).2.1

/-- The consumed side only matters as a set. -/
theorem Clean.cons_congr (c : Clean s s' A B) (h : ∀ i, i ∈ A' ↔ i ∈ A) :
    Clean s s' A' B :=
  ⟨fun i => by rw [c.live, h], fun i hi => by rw [h]; exact c.fresh i hi, c.nodup, c.sched, c.next, c.hits, c.wf⟩

theorem Clean.prod_perm (c : Clean s s' A B) (p : B.Perm B') :
    Clean s s' A B' :=
  ⟨fun i => by rw [c.live, p.mem_iff], fun i hi => c.fresh i (p.mem_iff.2 hi), p.nodup_iff.1 c.nodup,
    c.sched, c.next, c.hits, c.wf⟩

/-- Frame rule: blocks `F` that the run does not consume are carried along. -/
theorem Clean.frame_r (F : List Nat) (wf : s.WF) (c : Clean s s' A B)
    (own : Owns s (A ++ F)) : Clean s s' (A ++ F) (B ++ F) := by
  obtain ⟨oA, oF, dAF⟩ := Owns.append_iff.1 own
  refine ⟨?_, ?_, ?_, c.sched, c.next, c.hits, c.wf⟩
  · intro i
    rw [c.live]
    -- a block of `F` is live in `s` and outside `A`: on both sides it is live in `s'`
    have a1 := oF.2 i; have a2 := dAF i
    grind
  · intro i hi
    rcases List.mem_append.1 hi with h | h
    · rcases c.fresh i h with h' | h'
      · exact Or.inl (List.mem_append_left _ h')
      · exact Or.inr h'
    · exact Or.inl (List.mem_append_right _ h)
  · refine List.nodup_append.2 ⟨c.nodup, oF.1, ?_⟩
    intro a ha b hb hab
    subst hab
    rcases c.fresh a ha with h | h
    · exact dAF a h hb
    · have := wf a (oF.2 a hb); omega

theorem Clean.frame_l (F : List Nat) (wf : s.WF) (c : Clean s s' A B)
    (own : Owns s (F ++ A)) : Clean s s' (F ++ A) (F ++ B) := by
  have h := Clean.frame_r F wf c (own.perm List.perm_append_comm)
  exact (h.cons_congr (fun i => by simp only [List.mem_append]; exact Or.comm)).prod_perm List.perm_append_comm

theorem Clean.trans_prod {s s1 s2 : Ledger} {P1 P2 : List Nat} (c1 : Clean s s1 [] P1) (c2 : Clean s1 s2 [] P2) :
    Clean s s2 [] (P1 ++ P2) := by
  refine ⟨?_, ?_, ?_, by rw [c2.sched, c1.sched], Nat.le_trans c1.next c2.next, Nat.le_trans c1.hits c2.hits, c2.wf⟩
  · intro i; rw [c2.live, c1.live]; simp only [List.mem_append, List.not_mem_nil, not_false_eq_true, and_true]
    exact or_assoc
  · intro i hi
    have n1 := c1.next; have n2 := c2.next
    rcases List.mem_append.1 hi with h | h
    · rcases c1.fresh i h with h' | h'
      · exact absurd h' List.not_mem_nil
      · exact Or.inr ⟨h'.1, by omega⟩
    · rcases c2.fresh i h with h' | h'
      · exact absurd h' List.not_mem_nil
      · exact Or.inr ⟨by omega, h'.2⟩
  · exact List.nodup_append.2 ⟨c1.nodup, c2.nodup, fun a ha b hb hab => Clean.disjoint_later c1 c2 a ha (hab ▸ hb)⟩

theorem Clean.mem_live (c : Clean s s' A B) {i : Nat} (h : i ∈ B) : i ∈ s'.live :=
  (c.live i).2 (Or.inr h)

theorem Clean.stays (c : Clean s s' A B) {i : Nat} (hl : i ∈ s.live) (hn : i ∉ A) :
    i ∈ s'.live := (c.live i).2 (Or.inl ⟨hl, hn⟩)

/-- A block the caller did not pass in is live throughout and never among the blocks held. -/
theorem Clean.outside {s s' : Ledger} {A B : List Nat} (c : Clean s s' A B) (wf : s.WF) {i : Nat}
    (hl : i ∈ s.live) (hn : i ∉ A) : i ∈ s'.live ∧ i ∉ B :=
  ⟨c.stays hl hn, fun hm => (c.fresh i hm).elim hn fun h => Nat.lt_irrefl _ (Nat.lt_of_lt_of_le h.1 (wf i hl))⟩

theorem Clean.cons_perm (c : Clean s s' A B) (p : A.Perm A') : Clean s s' A' B :=
  c.cons_congr fun _ => p.mem_iff.symm

/-- Permutations of block lists, by counting. -/
macro "perm_count" : tactic =>
  `(tactic| (refine List.perm_iff_count.2 (fun a => ?_)
             try simp only [List.append_eq, List.count_append, List.count_cons, List.count_nil, List.count_singleton, List.append_assoc,
               List.cons_append, List.nil_append, List.append_nil, Option.toList_some, Option.toList_none]
             try omega))

/-- `*a` for a live block. -/
theorem Good.deref {a : Nat} {f : Unit → Prog β} {s : Ledger} {R : β → Ledger → Prop} (h : a ∈ s.live)
    (k : Good (f ()) s R) : Good (Prog.bind (deref (some a)) f) s R :=
  Good.bind (deref_spec a s h) fun _ _ e => e ▸ k

/- An error code differs from `OK`: the fact stands in the first lemma module over the model file that
   defines the code (`EINTERNAL` in `AllocTreeCtx`, `EB64ENC` and `EPUBID` in `AllocB64`, `EB64DEC`,
   `EXMLLANG` and `EXMLPARSE` in `AllocTreeXml`). -/
theorem ENOMEM_ne_OK : ENOMEM ≠ OK := by decide
theorem EAPPEND_ne_OK : EAPPEND ≠ OK := by decide

theorem Good.bind_read {p : Prog α} {f : α → Prog β} {s : Ledger} {Q : β → Ledger → Prop}
    (hp : Good p s (fun _ s' => s' = s)) (hk : ∀ r, Good (f r) s Q) : Good (Prog.bind p f) s Q :=
  Good.bind hp fun r _ e => e ▸ hk r

/-- `if (ret != WBXML_OK) … else …` -/
theorem Good.if_ne_ok {ret : Nat} {p q : Prog β} {s : Ledger} {Q : β → Ledger → Prop}
    (hp : ret ≠ OK → Good p s Q) (hq : ret = OK → Good q s Q) :
    Good (if (ret != OK) = true then p else q) s Q := by
  by_cases h : ret = OK
  · rw [if_neg (by simpa using h)]; exact hq h
  · rw [if_pos (by simpa using h)]; exact hp h

/-- `p` releases exactly the blocks `A`, makes no request and is delivered no failure: what every
    destructor does with the blocks of its object. -/
def Frees (p : Prog Unit) (A : List Nat) : Prop :=
  ∀ s, s.WF → Owns s A → Good p s (fun _ s' => Clean s s' A [] ∧ s'.hits = s.hits ∧ s'.next = s.next)

theorem Frees.nil : Frees (Prog.ret ()) [] := fun _ wf _ => good_ret.2 ⟨Clean.id wf (.nil _), rfl, rfl⟩

theorem Frees.free (p : Ptr) : Frees (free p) p.toList := fun s wf own =>
  free_spec p s wf fun a e => own.2 a (by simp [e])

theorem Frees.seq {p : Prog Unit} {q : Unit → Prog Unit} {A B : List Nat} (hp : Frees p A) (hq : Frees (q ()) B) :
    Frees (Prog.bind p q) (A ++ B) := fun s wf own =>
  Good.bind (hp s wf (Owns.append_iff.1 own).1) fun _ s1 ⟨c1, h1, n1⟩ =>
    have cF : Clean s s1 (A ++ B) B := Clean.frame_r B wf c1 own
    (hq s1 c1.wf cF.owns).mono fun _ _ ⟨d2, h2, n2⟩ => ⟨Clean.trans_recycle wf cF d2, h2.trans h1, n2.trans n1⟩

theorem Frees.deref {a : Nat} {p : Unit → Prog Unit} {A : List Nat} (ha : a ∈ A) (hp : Frees (p ()) A) :
    Frees (Prog.bind (deref (some a)) p) A := fun s wf own =>
  Good.deref (own.2 a ha) (hp s wf own)

theorem Frees.perm {p : Prog Unit} {A A' : List Nat} (hp : Frees p A) (h : A.Perm A') : Frees p A' := fun s wf own =>
  (hp s wf (own.perm h.symm)).mono fun _ _ ⟨c, x⟩ => ⟨c.cons_perm h, x⟩

theorem Good.with_run {p : Prog α} {s : Ledger} {Q : α → Ledger → Prop} (h : Good p s Q) :
    Good p s (fun a s' => Q a s' ∧ run p s = (.ok a, s')) := by
  obtain ⟨a, s', hr, hq⟩ := h.elim
  unfold Good
  rw [hr]
  exact ⟨hq, rfl⟩

theorem Good.and {p : Prog α} {s : Ledger} {Q R : α → Ledger → Prop} (h1 : Good p s Q) (h2 : Good p s R) :
    Good p s (fun a s' => Q a s' ∧ R a s') := by
  obtain ⟨a, s', hr, hq⟩ := h1.elim
  unfold Good at h2 ⊢
  rw [hr] at h2 ⊢
  exact ⟨hq, h2⟩

theorem fail_of_hits {p : Prog α} {s s' : Ledger} {a : α} (hr : run p s = (.ok a, s')) (h : s.hits < s'.hits) :
    ∃ k, s.fails k = true ∧ s.next < k ∧ k ≤ s'.next := by
  have := run_later p s
  rw [hr] at this
  exact this.window.1 h

end Wbxml.Model.Alloc
