/-
  C18 lemmas: the canonical API history of an XML event list, the class of event lists on
  which the XML front end (`Model/TreeOfXml.lean`) does nothing beyond the API calls (`plainEvents`),
  and the agreement of the two name look-ups (`xmlElt` of the front end, `xmlEltName` / `xmlAttr` of the
  API model).
-/
import Wbxml.Model.TreeHeap
import Wbxml.Model.TreeOfXml
import Wbxml.Lemmas.XmlElt
namespace Wbxml.Model.TreeHeap
open Wbxml Wbxml.Model
open Wbxml.Lemmas.X2W (xeTag xeAttr unXml nsPart localName xmlElt_closed lastIndexOf_go_none lastIndexOf_qual take_qual
  drop_qual)

/-- `cnt` is the address the next created node gets (one fresh cell per `wbxml_tree_add_*` call),
    `ps` the open nodes, innermost first (`ps.head?` is the current parent; NULL before the root). -/
def histGo : Nat → List Nat → List XEvent → List Op
  | _, _, [] => []
  | cnt, ps, e :: es =>
    match e with
    | .startElt name attrs _ => .addXmlEltAttrs ps.head? name attrs :: histGo (cnt + 1) (cnt :: ps) es
    | .endElt _ _ => histGo cnt ps.tail es
    | .chars s => .addText ps.head? s :: histGo (cnt + 1) ps es
    | .startCdata => .addCdata ps.head? :: histGo (cnt + 1) (cnt :: ps) es
    | .endCdata => histGo cnt ps.tail es
    | _ => histGo cnt ps es

/-- The calls a client issues to build, in document order, the document Expat reports as `es`:
    `wbxml_tree_add_xml_elt_with_attrs` under the current parent for a start tag (the new node becomes
    the current parent), `wbxml_tree_add_text` for character data, `wbxml_tree_add_cdata` for the start of
    a CDATA section (the CDATA node becomes the current parent, its text is added below it), one step up
    at an end tag / at the end of a CDATA section.  Prolog events produce no call. -/
def apiHistoryOf (es : List XEvent) : List Op := histGo 0 [] es

/-- What `plainEvents` remembers about an open node: an element (and whether character data directly
    below it is handled by the front end as a plain text child), or a CDATA section. -/
inductive POpen where
  | elt (textOK : Bool)
  | cdata
  deriving DecidableEq, Repr

inductive PPhase where
  | prolog                       -- before the root element
  | body (stk : List POpen)      -- inside the root element; innermost open node first
  | epilog                       -- after the root element
  deriving DecidableEq, Repr

/-- Character data directly below the element `name` is attached as a text child and nothing else:
    the element is not binary-flagged (ActiveSync: the front end collects the text and attaches its
    base64 DECODING at the end tag) and is not called `Data` (SyncML: depending on `Meta/Type` of the
    surrounding command the front end wraps the text in a CDATA node and rewrites a lone LF). -/
def textPlain (L : Lang) (name : Bytes) : Bool :=
  !isBinaryName (xmlEltName L name).1 && !((xmlEltName L name).1.xmlName == b!"Data")

/-- The attribute is handed to `wbxml_tree_node_add_xml_attr` under the name Expat reports (the
    namespace-aware parser reports `xml:lang` as `http://www.w3.org/XML/1998/namespace|lang`, which the
    front end maps back to `xml:lang` first). -/
def attrPlain (nv : Bytes × Bytes) : Bool := !(xmlNsUri.isPrefixOf nv.1)

/-- A start tag below the root with one of these names starts an embedded DevInf / DM-DDF document:
    the front end skips to the end tag and re-parses the byte range as a document of its own. -/
def embeddedName (name : Bytes) : Bool := name == devinfName || name == mgmtName

/-- The innermost open ELEMENT (a CDATA section stands for the element that owns it). -/
def textAllowed : List POpen → Bool
  | .elt ok :: _ => ok
  | .cdata :: .elt ok :: _ => ok
  | _ => false

/-- One event; `none` = not covered. -/
def plainStep (L : Lang) (ph : PPhase) (e : XEvent) : Option PPhase :=
  match e with
  | .pi => some ph
  | .xmlDecl _ _ => some ph
  | .doctype _ _ =>
    (match ph with
     | .prolog => some .prolog
     | _ => none)
  | .startElt name attrs _ =>
    (match ph with
     | .prolog => if attrs.all attrPlain then some (.body [.elt (textPlain L name)]) else none
     | .body (.elt ok :: r) =>
       if !embeddedName name && attrs.all attrPlain then some (.body (.elt (textPlain L name) :: .elt ok :: r))
       else none
     | _ => none)
  | .endElt _ _ =>
    (match ph with
     | .body [.elt _] => some .epilog
     | .body (.elt _ :: p :: r) => some (.body (p :: r))
     | _ => none)
  | .startCdata =>
    (match ph with
     | .body (.elt ok :: r) => some (.body (.cdata :: .elt ok :: r))
     | _ => none)
  | .endCdata =>
    (match ph with
     | .body (.cdata :: p :: r) => some (.body (p :: r))
     | _ => none)
  | .chars _ =>
    (match ph with
     | .body stk => if textAllowed stk then some (.body stk) else none
     | _ => none)

def plainFrom (L : Lang) : PPhase → List XEvent → Bool
  | ph, [] => (match ph with
    | .body _ => false
    | _ => true)
  | ph, e :: es =>
    match plainStep L ph e with
    | some ph' => plainFrom L ph' es
    | none => false

/-- The event lists for which `api_tree_equals_parsed_partial` is proved; `L` is the language the
    front end selects (DOCTYPE, else root element).
    * shape: what Expat reports for a well-formed document — prolog (XML declaration, DOCTYPE,
      processing instructions), ONE root element with properly nested content, epilog; a CDATA section
      sits below an element and contains character data only; element content and CDATA content may be
      interleaved with processing instructions (no call, no effect on either side);
    * a start tag below the root is not `syncml:devinf|DevInf` / `syncml:dmddf1.2|MgmtTree` (`embeddedName`);
    * no attribute is reported in the XML namespace (`attrPlain`);
    * character data occurs only where the innermost open element satisfies `textPlain`. -/
def plainEvents (L : Lang) (es : List XEvent) : Bool := plainFrom L .prolog es

/-- `plainStep` as a relation: its accepting rows. -/
inductive PStep (L : Lang) : PPhase → XEvent → PPhase → Prop
  | pi (ph) : PStep L ph .pi ph
  | xmlDecl (ph v enc) : PStep L ph (.xmlDecl v enc) ph
  | doctype (sid pid) : PStep L .prolog (.doctype sid pid) .prolog
  | root (name attrs idx) : attrs.all attrPlain = true →
      PStep L .prolog (.startElt name attrs idx) (.body [.elt (textPlain L name)])
  | start (ok r name attrs idx) : embeddedName name = false → attrs.all attrPlain = true →
      PStep L (.body (.elt ok :: r)) (.startElt name attrs idx) (.body (.elt (textPlain L name) :: .elt ok :: r))
  | endRoot (ok name idx) : PStep L (.body [.elt ok]) (.endElt name idx) .epilog
  | endElt (ok p r name idx) : PStep L (.body (.elt ok :: p :: r)) (.endElt name idx) (.body (p :: r))
  | startCdata (ok r) : PStep L (.body (.elt ok :: r)) .startCdata (.body (.cdata :: .elt ok :: r))
  | endCdata (p r) : PStep L (.body (.cdata :: p :: r)) .endCdata (.body (p :: r))
  | chars (stk t) : textAllowed stk = true → PStep L (.body stk) (.chars t) (.body stk)

theorem plainStep_view {L : Lang} {ph ph' : PPhase} {e : XEvent} (h : plainStep L ph e = some ph') :
    PStep L ph e ph' := by
  unfold plainStep at h
  split at h
  · cases h; exact .pi _
  · cases h; exact .xmlDecl _ _ _
  · split at h
    · cases h; exact .doctype _ _
    · cases h
  · split at h
    · split at h
      · cases h; exact .root _ _ _ ‹_›
      · cases h
    · split at h
      · rename_i hc
        simp only [Bool.and_eq_true, Bool.not_eq_true'] at hc
        cases h; exact .start _ _ _ _ _ hc.1 hc.2
      · cases h
    · cases h
  · split at h
    · cases h; exact .endRoot _ _ _
    · cases h; exact .endElt _ _ _ _ _
    · cases h
  · split at h
    · cases h; exact .startCdata _ _
    · cases h
  · split at h
    · cases h; exact .endCdata _ _
    · cases h
  · split at h
    · split at h
      · cases h; exact .chars _ _ ‹_›
      · cases h
    · cases h

theorem exists_last_split (b : UInt8) : ∀ (s : Bytes), b ∈ s → ∃ pre post, s = pre ++ b :: post ∧ b ∉ post
  | [], h => by simp at h
  | c :: r, h => by
    by_cases hr : b ∈ r
    · obtain ⟨pre, post, e, hp⟩ := exists_last_split b r hr
      exact ⟨c :: pre, post, by rw [e]; rfl, hp⟩
    · simp only [List.mem_cons] at h
      rcases h with h | h
      · subst h; exact ⟨[], r, rfl, hr⟩
      · exact absurd h hr

/-- The split of the API model (`splitNs`) is the split of the front end: a name with a bar is
    `pre ++ 124 :: post` with no bar in `post`; the front end cuts at the last index of the bar, the API
    model reverses the name and cuts behind the bar-free prefix `post.reverse`. -/
theorem splitNs_eq (name : Bytes) :
    splitNs name = (match lastIndexOf 124 name with
      | some i => (name.take i, name.drop (i + 1))
      | none => ([], name)) := by
  by_cases hm : (124 : UInt8) ∈ name
  · obtain ⟨pre, post, rfl, hp⟩ := exists_last_split 124 name hm
    have hc : (pre ++ 124 :: post).contains 124 = true := by simp
    have hrev : (pre ++ 124 :: post).reverse = post.reverse ++ 124 :: pre.reverse := by simp
    have hall : ∀ x, x ∈ post.reverse → (x != 124) = true := by
      intro x hx
      have hx' : x ∈ post := by simpa using hx
      simp only [bne_iff_ne, ne_eq]
      intro ex; exact hp (ex ▸ hx')
    have hd : (post.reverse ++ 124 :: pre.reverse).dropWhile (· != 124) = 124 :: pre.reverse := by
      rw [List.dropWhile_append_of_pos hall, List.dropWhile_cons_of_neg (by simp)]
    have ht : (post.reverse ++ 124 :: pre.reverse).takeWhile (· != 124) = post.reverse := by
      rw [List.takeWhile_append_of_pos hall, List.takeWhile_cons_of_neg (by simp), List.append_nil]
    simp only [splitNs, hc, if_true, lastIndexOf_qual pre post hp, hrev, hd, ht, List.drop_succ_cons, List.drop_zero,
      List.reverse_reverse, take_qual, drop_qual]
  · have hl : lastIndexOf 124 name = none := by
      unfold lastIndexOf; exact lastIndexOf_go_none 124 name 0 none hm
    have hc : name.contains 124 = false := by simpa using hm
    simp only [splitNs, hc, hl, Bool.false_eq_true, if_false]

theorem xeTag_eq_api (L : Lang) (name : Bytes) : xeTag L name = xmlEltName L name := by
  unfold xeTag xmlEltName nsPart localName
  rw [splitNs_eq]
  cases lastIndexOf 124 name <;> rfl

theorem xeAttr_plain (L : Lang) (nv : Bytes × Bytes) (h : attrPlain nv = true) : xeAttr L nv = xmlAttr L nv := by
  have hp : xmlNsUri.isPrefixOf nv.1 = false := by
    unfold attrPlain at h
    cases hx : xmlNsUri.isPrefixOf nv.1 with
    | false => rfl
    | true => rw [hx] at h; cases h
  unfold xeAttr xmlAttr unXml
  simp only [hp, Bool.false_eq_true, if_false]
  rfl

/-- `wbxml_tree_add_xml_elt_with_attrs` as the front end calls it, in terms of the API model's
    look-ups. -/
theorem xmlElt_plain (L : Lang) (name : Bytes) (attrs : List (Bytes × Bytes)) (h : attrs.all attrPlain = true) :
    xmlElt L name attrs =
      ({ kind := .elt (xmlEltName L name).1 (attrs.map (xmlAttr L)), kids := [] }, (xmlEltName L name).2) := by
  rw [xmlElt_closed, xeTag_eq_api,
    List.map_congr_left fun nv hm => xeAttr_plain L nv (List.all_eq_true.mp h nv hm)]

end Wbxml.Model.TreeHeap
