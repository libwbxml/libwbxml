/-
  Round trip (C03): normal forms of trees — `noAdj` / `nfNode` (no empty text, no adjacent text siblings);
  trees in normal form are determined by their XML-level view `ntoks` up to `canon` (token or literal name
  does not matter); the `Data`-free fragment `noData*`; the view of a document's events is the view of its root.
  At the end: `canon` commutes with the child-list operations (`canonL_*`), and what normal form says of a tree read
  off a grammar element (`plain_of_nf`, `noAdj_of_nfKids`, `isElt_nodeOfElem`).
-/
import Wbxml.Lemmas.RtBuild
import Wbxml.Lemmas.EncWView
namespace Wbxml.Lemmas.Rt
open Wbxml Wbxml.Model Wbxml.Spec Wbxml.Lemmas.EncW

/-- The list starts with a text node. -/
def headText (l : List Node) : Bool :=
  match l with
  | k :: _ => isText k
  | [] => false

theorem lastText_before_text {A : List Node} {k : Node} {rest : List Node} (hk : isText k = true)
    (h : lastText A = true → headText (k :: rest) = false) : lastText A = false := by
  cases hA : lastText A with
  | false => rfl
  | true => have := h hA; rw [headText, hk] at this; cases this

/-- No two adjacent text nodes. -/
def noAdj : List Node → Bool
  | [] => true
  | k :: rest => !(isText k && headText rest) && noAdj rest

theorem headText_snoc (l : List Node) (k : Node) : headText (l ++ [k]) = (if l.isEmpty then isText k else headText l) := by
  cases l <;> rfl

theorem lastText_cons (a : Node) (l : List Node) : lastText (a :: l) = (if l.isEmpty then isText a else lastText l) := by
  cases l with
  | nil => rfl
  | cons b l => unfold lastText; rw [List.getLast?_cons_cons]; rfl

theorem noAdj_snoc : ∀ (l : List Node) (k : Node), noAdj (l ++ [k]) = (noAdj l && !(lastText l && isText k))
  | [], k => by simp [noAdj, headText, lastText]
  | a :: l, k => by
    rw [List.cons_append, noAdj, noAdj, noAdj_snoc l k, headText_snoc, lastText_cons]
    cases l with
    | nil => simp [noAdj, headText, lastText]
    | cons b l => simp only [List.isEmpty_cons, Bool.false_eq_true, ↓reduceIte, Bool.and_assoc]

def nonEmptyText : Node → Bool
  | .text s => !s.isEmpty
  | _ => true

theorem addN_snoc (acc : List Node) (k : Node) (hne : nonEmptyText k = true)
    (h : (lastText acc && isText k) = false) : addN acc k = acc ++ [k] := by
  cases k with
  | text s =>
    have hs : s.isEmpty = false := by simpa [nonEmptyText] using hne
    have hl : lastText acc = false := by simpa [isText] using h
    rw [addN_text]
    unfold addChars
    rw [hs]
    exact addKid_text_after _ _ hl
  | elt n a ks => exact addKid_not_text acc (.elt n a ks) rfl
  | cdata ks => exact addKid_not_text acc (.cdata ks) rfl
  | tree l cs r => exact addKid_not_text acc (.tree l cs r) rfl

mutual
/-- Normal form inside the plain fragment: no empty text, no adjacent text siblings; a CDATA section or an
    embedded document is NOT in normal form (`plain_of_nf` and the injectivity of the view rely on that: such
    nodes contribute nothing to `ntoks`). -/
def nfNode : Node → Bool
  | .elt _ _ kids => nfKids kids
  | .text s => !s.isEmpty
  | .cdata _ => false
  | .tree _ _ _ => false
def nfKids : List Node → Bool
  | [] => true
  | k :: rest => nfNode k && !(isText k && headText rest) && nfKids rest
end

theorem nfKids_nil : nfKids [] = true := by rw [nfKids]
theorem nfKids_cons (k rest) : nfKids (k :: rest) = (nfNode k && !(isText k && headText rest) && nfKids rest) := by
  rw [nfKids]

theorem nfKids_snoc : ∀ (l : List Node) (k : Node),
    nfKids (l ++ [k]) = (nfKids l && nfNode k && !(lastText l && isText k))
  | [], k => by simp [nfKids_cons, nfKids_nil, headText, lastText]
  | a :: l, k => by
    rw [List.cons_append, nfKids_cons, nfKids_cons, nfKids_snoc l k, headText_snoc, lastText_cons]
    cases l with
    | nil =>
      cases nfNode a <;> cases nfNode k <;> cases isText a <;> cases isText k <;> rfl
    | cons b l =>
      cases nfNode a <;> cases nfNode k <;> cases nfKids (b :: l) <;> simp

theorem nfKids_addKid (acc : List Node) (n : Node) (ha : nfKids acc = true) (hn : nfNode n = true) :
    nfKids (addKid acc n) = true := by
  rcases addKid_cases acc n with ⟨hadj, e⟩ | ⟨pre, t, s, rfl, rfl, e⟩ <;> rw [e, nfKids_snoc]
  · rw [ha, hn, hadj]; rfl
  · rw [nfKids_snoc] at ha
    simp only [Bool.and_eq_true, Bool.not_eq_true', isText, Bool.and_true] at ha
    have : nfNode (.text (t ++ s)) = true := by
      have h1 := ha.1.2
      rw [nfNode] at h1 ⊢
      cases t with
      | nil => cases h1
      | cons _ _ => rfl
    rw [ha.1.1, ha.2, this]; rfl

theorem nfKids_addChars (acc : List Node) (s : Bytes) (ha : nfKids acc = true) : nfKids (addChars acc s) = true := by
  unfold addChars
  split
  · exact ha
  · rename_i h
    exact nfKids_addKid acc _ ha (by rw [nfNode]; simpa using h)

mutual
theorem nf_nodeOfElem (c : Ctx) : ∀ (e : Elem) (pg : Pages), nfNode (nodeOfElem c pg e) = true
  | .mk sw tag attrs content, pg => by
    rw [nodeOfElem_mk, nfNode]; exact nf_kidsOfContent c content _ _ [] nfKids_nil
theorem nf_kidsOfContent (c : Ctx) : ∀ (content : Option (List Item)) (own : Option TagRow) (pg : Pages)
    (acc : List Node), nfKids acc = true → nfKids (kidsOfContent c own pg content acc) = true
  | none, own, pg, acc, h => by rw [kidsOfContent_none]; exact h
  | some items, own, pg, acc, h => by rw [kidsOfContent_some]; exact nf_kidsOfItems c items own pg acc h
theorem nf_kidsOfItems (c : Ctx) : ∀ (items : List Item) (own : Option TagRow) (pg : Pages)
    (acc : List Node), nfKids acc = true → nfKids (kidsOfItems c own pg items acc) = true
  | [], own, pg, acc, h => by rw [kidsOfItems_nil]; exact h
  | it :: more, own, pg, acc, h => by
    rw [kidsOfItems_cons]; exact nf_kidsOfItems c more own _ _ (nf_kidOfItem c it own pg acc h)
theorem nf_kidOfItem (c : Ctx) : ∀ (it : Item) (own : Option TagRow) (pg : Pages)
    (acc : List Node), nfKids acc = true → nfKids (kidOfItem c own pg it acc) = true
  | it, own, pg, acc, h => by
    cases it with
    | elem e => rw [kidOfItem_elem]; exact nfKids_addKid acc _ h (nf_nodeOfElem c e pg)
    | pi p => rw [kidOfItem_pi]; exact h
    | _ => rw [(leafItem_spec c own pg _ rfl acc).1]; exact nfKids_addChars acc _ h
end

def canonName (n : Name) : Name := .literal n.xmlName

def canonAttr (a : Attr) : Attr := { name := .literal a.name.xmlName, value := a.value }

mutual
/-- Forget whether a name is a token or a literal: every element and attribute name becomes the
    literal with the same XML name. Nothing else changes. -/
def canon : Node → Node
  | .elt n a kids => .elt (canonName n) (a.map canonAttr) (canonL kids)
  | .text s => .text s
  | .cdata kids => .cdata kids
  | .tree l cs r => .tree l cs r
def canonL : List Node → List Node
  | [] => []
  | k :: r => canon k :: canonL r
end

theorem canon_elt (n a kids) : canon (.elt n a kids) = .elt (canonName n) (a.map canonAttr) (canonL kids) := by rw [canon]
theorem canon_text (s) : canon (.text s) = .text s := by rw [canon]
theorem canonL_nil : canonL [] = [] := by rw [canonL]
theorem canonL_cons (k r) : canonL (k :: r) = canon k :: canonL r := by rw [canonL]

def attrOfView (p : Bytes × Bytes) : Attr := { name := .literal p.1, value := p.2 }

theorem canonAttr_view (a : Attr) : canonAttr a = attrOfView (attrView a) := rfl

theorem map_canonAttr (l : List Attr) : l.map canonAttr = (l.map attrView).map attrOfView := by
  rw [List.map_map]; rfl

def isStop : Tok → Bool
  | .stop _ => true
  | _ => false

/-- What may follow a child list: nothing, or the end of the enclosing element. -/
def Closing (r : List Tok) : Prop := ∀ x r', r = x :: r' → isStop x = true

def NoCh (l : List Tok) : Prop := ∀ b r, l ≠ .ch b :: r

theorem chars_inj : ∀ (s s' : Bytes) (X Y : List Tok), NoCh X → NoCh Y →
    s.map Tok.ch ++ X = s'.map Tok.ch ++ Y → s = s' ∧ X = Y
  | [], [], X, Y, _, _, h => ⟨rfl, by simpa using h⟩
  | [], b :: s', X, Y, hx, _, h => by
    exact absurd h (hx b _)
  | b :: s, [], X, Y, _, hy, h => by
    exact absurd h.symm (hy b _)
  | b :: s, b' :: s', X, Y, hx, hy, h => by
    simp only [List.map_cons, List.cons_append, List.cons.injEq, Tok.ch.injEq] at h
    obtain ⟨h1, h2⟩ := chars_inj s s' X Y hx hy h.2
    exact ⟨by rw [h.1, h1], h2⟩

def isCh : Tok → Bool
  | .ch _ => true
  | _ => false

theorem ntoks_head (k : Node) (h : nfNode k = true) :
    ∃ x r, ntoks k = x :: r ∧ isStop x = false ∧ isCh x = isText k := by
  cases k with
  | elt n a kids => rw [ntoks_elt]; exact ⟨_, _, rfl, rfl, rfl⟩
  | text s =>
    rw [nfNode] at h
    cases s with
    | nil => cases h
    | cons b s => exact ⟨.ch b, s.map .ch, by rw [ntoks_text]; rfl, rfl, rfl⟩
  | _ => rw [nfNode] at h; cases h

theorem text_of_isText {n : Node} (h : isText n = true) : ∃ s, n = .text s := by
  cases n with
  | text s => exact ⟨s, rfl⟩
  | _ => cases h

theorem noCh_after (K : List Node) (r : List Tok) (hK : nfKids K = true) (hh : headText K = false)
    (hr : Closing r) : NoCh (ntoksL K ++ r) := by
  intro b r' heq
  cases K with
  | nil =>
    rw [ntoksL_nil, List.nil_append] at heq
    have := hr _ _ heq
    cases this
  | cons k K' =>
    rw [nfKids_cons] at hK
    simp only [Bool.and_eq_true] at hK
    obtain ⟨x, r0, hx, _, hc⟩ := ntoks_head k hK.1.1
    rw [ntoksL_cons, hx] at heq
    simp only [List.cons_append, List.cons.injEq] at heq
    rw [heq.1, show isText k = false from hh] at hc
    cases hc

theorem closing_stop (n : Bytes) (r : List Tok) : Closing (.stop n :: r) := by
  intro x r' h
  simp only [List.cons.injEq] at h
  rw [← h.1]; rfl

mutual
theorem ntoks_inj_node : ∀ (a b : Node) (ra rb : List Tok), nfNode a = true → nfNode b = true →
    isText a = false → isText b = false → ntoks a ++ ra = ntoks b ++ rb → canon a = canon b ∧ ra = rb
  | .elt na aa ksa, b, ra, rb, ha, hb, _, htb, h => by
    cases b with
    | text s => cases htb
    | cdata ks => rw [nfNode] at hb; cases hb
    | tree l cs r => rw [nfNode] at hb; cases hb
    | elt nb ab ksb =>
      rw [nfNode] at ha hb
      rw [ntoks_elt, ntoks_elt] at h
      simp only [List.cons_append, List.cons.injEq, Tok.start.injEq, List.append_assoc] at h
      obtain ⟨⟨hn, hattrs⟩, hrest⟩ := h
      obtain ⟨hk, hr⟩ := ntoks_inj_kids ksa ksb _ _ ha hb (closing_stop _ _) (closing_stop _ _) hrest
      simp only [List.cons.injEq] at hr
      refine ⟨?_, hr.2⟩
      rw [canon_elt, canon_elt, hk, map_canonAttr, map_canonAttr, hattrs]
      simp only [canonName, hn]
  | .text s, _, _, _, _, _, hta, _, _ => by cases hta
  | .cdata ks, _, _, _, ha, _, _, _, _ => by rw [nfNode] at ha; cases ha
  | .tree l cs r, _, _, _, ha, _, _, _, _ => by rw [nfNode] at ha; cases ha
/-- `ra`, `rb` are what follows the two child lists: nothing, or the `stop` of the enclosing element
    (`Closing`). No child in normal form starts with a `stop` (`ntoks_head`), so neither list can end where the
    other goes on. -/
theorem ntoks_inj_kids : ∀ (ka kb : List Node) (ra rb : List Tok), nfKids ka = true → nfKids kb = true →
    Closing ra → Closing rb → ntoksL ka ++ ra = ntoksL kb ++ rb → canonL ka = canonL kb ∧ ra = rb
  | [], kb, ra, rb, _, hb, hra, _, h => by
    cases kb with
    | nil => rw [ntoksL_nil] at h; exact ⟨rfl, by simpa using h⟩
    | cons k kb' =>
      rw [nfKids_cons] at hb
      simp only [Bool.and_eq_true] at hb
      obtain ⟨x, r, hx, hs, _⟩ := ntoks_head k hb.1.1
      rw [ntoksL_nil, List.nil_append, ntoksL_cons, hx] at h
      have := hra x _ (by rw [h]; rfl)
      rw [hs] at this; cases this
  | a :: ka', kb, ra, rb, ha, hb, hra, hrb, h => by
    rw [nfKids_cons] at ha
    simp only [Bool.and_eq_true, Bool.not_eq_true'] at ha
    cases kb with
    | nil =>
      obtain ⟨x, r, hx, hs, _⟩ := ntoks_head a ha.1.1
      rw [ntoksL_nil, List.nil_append, ntoksL_cons, hx] at h
      have := hrb x _ (by rw [← h]; rfl)
      rw [hs] at this; cases this
    | cons b kb' =>
      rw [nfKids_cons] at hb
      simp only [Bool.and_eq_true, Bool.not_eq_true'] at hb
      rw [ntoksL_cons, ntoksL_cons, List.append_assoc, List.append_assoc] at h
      -- the first token tells a text node from an element
      have hkind : isText a = isText b := by
        obtain ⟨xa, _, hxa, _, hca⟩ := ntoks_head a ha.1.1
        obtain ⟨xb, _, hxb, _, hcb⟩ := ntoks_head b hb.1.1
        rw [hxa, hxb] at h
        simp only [List.cons_append, List.cons.injEq] at h
        rw [← hca, ← hcb, h.1]
      cases hta : isText a with
      | false =>
        obtain ⟨hc, hr⟩ := ntoks_inj_node a b _ _ ha.1.1 hb.1.1 hta (hkind ▸ hta) h
        obtain ⟨hc2, hr2⟩ := ntoks_inj_kids ka' kb' ra rb ha.2 hb.2 hra hrb hr
        exact ⟨by rw [canonL_cons, canonL_cons, hc, hc2], hr2⟩
      | true =>
        obtain ⟨s, rfl⟩ := text_of_isText hta
        obtain ⟨s', rfl⟩ := text_of_isText (hkind ▸ hta)
        rw [ntoks_text, ntoks_text] at h
        have h1 : headText ka' = false := by simpa [isText] using ha.1.2
        have h2 : headText kb' = false := by simpa [isText] using hb.1.2
        obtain ⟨hs, hr⟩ := chars_inj s s' _ _ (noCh_after ka' ra ha.2 h1 hra) (noCh_after kb' rb hb.2 h2 hrb) h
        obtain ⟨hc2, hr2⟩ := ntoks_inj_kids ka' kb' ra rb ha.2 hb.2 hra hrb hr
        exact ⟨by rw [canonL_cons, canonL_cons, hs, hc2], hr2⟩
end

theorem canon_eq_of_ntoks (a b : Node) (ha : nfNode a = true) (hb : nfNode b = true)
    (hta : isText a = false) (htb : isText b = false) (h : ntoks a = ntoks b) : canon a = canon b :=
  (ntoks_inj_node a b [] [] ha hb hta htb (by rw [List.append_nil, List.append_nil, h])).1

mutual
theorem ntoks_canon : ∀ (n : Node), ntoks (canon n) = ntoks n
  | .elt name attrs kids => by
    rw [canon_elt, ntoks_elt, ntoks_elt, ntoksL_canonL kids, List.map_map]
    rfl
  | .text s => by rw [canon_text]
  | .cdata kids => by rw [canon]
  | .tree l cs r => by rw [canon]
theorem ntoksL_canonL : ∀ (ks : List Node), ntoksL (canonL ks) = ntoksL ks
  | [] => by rw [canonL_nil]
  | k :: r => by rw [canonL_cons, ntoksL_cons, ntoksL_cons, ntoks_canon k, ntoksL_canonL r]
end
theorem addN_all {P : Node → Prop} (acc : List Node) (n : Node) (ht : ∀ s, P (.text s))
    (ha : ∀ k ∈ acc, P k) (hn : P n) : ∀ k ∈ addN acc n, P k := by
  cases n with
  | text s =>
    simp only [addN, addChars]
    split
    · exact ha
    · exact addKid_all acc _ ht ha hn
  | _ => exact addKid_all acc _ ht ha hn

theorem canonL_fixed : ∀ (l : List Node), (∀ k ∈ l, canon k = k) → canonL l = l
  | [], _ => canonL_nil
  | k :: r, h => by
    rw [canonL_cons, h k (by simp), canonL_fixed r (fun x hx => h x (List.mem_cons_of_mem _ hx))]
theorem canonL_append : ∀ (a b : List Node), canonL (a ++ b) = canonL a ++ canonL b
  | [], b => by rw [List.nil_append, canonL_nil, List.nil_append]
  | x :: a, b => by rw [List.cons_append, canonL_cons, canonL_cons, canonL_append a b, List.cons_append]

theorem isText_canon (n : Node) : isText (canon n) = isText n := by
  cases n with
  | elt nm a k => rw [canon_elt]; rfl
  | text s => rw [canon_text]
  | _ => rw [canon]

theorem lastText_canonL (l : List Node) : lastText (canonL l) = lastText l := by
  cases hl : lastText l with
  | true =>
    obtain ⟨pre, t, rfl⟩ := lastText_split l hl
    rw [canonL_append, canonL_cons, canonL_nil, canon_text, lastText_snoc]; rfl
  | false =>
    cases l.eq_nil_or_concat with
    | inl h => rw [h, canonL_nil]; rfl
    | inr h =>
      obtain ⟨pre, x, rfl⟩ := h
      rw [List.concat_eq_append] at hl ⊢
      rw [canonL_append, canonL_cons, canonL_nil, lastText_snoc, isText_canon]
      rw [lastText_snoc] at hl; exact hl

theorem canonL_addKid (acc : List Node) (n : Node) : canonL (addKid acc n) = addKid (canonL acc) (canon n) := by
  rcases addKid_cases acc n with ⟨hadj, e⟩ | ⟨pre, t, s, rfl, rfl, e⟩ <;> rw [e, canonL_append, canonL_cons, canonL_nil]
  · rcases addKid_cases (canonL acc) (canon n) with ⟨_, e'⟩ | ⟨pre, t, s, h1, h2, _⟩
    · exact e'.symm
    · rw [← lastText_canonL, ← isText_canon, h1, h2, lastText_snoc] at hadj
      cases hadj
  · rw [canonL_append, canonL_cons, canonL_nil, canon_text, canon_text, canon_text, addKid_text_merge]

theorem canonL_addN (acc : List Node) (n : Node) : canonL (addN acc n) = addN (canonL acc) (canon n) := by
  cases n with
  | text s =>
    rw [canon_text, addN_text, addN_text]
    cases s with
    | nil => rfl
    | cons b t => rw [addChars_cons, addChars_cons, canonL_addKid, canon_text]
  | elt nm a k => rw [addN_elt, canonL_addKid, canon_elt]; rfl
  | cdata k => exact (canonL_addKid acc (.cdata k)).trans (by rw [canon]; rfl)
  | tree l cs r => exact (canonL_addKid acc (.tree l cs r)).trans (by rw [canon]; rfl)

def noDataTok : Tok → Bool
  | .start n _ => !(n == dataName)
  | _ => true

def noDataToks (l : List Tok) : Bool := l.all noDataTok

theorem noDataEvents_toks : ∀ (es : List Event), noDataEvents es = noDataToks (es.flatMap toks)
  | [] => rfl
  | e :: es => by
    rw [noDataEvents_cons, noDataEvents_toks es]
    simp only [noDataToks, List.flatMap_cons, List.all_append]
    congr 1
    cases e <;> simp [noDataEvent, toks, noDataTok]

mutual
/-- No element of the tree is called `Data` (the name that triggers the SyncML content-type
    look-up of `wbxml_tree_node_get_syncml_data_type`, in every language). -/
def noDataNode : Node → Bool
  | .elt n _ kids => !(n.cName == dataName) && noDataNodes kids
  | .text _ => true
  | .cdata _ => true
  | .tree _ _ _ => true
def noDataNodes : List Node → Bool
  | [] => true
  | k :: r => noDataNode k && noDataNodes r
end

mutual
theorem noData_srcToks (c : WCfg) : ∀ (n : Node), noDataToks (srcToks c n) = noDataNode n
  | .elt name attrs kids => by
    rw [srcToks, noDataNode]
    simp only [noDataToks, List.all_cons, List.all_append, List.all_nil, noDataTok, Bool.and_true]
    have := noData_srcToksL c kids
    simp only [noDataToks] at this
    rw [this]
  | .text s => by
    rw [srcToks, noDataNode]
    simp [noDataToks, noDataTok]
  | .cdata kids => by rw [srcToks, noDataNode]; rfl
  | .tree l cs r => by rw [srcToks, noDataNode]; rfl
theorem noData_srcToksL (c : WCfg) : ∀ (l : List Node), noDataToks (srcToksL c l) = noDataNodes l
  | [] => by rw [srcToksL, noDataNodes]; rfl
  | k :: r => by
    rw [srcToksL, noDataNodes, ← noData_srcToks c k, ← noData_srcToksL c r]
    simp only [noDataToks, List.all_append]
end

theorem evPis_toks (c : Ctx) : ∀ (ps : List Attribute) (ap : Nat), (evPis c ap ps).1.flatMap toks = []
  | [], _ => rfl
  | p :: ps, ap => by
    simp only [evPis, List.flatMap_cons, evPis_toks c ps, List.append_nil]
    unfold evPi
    rfl

theorem events_toks (cfg : PCfg) (d : Doc) (l : Lang) (hl : headerLang cfg d.hdr = some l) :
    (Spec.events cfg d).flatMap toks = ntoks (rootOfDoc cfg d l) := by
  unfold Spec.events rootOfDoc
  rw [hl, ntoks_nodeOfElem]
  simp only [List.flatMap_cons, List.flatMap_append, evPis_toks, toks, List.nil_append, List.append_nil,
    List.flatMap_nil]

theorem isText_nodeOfElem (c : Ctx) (pg : Pages) (e : Elem) : isText (nodeOfElem c pg e) = false := by
  cases e with
  | mk sw tag attrs content => rw [nodeOfElem_mk]; rfl

theorem isText_of_isElt (n : Node) (h : isElt n = true) : isText n = false := by
  cases n <;> first | rfl | cases h
mutual
/-- `true` only for equal nodes without CDATA section / embedded document (`Node` has no
    `DecidableEq`; used by the `decide +kernel` examples). -/
def plainEq : Node → Node → Bool
  | .elt n a k, .elt n' a' k' => decide (n = n') && decide (a = a') && plainEqL k k'
  | .text s, .text s' => decide (s = s')
  | _, _ => false
def plainEqL : List Node → List Node → Bool
  | [], [] => true
  | x :: r, y :: r' => plainEq x y && plainEqL r r'
  | _, _ => false
end

theorem isElt_nodeOfElem (c : Ctx) (pg : Pages) (e : Elem) : isElt (nodeOfElem c pg e) = true := by
  cases e with
  | mk sw tag attrs content => rw [nodeOfElem_mk]; rfl

mutual
theorem plain_of_nf : ∀ (n : Node), nfNode n = true → plainNode n = true
  | .elt name attrs kids, h => by rw [nfNode] at h; rw [plainNode]; exact plainL_of_nf kids h
  | .text s, _ => by rw [plainNode]
  | .cdata kids, h => by rw [nfNode] at h; cases h
  | .tree l cs r, h => by rw [nfNode] at h; cases h
theorem plainL_of_nf : ∀ (ks : List Node), nfKids ks = true → plainNodes ks = true
  | [], _ => by rw [plainNodes]
  | k :: r, h => by
    rw [nfKids_cons] at h
    simp only [Bool.and_eq_true] at h
    rw [plainNodes, plain_of_nf k h.1.1, plainL_of_nf r h.2]; rfl
end

theorem noAdj_of_nfKids : ∀ (L : List Node), nfKids L = true → noAdj L = true
  | [], _ => rfl
  | k :: r, h => by
    rw [nfKids_cons] at h
    simp only [Bool.and_eq_true] at h
    rw [noAdj, h.1.2, noAdj_of_nfKids r h.2]; rfl

end Wbxml.Lemmas.Rt
