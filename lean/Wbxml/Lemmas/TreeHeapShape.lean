/-
  C18 lemmas: algebra of the ghost shape.  Two ways of pointing into a shape: by address (`kidsOf P`, the
  children chain of node `P`, and `setKids P k`, its replacement, with the generic transport of a local
  predicate through it), and — for ONE sibling chain — by decomposition: `BT.snoc` is the append of chains,
  a chain splits at each of its tops (`split_top`: `K = A ⧺ [n; c] ⧺ B`) and at its end (`split_last`), so
  that the pointer surgeries of `wbxml_tree.c` are splices `A ⧺ X ⧺ B ↦ A ⧺ Y ⧺ B`.
  In comments `A ⧺ B` is `snoc A B` and `[n; c]` the one-node chain `node n c nil`; `A ⧺ [n; c] ⧺ B` is
  `snoc A (node n c B)`.
-/
import Wbxml.Lemmas.TreeHeapBasic
namespace Wbxml.Model.TreeHeap
open Wbxml Wbxml.Model

namespace BT

def kidsOf (P : Nat) : BT → BT
  | nil => nil
  | node i ch nx => if i = P then ch else if P ∈ ch.ids then kidsOf P ch else kidsOf P nx

def setKids (P : Nat) (k : BT) : BT → BT
  | nil => nil
  | node i ch nx => if i = P then node i k nx else node i (setKids P k ch) (setKids P k nx)

@[simp] theorem setKids_rid (P : Nat) (k : BT) (t : BT) : (setKids P k t).rid = t.rid := by
  cases t with
  | nil => rfl
  | node i ch nx => simp only [setKids]; split <;> rfl

theorem setKids_not_mem (P : Nat) (k : BT) : ∀ t : BT, P ∉ t.ids → setKids P k t = t
  | nil, _ => rfl
  | node i ch nx, h => by
    simp only [ids_node, List.mem_cons, List.mem_append, not_or] at h
    have h1 : ¬ i = P := fun e => h.1 e.symm
    simp only [setKids, h1, if_false, setKids_not_mem P k ch h.2.1, setKids_not_mem P k nx h.2.2]

theorem kidsOf_not_mem (P : Nat) : ∀ t : BT, P ∉ t.ids → kidsOf P t = nil
  | nil, _ => rfl
  | node i ch nx, h => by
    simp only [ids_node, List.mem_cons, List.mem_append, not_or] at h
    have h1 : ¬ i = P := fun e => h.1 e.symm
    simp only [kidsOf, h1, if_false, h.2.1, kidsOf_not_mem P nx h.2.2]

theorem kidsOf_mem (P : Nat) : ∀ (t : BT) (j : Nat), j ∈ (kidsOf P t).ids → j ∈ t.ids
  | nil, j, h => by simp [kidsOf] at h
  | node i ch nx, j, h => by
    simp only [kidsOf] at h
    split at h
    · exact mem_node.mpr (Or.inr (Or.inl h))
    · split at h
      · exact mem_node.mpr (Or.inr (Or.inl (kidsOf_mem P ch j h)))
      · exact mem_node.mpr (Or.inr (Or.inr (kidsOf_mem P nx j h)))

end BT

/-- Transport of a local predicate through the replacement of the children chain of `P`: the positions
    outside that chain are those of the shape with the chain cut off. -/
theorem Loc.setKids {A B : Option Nat → Option Nat → Nat → Option Nat → Option Nat → Prop}
    (P : Nat) (k : BT) :
    ∀ (t : BT) (par prv : Option Nat), t.ids.Nodup →
      (∀ i, i ∈ (BT.setKids P .nil t).ids → i ≠ P → ∀ par prv f n, A par prv i f n → B par prv i f n) →
      (∀ par prv f n, A par prv P f n → B par prv P k.rid n) →
      Loc B (some P) none k →
      Loc A par prv t → Loc B par prv (BT.setKids P k t)
  | .nil, _, _, _, _, _, _, _ => trivial
  | .node i ch nx, par, prv, hnd, hout, hP, hk, ⟨ha, hc, hn⟩ => by
    obtain ⟨hi1, hi2, hcn, hnn, hd⟩ := BT.nodup_node.mp hnd
    by_cases e : i = P
    · subst e
      simp only [BT.setKids, if_true] at hout ⊢
      exact ⟨hP _ _ _ _ ha, hk, Loc.mono nx _ _ (fun j hj =>
        hout j (by simp [hj]) (fun ej => hi2 (ej ▸ hj))) hn⟩
    · simp only [BT.setKids, e, if_false] at hout ⊢
      refine ⟨?_, Loc.setKids P k ch _ _ hcn (fun j hj => hout j (by simp [hj])) hP hk hc,
        Loc.setKids P k nx _ _ hnn (fun j hj => hout j (by simp [hj])) hP hk hn⟩
      rw [BT.setKids_rid, BT.setKids_rid]
      exact hout i (by simp) e _ _ _ _ ha

namespace BT

theorem ids_split (P : Nat) : ∀ t : BT, t.ids.Nodup → P ∈ t.ids →
    ∃ A B, t.ids = A ++ P :: ((kidsOf P t).ids ++ B) ∧ ∀ k, (setKids P k t).ids = A ++ P :: (k.ids ++ B)
  | nil, _, h => by simp at h
  | node i ch nx, hnd, h => by
    obtain ⟨hi1, hi2, hc, hn, hd⟩ := nodup_node.mp hnd
    by_cases e : i = P
    · subst e
      exact ⟨[], nx.ids, by simp [kidsOf], fun k => by simp [setKids]⟩
    · by_cases hm : P ∈ ch.ids
      · obtain ⟨A, B, h1, h2⟩ := ids_split P ch hc hm
        refine ⟨i :: A, B ++ nx.ids, ?_, fun k => ?_⟩
        · simp only [ids_node, kidsOf, e, hm, if_false, if_true]; rw [h1]; simp
        · simp [setKids, e, h2, setKids_not_mem P k nx (hd P hm)]
      · have hx : P ∈ nx.ids := ((mem_node.mp h).resolve_left fun x => e x.symm).resolve_left hm
        obtain ⟨A, B, h1, h2⟩ := ids_split P nx hn hx
        refine ⟨i :: (ch.ids ++ A), B, ?_, fun k => ?_⟩
        · simp only [ids_node, kidsOf, e, hm, if_false]; rw [h1]; simp
        · simp [setKids, e, h2, setKids_not_mem P k ch hm]

theorem kidsOf_nodup (P : Nat) (t : BT) (h : t.ids.Nodup) : (kidsOf P t).ids.Nodup ∧ P ∉ (kidsOf P t).ids := by
  by_cases hP : P ∈ t.ids
  · obtain ⟨A, B, h1, _⟩ := ids_split P t h hP
    rw [h1] at h
    simp only [List.nodup_append, List.nodup_cons, List.mem_append, not_or] at h
    exact ⟨h.2.1.2.1, h.2.1.1.1⟩
  · rw [kidsOf_not_mem P t hP]; simp

theorem mem_setKids (P : Nat) (k : BT) (t : BT) (j : Nat) (hnd : t.ids.Nodup) :
    (j ∈ (setKids P k t).ids ↔ (j ∈ t.ids ∧ j ∉ (kidsOf P t).ids) ∨ (P ∈ t.ids ∧ j ∈ k.ids)) := by
  by_cases hP : P ∈ t.ids
  · obtain ⟨A, B, h1, h2⟩ := ids_split P t hnd hP
    rw [h1] at hnd
    rw [h2, h1]
    simp only [List.nodup_append, List.nodup_cons, List.mem_append, List.mem_cons] at hnd ⊢
    obtain ⟨_, ⟨hPK, _, _, hKB⟩, hA⟩ := hnd
    constructor
    · rintro (h | h | h | h)
      · exact Or.inl ⟨Or.inl h, fun hk => hA j h j (Or.inr (Or.inl hk)) rfl⟩
      · exact Or.inl ⟨Or.inr (Or.inl h), fun hk => hPK (Or.inl (h ▸ hk))⟩
      · exact Or.inr ⟨Or.inr (Or.inl trivial), h⟩
      · exact Or.inl ⟨Or.inr (Or.inr (Or.inr h)), fun hk => hKB j hk j h rfl⟩
    · rintro (⟨h | h | h | h, hn⟩ | ⟨_, h⟩)
      · exact Or.inl h
      · exact Or.inr (Or.inl h)
      · exact absurd h hn
      · exact Or.inr (Or.inr (Or.inr h))
      · exact Or.inr (Or.inr (Or.inl h))
  · rw [setKids_not_mem P k t hP, kidsOf_not_mem P t hP]; simp [hP]

theorem mem_setKids_nil {P : Nat} {t : BT} {j : Nat} (hnd : t.ids.Nodup) (h : j ∈ (setKids P nil t).ids) :
    j ∈ t.ids ∧ j ∉ (kidsOf P t).ids := by
  rcases (mem_setKids P nil t j hnd).mp h with h | ⟨_, h⟩
  · exact h
  · simp at h

theorem kidsOf_setKids (P : Nat) (k : BT) : ∀ t : BT, P ∈ t.ids → t.ids.Nodup → kidsOf P (setKids P k t) = k
  | nil, h, _ => by simp at h
  | node i ch nx, h, hnd => by
    obtain ⟨hi1, hi2, hc, hn, hd⟩ := nodup_node.mp hnd
    by_cases e : i = P
    · simp [setKids, kidsOf, e]
    · simp only [setKids, e, if_false, kidsOf]
      by_cases hm : P ∈ ch.ids
      · have hP : P ∈ (setKids P k ch).ids :=
          (mem_setKids P k ch P hc).mpr (Or.inl ⟨hm, (kidsOf_nodup P ch hc).2⟩)
        simp only [hP, if_true]
        exact kidsOf_setKids P k ch hm hc
      · have hnx : P ∈ nx.ids := ((mem_node.mp h).resolve_left fun x => e x.symm).resolve_left hm
        rw [setKids_not_mem P k ch hm]
        simp only [hm, if_false]
        exact kidsOf_setKids P k nx hnx hn

def snoc : BT → BT → BT
  | nil, s => s
  | node i ch nx, s => node i ch (snoc nx s)

def tops : BT → List Nat
  | nil => []
  | node i _ nx => i :: tops nx

def last : BT → Option Nat
  | nil => none
  | node i _ nx => nx.last.or (some i)

theorem tops_sub : ∀ (t : BT) (j : Nat), j ∈ t.tops → j ∈ t.ids
  | nil, j, h => by simp [tops] at h
  | node i ch nx, j, h => by
    simp only [tops, List.mem_cons] at h
    simp only [ids_node, List.mem_cons, List.mem_append]
    rcases h with h | h
    · exact Or.inl h
    · exact Or.inr (Or.inr (tops_sub nx j h))

@[simp] theorem snoc_nil (t : BT) : snoc t nil = t := by
  induction t with
  | nil => rfl
  | node i ch nx _ ih => simp [snoc, ih]

theorem rid_snoc (A B : BT) : (snoc A B).rid = A.rid.or B.rid := by
  cases A <;> simp [snoc]

theorem last_snoc : ∀ (A B : BT), (snoc A B).last = B.last.or A.last
  | nil, B => by simp [snoc, last]
  | node i ch nx, B => by simp [snoc, last, last_snoc nx B]

theorem snoc_ids_eq : ∀ (C x : BT), (snoc C x).ids = C.ids ++ x.ids
  | nil, x => by simp [snoc]
  | node i ch nx, x => by simp [snoc, snoc_ids_eq nx x]

theorem snoc_ids (t s : BT) (j : Nat) : j ∈ (snoc t s).ids ↔ j ∈ t.ids ∨ j ∈ s.ids := by
  rw [snoc_ids_eq, List.mem_append]

theorem snoc_nodup (t s : BT) (ht : t.ids.Nodup) (hs : s.ids.Nodup) (hd : ∀ j, j ∈ t.ids → j ∉ s.ids) :
    (snoc t s).ids.Nodup := by
  rw [snoc_ids_eq, List.nodup_append]
  exact ⟨ht, hs, fun a ha b hb e => hd a ha (e ▸ hb)⟩

theorem tops_snoc_eq : ∀ (A B : BT), (snoc A B).tops = A.tops ++ B.tops
  | nil, _ => rfl
  | node i ch nx, B => by simp [snoc, tops, tops_snoc_eq nx B]

theorem tops_snoc (G s : BT) (j : Nat) : j ∈ (snoc G s).tops ↔ j ∈ G.tops ∨ j ∈ s.tops := by
  rw [tops_snoc_eq, List.mem_append]

/-- A top other than `n` stays a top when `n` leaves the top level. -/
theorem tops_without {T c T' : BT} {n r : Nat} (h : r ∈ (snoc T (node n c T')).tops) (hn : r ≠ n) :
    r ∈ (snoc T T').tops := by
  rw [tops_snoc_eq] at h ⊢
  simp only [tops, List.mem_append, List.mem_cons] at h ⊢
  exact h.imp_right fun h => h.resolve_left hn

theorem tops_setKids (P : Nat) (k : BT) : ∀ (G : BT), (setKids P k G).tops = G.tops
  | nil => rfl
  | node i ch nx => by
    simp only [setKids]
    split
    · rfl
    · simp only [tops, tops_setKids P k nx]

theorem last_mem : ∀ (K : BT) (l : Nat), K.last = some l → l ∈ K.tops
  | nil, _, h => by simp [last] at h
  | node i ch nx, l, h => by
    simp only [last] at h
    cases hx : nx.last with
    | none => rw [hx] at h; simp at h; simp [tops, h]
    | some x => rw [hx] at h; simp at h; subst h; simp [tops, last_mem nx x hx]

theorem last_node (i : Nat) (ch nx : BT) : ∃ l, (node i ch nx).last = some l := by
  simp only [last]; cases nx.last <;> simp

theorem last_none : ∀ (A : BT), A.last = none → A = nil
  | nil, _ => rfl
  | node i ch nx, h => by simp only [last] at h; cases hx : nx.last <;> simp [hx] at h

theorem split_top (n : Nat) : ∀ (K : BT), n ∈ K.tops → ∃ A c B, K = snoc A (node n c B)
  | nil, h => by simp [tops] at h
  | node i ch nx, h => by
    by_cases e : i = n
    · subst e; exact ⟨nil, ch, nx, rfl⟩
    · obtain ⟨A, c, B, hK⟩ := split_top n nx ((List.mem_cons.mp h).resolve_left fun x => e x.symm)
      exact ⟨node i ch A, c, B, by simp [snoc, hK]⟩

theorem split_last : ∀ (K : BT), K ≠ nil → ∃ A l c, K = snoc A (node l c nil)
  | nil, h => absurd rfl h
  | node i ch nil, _ => ⟨nil, i, ch, rfl⟩
  | node i ch (node j c m), _ => by
    obtain ⟨A, l, c', h⟩ := split_last (node j c m) (by simp)
    exact ⟨node i ch A, l, c', by simp [snoc, h]⟩

theorem nodup_split {A c B : BT} {n : Nat} (h : (snoc A (node n c B)).ids.Nodup) :
    A.ids.Nodup ∧ c.ids.Nodup ∧ B.ids.Nodup ∧ n ∉ A.ids ∧ n ∉ c.ids ∧ n ∉ B.ids ∧
    (∀ a, a ∈ A.ids → a ∉ c.ids ∧ a ∉ B.ids) ∧ (∀ a, a ∈ c.ids → a ∉ B.ids) := by
  rw [snoc_ids_eq, List.nodup_append] at h
  obtain ⟨hA, hN, hd⟩ := h
  obtain ⟨h1, h2, h3, h4, h5⟩ := nodup_node.mp hN
  exact ⟨hA, h3, h4, fun x => hd n x n (by simp) rfl, h1, h2,
    fun a ha => ⟨fun x => hd a ha a (by simp [x]) rfl, fun x => hd a ha a (by simp [x]) rfl⟩, h5⟩

/-- `if (parent->children == node) parent->children = node->next`, on the shape. -/
theorem rid_unlink {A c B : BT} {n : Nat} (hn : n ∉ A.ids) :
    (if (snoc A (node n c B)).rid = some n then B.rid else (snoc A (node n c B)).rid) = (snoc A B).rid := by
  cases A with
  | nil => simp [snoc]
  | node i ch nx =>
    have hi : ¬ i = n := fun e => hn (mem_node.mpr (Or.inl e.symm))
    simp [snoc, hi]

theorem kidsOf_snoc_eq (P : Nat) (B : BT) : ∀ (A : BT),
    kidsOf P (snoc A B) = if P ∈ A.ids then kidsOf P A else kidsOf P B
  | nil => by simp [snoc]
  | node i ch nx => by
    by_cases e : i = P
    · simp [snoc, kidsOf, e]
    · have e' : ¬ P = i := fun x => e x.symm
      by_cases hm : P ∈ ch.ids
      · simp [snoc, kidsOf, e, hm]
      · simp [snoc, kidsOf, e, e', hm, kidsOf_snoc_eq P B nx]

theorem setKids_snoc (P : Nat) (k x : BT) : ∀ (C : BT), P ∉ C.ids → setKids P k (snoc C x) = snoc C (setKids P k x)
  | nil, _ => by simp [snoc]
  | node i ch nx, h => by
    have hia : ¬ i = P := fun e => h (mem_node.mpr (Or.inl e.symm))
    have hch : P ∉ ch.ids := fun hx => h (mem_node.mpr (Or.inr (Or.inl hx)))
    have hnx : P ∉ nx.ids := fun hx => h (mem_node.mpr (Or.inr (Or.inr hx)))
    simp only [snoc, setKids, hia, if_false, setKids_not_mem P k ch hch, setKids_snoc P k x nx hnx]

theorem setKids_setKids (P : Nat) (k k' : BT) : ∀ (G : BT), setKids P k (setKids P k' G) = setKids P k G
  | nil => rfl
  | node i ch nx => by
    by_cases e : i = P
    · simp [setKids, e]
    · simp [setKids, e, setKids_setKids P k k' ch, setKids_setKids P k k' nx]

theorem setKids_kidsOf (P : Nat) : ∀ (G : BT), G.ids.Nodup → setKids P (kidsOf P G) G = G
  | nil, _ => rfl
  | node i ch nx, hnd => by
    obtain ⟨hi1, hi2, hcn, hnn, hd⟩ := nodup_node.mp hnd
    by_cases e : i = P
    · simp [setKids, kidsOf, e]
    · by_cases hm : P ∈ ch.ids
      · have hnx : P ∉ nx.ids := hd P hm
        simp only [setKids, kidsOf, e, if_false, hm, if_true, setKids_kidsOf P ch hcn, setKids_not_mem P _ nx hnx]
      · simp only [setKids, kidsOf, e, if_false, hm, setKids_kidsOf P nx hnn, setKids_not_mem P _ ch hm]

end BT

theorem absBT_snoc (v : View) : ∀ (K s : BT), absBT v (BT.snoc K s) = absBT v K ++ absBT v s
  | .nil, s => by simp [BT.snoc, absBT]
  | .node i ch nx, s => by simp [BT.snoc, absBT, absBT_snoc v nx s]

theorem perm_splice (X A M B Y : List Nat) (p : Nat) :
    ((X ++ p :: ((A ++ B) ++ Y)) ++ M).Perm (X ++ p :: ((A ++ (M ++ B)) ++ Y)) := by
  apply List.perm_iff_count.mpr
  intro a
  simp only [List.count_append, List.count_cons]
  omega

/-- Address accounting of a call that edits one chain: the chain `K` (between `X ++ [p]` and `Y`) becomes `k`,
    the block `n :: c` leaves the outer list `T ++ [n] ++ c ++ T'`, the cells `dead` disappear. -/
theorem perm_rebuild {dead k K c X Y T T' : List Nat} {p n : Nat} (h1 : (dead ++ k).Perm (K ++ n :: c))
    (h2 : T ++ T' = X ++ p :: (K ++ Y)) : (dead ++ (X ++ p :: (k ++ Y))).Perm (T ++ n :: (c ++ T')) := by
  apply List.perm_iff_count.mpr
  intro a
  have h1 := h1.count_eq a
  have h2 := congrArg (List.count a) h2
  simp only [List.count_append, List.count_cons] at h1 h2 ⊢
  omega

theorem BT.tops_length_le : ∀ t : BT, t.tops.length ≤ t.ids.length
  | .nil => by simp [BT.tops]
  | .node i ch nx => by
    have := BT.tops_length_le nx
    simp only [BT.tops, BT.ids_node, List.length_cons, List.length_append]
    omega

theorem BT.kidsOf_length_le (P : Nat) (t : BT) (hnd : t.ids.Nodup) : (BT.kidsOf P t).ids.length ≤ t.ids.length :=
  (BT.kidsOf_nodup P t hnd).1.length_le_of_subset (fun x hx => BT.kidsOf_mem P t x hx)

end Wbxml.Model.TreeHeap
