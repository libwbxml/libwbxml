/-
  C19 — one API call refines one step of the reference machine; whole histories by induction.
-/
import Wbxml.Lemmas.BufSearch
import Wbxml.Lemmas.BufLoops
import Wbxml.Lemmas.BufHex
namespace Wbxml.Model
open Wbxml Wbxml.Spec.Seq

/-- The contents-level codecs the model uses (C11 owns their algebra). -/
def codec : Codec := ⟨b64Enc, b64Dec, mbOctets⟩

/-- What the reference sees of a concrete result: returned buffers are their contents. -/
def absOut : COut → Out
  | .bool b => .bool b
  | .nat n => .nat n
  | .optByte o => .optByte o
  | .optNat o => .optNat o
  | .sign i => .sign i
  | .bytes bs => .bytes bs
  | .buf b => .bytes b.abs
  | .bufs l => .words (l.map Buf.abs)
  | .unit => .unit

/-- Buffers handed out by an operation (duplicate, split_words) are well-formed dynamic buffers. -/
def OutOK : COut → Prop
  | .buf b => Buf.DynInv b
  | .bufs l => ∀ x ∈ l, Buf.DynInv x
  | _ => True

namespace Buf

def sOf (b : Buf) : State := ⟨b.abs, b.isStatic⟩

theorem step_query {b : Buf} {c : Bytes} (h : View b c) (op : Op) (hq : mutate codec c op = none)
    (hn : op ≠ .noSpaces) :
    ∃ o, b.step op = .ok (b, o) ∧ absOut o = query c op ∧ OutOK o := by
  cases op with
  | len => exact ⟨.nat b.len, rfl, by simp [absOut, query, h.2], trivial⟩
  | getChar pos => exact ⟨.optByte c[pos]?, by simp [step, getChar_view h], rfl, trivial⟩
  | getCstr => exact ⟨.bytes c, by simp [step, getCstr_view h], rfl, trivial⟩
  | duplicate =>
    obtain ⟨d, hd, hr⟩ := duplicate_view h
    exact ⟨.buf d, by simp [step, hd], by simp [absOut, query, hr.2], hr.1⟩
  | compare a =>
    obtain ⟨o, ho, hc⟩ := compare_spec h a
    exact ⟨.sign _, by simp only [step, ho, hc], rfl, trivial⟩
  | compareCstr s => exact ⟨.sign _, by simp only [step, compareCstr_spec h s], rfl, trivial⟩
  | splitWords =>
    obtain ⟨l, hl, hm, hi⟩ := splitWords_spec h
    exact ⟨.bufs l, by simp [step, hl], by simp [absOut, query, hm], hi⟩
  | searchChar ch pos => exact ⟨.optNat _, by simp only [step, searchChar_spec h ch pos], rfl, trivial⟩
  | search a pos =>
    obtain ⟨o, ho, hc⟩ := search_spec h a pos
    exact ⟨.optNat _, by simp only [step, ho, hc], rfl, trivial⟩
  | searchCstr s pos => exact ⟨.optNat _, by simp only [step, searchCstr_spec h s pos], rfl, trivial⟩
  | onlyWs => exact ⟨.bool _, by simp only [step, onlyWs_spec h], rfl, trivial⟩
  | noSpaces => exact absurd rfl hn
  | _ => cases hq

theorem liftB_spec {x : Except Err (Buf × Bool)} {r : Bytes × Bool}
    (h : ∃ b', x = .ok (b', r.2) ∧ Rep b' r.1) : ∃ b', liftB x = .ok (b', .bool r.2) ∧ Rep b' r.1 := by
  obtain ⟨b', rfl, hr⟩ := h
  exact ⟨b', rfl, hr⟩

/-- Mutations on a well-formed dynamic buffer inside the contract, against the reference's new bytes
    and flag. Each case names the operation's own lemma, or the equation that makes it a call of
    `insertData` / `appendData`. -/
theorem step_mutate {b : Buf} {c : Bytes} (h : Rep b c) (op : Op) (hm : (mutate codec c op).isSome = true)
    (hx : ¬ excluded ⟨c, false⟩ op) (hsz : c.length < 4294967296) :
    ∃ b', b.step op = .ok (b', .bool ((mutate codec c op).get hm).2) ∧ Rep b' ((mutate codec c op).get hm).1 := by
  cases op with
  | setChar pos ch => exact liftB_spec (setChar_spec h pos ch)
  | insert a pos =>
    obtain ⟨s, ho, he⟩ := ofArg_insert a
    simp only [step, ho, he, mutate, Option.get_some]
    cases a.bytes with
    | none => exact ⟨b, rfl, h⟩
    | some bs => exact liftB_spec (insertData_spec h pos bs)
  | insertCstr s pos =>
    simp only [step, insertCstr_eq]
    cases s with
    | none => exact ⟨b, rfl, h⟩
    | some s => exact liftB_spec (insertData_spec h pos (cstr s))
  | insertSelf pos => exact liftB_spec (insertSelf_eq h.view pos ▸ insertData_spec h pos c)
  | appendSelf => exact liftB_spec (appendSelf_eq h.view ▸ appendData_spec h (some c))
  | append a =>
    obtain ⟨s, ho, he⟩ := ofArg_append a
    simp only [step, ho, he]; exact liftB_spec (appendData_spec h a.bytes)
  | appendData d => exact liftB_spec (appendData_spec h d)
  | appendCstr s => exact liftB_spec (appendCstr_eq b s ▸ appendData_spec h (s.map cstr))
  | appendChar ch => exact liftB_spec (appendChar_eq b ch ▸ appendData_spec h (some [ch]))
  | appendMb v => exact liftB_spec (appendMb_eq b v ▸ appendData_spec h (some (mbOctets v)))
  | delete pos n => exact liftB_spec (delete_spec h pos n (fun hh => hx ⟨rfl, hh⟩))
  | shrink => exact liftB_spec (r := (shrink c, true)) (shrinkBlanks_spec h)
  | strip => exact liftB_spec (r := (strip c, true)) (stripBlanks_spec h hsz)
  | rtz => exact liftB_spec (r := (Spec.Seq.removeTrailingZeros c, true)) (removeTrailingZeros_spec h)
  | hexToBin => exact liftB_spec (r := (hexToBin c, true)) (hexToBinary_spec h)
  | binToHex u => exact liftB_spec (r := (binToHex u c, true)) (binaryToHex_spec h u)
  | decB64 => exact liftB_spec (decodeBase64_spec h)
  | encB64 => exact liftB_spec (encodeBase64_spec h)
  | _ => cases hm

section
attribute [local simp] setChar_static insertData_static appendData_static delete_static shrinkBlanks_static
  stripBlanks_static removeTrailingZeros_static hexToBinary_static binaryToHex_static decodeBase64_static
  encodeBase64_static insertCstr_eq appendCstr_eq appendChar_eq appendMb_eq

theorem step_static_mutate {b : Buf} (hs : b.isStatic = true) (c : Bytes) (op : Op) (r : Bytes × Bool)
    (hm : mutate codec c op = some r) :
    b.step op = .ok (b, .bool false) := by
  cases op with
  | insert a pos =>
    obtain ⟨s, ho, he⟩ := ofArg_insert a
    cases hb : a.bytes <;> simp [step, ho, he, hb, liftB, hs]
  | append a =>
    obtain ⟨s, ho, he⟩ := ofArg_append a
    simp [step, ho, he, liftB, hs]
  | insertSelf pos => simp [step, liftB, insertSelf, hs]
  | appendSelf => simp [step, liftB, appendSelf, hs]
  | insertCstr s pos => cases s <;> simp [step, liftB, hs]
  | len | getChar _ | getCstr | duplicate | noSpaces | compare _ | compareCstr _ | splitWords | searchChar _ _
  | search _ _ | searchCstr _ _ | onlyWs => cases hm
  | _ => simp [step, liftB, hs]
end

theorem Inv.isStatic_cases {b : Buf} (h : Inv b) :
    (b.isStatic = false ∧ Rep b b.abs) ∨ (b.isStatic = true ∧ StaInv b) := by
  rcases h with h | h
  · exact Or.inl ⟨h.1, h, rfl⟩
  · exact Or.inr ⟨h.1, h⟩

theorem step_refines {b : Buf} (h : Inv b) (op : Op) (hx : ¬ excluded (sOf b) op)
    (hsz : b.abs.length < 4294967296) :
    ∃ b' o, b.step op = .ok (b', o) ∧ Inv b' ∧ sOf b' = (Spec.Seq.step codec (sOf b) op).1 ∧
      absOut o = (Spec.Seq.step codec (sOf b) op).2 ∧ OutOK o := by
  by_cases hns : op = .noSpaces
  · subst hns
    rcases h.isStatic_cases with ⟨hd, hr⟩ | ⟨hs, hi⟩
    · obtain ⟨b', hb, hr'⟩ := noSpaces_spec hr
      refine ⟨b', .unit, by simp [step, hb], Or.inl hr'.1, ?_, ?_, trivial⟩
      · simp [sOf, Spec.Seq.step, hd, hr'.2, hr'.dyn]
      · simp [Spec.Seq.step, absOut]
    · refine ⟨b, .unit, by simp [step, noSpaces_static hs], Or.inr hi, ?_, ?_, trivial⟩
      · simp [sOf, Spec.Seq.step, hs]
      · simp [Spec.Seq.step, absOut]
  · have hstep : Spec.Seq.step codec (sOf b) op =
        (match mutate codec (sOf b).bytes op with
         | some (xs, ok) => if (sOf b).isStatic then (sOf b, .bool false) else ({ sOf b with bytes := xs }, .bool ok)
         | none => (sOf b, query (sOf b).bytes op)) := by
      cases op <;> first | rfl | exact absurd rfl hns
    rw [hstep]
    cases hm : mutate codec (sOf b).bytes op with
    | none =>
      obtain ⟨o, ho, ha, hok⟩ := step_query h.view op hm hns
      exact ⟨b, o, ho, h, rfl, ha, hok⟩
    | some r =>
      rcases h.isStatic_cases with ⟨hd, hr⟩ | ⟨hs, hi⟩
      · have hx' : ¬ excluded ⟨b.abs, false⟩ op := by simpa [sOf, hd] using hx
        have hm : mutate codec b.abs op = some r := hm
        obtain ⟨b', hb, hr'⟩ := step_mutate hr op (by rw [hm]; rfl) hx' hsz
        simp only [hm, Option.get_some] at hb hr'
        refine ⟨b', .bool r.2, hb, Or.inl hr'.1, ?_, ?_, trivial⟩
        · simp [sOf, hd, hr'.2, hr'.dyn]
        · simp [sOf, hd, absOut]
      · refine ⟨b, .bool false, step_static_mutate hs _ op _ hm, Or.inr hi, ?_, ?_, trivial⟩
        · simp [sOf, hs]
        · simp [sOf, hs, absOut]

/-- The size assumption made explicit: every state of the reference run stays below 2^32 bytes. -/
def Sized (s : State) : List Op → Prop
  | [] => True
  | op :: ops => s.bytes.length < 4294967296 ∧ Sized (Spec.Seq.step codec s op).1 ops

theorem run_refines (ops : List Op) : ∀ (b : Buf), Inv b → Contract codec (sOf b) ops → Sized (sOf b) ops →
    ∃ b' outs, b.run ops = .ok (b', outs) ∧ Inv b' ∧ sOf b' = (Spec.Seq.run codec (sOf b) ops).1 ∧
      outs.map absOut = (Spec.Seq.run codec (sOf b) ops).2 ∧ ∀ o ∈ outs, OutOK o := by
  induction ops with
  | nil => intro b h _ _; exact ⟨b, [], rfl, h, rfl, rfl, by simp⟩
  | cons op ops ih =>
    intro b h hc hs
    obtain ⟨b1, o, hb1, hi1, hs1, ho1, hok1⟩ := step_refines h op hc.1 hs.1
    obtain ⟨b2, outs, hb2, hi2, hs2, ho2, hok2⟩ := ih b1 hi1 (by rw [hs1]; exact hc.2) (by rw [hs1]; exact hs.2)
    refine ⟨b2, o :: outs, by simp [run, hb1, hb2], hi2, ?_, ?_, ?_⟩
    · simp only [Spec.Seq.run]; rw [← hs1]; exact hs2
    · simp only [Spec.Seq.run, List.map_cons, ho1]; rw [← hs1, ← ho2]
    · intro x hx'
      rcases List.mem_cons.mp hx' with rfl | hx'
      · exact hok1
      · exact hok2 x hx'

end Buf
end Wbxml.Model
