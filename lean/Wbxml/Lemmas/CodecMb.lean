/- The multi-byte integer `mb_u_int32`: every model of the writer (`Codec.mbEncode`,
   `Typed.mbEnc`) and of the reader (`Codec.mbDecode`, the parser's `Model.mbLoop` / `parseMb`),
   their agreement, and the laws of property C11. The writers are the digit loop of `Lemmas/Digits.lean`
   in base 128, the reader is Horner's rule in a 32-bit accumulator. -/
import Wbxml.Model.Codec.MbUint
import Wbxml.Model.Typed.Datetime
import Wbxml.Model.Parser
import Wbxml.Lemmas.CodecBits
import Wbxml.Lemmas.Digits
namespace Wbxml.Lemmas.Codec
open Wbxml Wbxml.Model.Codec Wbxml.Lemmas.Digits

/-- `(uint << 7) | (cur_byte & 0x7F)` in 32 bits. -/
theorem acc_step (acc b : Nat) :
    (acc * 128 % 2 ^ 32) ||| (b % 128) = (acc % 2 ^ 25) * 128 + b % 128 := by
  have h : acc * 128 % 2 ^ 32 = (acc % 2 ^ 25) * 128 := by omega
  rw [h, or_mul_pow _ _ 7 (Nat.mod_lt _ (by decide))]

theorem dec_cons (l acc : Nat) (b : UInt8) (rest : Bytes) :
    mbDecodeLoop (l + 1) acc (b :: rest) =
      if b.toNat < 128 then .ok ((acc % 2 ^ 25) * 128 + b.toNat, rest)
      else mbDecodeLoop l ((acc % 2 ^ 25) * 128 + (b.toNat - 128)) rest := by
  have hb := b.toNat_lt
  simp only [mbDecodeLoop, acc_step]
  by_cases h : b.toNat < 128
  · have h1 : b.toNat / 128 % 2 = 0 := by omega
    have h2 : b.toNat % 128 = b.toNat := by omega
    simp [h, h1, h2]
  · have h1 : ¬ (b.toNat / 128 % 2 = 0) := by omega
    have h2 : b.toNat % 128 = b.toNat - 128 := by omega
    simp [h, h1, h2]

/-- One reader step recombines the 7-bit groups of `x` (Horner): the accumulator holds the groups
    above the lowest one; 32 bits suffice for it. -/
theorem acc_horner (x : Nat) (hx : x < 2 ^ 32) : x / 128 % 2 ^ 25 * 128 + x % 128 = x := by omega

/-- Final octet of the writer: `value & 0x7f`. -/
def lo (x : Nat) : UInt8 := UInt8.ofNat (x % 128)
/-- Non-final octet of the writer for the 7-bit group `d`: `0x80 | d`. -/
def hi (d : Nat) : UInt8 := UInt8.ofNat (0x80 ||| d)

theorem toNat_lo (x : Nat) : (lo x).toNat = x % 128 := by
  rw [lo, UInt8.toNat_ofNat']; omega
theorem toNat_hi (d : Nat) (h : d < 128) : (hi d).toNat = 128 + d := by
  rw [hi, show 0x80 ||| d = 128 + d from or_mul_pow 1 d 7 h, UInt8.toNat_ofNat']; omega

theorem dec_lo (l acc x : Nat) (rest : Bytes) :
    mbDecodeLoop (l + 1) acc (lo x :: rest) = .ok ((acc % 2 ^ 25) * 128 + x % 128, rest) := by
  rw [dec_cons, toNat_lo, if_pos (Nat.mod_lt _ (by decide))]

theorem mbEncodeLoop_eq (k v : Nat) (acc : Bytes) : mbEncodeLoop k v acc = (digitsBE 128 k v).map hi ++ acc :=
  loop_eq_digits (fun _ _ => rfl) (fun _ _ _ => rfl) k v acc

theorem mbEncode_digits (v : Nat) (hv : v < 2 ^ 32) : mbEncode v = (digitsBE 128 4 (v / 128)).map hi ++ [lo v] := by
  rw [mbEncode, Nat.mod_eq_of_lt hv, mbEncodeLoop_eq]; rfl

theorem mbEncode_length_le (n : Nat) : (mbEncode n).length ≤ 5 := by
  have := digitsBE_length_le 128 4 (n % 2 ^ 32 / 128)
  rw [mbEncode, mbEncodeLoop_eq, List.length_append, List.length_map, List.length_singleton]
  omega

/-- The reader on continuation octets is Horner's rule, as long as the value fits 32 bits
    (`le_horner`: then every intermediate accumulator fits 25 bits before its shift). -/
theorem dec_digits (ds : List Nat) (hd : ∀ d ∈ ds, d < 128) : ∀ acc l suf, horner 128 id acc ds < 2 ^ 32 →
    mbDecodeLoop (l + ds.length) acc (ds.map hi ++ suf) = mbDecodeLoop l (horner 128 id acc ds) suf := by
  induction ds with
  | nil => intro acc l suf _; rfl
  | cons d t ih =>
    intro acc l suf h
    have hd0 := hd d (by simp)
    have hge : acc * 128 + d ≤ horner 128 id (acc * 128 + id d) t := le_horner 128 (by decide) id _ t
    rw [horner_cons] at h
    rw [List.length_cons, ← Nat.add_assoc, List.map_cons, List.cons_append, dec_cons, toNat_hi d hd0,
      if_neg (by omega), Nat.add_sub_cancel_left, Nat.mod_eq_of_lt (by omega), horner_cons]
    exact ih (fun x hx => hd x (by simp [hx])) _ l suf h

theorem two_pow_seven_mul (j : Nat) : 2 ^ (7 * j) = 128 ^ j := Nat.pow_mul 2 7 j

theorem dec_all_high (pre : Bytes) (h : ∀ b ∈ pre, 128 ≤ b.toNat) (acc : Nat) (rest : Bytes) :
    mbDecodeLoop pre.length acc (pre ++ rest) = .error (.code 70) := by
  induction pre generalizing acc with
  | nil => simp [mbDecodeLoop]
  | cons b t ih =>
    have hb : ¬ (b.toNat < 128) := by have := h b (by simp); omega
    rw [List.length_cons, List.cons_append, dec_cons]
    simp only [hb, ↓reduceIte]
    exact ih (fun x hx => h x (by simp [hx])) _

theorem dec_truncated (pre : Bytes) (h : ∀ b ∈ pre, 128 ≤ b.toNat) (l acc : Nat) (hl : pre.length < l) :
    mbDecodeLoop l acc pre = .error (.code 45) := by
  induction pre generalizing acc l with
  | nil =>
    cases l with
    | zero => simp at hl
    | succ l => simp [mbDecodeLoop]
  | cons b t ih =>
    cases l with
    | zero => simp at hl
    | succ l =>
      have hb : ¬ (b.toNat < 128) := by have := h b (by simp); omega
      rw [dec_cons]
      simp only [hb, ↓reduceIte]
      exact ih (fun x hx => h x (by simp [hx])) _ _ (by simpa using hl)

/-- What the writer wrote is read back, and exactly its octets are consumed (C11 `mb_roundtrip`). -/
theorem mbDecode_mbEncode (v : Nat) (suf : Bytes) (hv : v < 2 ^ 32) :
    mbDecode (mbEncode v ++ suf) = .ok (v, suf) := by
  obtain ⟨hmin, _, _, hd, hval⟩ := digitsBE_spec 128 (by decide) 4 (v / 128) (by omega)
  have hk := hmin 4 (by omega)
  obtain ⟨l, hl⟩ : ∃ l, 5 = l + 1 + (digitsBE 128 4 (v / 128)).length := ⟨4 - (digitsBE 128 4 (v / 128)).length, by omega⟩
  rw [mbDecode, mbEncode_digits v hv, hl, List.append_assoc, dec_digits _ hd _ _ _ (by rw [hval]; omega), hval,
    List.singleton_append, dec_lo, acc_horner v hv]

/-- The typed encoders' copy of the writer (`+` for `|`, no 32-bit truncation) agrees below 2^32. -/
theorem mbEnc_eq (n : Nat) (h : n < 2 ^ 32) : Model.Typed.mbEnc n = mbEncode n := by
  obtain ⟨_, _, _, hd, _⟩ := digitsBE_spec 128 (by decide) 4 (n / 128) (by omega)
  have e : ∀ k v acc, Model.Typed.mbLoop k v acc = (digitsBE 128 k v).map (fun d => UInt8.ofNat (0x80 + d)) ++ acc :=
    loop_eq_digits (fun _ _ => rfl) (fun _ _ _ => rfl)
  rw [Model.Typed.mbEnc, mbEncode, Nat.mod_eq_of_lt h, e, mbEncodeLoop_eq]
  congr 1
  apply List.map_congr_left
  intro d hd'
  rw [hi, show 0x80 ||| d = 128 + d from or_mul_pow 1 d 7 (hd d hd')]

end Wbxml.Lemmas.Codec

namespace Wbxml.Lemmas.ParserBridge
open Wbxml Wbxml.Model

theorem mbLoop_eq : ∀ (n acc : Nat) (bs : Bytes), mbLoop n acc bs = Codec.mbDecodeLoop n acc bs
  | 0, _, _ => rfl
  | _ + 1, _, [] => rfl
  | n + 1, acc, b :: r => by
    have h : (b.toNat / 128 % 2 * 128 == 0) = decide (b.toNat / 128 % 2 = 0) := by
      rw [Bool.eq_iff_iff]; simp only [beq_iff_eq, decide_eq_true_eq]; omega
    simp only [mbLoop, Codec.mbDecodeLoop, bit_arith, h, mbLoop_eq n _ r, decide_eq_true_eq]

/-- `mbLoop 5 0 bs = Codec.mbDecode bs`: C11's `mb_roundtrip`, `mb_minimal`, … speak about the
    function the parser uses. -/
theorem mbLoop_eq_mbDecode (bs : Bytes) : mbLoop 5 0 bs = Codec.mbDecode bs := mbLoop_eq 5 0 bs

theorem parseMb_mbEncode (s : PState) (v : Nat) (suf : Bytes) (hv : v < 2 ^ 32)
    (hs : s.rest = Codec.mbEncode v ++ suf) : parseMb s = .ok (v, { s with rest := suf }) := by
  unfold parseMb
  rw [hs, mbLoop_eq_mbDecode, Codec.mbDecode_mbEncode v suf hv]
  rfl

end Wbxml.Lemmas.ParserBridge
