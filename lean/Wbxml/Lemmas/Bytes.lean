/-
  Elementary facts about octet strings, each stated once: C strings (`cstrLen` = `strlen`,
  `cstrOf` = the string up to the first NUL), NUL-free strings, blank stripping. The shared facts stand
  in `Wbxml.Lemmas`; three small blocks stand in the namespace of the component whose proofs cite them
  unqualified (`ParserSafe`, `ParseSer`, `Rt`).
-/
import Wbxml.Model.EncXml
import Wbxml.Spec.Wbxml
import Wbxml.Lemmas.ListBasic
namespace Wbxml.Lemmas.ParserSafe
open Wbxml Wbxml.Model

theorem cstrLen_le : ∀ (bs : Bytes), cstrLen bs ≤ bs.length
  | [] => Nat.le_refl _
  | b :: r => by
    simp only [cstrLen]
    split
    · omega
    · have := cstrLen_le r; simp only [List.length_cons]; omega

theorem cstrLen_append : ∀ (bs x : Bytes), cstrLen bs < bs.length → cstrLen (bs ++ x) = cstrLen bs
  | [], _, h => by simp at h
  | b :: r, x, h => by
    simp only [cstrLen, List.cons_append] at h ⊢
    split
    · rfl
    · rename_i hb
      simp only [hb, Bool.false_eq_true, if_false, List.length_cons] at h
      rw [cstrLen_append r x (by omega)]

end Wbxml.Lemmas.ParserSafe

namespace Wbxml.Lemmas
open Wbxml Wbxml.Model Wbxml.Spec

theorem cstrLen_take (l : Bytes) : l.take (cstrLen l) = l.takeWhile (· != 0) := by
  induction l with
  | nil => rfl
  | cons b r ih =>
    by_cases h : b = 0
    · subst h; simp [cstrLen]
    · have : (b == 0) = false := by simp [h]
      simp [cstrLen, this, ih, h]

theorem cstrLen_eq_takeWhile (l : Bytes) : cstrLen l = (l.takeWhile (· != 0)).length := by
  have h := congrArg List.length (cstrLen_take l)
  rw [List.length_take, Nat.min_eq_left (ParserSafe.cstrLen_le l)] at h
  exact h

theorem cstrLen_of_no_nul (bs : Bytes) (h : ∀ b ∈ bs, b ≠ 0) : cstrLen bs = bs.length := by
  rw [cstrLen_eq_takeWhile, takeWhile_eq_self (fun b hb => by simpa using h b hb)]

theorem searchNull2_of_no_nul : ∀ (bs : Bytes), (∀ b ∈ bs, b ≠ 0) → searchNull2 bs = false
  | [], _ => rfl
  | [_], _ => rfl
  | a :: b :: r, h => by
    have ha : (a == 0) = false := by simpa using h a (by simp)
    simp only [searchNull2, ha, Bool.false_and, Bool.false_eq_true, if_false]
    exact searchNull2_of_no_nul r (fun x hx => h x (by simp [hx]))

theorem cstrOf_length_le (b : Bytes) : (cstrOf b).length ≤ b.length := by
  unfold cstrOf
  rw [List.length_take]; omega

theorem nulFree_append (a b : Bytes) : nulFree (a ++ b) = (nulFree a && nulFree b) := by
  simp [nulFree, List.all_append]

theorem nulFree_take (s : Bytes) (i : Nat) (h : nulFree s = true) : nulFree (s.take i) = true := by
  simp only [nulFree, List.all_eq_true] at h ⊢
  intro b hb; exact h b (List.mem_of_mem_take hb)

theorem nulFree_drop (s : Bytes) (i : Nat) (h : nulFree s = true) : nulFree (s.drop i) = true := by
  simp only [nulFree, List.all_eq_true] at h ⊢
  intro b hb; exact h b (List.mem_of_mem_drop hb)

theorem nulFree_cstrOf (s : Bytes) : nulFree (cstrOf s) = true := by
  unfold cstrOf
  rw [cstrLen_take]
  exact List.all_takeWhile

theorem takeWhile_nulFree (s : Bytes) (h : nulFree s = true) (r : Bytes) :
    (s ++ 0 :: r).takeWhile (· != 0) = s := by
  rw [List.takeWhile_append_of_pos (by simpa [nulFree] using h), List.takeWhile_cons_of_neg (by simp),
    List.append_nil]

theorem cstrOf_of_nulFree (s : Bytes) (h : nulFree s = true) : cstrOf s = s := by
  simp only [nulFree, List.all_eq_true, bne_iff_ne] at h
  rw [cstrOf, cstrLen_of_no_nul s h, List.take_length]

theorem stripBlanks_length_le (s : Bytes) : (stripBlanks s).length ≤ s.length := by
  unfold stripBlanks
  rw [List.length_reverse]
  have h1 := (List.dropWhile_suffix isSpaceC (l := (s.dropWhile isSpaceC).reverse)).length_le
  have h2 := (List.dropWhile_suffix isSpaceC (l := s)).length_le
  rw [List.length_reverse] at h1
  omega

theorem mem_strip (s : Bytes) : ∀ x ∈ stripBlanks s, x ∈ s := by
  intro x hx
  unfold stripBlanks at hx
  rw [List.mem_reverse] at hx
  have := (List.dropWhile_sublist _).subset hx
  rw [List.mem_reverse] at this
  exact (List.dropWhile_sublist _).subset this

theorem nulFree_strip (s : Bytes) (h : nulFree s = true) : nulFree (stripBlanks s) = true := by
  simp only [nulFree, List.all_eq_true] at h ⊢
  intro x hx
  exact h x (mem_strip s x hx)

theorem cstrOf_cons (b : UInt8) (r : Bytes) : cstrOf (b :: r) = if b == 0 then [] else b :: cstrOf r := by
  unfold cstrOf
  simp only [cstrLen]
  split <;> rfl

theorem cstrOf_append (x y : Bytes) : cstrOf (x ++ y) = if nulFree x then x ++ cstrOf y else cstrOf x := by
  induction x with
  | nil => rfl
  | cons b r ih =>
    have hc : nulFree (b :: r) = ((b != 0) && nulFree r) := rfl
    rw [List.cons_append, cstrOf_cons, cstrOf_cons, ih, hc]
    cases hb : (b == 0) <;> cases hr : nulFree r <;> simp [bne, hb]

end Wbxml.Lemmas

namespace Wbxml.Lemmas.ParseSer
open Wbxml Wbxml.Model

theorem cstrLen_lt_of_mem (l : Bytes) (h : (0 : UInt8) ∈ l) : cstrLen l < l.length := by
  -- were `strlen` the whole length, `takeWhile (· != 0)` would be all of `l`, the NUL included
  refine Nat.lt_of_le_of_ne (ParserSafe.cstrLen_le l) fun he => ?_
  have hall := List.all_takeWhile (l := l) (p := (· != 0))
  rw [← cstrLen_take, he, List.take_length, List.all_eq_true] at hall
  simpa using hall 0 h

end Wbxml.Lemmas.ParseSer

namespace Wbxml.Lemmas.Rt
open Wbxml Wbxml.Model Wbxml.Spec

theorem cstrOf_idem (s : Bytes) : cstrOf (cstrOf s) = cstrOf s := cstrOf_of_nulFree _ (nulFree_cstrOf s)

theorem cstrOf_append_nul (v : Bytes) (h : nulFree v = true) : cstrOf (v ++ [0]) = v := by
  rw [cstrOf, cstrLen_take, takeWhile_nulFree v h []]

end Wbxml.Lemmas.Rt
