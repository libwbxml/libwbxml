/-
  The Wireless-Village date-time codec (C12): the typed model (`Model/Typed/WvDate.lean`), the parser's copy
  (`Model.decodeWvDatetime` with the C bit operators and its own `%02u` / `%04u`), their agreement, and the laws.
-/
import Wbxml.Model.Typed.WvDate
import Wbxml.Model.Parser
import Wbxml.Lemmas.TypedWvInt
import Wbxml.Lemmas.TypedDatetime
import Wbxml.Lemmas.CodecBits
namespace Wbxml.Lemmas.Typed
open Wbxml Wbxml.Model.Typed Wbxml.Spec.Calendar
open Wbxml.Lemmas.Codec (toNat_ofNat_lt)

theorem padNat_one (n : Nat) (h : n < 10) : padNat 1 n = [dig n] := by
  rw [padNat, decNat_lt h]; rfl

/-- `%0<w+1>u` prints the last digit after `%0<w>u` of the rest. -/
theorem padNat_succ (w n : Nat) (hw : 1 ≤ w) : padNat (w + 1) n = padNat w (n / 10) ++ [dig n] := by
  by_cases h : n < 10
  · obtain ⟨v, rfl⟩ : ∃ v, w = v + 1 := ⟨w - 1, by omega⟩
    have h0 : n / 10 = 0 := by omega
    simp only [padNat, decNat_lt h, h0, decNat_lt (show 0 < 10 by decide), List.length_singleton,
      Nat.add_sub_cancel, List.replicate_succ', List.append_assoc]
    rfl
  · simp only [padNat, decNat_ge (Nat.le_of_not_lt h), List.length_append, List.length_singleton,
      Nat.add_sub_add_right, List.append_assoc]
    rfl

theorem padNat2 (v : Nat) (h : v < 100) : padNat 2 v = d2 v := by
  rw [padNat_succ 1 v (by decide), padNat_one _ (by omega)]; rfl

theorem padNat4 (y : Nat) (h : y < 10000) : padNat 4 y = d4 y := by
  rw [padNat_succ 3 y (by decide), padNat_succ 2 _ (by decide), padNat_succ 1 _ (by decide), padNat_one _ (by omega)]
  simp only [Nat.div_div_eq_div_mul]
  rfl

/-- Within the field widths the masks and `WB_UTINY` truncations of the encoder are idle: every `%` is of a
    value below its modulus. The third octet is left as the C code builds it (`<<= 1`, then `+=`). -/
theorem wvOctets_eq (y mo d h mi s : Nat)
    (hy : y ≤ 4095) (hmo : mo ≤ 15) (hd : d ≤ 31) (hh : h ≤ 31) (hmi : mi ≤ 63) (hs : s ≤ 63) :
    wvOctets y mo d h mi s =
      [y / 64, y % 64 * 4 + mo / 4, (mo % 4 * 32 + d) * 2 + h / 16, h % 16 * 16 + mi / 4, mi % 4 * 64 + s] := by
  simp (disch := omega) only [wvOctets, Nat.mod_eq_of_lt]

/-- Each octet is `a * k + b` with `b < k` where the decoder cuts it: the quotient is the field above, the remainder
    the field below; the month is cut out of the third octet at 64. -/
theorem wvFields_packed (y mo d h mi s : Nat)
    (hy : y ≤ 4095) (hmo : mo ≤ 15) (hd : d ≤ 31) (hh : h ≤ 31) (hmi : mi ≤ 63) (hs : s ≤ 63) :
    wvFields (y / 64) (y % 64 * 4 + mo / 4) ((mo % 4 * 32 + d) * 2 + h / 16) (h % 16 * 16 + mi / 4) (mi % 4 * 64 + s) =
      ⟨y, mo, d, h, mi, s⟩ := by
  have e : ((mo % 4 * 32 + d) * 2 + h / 16) / 64 = mo % 4 := by omega
  simp (disch := omega) only [wvFields, e, Codec.mul_add_div_of_lt, Nat.mul_add_mod_of_lt, Nat.mod_eq_of_lt,
    Nat.div_add_mod']

theorem decodeWvDate_wvPack (y mo d h mi s : Nat) (z : UInt8)
    (hy : y ≤ 4095) (hmo : mo ≤ 15) (hd : d ≤ 31) (hh : h ≤ 31) (hmi : mi ≤ 63) (hs : s ≤ 63) :
    decodeWvDate (wvPack y mo d h mi s z) = .ok (wvDateText ⟨y, mo, d, h, mi, s⟩ z) := by
  simp only [wvPack, wvOctets_eq y mo d h mi s hy hmo hd hh hmi hs, List.map, List.cons_append, List.nil_append,
    decodeWvDate]
  rw [toNat_ofNat_lt _ (by omega), toNat_ofNat_lt _ (by omega), toNat_ofNat_lt _ (by omega),
    toNat_ofNat_lt _ (by omega), toNat_ofNat_lt _ (by omega), wvFields_packed y mo d h mi s hy hmo hd hh hmi hs]

theorem dig_toNat_sub (n : Nat) : (dig n).toNat - 48 = n % 10 := by
  have : (dig n).toNat = 48 + n % 10 := digitChar_toNat n
  omega

theorem decVal_d2 (n : Nat) (h : n < 100) : decVal (d2 n) = n := by
  simp [decVal, d2, dig_toNat_sub]; omega

theorem decVal_d4 (y : Nat) (h : y < 10000) : decVal (d4 y) = y := by
  simp [decVal, d4, dig_toNat_sub]; omega

theorem zone_facts (z : UInt8) (hz : isZone z = true) :
    (z == 0x2D) = false ∧ (z == 0x2B) = false ∧ (z == 0x3A) = false ∧
    (z < 0x41 || z == 0x4A || z > 0x5A) = false ∧ z ≠ 0 := by
  have ne : ∀ c : UInt8, isZone c = false → z ≠ c := fun c hc e => by rw [e, hc] at hz; cases hz
  refine ⟨beq_eq_false_iff_ne.mpr (ne _ (by decide)), beq_eq_false_iff_ne.mpr (ne _ (by decide)),
    beq_eq_false_iff_ne.mpr (ne _ (by decide)), ?_, ne _ (by decide)⟩
  simp only [isZone, Bool.and_eq_true, decide_eq_true_eq, bne_iff_ne, ne_eq] at hz
  simp [hz.1.1, hz.1.2, hz.2, UInt8.not_lt]

theorem basic_eq (d : DateTime) (z : Option UInt8) :
    basic d z =
      [dig (d.year / 1000), dig (d.year / 100), dig (d.year / 10), dig d.year, dig (d.month / 10), dig d.month,
       dig (d.day / 10), dig d.day, 0x54, dig (d.hour / 10), dig d.hour, dig (d.minute / 10), dig d.minute,
       dig (d.second / 10), dig d.second] ++ z.toList := by
  simp [basic, d4, d2]

theorem ne_dig_tbl : ∀ k, k < 10 →
    ((0x2D : UInt8) == UInt8.ofNat (48 + k)) = false ∧ ((0x2B : UInt8) == UInt8.ofNat (48 + k)) = false ∧
    ((0x3A : UInt8) == UInt8.ofNat (48 + k)) = false ∧ (UInt8.ofNat (48 + k) == (0x5A : UInt8)) = false := by decide

theorem ne_dig (n : Nat) :
    ((0x2D : UInt8) == dig n) = false ∧ ((0x2B : UInt8) == dig n) = false ∧ ((0x3A : UInt8) == dig n) = false ∧
    (dig n == (0x5A : UInt8)) = false :=
  ne_dig_tbl (n % 10) (Nat.mod_lt _ (by decide))

theorem dig_ne (n : Nat) : (dig n == 0x2D) = false ∧ (dig n == 0x2B) = false ∧ (dig n == 0x3A) = false :=
  let ⟨a, b, c, _⟩ := ne_dig n
  ⟨(Bool.beq_comm ..).trans a, (Bool.beq_comm ..).trans b, (Bool.beq_comm ..).trans c⟩

theorem wvUseInline_basic (d : DateTime) (z : Option UInt8) (hz : ∀ x ∈ z, isZone x = true ∧ x ≠ 0x5A) :
    wvUseInline (basic d z) = false := by
  rw [basic_eq]
  cases z with
  | none =>
    simp only [wvUseInline, Option.toList, List.append_nil, List.contains_cons, List.contains_nil, ne_dig,
      List.getLast?_cons_cons, List.getLast?_singleton, Option.some_beq_some]
    decide
  | some x =>
    obtain ⟨z1, z2, z3, _, _⟩ := zone_facts x (hz x rfl).1
    simp only [wvUseInline, Option.toList, List.cons_append, List.nil_append, List.contains_cons, List.contains_nil,
      ne_dig, List.getLast?_cons_cons, List.getLast?_singleton, Option.some_beq_some, Bool.beq_comm (b := x), z1, z2,
      z3, beq_eq_false_iff_ne.mpr (hz x rfl).2]
    decide

theorem encodeWvDate_basic_opt (d : DateTime) (h : d.Valid) (z : Option UInt8)
    (hz : ∀ x ∈ z, isZone x = true ∧ x ≠ 0x5A) :
    encodeWvDate (basic d z) =
      .ok (if d.year > 4095 then .inline (basic d z)
           else .opaque (wvPack d.year d.month d.day d.hour d.minute d.second (z.getD 0))) := by
  obtain ⟨hy, hmo, hd2, hh, hm, hs⟩ := valid_widths h
  have y4 := decVal_d4 d.year (by omega)
  have m2 := decVal_d2 d.month (by omega)
  have dd2 := decVal_d2 d.day (by omega)
  have h2 := decVal_d2 d.hour (by omega)
  have mi2 := decVal_d2 d.minute (by omega)
  have s2 := decVal_d2 d.second (by omega)
  simp only [d4, d2] at y4 m2 dd2 h2 mi2 s2
  unfold encodeWvDate
  rw [wvUseInline_basic d z hz, basic_eq]
  cases z with
  | none =>
    simp [wvDateOpaque, isDigit_dig, List.eraseIdx, y4, m2, dd2, h2, mi2, s2]
    split <;> rfl
  | some x =>
    obtain ⟨_, _, _, zt, _⟩ := zone_facts x (hz x rfl).1
    simp [wvDateOpaque, zt, isDigit_dig, List.eraseIdx, y4, m2, dd2, h2, mi2, s2]
    split <;> rfl

theorem encodeWvDate_basic (d : DateTime) (h : d.Valid) (z : UInt8) (hz : isZone z = true) (hZ : z ≠ 0x5A) :
    encodeWvDate (basic d (some z)) =
      .ok (if d.year > 4095 then .inline (basic d (some z))
           else .opaque (wvPack d.year d.month d.day d.hour d.minute d.second z)) :=
  encodeWvDate_basic_opt d h (some z) (fun x hx => by cases hx; exact ⟨hz, hZ⟩)

theorem encodeWvDate_basic_utc (d : DateTime) :
    encodeWvDate (basic d (some 0x5A)) = .ok (.inline (basic d (some 0x5A))) := by
  unfold encodeWvDate
  rw [basic_eq]
  simp [wvUseInline]

theorem wvZoneText_zone (z : UInt8) (hz : isZone z = true) : wvZoneText z = [z] := by
  obtain ⟨_, _, _, zt, z0⟩ := zone_facts z hz
  have : (z < 0x41 || z > 0x5A || z == 0x4A) = false := by
    simp only [Bool.or_eq_false_iff] at zt ⊢
    exact ⟨⟨zt.1.1, zt.2⟩, zt.1.2⟩
  simp [wvZoneText, z0, this]

/-- The six-octet form of a valid date-time whose year the 12-bit field can carry is printed as the short
    basic form followed by the zone text. -/
theorem decodeWvDate_pack (d : DateTime) (h : d.Valid) (hy : d.year ≤ 4095) (z : UInt8) :
    decodeWvDate (wvPack d.year d.month d.day d.hour d.minute d.second z) =
      .ok (basicShort d none ++ wvZoneText z) := by
  obtain ⟨_, hmo, hd, hh, hmi, hs⟩ := valid_widths h
  rw [decodeWvDate_wvPack _ _ _ _ _ _ z hy hmo hd hh hmi hs]
  simp only [wvDateText, basicShort, Option.toList, List.append_nil]
  rw [padNat4 d.year (by omega), padNat2 d.month (by omega), padNat2 d.day (by omega), padNat2 d.hour (by omega),
    padNat2 d.minute (by omega)]
  by_cases s0 : d.second = 0
  · simp [s0]
  · simp [s0, padNat2 d.second (by omega)]

theorem digVal_dig_tbl : ∀ k, k < 10 → digVal (UInt8.ofNat (48 + k)) = some k := by decide

theorem digVal_dig (n : Nat) : digVal (dig n) = some (n % 10) :=
  digVal_dig_tbl (n % 10) (Nat.mod_lt _ (by decide))

theorem num2_d2 (n : Nat) (h : n < 100) : num2 (dig (n / 10)) (dig n) = some n := by
  simp only [num2, digVal_dig, Option.bind_eq_bind, Option.bind_some, Option.pure_def, Option.some.injEq]; omega

theorem readBasic_basic (d : DateTime) (h : d.Valid) (z : UInt8) (hz : isZone z = true) :
    readBasic (basic d (some z)) = some (d, some z) := by
  obtain ⟨hy, hmo, hd2, hh, hm, hs⟩ := valid_widths h
  rw [basic, d4_eq]
  simp only [d2, List.cons_append, List.nil_append, Option.toList, readBasic, hz, ↓reduceIte,
    num2_d2 (d.year / 100) (by omega), num2_d2 (d.year % 100) (by omega), num2_d2 d.month (by omega),
    num2_d2 d.day (by omega), num2_d2 d.hour (by omega), num2_d2 d.minute (by omega), num2_d2 d.second (by omega),
    Option.bind_eq_bind, Option.bind_some, Nat.div_add_mod]

theorem readBasic_basicShort (d : DateTime) (h : d.Valid) (z : UInt8) (hz : isZone z = true) :
    readBasic (basicShort d (some z)) = some (d, some z) := by
  by_cases s0 : d.second = 0
  · obtain ⟨hy, hmo, hd2, hh, hm, hs⟩ := valid_widths h
    rw [basicShort, d4_eq]
    simp only [s0, d2, List.cons_append, List.nil_append, List.append_nil, Option.toList, readBasic, hz, ↓reduceIte,
      num2_d2 (d.year / 100) (by omega), num2_d2 (d.year % 100) (by omega), num2_d2 d.month (by omega),
      num2_d2 d.day (by omega), num2_d2 d.hour (by omega), num2_d2 d.minute (by omega),
      Option.bind_eq_bind, Option.bind_some, Nat.div_add_mod]
    rw [← s0]
  · have : basicShort d (some z) = basic d (some z) := by simp [basicShort, basic, s0]
    rw [this]; exact readBasic_basic d h z hz

/-- C12 `wvdate_roundtrip`: the basic form with a zone letter is encoded, and what the parser delivers for the
    item reads as the same date-time and zone. -/
theorem wvDate_roundtrip (d : DateTime) (h : d.Valid) (z : UInt8) (hz : isZone z = true) :
    ∃ item text, encodeWvDate (basic d (some z)) = .ok item ∧ decodeWvDateItem item = .ok text ∧
      readBasic text = some (d, some z) := by
  by_cases hZ : z = 0x5A
  · subst hZ
    exact ⟨_, _, encodeWvDate_basic_utc d, rfl, readBasic_basic d h _ hz⟩
  · by_cases hy : d.year > 4095
    · refine ⟨.inline (basic d (some z)), basic d (some z), ?_, rfl, readBasic_basic d h z hz⟩
      rw [encodeWvDate_basic d h z hz hZ]; simp [hy]
    · refine ⟨.opaque (wvPack d.year d.month d.day d.hour d.minute d.second z), basicShort d (some z), ?_, ?_,
        readBasic_basicShort d h z hz⟩
      · rw [encodeWvDate_basic d h z hz hZ]; simp [hy]
      · rw [decodeWvDateItem, decodeWvDate_pack d h (by omega), wvZoneText_zone z hz]; simp [basicShort]

end Wbxml.Lemmas.Typed

namespace Wbxml.Lemmas.EncW
open Wbxml Wbxml.Model Wbxml.Model.Typed Wbxml.Spec.Calendar Wbxml.Lemmas.Typed

theorem pad2_eq (n : Nat) (h : n < 100) : pad2 n = padNat 2 n := by
  unfold pad2 padNat
  rw [natDigits_eq_decNat]
  by_cases h1 : n < 10
  · simp only [h1, ↓reduceIte, decNat_length 0 n h1 (.inl rfl)]; rfl
  · simp only [h1, ↓reduceIte, decNat_length 1 n h (.inr (by omega))]; rfl

theorem pad4_eq (n : Nat) (h : n < 10000) : pad4 n = padNat 4 n := by
  unfold pad4 padNat
  rw [natDigits_eq_decNat]
  by_cases h1 : n < 10
  · simp only [h1, ↓reduceIte, decNat_length 0 n h1 (.inl rfl)]; rfl
  by_cases h2 : n < 100
  · simp only [h1, h2, ↓reduceIte, decNat_length 1 n h2 (.inr (by omega))]; rfl
  by_cases h3 : n < 1000
  · simp only [h1, h2, h3, ↓reduceIte, decNat_length 2 n h3 (.inr (by omega))]; rfl
  · simp only [h1, h2, h3, ↓reduceIte, decNat_length 3 n h (.inr (by omega))]; rfl

/-- The masks and shifts of `decode_wv_datetime` are the quotients and remainders of `wvFields`. -/
theorem wvFields_bits (b0 b1 b2 b3 b4 : Nat) :
    wvFields b0 b1 b2 b3 b4 =
      ⟨((b0 &&& 0x3F) <<< 6) + ((b1 >>> 2) &&& 0x3F), ((b1 &&& 0x03) <<< 2) ||| ((b2 >>> 6) &&& 0x03),
       (b2 >>> 1) &&& 0x1F, ((b2 &&& 0x01) <<< 4) ||| ((b3 >>> 4) &&& 0x0F),
       ((b3 &&& 0x0F) <<< 2) ||| ((b4 >>> 6) &&& 0x03), b4 &&& 0x3F⟩ := by
  simp (disch := omega) only [bit_arith]
  rfl

theorem wvFields_lt (b0 b1 b2 b3 b4 : Nat) :
    (wvFields b0 b1 b2 b3 b4).year < 4096 ∧ (wvFields b0 b1 b2 b3 b4).month < 16 ∧
    (wvFields b0 b1 b2 b3 b4).day < 32 ∧ (wvFields b0 b1 b2 b3 b4).hour < 32 ∧
    (wvFields b0 b1 b2 b3 b4).minute < 64 ∧ (wvFields b0 b1 b2 b3 b4).second < 64 := by
  simp only [wvFields]; omega

/-- `decode_wv_datetime` prints the zone after the fields exactly as `wvZoneText` says. -/
theorem wvZone_eq (core : Bytes) (b5 : UInt8) :
    (if b5 == 0 then Except.ok (ε := Err) (core ++ [90])
      else if b5.toNat < 65 || b5.toNat > 90 || b5 == 74 then .ok core else .ok (core ++ [b5])) =
    .ok (core ++ wvZoneText b5) := by
  have hc : (decide (b5.toNat < 65) || decide (b5.toNat > 90) || b5 == 74) =
      (decide (b5 < 0x41) || decide (b5 > 0x5A) || b5 == 0x4A) := by
    simp only [UInt8.lt_iff_toNat_lt, gt_iff_lt]; rfl
  rw [hc, wvZoneText]
  by_cases hz : b5 = 0
  · simp only [hz, beq_self_eq_true, ↓reduceIte]
  · simp only [hz, beq_iff_eq, ↓reduceIte]
    split <;> simp only [List.append_nil]

theorem decodeWvDatetime_eq_typed (p : Bytes) : decodeWvDatetime p = Typed.decodeWvDate p := by
  unfold decodeWvDatetime Typed.decodeWvDate
  split
  · rename_i b0 b1 b2 b3 b4 b5
    obtain ⟨hy, hmo, hd, hh, hmi, hs⟩ := wvFields_lt b0.toNat b1.toNat b2.toNat b3.toNat b4.toNat
    simp only [wvZone_eq, wvDateText]
    rw [wvFields_bits] at hy hmo hd hh hmi hs ⊢
    simp only at hy hmo hd hh hmi hs ⊢
    rw [pad4_eq _ (by omega), pad2_eq _ (by omega), pad2_eq _ (by omega), pad2_eq _ (by omega), pad2_eq _ (by omega)]
    by_cases hs0 : b4.toNat &&& 63 = 0
    · simp only [hs0, bne_self_eq_false, ne_eq, not_true_eq_false, ↓reduceIte, Bool.false_eq_true]
    · rw [pad2_eq _ (by omega)]
      simp only [hs0, bne_iff_ne, ne_eq, not_false_eq_true, ↓reduceIte]
  · rename_i hne
    split
    · rename_i b0 b1 b2 b3 b4 b5
      exact absurd rfl (hne b0 b1 b2 b3 b4 b5)
    · rfl

theorem decodeWvDatetime_len6 (d : Bytes) (h : d.length = 6) : ∃ b, decodeWvDatetime d = .ok b := by
  rw [decodeWvDatetime_eq_typed]
  match d, h with
  | [_, _, _, _, _, _], _ => exact ⟨_, rfl⟩

end Wbxml.Lemmas.EncW
