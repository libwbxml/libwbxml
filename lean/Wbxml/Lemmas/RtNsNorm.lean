/-
  Round trip (C03), second trip, namespace languages: the tree read back (`readX`: the same element rows,
  character data as printed, empty text dropped) has the same exact normal form under re-encoding
  (`xNode_readX`, `xKids_readX`) and is again a good tree (`goodX_readX`).
-/
import Wbxml.Lemmas.RtNs
import Wbxml.Lemmas.RtTyped
namespace Wbxml.Lemmas.Rt
open Wbxml Wbxml.Model Wbxml.Spec Wbxml.Lemmas.EncW Wbxml.Lemmas.X2W Wbxml.Lemmas.XmlNs Wbxml.Model.Flow

theorem vText_nil (c : WCfg) (parent : Option Name) (cur : Option TagRow) : vText c parent cur [] = [] := by
  unfold vText
  split
  · rfl
  · have : textSilent c [] = true := by simp [textSilent, textArg, stripBlanks, cstrOf, cstrLen]
    simp only [this, Bool.not_true, Bool.and_false, Bool.false_eq_true, ↓reduceIte]
    exact normText_nil c

/-- Ordinary character data: what the printer leaves of it has the same typed normal form. -/
theorem vText_printed (c : WCfg) (xc : XCfg) (hf : flagsOk xc c = true) (hk : (c.lang.id == 1801) = false)
    (parent : Option Name) (cur : Option TagRow) (hb : isBinaryTag cur = false) (s : Bytes) :
    vText c parent cur (printedText xc s) = vText c parent cur s := by
  have hv : ∀ t, vText c parent cur t = normText c t := by
    intro t; simp only [vText, hb, plain_kvPar c.lang hk, Bool.false_and, Bool.false_eq_true, if_false]
  rw [hv, hv, normText_printed xc c hf]

/-- The list without its empty text nodes: what the XML-side builder keeps of children read one by one, since an
    empty printed text is not reported. -/
def dropE : List Node → List Node
  | [] => []
  | .text [] :: r => dropE r
  | .text (b :: t) :: r => .text (b :: t) :: dropE r
  | .elt n a k :: r => .elt n a k :: dropE r
  | .cdata k :: r => .cdata k :: dropE r
  | .tree l cs rt :: r => .tree l cs rt :: dropE r

/-- Only a text node looks at `current_tag`: a list that does not start with one is walked alike from any. -/
theorem xKids_cur (c : WCfg) (parent : Option Name) (cur cur' : Option TagRow) (tp : Nat) (L : List Node)
    (h : headText L = false) : (∀ acc, xKids c parent cur tp L acc = xKids c parent cur' tp L acc) ∧
      (vNodes c parent cur tp L).2 = (vNodes c parent cur' tp L).2 := by
  cases L with
  | nil => exact ⟨fun _ => by rw [xKids_nil, xKids_nil], by rw [vNodes_nil_2, vNodes_nil_2]⟩
  | cons k r =>
    obtain ⟨h1, h2⟩ := xNode_cur c parent cur cur' tp k h
    exact ⟨fun _ => by rw [xKids_cons, xKids_cons, h1, h2], by rw [vNodes_cons_2, vNodes_cons_2, h2]⟩

theorem headText_dropE (r : List Node) (hr : headText r = false) : headText (dropE r) = false := by
  cases r with
  | nil => rfl
  | cons x xs =>
    have hx : isText x = false := hr
    cases x with
    | text t => cases hx
    | _ => rfl

/-- Empty text nodes are invisible to `xKids` and to the page threading as long as no two text nodes are adjacent. -/
theorem xKids_dropE (c : WCfg) (parent : Option Name) : ∀ (L : List Node) (cur : Option TagRow) (tp : Nat),
    noAdj L = true → (∀ acc, xKids c parent cur tp (dropE L) acc = xKids c parent cur tp L acc) ∧
      (vNodes c parent cur tp (dropE L)).2 = (vNodes c parent cur tp L).2
  | [], cur, tp, _ => ⟨fun _ => rfl, rfl⟩
  | k :: r, cur, tp, h => by
    rw [noAdj] at h
    simp only [Bool.and_eq_true, Bool.not_eq_true'] at h
    have ih := fun cur tp => xKids_dropE c parent r cur tp h.2
    cases k with
    | text s =>
      have hr : headText r = false := by simpa [isText] using h.1
      cases s with
      | nil =>
        obtain ⟨h1, h2⟩ := xKids_cur c parent cur none tp _ (headText_dropE r hr)
        exact ⟨fun acc => by
            rw [dropE, xKids_cons, xNode_text, vText_nil, addN_text, addChars_nil, vNode_text_2, ← (ih none tp).1, h1],
          by rw [dropE, vNodes_cons_2, vNode_text_2, ← (ih none tp).2, h2]⟩
      | cons b t =>
        exact ⟨fun acc => by rw [dropE, xKids_cons, xKids_cons, (ih none _).1],
          by rw [dropE, vNodes_cons_2, vNodes_cons_2, (ih none _).2]⟩
    | _ =>
      exact ⟨fun acc => by rw [dropE, xKids_cons, xKids_cons, (ih none _).1],
        by rw [dropE, vNodes_cons_2, vNodes_cons_2, (ih none _).2]⟩

theorem isText_readX (xc : XCfg) (n : Node) : isText (readX xc n) = isText n := by
  cases n with
  | elt nm a k => rw [readX_elt]; rfl
  | text s => rw [readX_text]; rfl
  | _ => rw [readX]

theorem headText_map_readX (xc : XCfg) (L : List Node) : headText (L.map (readX xc)) = headText L := by
  cases L with
  | nil => rfl
  | cons k r => exact isText_readX xc k

theorem noAdj_map_readX (xc : XCfg) : ∀ (L : List Node), noAdj (L.map (readX xc)) = noAdj L
  | [] => rfl
  | k :: r => by
    rw [List.map_cons, noAdj, noAdj, isText_readX, headText_map_readX, noAdj_map_readX xc r]

/-- The children the XML-side builder collects: the children read one by one, empty printed text
    dropped (nothing is merged: no two text nodes are adjacent). -/
theorem readXKids_eq (xc : XCfg) : ∀ (ks A : List Node), noAdj ks = true → (lastText A = true → headText ks = false) →
    readXKids xc ks A = A ++ dropE (ks.map (readX xc))
  | [], A, _, _ => by rw [readXKids_nil]; simp [dropE]
  | k :: r, A, h, hA => by
    rw [noAdj] at h
    simp only [Bool.and_eq_true, Bool.not_eq_true'] at h
    rw [readXKids_cons, List.map_cons]
    cases k with
    | text s =>
      have hr : headText r = false := by simpa [isText] using h.1
      have hl : lastText A = false := lastText_before_text rfl hA
      rw [readX_text, addN_text]
      cases hp : printedText xc s with
      | nil => rw [addChars_nil, dropE, readXKids_eq xc r A h.2 (fun _ => hr)]
      | cons b t =>
        rw [addChars_cons, addKid_text_after _ _ hl, dropE,
          readXKids_eq xc r _ h.2 (fun _ => hr), List.append_assoc]
        rfl
    | _ =>
      simp only [readX, addN]
      rw [addKid_not_text A _ rfl, dropE,
        readXKids_eq xc r _ h.2 (fun hh => by rw [lastText_snoc] at hh; cases hh), List.append_assoc]
      rfl

theorem tokOk_notBinary (lang : Lang) (d : TagRow) (h : tokOk lang d = true) : isBinaryTag (some d) = false := by
  obtain ⟨_, _, _, _, _, _, _, _, _, _, _, hb⟩ := tokOk_spec lang d h
  exact hb

mutual
/-- **Re-encoding what was read back**: for a tree in normal form whose elements are resolved token
    elements (`nsReadable`), the exact typed normal form of the tree read back is the one of the
    tree itself. -/
theorem xNode_readX (c : WCfg) (xc : XCfg) (lang : Lang) (hf : flagsOk xc c = true) (hk : (c.lang.id == 1801) = false) :
    ∀ (n : Node) (parent : Option Name) (cur : Option TagRow) (tp : Nat), nsReadable lang n = true → nfNode n = true →
      isBinaryTag cur = false →
      xNode c parent cur tp (readX xc n) = xNode c parent cur tp n ∧
        (vNode c parent cur tp (readX xc n)).2 = (vNode c parent cur tp n).2
  | .elt name attrs kids, parent, cur, tp, hre, hnf, _ => by
    unfold nsReadable at hre
    simp only [Bool.and_eq_true] at hre
    obtain ⟨⟨hname, _⟩, hkids⟩ := hre
    rw [nfNode] at hnf
    cases name with
    | literal s => cases hname
    | token d =>
      have hb : isBinaryTag (foundAt c.lang tp (.token d)) = false := tokOk_notBinary lang d hname
      have hK := xKids_readX c xc lang hf hk kids (some (.token d)) (foundAt c.lang tp (.token d))
        (pageAfter (foundAt c.lang tp (.token d)) tp) hkids hnf hb
      rw [readX_elt, xNode_elt, xNode_elt, vNode_elt_2, vNode_elt_2,
        readXKids_eq xc kids [] (noAdj_of_nfKids kids hnf) (fun h => by cases h), List.nil_append,
        (xKids_dropE c _ _ _ _ (by rw [noAdj_map_readX]; exact noAdj_of_nfKids kids hnf)).1, hK.1 []]
      refine ⟨rfl, ?_⟩
      rw [(xKids_dropE c _ _ _ _ (by rw [noAdj_map_readX]; exact noAdj_of_nfKids kids hnf)).2]
      exact hK.2
  | .text s, parent, cur, tp, _, _, hb => by
    rw [readX_text, xNode_text, xNode_text, vNode_text_2, vNode_text_2, vText_printed c xc hf hk parent cur hb]
    exact ⟨rfl, rfl⟩
  | .cdata k, _, _, _, hre, _, _ => by rw [nsReadable] at hre; cases hre
  | .tree l cs r, _, _, _, hre, _, _ => by rw [nsReadable] at hre; cases hre
theorem xKids_readX (c : WCfg) (xc : XCfg) (lang : Lang) (hf : flagsOk xc c = true) (hk : (c.lang.id == 1801) = false) :
    ∀ (ks : List Node) (parent : Option Name) (cur : Option TagRow) (tp : Nat), nsReadableL lang ks = true →
      nfKids ks = true → isBinaryTag cur = false →
      (∀ acc, xKids c parent cur tp (ks.map (readX xc)) acc = xKids c parent cur tp ks acc) ∧
        (vNodes c parent cur tp (ks.map (readX xc))).2 = (vNodes c parent cur tp ks).2
  | [], parent, cur, tp, _, _, _ => ⟨fun _ => rfl, rfl⟩
  | k :: r, parent, cur, tp, hre, hnf, hb => by
    rw [nsReadableL, Bool.and_eq_true] at hre
    rw [nfKids_cons] at hnf
    simp only [Bool.and_eq_true] at hnf
    obtain ⟨h1, h2⟩ := xNode_readX c xc lang hf hk k parent cur tp hre.1 hnf.1.1 hb
    obtain ⟨h3, h4⟩ := xKids_readX c xc lang hf hk r parent none (vNode c parent cur tp k).2 hre.2 hnf.2 rfl
    refine ⟨fun acc => ?_, ?_⟩
    · rw [List.map_cons, xKids_cons, xKids_cons, h1, h2, h3]
    · rw [List.map_cons, vNodes_cons_2, vNodes_cons_2, h2, h4]
end

theorem keyValueTextFirstL_of (c : WCfg) (parent : Option Name) : ∀ (L : List Node) (pre : Bool),
    (∀ k ∈ L, ∀ pre', keyValueTextFirst c parent pre' k = true) → keyValueTextFirstL c parent pre L = true
  | [], _, _ => by rw [keyValueTextFirstL]
  | k :: r, pre, h => by
    rw [keyValueTextFirstL, Bool.and_eq_true]
    exact ⟨h k (by simp) pre, keyValueTextFirstL_of c parent r _ (fun x hx => h x (List.mem_cons_of_mem _ hx))⟩

/-- What the first-trip theorem asks of a source tree, position-free. -/
structure GoodX (lang : Lang) (c : WCfg) (k : Node) : Prop where
  over : nodeOver lang k = true
  plain : plainNode k = true
  cd : ∀ ty, noCdataInTyped lang ty k = true
  dt : validDatetimeAttrs lang k = true
  b64 : ∀ parent, b64TextDecodes c parent k = true
  kv : ∀ parent pre, keyValueTextFirst c parent pre k = true

theorem goodX_text (lang : Lang) (c : WCfg) (hl : c.lang = lang) (hk : (lang.id == 1801) = false) (s : Bytes) :
    GoodX lang c (.text s) := by
  have hkv : ∀ parent, kvPar c.lang parent = false := fun parent => plain_kvPar c.lang (by rw [hl]; exact hk) parent
  refine ⟨by rw [nodeOver], by rw [plainNode], fun _ => by rw [noCdataInTyped], by rw [validDatetimeAttrs], ?_, ?_⟩
  · intro parent; rw [b64TextDecodes, hkv]; rfl
  · intro parent pre; rw [keyValueTextFirst, hkv]; rfl

mutual
theorem goodX_readX (lang : Lang) (c : WCfg) (xc : XCfg) (hl : c.lang = lang) (hk : (lang.id == 1801) = false) :
    ∀ (n : Node), nsReadable lang n = true → GoodX lang c (readX xc n)
  | .elt name attrs kids, hre => by
    unfold nsReadable at hre
    simp only [Bool.and_eq_true] at hre
    obtain ⟨⟨hname, hattrs⟩, hkids⟩ := hre
    have hattrs' : attrs = [] := List.isEmpty_iff.mp hattrs
    subst hattrs'
    have hK := goodX_readXKids lang c xc hl hk kids [] hkids (fun _ h => by cases h)
    rw [readX_elt]
    cases name with
    | literal s => cases hname
    | token d =>
      obtain ⟨ns, tags, u, _, ht, _, _, _, _, hfind, _, _⟩ := tokOk_spec lang d hname
      refine ⟨?_, ?_, ?_, ?_, ?_, ?_⟩
      · rw [nodeOver, Bool.and_eq_true, Bool.and_eq_true]
        refine ⟨⟨?_, rfl⟩, (nodesOver_iff lang _).mpr (fun k hk' => (hK k hk').over)⟩
        simp only [nameOver, ht, List.contains_iff_mem]
        exact (encTag_spec _ _ _ _ hfind).1
      · rw [plainNode]; exact (plainNodes_iff _).mpr (fun k hk' => (hK k hk').plain)
      · intro ty; rw [noCdataInTyped]; exact (noCdataInTypedL_iff _ _ _).mpr (fun k hk' => (hK k hk').cd _)
      · rw [validDatetimeAttrs, Bool.and_eq_true]
        exact ⟨rfl, (validDatetimeAttrsL_iff _ _).mpr (fun k hk' => (hK k hk').dt)⟩
      · intro parent; rw [b64TextDecodes, Bool.and_eq_true]
        exact ⟨rfl, (b64TextDecodesL_iff _ _ _).mpr (fun k hk' => (hK k hk').b64 _)⟩
      · intro parent pre; rw [keyValueTextFirst]
        exact keyValueTextFirstL_of c _ _ _ (fun k hk' pre' => (hK k hk').kv _ pre')
  | .text s, _ => by rw [readX_text]; exact goodX_text lang c hl hk _
  | .cdata k, hre => by rw [nsReadable] at hre; cases hre
  | .tree l cs r, hre => by rw [nsReadable] at hre; cases hre
theorem goodX_readXKids (lang : Lang) (c : WCfg) (xc : XCfg) (hl : c.lang = lang) (hk : (lang.id == 1801) = false) :
    ∀ (ks acc : List Node), nsReadableL lang ks = true → (∀ k ∈ acc, GoodX lang c k) →
      ∀ k ∈ readXKids xc ks acc, GoodX lang c k
  | [], acc, _, h => by rw [readXKids_nil]; exact h
  | k :: rest, acc, hre, h => by
    rw [nsReadableL, Bool.and_eq_true] at hre
    rw [readXKids_cons]
    exact goodX_readXKids lang c xc hl hk rest _ hre.2
      (addN_all acc _ (goodX_text lang c hl hk) h (goodX_readX lang c xc hl hk k hre.1))
end

theorem isElt_readX (xc : XCfg) (n : Node) (h : isElt n = true) : isElt (readX xc n) = true := by
  cases n with
  | elt nm a k => rw [readX_elt]; rfl
  | _ => cases h

end Wbxml.Lemmas.Rt
