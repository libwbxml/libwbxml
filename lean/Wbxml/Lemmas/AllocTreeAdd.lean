/-
  C16 — tree building on the ledger: `wbxml_tree_add_elt`, `wbxml_tree_node_add_attrs`,
  `wbxml_tree_extract_node`, `wbxml_tree_add_elt_with_attrs`, `wbxml_tree_add_cdata`,
  `wbxml_tree_add_text`.
-/
import Wbxml.Lemmas.AllocTreeNode
namespace Wbxml.Model.Alloc
open Wbxml

abbrev AttrsSpec (R : List Nat) (n : ANode) (p : Prog (ANode × Nat)) : Prop :=
  Spec R n.owned p (fun r => r.1.owned) (fun r => r.1.hdr = n.hdr ∧ r.1.content = n.content ∧ r.1.name = n.name)
    (fun r => r.2 ≠ OK)

theorem nodeAddAttrs_tri (R : List Nat) (attrs : List AAttr) (n : ANode) (hat : ∀ a ∈ attrs, ∀ i ∈ a.owned, i ∈ R) :
    AttrsSpec R n (nodeAddAttrs n attrs) := by
  induction attrs generalizing n with
  | nil => exact .ret (.refl _) ⟨rfl, rfl, rfl, rfl⟩ nofun
  | cons a rest ih =>
    unfold nodeAddAttrs
    refine (nodeAddAttr_tri R n a fun i hi => .inl (hat a List.mem_cons_self i hi)).step
      (.refl _) (fun _ => id) fun ⟨n1, ret⟩ ⟨eh, ec, en⟩ => ?_
    refine .if_ne_ok (fun _ => .ret (.refl _) ⟨rfl, eh, ec, en⟩ fun _ => ENOMEM_ne_OK) (fun hret => ?_)
    exact (ih n1 fun x hx => hat x (List.mem_cons_of_mem _ hx)).mono
      (fun h => h.elim id fun h => ENOMEM_ne_OK (h.symm.trans hret))
      (fun _ B ⟨e, h1, h2, h3⟩ => ⟨B, .refl _, e, h1.trans eh, h2.trans ec, h3.trans en⟩) fun _ _ _ => id

/-- `wbxml_tree_extract_node` on the node just added: only links are rewritten. -/
theorem extractHead_spec (c : TCtx) (f : Frame) (rest : List Frame) (hf : c.frames = f :: rest) (s : Ledger)
    (hl : ∀ i ∈ c.owned, i ∈ s.live) :
    Good (extractHead c) s (fun r s' => s' = s ∧ r = { c with frames := rest }) := by
  have hfm : f ∈ c.frames := by simp [hf]
  unfold extractHead
  rw [hf]
  refine Good.deref (hl _ (frame_mem_owned c hfm (by simp [Frame.owned, hdr_mem_owned]))) ?_
  cases rest with
  | nil => exact Good.deref (hl _ (tree_mem_owned c)) (good_ret.2 ⟨rfl, rfl⟩)
  | cons g rest' =>
    have hgm : g ∈ c.frames := by simp [hf]
    refine Good.deref (hl _ (frame_mem_owned c hgm (by simp [Frame.owned, hdr_mem_owned]))) ?_
    cases hp : g.kids.getLast? with
    | none => exact good_ret.2 ⟨rfl, rfl⟩
    | some last =>
      exact Good.deref (hl _ (frame_mem_owned c hgm (kid_hdr_mem g (List.mem_of_getLast? hp)))) (good_ret.2 ⟨rfl, rfl⟩)

/-- What every function that adds to the tree guarantees. -/
def TreeStep (c : TCtx) (s : Ledger) (r : TCtx × Bool) (s' : Ledger) : Prop :=
  r.1.tree = c.tree ∧ r.1.error = c.error ∧ r.1.ok ∧ Clean s s' c.owned r.1.owned ∧ (s.hits < s'.hits → r.2 = false)

theorem TreeStep.same {c : TCtx} {s : Ledger} (wf : s.WF) (hok : c.ok) (own : Owns s c.owned) : TreeStep c s (c, false) s :=
  ⟨rfl, rfl, hok, Clean.id wf own, fun h => absurd h (Nat.lt_irrefl _)⟩

/-- `TreeStep` as a specification; `R`: what the function reads besides the tree. -/
abbrev TreeSpec (R : List Nat) (c : TCtx) (p : Prog (TCtx × Bool)) : Prop :=
  Spec R c.owned p (fun r => r.1.owned) (fun r => r.1.tree = c.tree ∧ r.1.error = c.error ∧ r.1.ok) (fun r => r.2 = false)

theorem node_named_perm (n : ANode) (t : AName) (hn : n.name = none) :
    ({ n with name := some t } : ANode).owned.Perm (t.owned ++ n.owned) := by
  simp only [ANode.owned_eq, hn, ownedNameOpt, List.nil_append, List.append_assoc]
  exact List.perm_middle.symm

/-- A node that was made is linked into the tree as the new `current`, or destroyed again. -/
theorem addOpenOrDrop_tri {R O : List Nat} {F : Prop} (c : TCtx) (kind : NKind) (n : ANode) (hok : c.ok) (hn : nodeOk n)
    (hk : kind ≠ .text) (hO : O.Perm (c.owned ++ n.owned)) {X : TCtx × Bool → Prop}
    (hX : ∀ r, r.1.tree = c.tree ∧ r.1.error = c.error ∧ r.1.ok → (r.2 = true → r.1 = pushFrame c kind n) → X r) (hF : ¬ F) :
    Tri R O F (Prog.bind (addOpen c kind n) fun x =>
        if (!x.2) = true then Prog.bind (nodeDestroy (some n)) fun _ => Prog.ret (x.1, false) else Prog.ret (x.1, true))
      (fun r B => B = r.1.owned ∧ X r) (fun r => r.2 = false) := by
  refine .reads (fun s hl => addOpen_spec c kind n s fun i hi => hl i (.inl (hO.mem_iff.2 hi))) fun ⟨c3, ok⟩ hcase => ?_
  rcases hcase with ⟨rfl, rfl⟩ | ⟨rfl, rfl, hroot⟩
  · exact .release (nodeDestroy_frees (some n)) hO (.ret (.refl _) ⟨rfl, hX _ ⟨rfl, rfl, hok⟩ nofun⟩ fun _ => rfl)
  · exact .ret (hO.trans (pushFrame_perm c kind n).symm)
      ⟨rfl, hX _ ⟨rfl, rfl, pushFrame_ok c kind n hok hn hk hroot⟩ fun _ => rfl⟩ fun f => absurd f hF

theorem treeAddElt_tri (c : TCtx) (tag : AName) (hok : c.ok) :
    Spec tag.owned c.owned (treeAddElt c tag) (fun r => r.1.owned)
      (fun r => (r.1.tree = c.tree ∧ r.1.error = c.error ∧ r.1.ok) ∧
        (r.2 = true → ∃ n, r.1 = pushFrame c .elt n ∧ n.content = none)) (fun r => r.2 = false) := by
  unfold treeAddElt
  refine nodeCreate_tri.make nofun fun n hfields => ?_
  cases n with
  | none => exact .ret (.of_eq (List.append_nil _)) ⟨rfl, ⟨rfl, rfl, hok⟩, nofun⟩ fun _ => rfl
  | some n =>
    obtain ⟨fn, _, fc⟩ := hfields n rfl
    refine (nameDuplicate_tri (some tag)).make (fun _ => .inl) fun nm _ => ?_
    cases nm with
    | none =>
      exact .release (nodeDestroy_frees (some n)) (.of_eq (List.append_nil _)) (.ret (.refl _) ⟨rfl, ⟨rfl, rfl, hok⟩, nofun⟩ fun _ => rfl)
    | some nm =>
      exact addOpenOrDrop_tri c .elt { n with name := some nm } hok (fun b hb => nomatch fc.symm.trans hb) (by decide)
        ((List.append_assoc ..).symm ▸ (List.perm_append_comm.trans (node_named_perm n nm fn).symm).append_left _)
        (fun _ x h => ⟨x, fun ht => ⟨_, h ht, fc⟩⟩) (by simp)

theorem pushFrame_frames (c : TCtx) (kind : NKind) (n : ANode) : (pushFrame c kind n).frames = ⟨kind, n, []⟩ :: c.frames := rfl

/-! ### `wbxml_tree_add_elt_with_attrs` and `wbxml_tree_add_xml_elt_with_attrs`

  The two functions have one body: `treeAddEltWithAttrs` and `treeAddXmlEltWithAttrs` of the model unfold
  to `addWithAttrs …` by definition. -/

def addWithAttrs (add : Prog (TCtx × Bool)) (noAttrs : Bool) (attrs : ANode → Prog (ANode × Nat)) (what : String) :
    Prog (TCtx × Bool) := do
  let (c, ok) ← add
  if !ok then pure (c, false)
  else if noAttrs then pure (c, true)
  else match c.frames with
    | [] => ub what
    | f :: rest => do
      let (n, ret) ← attrs f.node
      let c := { c with frames := { f with node := n } :: rest }
      if ret != OK then do
        let c ← extractHead c
        nodeDestroy (some n)
        pure (c, false)
      else pure (c, true)

theorem addWithAttrs_tri {R : List Nat} {add : Prog (TCtx × Bool)} {noAttrs : Bool} {attrs : ANode → Prog (ANode × Nat)}
    {what : String} (c : TCtx) (hok : c.ok)
    (hadd : Spec R c.owned add (fun r => r.1.owned) (fun r => (r.1.tree = c.tree ∧ r.1.error = c.error ∧ r.1.ok) ∧
      (r.2 = true → ∃ n, r.1 = pushFrame c .elt n ∧ n.content = none)) (fun r => r.2 = false))
    (hattrs : ∀ n, AttrsSpec R n (attrs n)) : TreeSpec R c (addWithAttrs add noAttrs attrs what) := by
  unfold addWithAttrs
  refine hadd.step (.refl _) (fun _ => id) fun ⟨c1x, ok⟩ ⟨⟨et, ee, ok1⟩, hpush⟩ => ?_
  cases ok with
  | false => exact .ret (.refl _) ⟨rfl, et, ee, ok1⟩ fun _ => rfl
  | true =>
    obtain ⟨n, rfl, hcont⟩ := hpush rfl
    have hroot : c.frames = [] → c.root = none := fun _ => ok1.1 (List.cons_ne_nil _ _)
    simp only [Bool.not_true, Bool.false_eq_true, if_false]
    refine .ite (fun _ => ?_) fun _ => ?_
    · exact .ret (.refl _) ⟨rfl, et, ee, ok1⟩ (by simp)
    · refine (hattrs n).after c.owned (pushFrame_perm c .elt n) (fun _ => .inl) fun ⟨n2, ret⟩ ⟨_, ec2, _⟩ => ?_
      refine .if_ne_ok (fun hret => ?_) (fun hret => ?_)
      · -- the element is taken out again and destroyed: the context is the one before the call
        refine .reads (fun s hl => extractHead_spec (pushFrame c .elt n2) _ c.frames rfl s fun i hi =>
          hl i (.inl ((pushFrame_perm c .elt n2).mem_iff.1 hi))) fun c3 (e3 : c3 = c) => ?_
        subst e3
        exact .release (nodeDestroy_frees (some n2)) (.refl _) (.ret (.refl _) ⟨rfl, rfl, rfl, hok⟩ fun _ => rfl)
      · subst hret
        have hn2 : nodeOk n2 := fun b hb => nomatch (ec2.trans hcont).symm.trans hb
        exact .ret (pushFrame_perm c .elt n2).symm ⟨rfl, rfl, rfl, pushFrame_ok c .elt n2 hok hn2 (by decide) hroot⟩ (by simp)

theorem treeAddEltWithAttrs_tri (c : TCtx) (tag : AName) (attrs : List AAttr) (hok : c.ok) :
    TreeSpec (tag.owned ++ attrs.flatMap AAttr.owned) c (treeAddEltWithAttrs c tag attrs) :=
  addWithAttrs_tri (noAttrs := attrs.isEmpty) (attrs := (nodeAddAttrs · attrs)) c hok
    ((treeAddElt_tri c tag hok).borrow fun _ => List.mem_append_left _)
    fun n => nodeAddAttrs_tri _ attrs n fun a ha _ hi => List.mem_append_right _ (List.mem_flatMap.2 ⟨a, ha, hi⟩)

theorem treeAddCdata_tri (c : TCtx) (hok : c.ok) : TreeSpec [] c (treeAddCdata c) := by
  unfold treeAddCdata
  refine nodeCreate_tri.make nofun fun n hfields => ?_
  cases n with
  | none => exact .ret (.of_eq (List.append_nil _)) ⟨rfl, rfl, rfl, hok⟩ fun _ => rfl
  | some n =>
    exact addOpenOrDrop_tri c .cdata n hok (fun b hb => nomatch (hfields n rfl).2.2.symm.trans hb) (by decide) (.refl _)
      (fun _ x _ => x) (by simp)

theorem treeAddText_tri (c : TCtx) (text : Bytes) (hok : c.ok) : TreeSpec [] c (treeAddText c text) := by
  unfold treeAddText
  refine nodeCreate_tri.make nofun fun n hfields => ?_
  cases n with
  | none => exact .ret (.of_eq (List.append_nil _)) ⟨rfl, rfl, rfl, hok⟩ fun _ => rfl
  | some n =>
    obtain ⟨fn, fa, fc⟩ := hfields n rfl
    refine (bufCreate_tri (some text) text.length).make nofun fun b hbok => ?_
    cases b with
    | none => exact .release (nodeDestroy_frees (some n)) (.of_eq (List.append_nil _)) (.ret (.refl _) ⟨rfl, rfl, rfl, hok⟩ fun _ => rfl)
    | some b =>
      have hp : ((c.owned ++ n.owned) ++ b.owned).Perm (c.owned ++ ({ n with content := some b } : ANode).owned) := by
        rw [List.append_assoc]
        simp only [ANode.owned_eq, fn, fa, fc, ownedNameOpt, attrsOwned, listOwned, ownedBufOpt, List.append_nil,
          List.nil_append, List.cons_append]
        exact .refl _
      have hnok : nodeOk ({ n with content := some b } : ANode) := fun b' hb' => Option.some.inj hb' ▸ hbok b rfl
      refine (addText_tri c { n with content := some b } hok hnok).step hp nofun fun ⟨c3, ok⟩ x => ?_
      cases ok with
      | false => exact .release (nodeDestroy_frees (some { n with content := some b })) (.refl _) (.ret (.refl _) ⟨rfl, x⟩ fun _ => rfl)
      | true => exact .ret (.refl _) ⟨rfl, x⟩ (by simp)

end Wbxml.Model.Alloc
