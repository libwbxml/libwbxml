/-
  WBXML encoder proofs: splitting a value into value tokens, extension tokens, string-table
  references and inline strings preserves its concatenation — whatever strings the table
  heuristics selected (`wbxml_encode_value_element_buffer`).

  `vval tb` is what a reader with string-table octets `tb` makes of a value element; `Resolves tb
  tbl` says that `tb` contains every (NUL-free) entry of the encoder's table at its offset.
-/
import Wbxml.Lemmas.EncWWf
import Wbxml.Lemmas.EncWToks
namespace Wbxml.Lemmas.EncW
open Wbxml Wbxml.Model Wbxml.Spec Wbxml.Lemmas.ParseSer

theorem findSub_spec (needle : Bytes) : ∀ (s : Bytes) (pos i : Nat), findSub needle s pos = some i →
    ∃ k, i = pos + k ∧ k + needle.length ≤ s.length ∧ s = s.take k ++ (needle ++ s.drop (k + needle.length)) := by
  intro s
  induction s with
  | nil =>
    intro pos i h
    simp only [findSub] at h
    split at h
    · rename_i he
      injection h with h
      have : needle = [] := List.isEmpty_iff.mp he
      subst this
      exact ⟨0, by omega, by simp, by simp⟩
    · cases h
  | cons x xs ih =>
    intro pos i h
    simp only [findSub] at h
    split at h
    · rename_i hp
      injection h with h
      have hs := (List.prefix_iff_eq_append.mp (List.isPrefixOf_iff_prefix.mp hp)).symm
      refine ⟨0, by omega, ?_, by simpa using hs⟩
      have := congrArg List.length hs
      simp only [List.length_append] at this
      omega
    · obtain ⟨k, hk, hlen, hs⟩ := ih (pos + 1) i h
      refine ⟨k + 1, by omega, by simp only [List.length_cons]; omega, ?_⟩
      have e : k + 1 + needle.length = (k + needle.length) + 1 := by omega
      rw [List.take_succ_cons, e, List.drop_succ_cons, List.cons_append, ← hs]

theorem findSub_nulFree (needle s : Bytes) (pos i : Nat) (h : findSub needle s pos = some i) (hs : nulFree s = true) :
    nulFree needle = true := by
  obtain ⟨k, _, _, he⟩ := findSub_spec needle s pos i h
  rw [he, nulFree_append, nulFree_append] at hs
  simp only [Bool.and_eq_true] at hs
  exact hs.2.1

def vval (tb : Bytes) : VElt → Bytes
  | .str s => s
  | .ref off => strAt tb off
  | .tok r => r.name
  | .ext r => r.name

def Resolves (tb : Bytes) (tbl : List StrEntry) : Prop :=
  ∀ e ∈ tbl, nulFree e.str = true → strAt tb e.offset = e.str

theorem Resolves.mono {tb : Bytes} {tbl tbl' : List StrEntry} (h : Resolves tb tbl') (hp : tbl <+: tbl') :
    Resolves tb tbl := fun e he => h e (hp.subset he)

theorem resolves_of_offs (tbl : List StrEntry) (h : OffsFrom 0 tbl) : Resolves (strtblBytes tbl) tbl := by
  intro e he hn
  obtain ⟨pre, post, hs, ho⟩ := offsFrom_split 0 tbl h e he
  unfold strAt
  rw [hs, ho, Nat.zero_add, List.drop_left]
  simpa using takeWhile_nulFree e.str hn post

/-- The reader need take the inserted element for the needle only where the needle does occur in a
    string of class `P`: for a table reference that occurrence is what makes the entry NUL-free, hence
    resolved by the reader's table. -/
theorem splitPass_spec (P : VElt → Prop) (hcut : CutStable P) (needle : Bytes) (mk : VElt) (hmk : P mk) :
    ∀ (f : Nat) (done rest out : List VElt), (∀ e ∈ done, P e) → (∀ e ∈ rest, P e) →
      splitPass needle mk f done rest = .ok out →
      (∀ e ∈ out, P e) ∧
      ∀ tb, (∀ s idx, P (.str s) → findSub needle s 0 = some idx → vval tb mk = needle) →
        out.flatMap (vval tb) = done.flatMap (vval tb) ++ rest.flatMap (vval tb) := by
  intro f
  induction f with
  | zero => intro done rest out _ _ h; simp [splitPass] at h
  | succ f ih =>
    intro done rest out hd hr h
    cases rest with
    | nil =>
      simp only [splitPass] at h
      injection h with h; subst h; exact ⟨hd, fun _ _ => by simp⟩
    | cons e rest =>
      have he : P e := hr e List.mem_cons_self
      have hr' : ∀ x ∈ rest, P x := fun x hx => hr x (List.mem_cons_of_mem _ hx)
      have happ : ∀ (xs : List VElt), (∀ x ∈ xs, P x) → ∀ x ∈ done ++ xs, P x := fun xs hxs x hx =>
        (List.mem_append.mp hx).elim (hd x) (hxs x)
      have skip : splitPass needle mk f (done ++ [e]) rest = .ok out → (∀ x ∈ out, P x) ∧
          ∀ tb, (∀ s idx, P (.str s) → findSub needle s 0 = some idx → vval tb mk = needle) →
            out.flatMap (vval tb) = done.flatMap (vval tb) ++ (e :: rest).flatMap (vval tb) := by
        intro h
        obtain ⟨h1, h2⟩ := ih _ _ _ (happ [e] (by intro x hx; simp at hx; subst hx; exact he)) hr' h
        exact ⟨h1, fun tb hval => by rw [h2 tb hval]; simp⟩
      cases e with
      | str s =>
        simp only [splitPass] at h
        split at h
        · exact skip h
        · rename_i idx hfind
          obtain ⟨k, hk, hlen, hs⟩ := findSub_spec needle s 0 idx hfind
          obtain rfl : idx = k := by omega
          have hdone : ∀ x ∈ done ++ [VElt.str (s.take idx), mk], P x := by
            apply happ
            intro x hx
            simp only [List.mem_cons, List.mem_nil_iff, or_false] at hx
            rcases hx with rfl | rfl
            · exact (hcut s idx he).1
            · exact hmk
          split at h
          · obtain ⟨tail, hp, h⟩ := bind_eq_ok h
            obtain rfl := ptrAdd_ok hp
            have hr2 : ∀ x ∈ VElt.str (s.drop (idx + needle.length)) :: rest, P x := by
              intro x hx
              rcases List.mem_cons.mp hx with rfl | hx
              · exact (hcut s _ he).2
              · exact hr' x hx
            obtain ⟨h1, h2⟩ := ih _ _ _ hdone hr2 h
            refine ⟨h1, fun tb hval => ?_⟩
            rw [h2 tb hval]
            simp only [List.flatMap_append, List.flatMap_cons, List.flatMap_nil, List.append_nil,
              show ∀ s, vval tb (.str s) = s from fun _ => rfl, hval s idx he hfind, List.append_assoc]
            conv => rhs; rw [hs]
            simp
          · obtain ⟨h1, h2⟩ := ih _ _ _ hdone hr' h
            refine ⟨h1, fun tb hval => ?_⟩
            rw [h2 tb hval]
            have hdrop : s.drop (idx + needle.length) = [] := List.drop_eq_nil_of_le (by omega)
            simp only [List.flatMap_append, List.flatMap_cons, List.flatMap_nil, List.append_nil,
              show ∀ s, vval tb (.str s) = s from fun _ => rfl, hval s idx he hfind, List.append_assoc]
            conv => rhs; rw [hs, hdrop]
            simp
      | ext r => simp only [splitPass] at h; exact skip h
      | tok r => simp only [splitPass] at h; exact skip h
      | ref o => simp only [splitPass] at h; exact skip h

/-- "Search for Attribute Value Tokens": a value token means its text to every reader. -/
theorem splitByValues_spec (P : VElt → Prop) (hcut : CutStable P) :
    ∀ (rows : List ValRow), (∀ r ∈ rows, P (.tok r)) → ∀ (l out : List VElt), (∀ e ∈ l, P e) →
      splitByValues rows l = .ok out →
      (∀ e ∈ out, P e) ∧ ∀ tb, out.flatMap (vval tb) = l.flatMap (vval tb) := by
  intro rows
  induction rows with
  | nil => intro _ l out hl h; cases Except.ok.inj h; exact ⟨hl, fun _ => rfl⟩
  | cons r rs ih =>
    intro hrows l out hl h
    simp only [splitByValues] at h
    obtain ⟨l1, hp, h⟩ := bind_eq_ok h
    obtain ⟨h1, h2⟩ := splitPass_spec P hcut r.name (.tok r) (hrows r List.mem_cons_self) _ [] l l1 nofun hl hp
    obtain ⟨h3, h4⟩ := ih (fun x hx => hrows x (List.mem_cons_of_mem _ hx)) l1 out h1 h
    exact ⟨h3, fun tb => by rw [h4 tb, h2 tb (fun _ _ _ _ => rfl)]; rfl⟩

/-- "Search for String Table References": a reference means the entry's string to a reader whose
    table resolves the encoder's (the string found in a NUL-free piece is NUL-free). -/
theorem splitByStrtbl_spec (tbl : List StrEntry) (P : VElt → Prop) (hcut : CutStable P)
    (hnf : ∀ s, P (.str s) → nulFree s = true) :
    ∀ (es : List StrEntry), (∀ e ∈ es, e ∈ tbl ∧ P (.ref e.offset)) → ∀ (l out : List VElt), (∀ e ∈ l, P e) →
      splitByStrtbl es l = .ok out →
      (∀ e ∈ out, P e) ∧ ∀ tb, Resolves tb tbl → out.flatMap (vval tb) = l.flatMap (vval tb) := by
  intro es
  induction es with
  | nil => intro _ l out hl h; cases Except.ok.inj h; exact ⟨hl, fun _ _ => rfl⟩
  | cons r rs ih =>
    intro hrows l out hl h
    simp only [splitByStrtbl] at h
    obtain ⟨l1, hp, h⟩ := bind_eq_ok h
    obtain ⟨hmem, hmk⟩ := hrows r List.mem_cons_self
    obtain ⟨h1, h2⟩ := splitPass_spec P hcut r.str (.ref r.offset) hmk _ [] l l1 nofun hl hp
    obtain ⟨h3, h4⟩ := ih (fun x hx => hrows x (List.mem_cons_of_mem _ hx)) l1 out h1 h
    refine ⟨h3, fun tb hres => ?_⟩
    rw [h4 tb hres, h2 tb (fun s idx hs hf => hres r hmem (findSub_nulFree r.str s 0 idx hf (hnf s hs)))]; rfl

/-- The common end of both contexts of `wbxml_encode_value_element_buffer`: "Search for String Table
    References" (when the string table is in use), then the emission. -/
theorem strtblPass_spec (c : WCfg) (st st' : WSt) (Q : VElt → Prop) (hcut : CutStable Q) (href : ∀ off, Q (.ref off))
    (l0 : List VElt) (hl0 : ∀ e ∈ l0, VOk c st.strtbl e ∧ Q e)
    (h : (do let l ← (if c.useStrtbl = true then splitByStrtbl st.strtbl l0 else pure l0)
             pure (emitVElts st l) : Except Err WSt) = .ok st') :
    ∃ l, st' = emitVElts st l ∧ (∀ e ∈ l, VOk c st.strtbl e ∧ Q e) ∧
      ∀ tb, Resolves tb st.strtbl → l.flatMap (vval tb) = l0.flatMap (vval tb) := by
  cases hu : c.useStrtbl with
  | false =>
    simp only [hu, Bool.false_eq_true, ↓reduceIte] at h
    exact ⟨l0, (Except.ok.inj h).symm, hl0, fun _ _ => rfl⟩
  | true =>
    simp only [hu, ↓reduceIte] at h
    obtain ⟨l2, hl2, h⟩ := bind_eq_ok h
    have hcut' : CutStable (fun e => VOk c st.strtbl e ∧ Q e) := fun s i h =>
      ⟨⟨(vok_cut c st.strtbl s i h.1).1, (hcut s i h.2).1⟩, ⟨(vok_cut c st.strtbl s i h.1).2, (hcut s i h.2).2⟩⟩
    obtain ⟨h1, h2⟩ := splitByStrtbl_spec st.strtbl _ hcut' (fun _ h => h.1) st.strtbl
      (fun e he => ⟨he, ⟨e, he, rfl⟩, href _⟩) _ _ hl0 hl2
    exact ⟨l2, (Except.ok.inj h).symm, h1, h2⟩

theorem extPass_concat (tb : Bytes) (r : ExtRow) (l : List VElt) :
    (extPass r l).flatMap (vval tb) = l.flatMap (vval tb) := by
  unfold extPass
  rw [List.flatMap_assoc]
  congr 1; funext e
  -- only a string that IS the extension name is replaced, by an empty string and the token
  cases e with
  | str s =>
    simp only
    split
    · rename_i hc
      simp only [Bool.and_eq_true, beq_iff_eq] at hc
      simp only [List.flatMap_cons, List.flatMap_nil, vval, List.nil_append, List.append_nil, hc.2]
    · simp only [List.flatMap_cons, List.flatMap_nil, List.append_nil]
  | ext r' => simp only [List.flatMap_cons, List.flatMap_nil, List.append_nil]
  | tok r' => simp only [List.flatMap_cons, List.flatMap_nil, List.append_nil]
  | ref o => simp only [List.flatMap_cons, List.flatMap_nil, List.append_nil]

theorem splitByExts_concat (tb : Bytes) (exts : List ExtRow) (l : List VElt) :
    (splitByExts exts l).flatMap (vval tb) = l.flatMap (vval tb) := by
  exact List.foldlRecOn (motive := fun l' => l'.flatMap (vval tb) = l.flatMap (vval tb)) exts _ rfl
    fun l' hl' r _ => (extPass_concat tb r l').trans hl'

def strOrRef : VElt → Prop
  | .str _ => True
  | .ref _ => True
  | _ => False

theorem strOrRef_cut : CutStable strOrRef := fun _ _ _ => ⟨trivial, trivial⟩

theorem avalsOf_text (c : WCfg) (tbl) (ctx : Ctx) (hlang : ctx.lang = c.lang) (hl : langOk c.lang = true)
    (hsem : valSemOk c.lang = true) (l : List VElt) (h : ∀ e ∈ l, VOk c tbl e) (hne : ∀ e ∈ l, notExt e) (ap : Nat) :
    (avalsText ctx ap (avalsOf ap l).1).1 = l.flatMap (vval ctx.tbl) := by
  induction l generalizing ap with
  | nil => rfl
  | cons e es ih =>
    have ih' := ih (fun x hx => h x (List.mem_cons_of_mem _ hx)) (fun x hx => hne x (List.mem_cons_of_mem _ hx))
    rw [avalsOf, List.flatMap_cons]
    rw [avalsText_append, avalsOfVElt_page, ih']
    congr 1
    cases e with
    | str s =>
      simp only [avalsOfVElt]
      split
      · simp [avalsText, avalText, strText, vval]
      · rename_i hlen
        have : s = [] := by cases s with | nil => rfl | cons _ _ => simp at hlen
        subst this; rfl
    | ref o => simp [avalsOfVElt, avalsText, avalText, strText, vval]
    | ext r => exact absurd (hne _ List.mem_cons_self) (by simp [notExt])
    | tok r =>
      obtain ⟨vals, hv, hr⟩ := h _ List.mem_cons_self
      have hrange := valRange r (langOk_values hl hv hr)
      have hv' : ctx.lang.values = some vals := by rw [hlang]; exact hv
      have hs : (decVal vals r.page r.token).map (·.name) = some r.name := by
        simp only [valSemOk, hv, List.all_eq_true, beq_iff_eq] at hsem
        exact hsem r hr
      simp only [avalsOfVElt, avalsText, avalText, swPage_swFor, Nat.mod_eq_of_lt hrange.2, valRow, hv',
        List.append_nil, vval]
      have : List.find? (fun x => x.token == r.token && x.page == r.page) vals = decVal vals r.page r.token := rfl
      rw [this]
      cases hd : decVal vals r.page r.token with
      | none => rw [hd] at hs; cases hs
      | some d => rw [hd] at hs; simpa using hs

theorem evItems_velts (ctx : Ctx) (own) (pg : Pages) (l : List VElt) (h : ∀ e ∈ l, strOrRef e) :
    charsCat (evItems ctx own pg (l.flatMap itemsOfVElt)).1 = l.flatMap (vval ctx.tbl) ∧
    (evItems ctx own pg (l.flatMap itemsOfVElt)).1.flatMap toks = (l.flatMap (vval ctx.tbl)).map .ch := by
  induction l with
  | nil => simp [evItems_nil, charsCat]
  | cons e es ih =>
    obtain ⟨ih1, ih2⟩ := ih (fun x hx => h x (List.mem_cons_of_mem _ hx))
    -- a string or reference is one item, read as one run of character data
    have one : ∀ (st : Str), vval ctx.tbl e = strText ctx st →
        charsCat (evItems ctx own pg (Item.str st :: es.flatMap itemsOfVElt)).1 = (e :: es).flatMap (vval ctx.tbl) ∧
        (evItems ctx own pg (Item.str st :: es.flatMap itemsOfVElt)).1.flatMap toks =
          ((e :: es).flatMap (vval ctx.tbl)).map .ch := by
      intro st hst
      rw [evItems_cons, evItem_str]
      simp only [charsCat_charsEv, ih1, List.flatMap_append, toks_charsEv, ih2, List.flatMap_cons, List.map_append, hst,
        and_self]
    cases e with
    | str s =>
      simp only [List.flatMap_cons, itemsOfVElt]
      split
      · exact one (.inl s) rfl
      · rename_i hlen
        obtain rfl : s = [] := by cases s with | nil => rfl | cons _ _ => simp at hlen
        exact ⟨ih1, ih2⟩
    | ref o => exact one (.tbl o) rfl
    | ext r => exact absurd (h _ List.mem_cons_self) (by simp [strOrRef])
    | tok r => exact absurd (h _ List.mem_cons_self) (by simp [strOrRef])

end Wbxml.Lemmas.EncW
