/-
  First facts about the XML printer model `Model/EncXml.lean`, in the form every later module uses:
  the escaped form of one octet with its case analysis (`esc1`, `esc1_elim`) and the octets it copies
  (`escSafe`, `xmlEscape_safe`), and `xml_encode_text` as a function of the configuration, the CDATA flag
  and the current tag that says what is appended, as a token that is rendered when written (`XTok`,
  `textTokC`, `xmlText_eq`) — the output so far is never looked at. `textStr` is its SyncML media-type rewriting, `textTok` what is appended once the two
  white-space decisions are taken.
-/
import Wbxml.Model.EncXml

namespace Wbxml.Lemmas.EncW
open Wbxml Wbxml.Model

/-- The SyncML media-type rewriting of `xml_encode_text` (`+wbxml` → `+xml` inside `Type`). -/
def textStr (langId : Nat) (cur : Option TagRow) (s : Bytes) : Bytes :=
  let isType := match cur with
    | some r => r.page == 1 && r.token == 0x13
    | none => false
  let s := if isSyncml langId && isType && s == b!"application/vnd.syncml-devinf+wbxml"
           then b!"application/vnd.syncml-devinf+xml" else s
  if langId == 2201 && isType && s == b!"application/vnd.syncml.dmtnds+wbxml"
  then b!"application/vnd.syncml.dmtnds+xml" else s

theorem relabel_length_le (b : Bool) (k k' s : Bytes) (hk : k'.length ≤ k.length) :
    (if b && s == k then k' else s).length ≤ s.length := by
  split
  · rename_i h
    rw [Bool.and_eq_true, beq_iff_eq] at h
    rw [h.2]; exact hk
  · exact Nat.le_refl _

theorem textStr_length_le (langId : Nat) (cur : Option TagRow) (s : Bytes) : (textStr langId cur s).length ≤ s.length :=
  Nat.le_trans (relabel_length_le _ _ _ _ (by decide)) (relabel_length_le _ _ _ _ (by decide))

end Wbxml.Lemmas.EncW

namespace Wbxml.Model
open Wbxml Wbxml.Lemmas.EncW

def esc1 (canonical : Bool) (ch : UInt8) : Bytes :=
  if ch == 60 then b!"&lt;"
  else if ch == 62 then b!"&gt;"
  else if ch == 38 then b!"&amp;"
  else if ch == 34 then b!"&quot;"
  else if ch == 39 then b!"&apos;"
  else if ch == 13 then b!"&#13;"
  else if ch == 10 && canonical then b!"&#10;"
  else if ch == 9 && canonical then b!"&#9;"
  else [ch]

theorem xmlEscape_eq (c : Bool) (s : Bytes) : xmlEscape c s = s.flatMap (esc1 c) := rfl

theorem xmlEscape_nil (c : Bool) : xmlEscape c [] = [] := rfl

theorem xmlEscape_cons (c : Bool) (ch : UInt8) (r : Bytes) : xmlEscape c (ch :: r) = esc1 c ch ++ xmlEscape c r := rfl

theorem xmlEscape_append (c : Bool) (a b : Bytes) : xmlEscape c (a ++ b) = xmlEscape c a ++ xmlEscape c b := by
  simp only [xmlEscape_eq, List.flatMap_append]

theorem forall_mem_xmlEscape {P : UInt8 → Prop} {c : Bool} (h : ∀ a, ∀ b ∈ esc1 c a, P b) (s : Bytes) :
    ∀ b ∈ xmlEscape c s, P b := by
  intro b hb
  obtain ⟨a, _, hab⟩ := List.mem_flatMap.mp hb
  exact h a b hab

theorem esc1_elim {motive : UInt8 → Bytes → Prop} (c : Bool)
    (lt : motive 60 b!"&lt;") (gt : motive 62 b!"&gt;") (amp : motive 38 b!"&amp;")
    (quot : motive 34 b!"&quot;") (apos : motive 39 b!"&apos;") (cr : motive 13 b!"&#13;")
    (lf : c = true → motive 10 b!"&#10;") (tab : c = true → motive 9 b!"&#9;")
    (plain : ∀ ch : UInt8, ch ≠ 60 → ch ≠ 62 → ch ≠ 38 → ch ≠ 34 → ch ≠ 39 → ch ≠ 13 →
      (c = true → ch ≠ 10 ∧ ch ≠ 9) → motive ch [ch])
    (ch : UInt8) : motive ch (esc1 c ch) := by
  unfold esc1
  by_cases h60 : ch = 60; · subst h60; exact lt
  by_cases h62 : ch = 62; · subst h62; exact gt
  by_cases h38 : ch = 38; · subst h38; exact amp
  by_cases h34 : ch = 34; · subst h34; exact quot
  by_cases h39 : ch = 39; · subst h39; exact apos
  by_cases h13 : ch = 13; · subst h13; exact cr
  rw [if_neg (by simpa using h60), if_neg (by simpa using h62), if_neg (by simpa using h38),
    if_neg (by simpa using h34), if_neg (by simpa using h39), if_neg (by simpa using h13)]
  cases c with
  | false =>
    rw [Bool.and_false, Bool.and_false, if_neg Bool.false_ne_true, if_neg Bool.false_ne_true]
    exact plain ch h60 h62 h38 h34 h39 h13 (fun h => by cases h)
  | true =>
    by_cases h10 : ch = 10; · subst h10; exact lf rfl
    by_cases h9 : ch = 9; · subst h9; exact tab rfl
    rw [if_neg (by simpa using h10), if_neg (by simpa using h9)]
    exact plain ch h60 h62 h38 h34 h39 h13 (fun _ => ⟨h10, h9⟩)

/-- Octets that `xmlEscape` copies unchanged in every mode. -/
def escSafe (ch : UInt8) : Bool :=
  !(ch == 60 || ch == 62 || ch == 38 || ch == 34 || ch == 39 || ch == 13 || ch == 10 || ch == 9)

theorem xmlEscape_safe (canonical : Bool) : ∀ (s : Bytes), s.all escSafe = true → xmlEscape canonical s = s
  | [], _ => rfl
  | ch :: s, h => by
    simp only [List.all_cons, Bool.and_eq_true] at h
    have h1 : escSafe ch = true → esc1 canonical ch = [ch] :=
      esc1_elim (motive := fun ch e => escSafe ch = true → e = [ch]) canonical (by decide) (by decide) (by decide)
        (by decide) (by decide) (by decide) (fun _ => by decide) (fun _ => by decide) (fun _ _ _ _ _ _ _ _ _ => rfl) ch
    rw [xmlEscape_cons, h1 h.1, xmlEscape_safe canonical s h.2]
    rfl

/-- Every octet `b64EncodeGo` writes is a letter of the alphabet or `=`. -/
theorem b64EncodeGo_all (P : UInt8 → Bool) (hP : ∀ n, P (b64Char n) = true) (h61 : P 61 = true) :
    ∀ (s : Bytes), (b64EncodeGo s).all P = true
  | a :: b :: c :: r => by
    simp only [b64EncodeGo, List.all_cons, hP, Bool.true_and]; exact b64EncodeGo_all P hP h61 r
  | [a, b] => by simp only [b64EncodeGo, List.all_cons, hP, h61, List.all_nil, Bool.and_self]
  | [a] => by simp only [b64EncodeGo, List.all_cons, hP, h61, List.all_nil, Bool.and_self]
  | [] => rfl

inductive XTok where
  | mk (bs : Bytes)     -- markup, written as it is
  | txt (s : Bytes)     -- character data, escaped when written
  | sp (k : UInt8)      -- indentation to level `k` (indented generation only)
  | nl                  -- line feed (indented generation only)

def XTok.render (c : XCfg) : XTok → Bytes
  | .mk bs => bs
  | .txt s => xmlEscape (c.gen == 2) s
  | .sp k => if c.gen == 1 then spaces (k.toNat * c.delta.toNat) else []
  | .nl => if c.gen == 1 then newLine else []

/-- What the token list depends on: the language and whether white-space text is dropped / trimmed. -/
structure TokCfg where
  lang : Lang
  ie : Bool
  rb : Bool

def XCfg.tk (c : XCfg) : TokCfg := { lang := c.lang, ie := c.gen != 2 && c.ignoreEmpty, rb := c.gen != 2 && c.removeBlanks }

/-- What `xml_encode_text` appends, as a token, once its two white-space decisions have been taken (`d1`: a
    text of white space only is skipped, `d2`: blanks are stripped); `none` when the text is skipped, which
    also leaves `inContent` as it is. The only error is base64 of an empty buffer. -/
def textTok (langId : Nat) (d1 d2 cd : Bool) (cur : Option TagRow) (s : Bytes) : Except Err (Option XTok) :=
  if d1 && s.all isSpaceC then .ok none
  else
    let s1 := if d2 then stripBlanks s else s
    if cd then .ok (some (.mk (cdataText s1)))
    else
      let s3 := textStr langId cur s1
      if isBinaryTag cur then
        if s3.isEmpty then .error (.code E.b64Enc) else .ok (some (.txt (b64EncodeGo s3)))
      else .ok (some (.txt s3))

def textTokC (k : TokCfg) (cd : Bool) (cur : Option TagRow) (s : Bytes) : Except Err (Option XTok) :=
  textTok k.lang.id (!cd && !isBinaryTag cur && k.ie) (!cd && !isBinaryTag cur && k.rb) cd cur s

def XSt.addTok (st : XSt) (c : XCfg) : Option XTok → XSt
  | none => st
  | some t => { st with out := st.out ++ t.render c, inContent := true }

theorem xmlText_eq (c : XCfg) (s : Bytes) (st : XSt) :
    xmlText c s st = (textTokC c.tk st.inCdata st.curTag s).map (st.addTok c) := by
  unfold textTokC textTok XCfg.tk
  simp only [apply_ite (Except.map (st.addTok c)), ← Bool.and_assoc]
  rfl

def TextRes : Except Err (Option XTok) → Prop
  | .error e => e = .code E.b64Enc
  | .ok (some (.sp _)) => False
  | .ok (some .nl) => False
  | _ => True

theorem textTok_res (langId : Nat) (d1 d2 cd : Bool) (cur : Option TagRow) (s : Bytes) :
    TextRes (textTok langId d1 d2 cd cur s) := by
  unfold textTok
  dsimp only
  generalize (if d2 = true then stripBlanks s else s) = s1
  split; · exact trivial
  split; · exact trivial
  split
  · split
    · exact rfl
    · exact trivial
  · exact trivial

theorem textTok_error {langId : Nat} {d1 d2 cd : Bool} {cur : Option TagRow} {s : Bytes} {e : Err}
    (h : textTok langId d1 d2 cd cur s = .error e) : e = .code E.b64Enc := by
  have := textTok_res langId d1 d2 cd cur s
  rw [h] at this; exact this

end Wbxml.Model
