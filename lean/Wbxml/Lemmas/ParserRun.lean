/-
  A successful run of `parseElement` / `contentLoop` as a derivation, without fuel and without the event
  accumulator: `Run true s es s'` reads one element from `s`, reports `es` and reaches `s'`; `Run false`
  reads content up to (not including) the `END` token. `run_of_ok` and `ok_of_run` say that the two
  functions succeed exactly along such derivations (`ok_of_run`: fuel at least the octets consumed is
  enough, so fuel never matters beyond that). What a run delivers (count, shape, size of the events) is
  then an induction on the derivation, which does not look at the code: `Run.adv`, `Run.bal`, `Run.weight`
  with the instance `Run.count` (`W2XSize` has the instance `Run.size`).
-/
import Wbxml.Lemmas.ParserSafeLoops
namespace Wbxml.Lemmas.ParserSafe
open Wbxml Wbxml.Model
open Wbxml.Spec (charsEv)

theorem skip1_adv {what : String} {s s' : PState} (h : skip1 what s = .ok s') : Adv 1 s s' :=
  (skip1_ok (what := what) fun hr => by simp [skip1, hr] at h).of_ok h

/-- `k = true`: one element; `k = false`: content up to (not including) the `END` token. -/
inductive Run : Bool → PState → List Event → PState → Prop
  | empty {s s4 : PState} {tag : UInt8} {name : Name} {attrs : List Attr} :
      elemHead s = .ok ((tag, name, attrs), s4) → (tag.toNat &&& 0x40 != 0) = false →
      Run true s [.startElt name attrs, .endElt name] { s4 with curTag := none }
  | full {s s4 s5 s6 : PState} {tag : UInt8} {name : Name} {attrs : List Attr} {body : List Event} :
      elemHead s = .ok ((tag, name, attrs), s4) → (tag.toNat &&& 0x40 != 0) = true →
      Run false s4 body s5 → skip1 "END of element" s5 = .ok s6 →
      Run true s (.startElt name attrs :: (body ++ [.endElt name])) { s6 with curTag := none }
  | done {s : PState} : itemOf s = .end_ → Run false s [] s
  | leaf {s s1 s' : PState} {es es' : List Event} :
      leafStep s (itemOf s) = .ok (es, s1) → Run false s1 es' s' → Run false s (es ++ es') s'
  | sub {s s1 s' : PState} {es es' : List Event} :
      itemOf s = .elem → Run true s es s1 → Run false s1 es' s' → Run false s (es ++ es') s'

theorem run_of_ok : ∀ (f : Nat),
    (∀ ev s ev' s', parseElement f ev s = .ok (ev', s') → ∃ es, ev' = ev ++ es ∧ Run true s es s') ∧
    (∀ ev s ev' s', contentLoop f ev s = .ok (ev', s') → ∃ es, ev' = ev ++ es ∧ Run false s es s')
  | 0 => ⟨fun _ _ _ _ h => (by rw [parseElement] at h; cases h), fun _ _ _ _ h => (by rw [contentLoop] at h; cases h)⟩
  | f + 1 => by
    obtain ⟨ihE, ihC⟩ := run_of_ok f
    constructor
    · intro ev s ev' s' h
      rw [parseElement_head] at h
      obtain ⟨⟨⟨tag, name, attrs⟩, s4⟩, hh, h⟩ := bind_eq_ok h
      replace h : elemTail f ev ((tag, name, attrs), s4) = .ok (ev', s') := h
      unfold elemTail at h; dsimp only at h
      split at h
      · rename_i ht
        obtain ⟨⟨ev5, s5⟩, hc, h⟩ := bind_eq_ok h
        obtain ⟨s6, hs, h⟩ := bind_eq_ok h
        cases h
        obtain ⟨body, rfl, hr⟩ := ihC _ _ _ _ hc
        exact ⟨_, by simp, Run.full hh ht hr hs⟩
      · rename_i ht
        cases h
        exact ⟨_, by simp, Run.empty hh (by simpa using ht)⟩
    · intro ev s ev' s' h
      rw [contentLoop_round] at h
      have leaf : ∀ k, (leafStep s k >>= fun p => contentLoop f (ev ++ p.1) p.2) = .ok (ev', s') → itemOf s = k →
          ∃ es, ev' = ev ++ es ∧ Run false s es s' := by
        intro k h hk
        obtain ⟨⟨es, s1⟩, hl, h⟩ := bind_eq_ok h
        obtain ⟨es', rfl, hr⟩ := ihC _ _ _ _ h
        exact ⟨es ++ es', by simp, Run.leaf (hk ▸ hl) hr⟩
      cases hi : itemOf s <;> rw [hi] at h <;> dsimp only at h
      case end_ => cases h; exact ⟨[], by simp, Run.done hi⟩
      case eof => cases h
      case elem =>
        obtain ⟨⟨ev1, s1⟩, he, h⟩ := bind_eq_ok h
        obtain ⟨es, rfl, hr⟩ := ihE _ _ _ _ he
        obtain ⟨es', rfl, hr'⟩ := ihC _ _ _ _ h
        exact ⟨es ++ es', by simp, Run.sub hi hr hr'⟩
      all_goals exact leaf _ h hi

theorem Run.adv {k : Bool} {s s' : PState} {es : List Event} (h : Run k s es s') (hl : s.lang ≠ none) :
    Adv (if k then 1 else 0) s s' := by
  induction h with
  | empty hh ht => exact ((elemHead_ok hl).of_ok hh).of_rest_eq rfl rfl rfl rfl
  | full hh ht hr hs ih =>
    have a4 : Adv 1 _ _ := (elemHead_ok hl).of_ok hh
    have a5 := ih (a4.lang_ne hl)
    exact ((a4.trans a5 (m := 1)).trans (skip1_adv hs) (m := 1)).of_rest_eq rfl rfl rfl rfl
  | done hi => exact Adv.refl _
  | leaf hs hr ih =>
    have a : Adv 1 _ _ := (leafStep_ok hl).of_ok hs
    exact a.trans (ih (a.lang_ne hl))
  | sub hi hr1 hr2 ih1 ih2 =>
    have a := ih1 hl
    exact a.trans (ih2 (a.lang_ne hl))

theorem ok_of_run {k : Bool} {s s' : PState} {es : List Event} (h : Run k s es s') (hl : s.lang ≠ none) :
    (k = true → ∀ f ev, s.rest.length - s'.rest.length ≤ f → parseElement f ev s = .ok (ev ++ es, s')) ∧
    (k = false → ∀ f ev, s.rest.length - s'.rest.length + 1 ≤ f → contentLoop f ev s = .ok (ev ++ es, s')) := by
  induction h with
  | @empty s s4 tag name attrs hh ht =>
    refine ⟨fun _ f ev hf => ?_, (fun h => nomatch h)⟩
    have a4 : Adv 1 s s4 := (elemHead_ok hl).of_ok hh
    obtain ⟨f, rfl⟩ : ∃ f', f = f' + 1 := ⟨f - 1, by have := a4.len; dsimp only at hf; omega⟩
    rw [parseElement_head, hh]
    simp [bind, Except.bind, elemTail, ht, pure, Except.pure]
  | @full s s4 s5 s6 tag name attrs body hh ht hr hs ih =>
    refine ⟨fun _ f ev hf => ?_, (fun h => nomatch h)⟩
    have a4 : Adv 1 s s4 := (elemHead_ok hl).of_ok hh
    have hl4 : s4.lang ≠ none := a4.lang_ne hl
    have a5 : Adv 0 s4 s5 := Run.adv hr hl4
    have a6 := skip1_adv hs
    have := a4.len; have := a5.len; have := a6.len
    dsimp only at hf
    obtain ⟨f, rfl⟩ : ∃ f', f = f' + 1 := ⟨f - 1, by omega⟩
    have hc := (ih hl4).2 rfl f (ev ++ [.startElt name attrs]) (by omega)
    rw [parseElement_head, hh]
    simp [bind, Except.bind, elemTail, ht, hc, hs, pure, Except.pure]
  | done hi =>
    refine ⟨(fun h => nomatch h), fun _ f ev hf => ?_⟩
    obtain ⟨f, rfl⟩ : ∃ f', f = f' + 1 := ⟨f - 1, by omega⟩
    rw [contentLoop_round, hi]
    simp [pure, Except.pure]
  | @leaf s s1 s' es es' hs hr ih =>
    refine ⟨(fun h => nomatch h), fun _ f ev hf => ?_⟩
    have a : Adv 1 s s1 := (leafStep_ok hl).of_ok hs
    have hl1 : s1.lang ≠ none := a.lang_ne hl
    have a' : Adv 0 s1 s' := Run.adv hr hl1
    have := a.len; have := a'.len
    obtain ⟨f, rfl⟩ : ∃ f', f = f' + 1 := ⟨f - 1, by omega⟩
    have hc := (ih hl1).2 rfl f (ev ++ es) (by omega)
    rw [contentLoop_round]
    cases hi : itemOf s <;> rw [hi] at hs <;> dsimp only
    case end_ => cases hs
    case eof => cases hs
    case elem => cases hs
    all_goals simp only [hs, bind, Except.bind, hc, List.append_assoc]
  | @sub s s1 s' es es' hi hr1 hr2 ih1 ih2 =>
    refine ⟨(fun h => nomatch h), fun _ f ev hf => ?_⟩
    have a : Adv 1 s s1 := Run.adv hr1 hl
    have hl1 : s1.lang ≠ none := a.lang_ne hl
    have a' : Adv 0 s1 s' := Run.adv hr2 hl1
    have := a.len; have := a'.len
    obtain ⟨f, rfl⟩ : ∃ f', f = f' + 1 := ⟨f - 1, by omega⟩
    have h1 := (ih1 hl).1 rfl f ev (by omega)
    have h2 := (ih2 hl1).2 rfl f (ev ++ es) (by omega)
    rw [contentLoop_round, hi]
    simp only [h1, bind, Except.bind, h2, List.append_assoc]

/-- The sum of the weights `w e` over the events. -/
def evSum (w : Event → Nat) : List Event → Nat
  | [] => 0
  | e :: es => w e + evSum w es

theorem evSum_append (w : Event → Nat) : ∀ (a b : List Event), evSum w (a ++ b) = evSum w a + evSum w b
  | [], b => by simp [evSum]
  | e :: a, b => by simp only [List.cons_append, evSum, evSum_append w a b]; omega

/-- Every event is paid for by input: `w` weighs an event, `W` is the price of an input octet, `E` the share an
    element's head pays for its end event, `C` the context the leaf bounds hold in (kept by every advance of the
    cursor). The element count (`W = 1`, `C` = a language is set) and the size bound (`C = Ctx N M`) are instances. -/
theorem Run.weight (w : Event → Nat) (W E : Nat) (C : PState → Prop)
    (hadv : ∀ {s s' : PState} {k : Nat}, C s → Adv k s s' → C s')
    (hleaf : ∀ {s : PState} {es : List Event} {s1 : PState}, C s → leafStep s (itemOf s) = .ok (es, s1) →
        Adv 1 s s1 ∧ evSum w es + W * s1.rest.length ≤ W * s.rest.length)
    (hhead : ∀ {s : PState} {tag : UInt8} {name : Name} {attrs : List Attr} {s4 : PState}, C s →
        elemHead s = .ok ((tag, name, attrs), s4) →
        Adv 1 s s4 ∧ w (.startElt name attrs) + E + W * s4.rest.length ≤ W * s.rest.length)
    (hend : ∀ n, w (.endElt n) ≤ E) {k : Bool} {s s' : PState} {es : List Event} (h : Run k s es s') :
    C s → Adv 0 s s' ∧ evSum w es + W * s'.rest.length ≤ W * s.rest.length := by
  induction h with
  | @empty s s4 tag name attrs hh ht =>
    intro hC
    obtain ⟨a, hw⟩ := hhead hC hh
    refine ⟨a.weaken.of_rest_eq rfl rfl rfl rfl, ?_⟩
    have := hend name
    simp only [evSum]
    omega
  | @full s s4 s5 s6 tag name attrs body hh ht hr hs ih =>
    intro hC
    obtain ⟨a4, hw⟩ := hhead hC hh
    obtain ⟨a5, hw5⟩ := ih (hadv hC a4)
    have a6 := skip1_adv hs
    have : W * s6.rest.length ≤ W * s5.rest.length := Nat.mul_le_mul_left W (by have := a6.len; omega)
    refine ⟨((a4.trans a5 (m := 0)).trans a6 (m := 0)).of_rest_eq rfl rfl rfl rfl, ?_⟩
    have := hend name
    simp only [evSum, evSum_append]
    omega
  | done hi => intro _; exact ⟨Adv.refl _, by simp [evSum]⟩
  | leaf hs hr ih =>
    intro hC
    obtain ⟨a1, hw1⟩ := hleaf hC hs
    obtain ⟨a2, hw2⟩ := ih (hadv hC a1)
    exact ⟨a1.trans a2, by rw [evSum_append]; omega⟩
  | sub hi hr1 hr2 ih1 ih2 =>
    intro hC
    obtain ⟨a1, hw1⟩ := ih1 hC
    obtain ⟨a2, hw2⟩ := ih2 (hadv hC a1)
    exact ⟨a1.trans a2, by rw [evSum_append]; omega⟩

/-- A sequence of complete content items: character data, processing instructions, and elements
    whose start and end events enclose such a sequence. -/
inductive Bal : List Event → Prop
  | nil : Bal []
  | chars (s : Bytes) {es : List Event} : Bal es → Bal (.chars s :: es)
  | pi (t d : Bytes) {es : List Event} : Bal es → Bal (.pi t d :: es)
  | elt (n : Name) (attrs : List Attr) (n' : Name) {body es : List Event} :
      Bal body → Bal es → Bal (.startElt n attrs :: (body ++ .endElt n' :: es))

theorem Bal.append {a b : List Event} (ha : Bal a) (hb : Bal b) : Bal (a ++ b) := by
  induction ha with
  | nil => exact hb
  | chars s _ ih => exact Bal.chars s ih
  | pi t d _ ih => exact Bal.pi t d ih
  | elt n attrs n' hbody _ _ ih =>
    rw [List.cons_append, List.append_assoc, List.cons_append]
    exact Bal.elt n attrs n' hbody ih

/-- Every event is a processing instruction (what stands before and after the root element). -/
def OnlyPi (es : List Event) : Prop := ∀ e ∈ es, ∃ t d, e = Event.pi t d

theorem parsePi_event (s : PState) : OkE (fun p => ∃ t d, p.1 = Event.pi t d) (parsePi s) := by
  unfold parsePi
  refine OkE.bind (OkE.triv _) ?_; intro s1 _
  refine OkE.bind (OkE.triv _) ?_; rintro ⟨⟨name, pre⟩, s2⟩ _
  refine OkE.bind (OkE.triv _) ?_; rintro ⟨v, s3⟩ _
  refine OkE.bind (OkE.triv _) ?_; intro s4 _
  exact OkE.pure ⟨_, _, rfl⟩

theorem piLoop_events : ∀ (f : Nat) (ev : List Event) (s : PState),
    OkE (fun p => ∃ pis, p.1 = ev ++ pis ∧ OnlyPi pis) (piLoop f ev s)
  | 0, _, _ => by simp only [piLoop]; exact OkE.error
  | f + 1, ev, s => by
    simp only [piLoop]
    split
    · refine OkE.bind (parsePi_event s) ?_
      rintro ⟨e, s1⟩ ⟨t, d, he⟩
      intro b hb
      obtain ⟨pis, h1, h2⟩ := piLoop_events f _ s1 b hb
      refine ⟨e :: pis, by rw [h1]; simp, ?_⟩
      intro x hx
      rcases List.mem_cons.1 hx with hx | hx
      · exact ⟨t, d, hx ▸ he⟩
      · exact h2 x hx
    · exact OkE.pure ⟨[], by simp, fun _ h => by cases h⟩

theorem leafStep_events (s : PState) (k : ItemKind) :
    OkE (fun p => (∃ b, p.1 = charsEv b) ∨ ∃ t d, p.1 = [Event.pi t d]) (leafStep s k) := by
  have chars : ∀ {b : Bytes} {s1 : PState}, OkE (fun p => (∃ b, p.1 = charsEv b) ∨ ∃ t d, p.1 = [Event.pi t d])
      (pure (charsEv b, s1)) := OkE.pure (.inl ⟨_, rfl⟩)
  cases k <;> simp only [leafStep]
  case ext => exact OkE.bind (OkE.triv _) fun _ _ => chars
  case entity => exact OkE.bind (OkE.triv _) fun _ _ => chars
  case str => exact OkE.bind (OkE.triv _) fun _ _ => chars
  case opaq =>
    refine OkE.bind (OkE.triv _) fun p _ => ?_
    split
    · exact OkE.error
    · exact OkE.bind (OkE.triv _) fun _ _ => chars
  case pi =>
    refine OkE.bind (parsePi_event s) ?_
    rintro ⟨e, s1⟩ ⟨t, d, he⟩
    exact OkE.pure (.inr ⟨t, d, by rw [he]⟩)
  case switch => exact OkE.bind (OkE.triv _) fun _ _ => OkE.pure (.inl ⟨[], rfl⟩)
  all_goals exact OkE.error

theorem bal_charsEv (b : Bytes) : Bal (charsEv b) := by
  unfold charsEv; split
  · exact Bal.nil
  · exact Bal.chars b Bal.nil

theorem Run.bal {k : Bool} {s s' : PState} {es : List Event} (h : Run k s es s') : Bal es := by
  induction h with
  | empty hh ht => exact Bal.elt _ _ _ Bal.nil Bal.nil
  | full hh ht hr hs ih => exact Bal.elt _ _ _ ih Bal.nil
  | done hi => exact Bal.nil
  | leaf hs hr ih =>
    refine Bal.append ?_ ih
    rcases leafStep_events _ _ _ hs with ⟨b, rfl⟩ | ⟨t, d, rfl⟩
    · exact bal_charsEv b
    · exact Bal.pi t d Bal.nil
  | sub hi hr1 hr2 ih1 ih2 => exact Bal.append ih1 ih2

theorem parseElement_events {f : Nat} {ev ev' : List Event} {s s' : PState} (h : parseElement f ev s = .ok (ev', s')) :
    ∃ n attrs body, ev' = ev ++ (Event.startElt n attrs :: (body ++ [Event.endElt n])) ∧ Bal body := by
  obtain ⟨es, rfl, hr⟩ := (run_of_ok f).1 _ _ _ _ h
  cases hr with
  | empty hh ht => exact ⟨_, _, [], rfl, Bal.nil⟩
  | full hh ht hr hs => exact ⟨_, _, _, rfl, hr.bal⟩

def startCount : List Event → Nat
  | [] => 0
  | .startElt _ _ :: es => startCount es + 1
  | .startDoc _ _ :: es => startCount es
  | .endDoc :: es => startCount es
  | .pi _ _ :: es => startCount es
  | .endElt _ :: es => startCount es
  | .chars _ :: es => startCount es

/-- The weight that makes `evSum` count the start-element events. -/
def startW : Event → Nat
  | .startElt _ _ => 1
  | _ => 0

theorem evSum_startCount : ∀ (es : List Event), evSum startW es = startCount es
  | [] => rfl
  | e :: es => by cases e <;> simp only [evSum, startW, startCount, evSum_startCount es] <;> omega

theorem startCount_append (a b : List Event) : startCount (a ++ b) = startCount a + startCount b := by
  simp only [← evSum_startCount, evSum_append]

/-- Every start-element event is paid for with at least one input byte (its tag). -/
theorem Run.count {k : Bool} {s s' : PState} {es : List Event} (h : Run k s es s') (hl : s.lang ≠ none) :
    startCount es + s'.rest.length ≤ s.rest.length := by
  have := (Run.weight startW 1 0 (fun s => s.lang ≠ none)
    (fun hC a => a.lang_ne hC)
    (fun {s es s1} hC hs => by
      have a : Adv 1 s s1 := (leafStep_ok hC).of_ok hs
      refine ⟨a, ?_⟩
      have := a.len
      rcases leafStep_events _ _ _ hs with ⟨b, rfl⟩ | ⟨t, d, rfl⟩
      · unfold charsEv; split <;> simp only [evSum, startW] <;> omega
      · simp only [evSum, startW]; omega)
    (fun hC hh => by
      have a := (elemHead_ok hC).of_ok hh
      exact ⟨a, by have := a.len; simp only [startW] at this ⊢; omega⟩)
    (fun _ => Nat.le_refl _) h hl).2
  rw [evSum_startCount] at this
  omega

/-- The events of a successful `parseBody`: processing instructions, the root element with a balanced
    body, processing instructions. -/
theorem parseBody_events {acc ev : List Event} {s s' : PState} (h : parseBody acc s = .ok (ev, s')) :
    ∃ pis1 n attrs body pis2,
      ev = acc ++ (pis1 ++ (Event.startElt n attrs :: (body ++ Event.endElt n :: pis2))) ∧
      OnlyPi pis1 ∧ Bal body ∧ OnlyPi pis2 := by
  unfold parseBody at h
  obtain ⟨⟨ev1, s1⟩, h1, h⟩ := bind_eq_ok h
  obtain ⟨⟨ev2, s2⟩, h2, h3⟩ := bind_eq_ok h
  obtain ⟨pis1, e1, p1⟩ := piLoop_events _ _ _ _ h1
  obtain ⟨n, attrs, body, e2, p2⟩ := parseElement_events h2
  obtain ⟨pis2, e3, p3⟩ := piLoop_events _ _ _ _ h3
  dsimp only at e1 e2 e3
  exact ⟨pis1, n, attrs, body, pis2, by rw [e3, e2, e1]; simp, p1, p2, p3⟩

end Wbxml.Lemmas.ParserSafe
