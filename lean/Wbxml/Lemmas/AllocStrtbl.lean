/-
  C16 — specifications of `wbxml_strtbl_check_references` (both loops) in the ledger monad.
-/
import Wbxml.Lemmas.AllocEnc
namespace Wbxml.Model.Alloc
open Wbxml

theorem bumpCount_owned (bytes : Bytes) (cells cells' : List (Nat × StrElt)) (h : bumpCount bytes cells = some cells') :
    cellsOwned StrElt.owned cells' = cellsOwned StrElt.owned cells := by
  induction cells generalizing cells' with
  | nil => simp [bumpCount] at h
  | cons x rest ih =>
    simp only [bumpCount] at h
    split at h
    · cases h; simp [cellsOwned, StrElt.owned]
    · cases hb : bumpCount bytes rest with
      | none => simp [hb] at h
      | some rest' =>
        simp only [hb, Option.map_some, Option.some.injEq] at h
        subst h
        have := ih rest' hb
        simp only [cellsOwned, List.flatMap_cons] at this ⊢
        rw [this]

theorem bumpCount_items (bytes : Bytes) (cells cells' : List (Nat × StrElt)) (h : bumpCount bytes cells = some cells') :
    ∀ x ∈ cells'.map (·.2), ∃ y ∈ cells.map (·.2), y.string = x.string ∧ y.stat = x.stat := by
  induction cells generalizing cells' with
  | nil => simp [bumpCount] at h
  | cons a rest ih =>
    obtain ⟨c, r⟩ := a
    simp only [bumpCount] at h
    split at h
    · cases h
      intro x hx
      simp only [List.map_cons, List.mem_cons] at hx
      rcases hx with rfl | hx
      · exact ⟨r, by simp, rfl, rfl⟩
      · exact ⟨x, by simp [hx], rfl, rfl⟩
    · cases hb : bumpCount bytes rest with
      | none => simp [hb] at h
      | some rest' =>
        simp only [hb, Option.map_some, Option.some.injEq] at h
        subst h
        intro x hx
        simp only [List.map_cons, List.mem_cons] at hx
        rcases hx with hx | hx
        · exact ⟨r, by simp, by rw [hx], by rw [hx]⟩
        · obtain ⟨y, hy, e1, e2⟩ := ih rest' hb x hx
          exact ⟨y, by simp [hy], e1, e2⟩

/-- Blocks of the list `*strings` during the counting loop: its struct and the cells still in it
    (with their strings when those are owned, i.e. `stat = false`). -/
abbrev stringsOwned (stat : Bool) (sHdr : Nat) (cells : List (Nat × ABuf)) : List Nat :=
  sHdr :: cellsOwned (strOi stat) cells

/-- Blocks of a list of reference elements: its struct, its cells, and what the elements own. -/
abbrev refsOwned (l : AList StrElt) : List Nat := l.hdr :: cellsOwned StrElt.owned l.cells

/-- What the first loop says of the references it returns, started with the references `old` and the
    strings `strs`: each continues one of `old` or was made for one of `strs`. -/
abbrev CountQ (stat : Bool) (sHdr : Nat) (old : AList StrElt) (strs : List (Nat × ABuf)) (r : Option (AList StrElt))
    (B : List Nat) : Prop :=
  B = (match r with | none => [] | some ref' => sHdr :: refsOwned ref') ∧
  ∀ ref', r = some ref' → ∀ x ∈ ref'.items,
    (∃ y ∈ old.items, y.string = x.string ∧ y.stat = x.stat) ∨ (x.stat = stat ∧ x.string ∈ strs.map (·.2))

/-- First loop of `wbxml_strtbl_check_references` (repaired): either every string ends up in exactly
    one reference element (or is destroyed as a duplicate), or — on any failed allocation — the
    remaining strings, the string in hand, the references and both lists are all released. -/
theorem countRefs_tri (stat : Bool) (sHdr : Nat) (cells : List (Nat × ABuf)) (referenced : AList StrElt) :
    Tri [] (stringsOwned stat sHdr cells ++ refsOwned referenced) False (countRefs stat sHdr referenced cells)
      (CountQ stat sHdr referenced cells) (· = none) := by
  induction cells generalizing referenced with
  | nil => exact .ret (.refl _) ⟨rfl, fun ref' h x hx => by cases h; exact Or.inl ⟨x, hx, rfl, rfl⟩⟩ False.elim
  | cons x rest ih =>
    obtain ⟨c, string⟩ := x
    -- "release everything": the common tail of the two failure exits
    have hfail : ∀ {F : Prop}, Tri [] (stringsOwned stat sHdr rest ++ refsOwned referenced) F
        (Prog.bind (listDestroy (some referenced) (fun x => strEltDestroy (some x)))
          (fun _ => Prog.bind (listDestroy (some (⟨sHdr, rest⟩ : AList ABuf)) (destroyString stat))
            (fun _ => Prog.ret (none : Option (AList StrElt)))))
        (CountQ stat sHdr referenced ((c, string) :: rest)) (· = none) :=
      .release (listDestroy_frees StrElt.owned _ elt_destroys (some referenced)) (.refl _)
        (.release (listDestroy_frees (strOi stat) _ (string_destroys stat) (some ⟨sHdr, rest⟩)) (Fr := []) (.refl _)
          (.ret (.refl _) ⟨rfl, fun _ h => nomatch h⟩ fun _ => rfl))
    -- the recursive call with references `ref'`, each of which continues one of `referenced` or was made for `string`
    have hrec : ∀ {F : Prop} {O : List Nat} (ref' : AList StrElt), ¬ F →
        O.Perm (stringsOwned stat sHdr rest ++ refsOwned ref') →
        (∀ y ∈ ref'.items, (∃ z ∈ referenced.items, z.string = y.string ∧ z.stat = y.stat) ∨ (y.stat = stat ∧ y.string = string)) →
        Tri [] O F (countRefs stat sHdr ref' rest) (CountQ stat sHdr referenced ((c, string) :: rest)) (· = none) := by
      intro F O ref' hF hp hfrom
      refine ((ih ref').perm hp).mono (fun f => (hF f).elim) (fun r B ⟨eB, p⟩ => ⟨B, .refl _, eB, fun r' hr x hx => ?_⟩)
        fun _ _ _ => id
      rcases p r' hr x hx with ⟨y, hy, e1, e2⟩ | ⟨h1, h2⟩
      · rcases hfrom y hy with ⟨z, hz, f1, f2⟩ | ⟨f1, f2⟩
        · exact Or.inl ⟨z, hz, f1.trans e1, f2.trans e2⟩
        · exact Or.inr ⟨e2.symm.trans f1, by rw [← e1, f2]; exact List.mem_cons_self⟩
      · exact Or.inr ⟨h1, List.mem_cons_of_mem _ h2⟩
    unfold countRefs
    refine .deref (.inl (by simp [stringsOwned])) (.deref (.inl (by simp [stringsOwned, cellsOwned_cons])) ?_)
    refine .release (Frees.free (some c)) (Fr := (stringsOwned stat sHdr rest ++ refsOwned referenced) ++ strOi stat string)
      (by simp only [stringsOwned, cellsOwned_cons]; perm_count) ?_
    cases hb : bumpCount string.bytes referenced.cells with
    | some cells' =>
      refine .release (string_destroys stat string) (.refl _) ?_
      exact hrec { referenced with cells := cells' } id (by simp [refsOwned, bumpCount_owned _ _ _ hb])
        fun y hy => .inl (bumpCount_items _ _ _ hb y hy)
    | none =>
      refine (strEltCreate_tri string stat).make nofun fun ref0 e2 => ?_
      rcases ref0 with _ | ref0 <;> dsimp only
      · exact .release (string_destroys stat string) (Fr := stringsOwned stat sHdr rest ++ refsOwned referenced) (by simp) hfail
      obtain ⟨es0, et0⟩ := e2 ref0 rfl
      -- the new reference owns its struct and (when not static) the string
      have hRefOwned : ({ ref0 with count := ref0.count + 1 } : StrElt).owned = ref0.hdr :: strOi stat string := by
        simp [StrElt.owned, es0, et0, strOi]
      refine (listAppend_tri referenced { ref0 with count := ref0.count + 1 }).callQ (.refl _)
        (fun i hi => .inr (by rw [List.mem_singleton.1 hi]; simp [refsOwned])) ?_
      rintro ⟨ref3, ok3⟩ B ⟨eh3, ⟨rfl, rfl, rfl⟩ | ⟨rfl, cid, hcells, rfl⟩⟩
      · simp only [Bool.not_false, if_true]
        exact .release (strEltDestroy_frees (some _)) (Fr := stringsOwned stat sHdr rest ++ refsOwned ref3)
          (by simp only [ownedEltOpt, hRefOwned]; perm_count) hfail
      · simp only [Bool.not_true, Bool.false_eq_true, if_false]
        simp only at eh3 hcells
        refine hrec ref3 (by simp) ?_ fun y hy => ?_
        · simp only [refsOwned, eh3, hcells, cellsOwned_append, cellsOwned_cons, cellsOwned_nil, hRefOwned]
          perm_count
        · simp only [hcells, AList.items, List.map_append, List.map_cons, List.map_nil, List.mem_append,
            List.mem_singleton] at hy
          exact hy.elim (fun h => .inl ⟨y, h, rfl, rfl⟩) fun h => .inr (h ▸ ⟨et0, es0⟩)

/-- What the second loop says of its result, started with encoder `e`, the references `cells` still
    in the list and `result` as `one_ref`. -/
abbrev SplitQ (rHdr : Nat) (e : AEnc) (result : AList StrElt) (cells : List (Nat × StrElt)) (r : AEnc × Option (AList StrElt))
    (B : List Nat) : Prop :=
  B = r.1.owned ++ (match r.2 with | none => [] | some one => rHdr :: refsOwned one) ∧ TblKept e r.1 ∧
  ∀ one, r.2 = some one → ∀ x ∈ one.items, x ∈ result.items ∨ x ∈ cells.map (·.2)

/-- The string table owns its strings: a reference that borrows a text-node buffer gets a copy before
    it goes to the table. -/
theorem ownString_tri (ref : StrElt) :
    Spec (if ref.stat then [ref.string.hdr] else []) ref.owned (if ref.stat = true then
        (bufDuplicate (some ref.string)).bind fun copy =>
          match copy with
          | none => Prog.ret none
          | some c => Prog.ret (some { ref with string := c, stat := false })
      else Prog.ret (some ref)) (fun r' => match r' with | none => ref.owned | some r2 => r2.owned)
      (fun r' => ∀ r2, r' = some r2 → r2.stat = false) (· = none) := by
  cases hst : ref.stat with
  | false => exact .ret (.refl _) ⟨rfl, fun r2 h => by cases h; exact hst⟩ False.elim
  | true =>
    refine (bufDuplicate_tri (some ref.string)).make (fun i hi => .inl (by simpa using hi)) fun cp _ => ?_
    rcases cp with _ | cp <;> dsimp only
    · exact .ret (by simp [ownedBufOpt]) ⟨rfl, fun _ h => nomatch h⟩ fun _ => rfl
    · exact .ret (by simp [StrElt.owned, hst, ownedBufOpt]) ⟨rfl, fun r2 h => by cases h; rfl⟩ (by simp)

/-- The strings that references borrow from the tree. -/
def borrowed (cells : List (Nat × StrElt)) : List Nat := (cells.filter (·.2.stat)).map (·.2.string.hdr)

/-- Second loop of `wbxml_strtbl_check_references` (with the copy of shared text-node buffers):
    every reference ends up in the string table, in `one_ref`, or is destroyed; on a failed
    allocation the reference in hand, the remaining references and `one_ref` are released and the
    string table keeps what it had been given so far. -/
theorem splitRefs_tri (rHdr : Nat) (cells : List (Nat × StrElt)) (e : AEnc) (result : AList StrElt) :
    Tri (borrowed cells) (e.owned ++ (refsOwned ⟨rHdr, cells⟩ ++ refsOwned result)) False (splitRefs e rHdr result cells)
      (SplitQ rHdr e result cells) (fun r => r.2 = none) := by
  induction cells generalizing e result with
  | nil => exact .ret (.refl _) ⟨rfl, .refl e, fun one h x hx => by cases h; exact Or.inl hx⟩ False.elim
  | cons x rest ih =>
    obtain ⟨c, ref⟩ := x
    -- "release the rest": the common tail of the failure exits; the encoder `e'` stays
    have hfail : ∀ {F : Prop} (e' : AEnc), TblKept e e' →
        Tri (borrowed ((c, ref) :: rest)) (e'.owned ++ (refsOwned ⟨rHdr, rest⟩ ++ refsOwned result)) F
          (Prog.bind (listDestroy (some (⟨rHdr, rest⟩ : AList StrElt)) (fun x => strEltDestroy (some x)))
            (fun _ => Prog.bind (listDestroy (some result) (fun x => strEltDestroy (some x)))
              (fun _ => Prog.ret ((e', none) : AEnc × Option (AList StrElt)))))
          (SplitQ rHdr e result ((c, ref) :: rest)) (fun r => r.2 = none) := fun e' k =>
      .release (listDestroy_frees StrElt.owned _ elt_destroys (some ⟨rHdr, rest⟩)) (Fr := e'.owned ++ refsOwned result)
        (by simp only [listOwned]; perm_count)
        (.release (listDestroy_frees StrElt.owned _ elt_destroys (some result)) (.refl _)
          (.ret (by simp) ⟨rfl, k, nofun⟩ fun _ => rfl))
    -- the recursive call, holding `e3`, the remaining references and `one_ref`
    have hrec : ∀ {F : Prop} {O : List Nat} (e3 : AEnc) (res : AList StrElt), ¬ F →
        O.Perm (e3.owned ++ (refsOwned ⟨rHdr, rest⟩ ++ refsOwned res)) → TblKept e e3 →
        (∀ x ∈ res.items, x ∈ result.items ∨ x ∈ ((c, ref) :: rest).map (·.2)) →
        Tri (borrowed ((c, ref) :: rest)) O F (splitRefs e3 rHdr res rest)
          (SplitQ rHdr e result ((c, ref) :: rest)) (fun r => r.2 = none) := by
      intro F O e3 res hF hp k hres
      refine (((ih e3 res).borrow fun i hi => ?_).perm hp).mono (fun f => (hF f).elim)
        (fun r B ⟨eB, k', q⟩ => ⟨B, .refl _, eB, k.trans k',
          fun one ho x hx => (q one ho x hx).elim (hres x) fun h => Or.inr (List.mem_cons_of_mem _ h)⟩)
        fun _ _ _ => id
      simp only [borrowed, List.filter_cons] at hi ⊢
      split
      · exact List.mem_cons_of_mem _ hi
      · exact hi
    unfold splitRefs
    refine .deref (.inl (by simp [refsOwned])) (.deref (.inl (by simp [refsOwned, cellsOwned_cons])) ?_)
    refine .release (Frees.free (some c)) (Fr := (e.owned ++ (refsOwned ⟨rHdr, rest⟩ ++ refsOwned result)) ++ ref.owned)
      (by simp only [refsOwned, cellsOwned_cons]; perm_count) ?_
    refine .deref (.inl (by simp [StrElt.owned])) ?_
    refine .ite (fun _ => ?_) fun _ => ?_
    · -- the reference goes to the string table
      refine (ownString_tri ref).after _ (.refl _) (fun i hi => .inl ?_) fun r' hr2 => ?_
      · cases hst : ref.stat with
        | false => simp [hst] at hi
        | true => simp [hst] at hi; simp [borrowed, hst, hi]
      rcases r' with _ | ref2 <;> dsimp only
      · exact .release (strEltDestroy_frees (some ref)) (.refl _) (hfail e (.refl e))
      refine (strtblAddElement_tri e ref2).call (Fr := refsOwned ⟨rHdr, rest⟩ ++ refsOwned result) (by perm_count) nofun
        fun ⟨e3, ok3, added3⟩ ⟨hadd, k3⟩ => ?_
      replace k3 := k3 (hr2 ref2 rfl)
      cases ok3 with
      | false =>
        obtain rfl : added3 = false := by
          cases added3
          · rfl
          · exact absurd (hadd rfl) (by simp)
        exact .release (strEltDestroy_frees (some ref2)) (Fr := e3.owned ++ (refsOwned ⟨rHdr, rest⟩ ++ refsOwned result))
          (by simp only [Bool.false_eq_true, if_false, ownedEltOpt]; perm_count) (hfail e3 k3)
      | true =>
        cases added3 with
        | true =>
          exact hrec e3 result (by simp) (by simp) k3 fun x hx => Or.inl hx
        | false =>
          refine .release (strEltDestroy_frees (some ref2)) (Fr := e3.owned ++ (refsOwned ⟨rHdr, rest⟩ ++ refsOwned result))
            (by simp only [Bool.false_eq_true, if_false, ownedEltOpt]; perm_count) ?_
          exact hrec e3 result (by simp) (.refl _) k3 fun x hx => Or.inl hx
    · -- the reference goes to `one_ref`
      refine (listAppend_tri result ref).callQ (.refl _) (fun i hi => .inr (by rw [List.mem_singleton.1 hi]; simp [refsOwned])) ?_
      rintro ⟨res2, ok2⟩ B ⟨eh2, ⟨rfl, rfl, rfl⟩ | ⟨rfl, cid, hcells, rfl⟩⟩
      · simp only [Bool.not_false, if_true]
        exact .release (strEltDestroy_frees (some ref)) (.refl _) (hfail e (.refl e))
      · simp only [Bool.not_true, Bool.false_eq_true, if_false]
        simp only at eh2 hcells
        refine hrec e res2 (by simp) ?_ (.refl e) fun x hx => ?_
        · simp only [refsOwned, AEnc.owned, eh2, hcells, cellsOwned_append, cellsOwned_cons, cellsOwned_nil]
          perm_count
        · simp only [AList.items, hcells, List.map_append, List.map_cons, List.map_nil, List.mem_append,
            List.mem_singleton] at hx
          exact hx.imp id fun h => by rw [h]; exact List.mem_cons_self

/-- A destructor that does nothing (`wbxml_list_destroy(list, NULL)`). -/
theorem nop_destroys {ι : Type} : Destroys (fun _ : ι => ([] : List Nat)) (fun _ => pure ()) :=
  fun _ => Frees.nil

/-- `wbxml_strtbl_check_references` (repaired): whatever fails, every string, every reference
    element and the three temporary lists are accounted for — moved to the string table, returned
    in `one_ref`, or released. `*strings` is left alone only when the very first allocation fails
    (and then nothing else happened); otherwise it is destroyed and reset.  Borrowed strings
    (`stat`) are only read. -/
theorem checkReferences_tri (e : AEnc) (strings : AList ABuf) (stat : Bool) :
    Spec (if stat then strings.items.map (·.hdr) else []) (e.owned ++ stringsOwned stat strings.hdr strings.cells)
      (checkReferences e strings stat)
      (fun r => r.1.owned ++ ((match r.2.2.1 with | none => [] | some l => stringsOwned stat l.hdr l.cells) ++
        (match r.2.2.2 with | none => [] | some one => refsOwned one)))
      (fun r => TblKept e r.1 ∧ (r.2.1 ≠ OK → r.2.2.2 = none) ∧ (r.2.1 = OK → r.2.2.1 = none ∧ r.2.2.2.isSome) ∧
        (∀ one, r.2.2.2 = some one → ∀ x ∈ one.items, x.stat = stat ∧ x.string ∈ strings.items))
      (fun r => r.2.1 ≠ OK) := by
  unfold checkReferences
  refine (listCreate_tri (ι := StrElt)).make nofun fun referenced hc1 => ?_
  rcases referenced with _ | referenced <;> dsimp only
  · exact .ret (by simp) ⟨rfl, .refl e, fun _ => rfl, by simp [ENOMEM, OK], nofun⟩ fun _ => ENOMEM_ne_OK
  have hR0 : refsOwned referenced = [referenced.hdr] := by simp [refsOwned, hc1 referenced rfl, cellsOwned]
  refine (countRefs_tri stat strings.hdr strings.cells referenced).call (Fr := e.owned) (by rw [hR0]; perm_count) nofun
    fun ref' p2 => ?_
  rcases ref' with _ | ref' <;> dsimp only
  · exact .ret (by simp) ⟨rfl, .refl e, fun _ => rfl, by simp [ENOMEM, OK], nofun⟩ fun _ => ENOMEM_ne_OK
  have hprov : ∀ x ∈ ref'.items, x.stat = stat ∧ x.string ∈ strings.items := fun x hx =>
    (p2 ref' rfl x hx).elim (fun ⟨y, hy, _⟩ => by simp [AList.items, hc1 referenced rfl] at hy) id
  refine .release (listDestroy_frees (fun _ => ([] : List Nat)) _ nop_destroys (some (⟨strings.hdr, []⟩ : AList ABuf)))
    (Fr := refsOwned ref' ++ e.owned) (by simp only [listOwned, cellsOwned_nil]; perm_count) ?_
  refine (listCreate_tri (ι := StrElt)).make nofun fun result hc4 => ?_
  rcases result with _ | result <;> dsimp only
  · refine .release (listDestroy_frees StrElt.owned _ elt_destroys (some ref')) (Fr := e.owned)
      (by simp only [listOwned]; perm_count) ?_
    exact .ret (by simp) ⟨rfl, .refl e, fun _ => rfl, by simp [ENOMEM, OK], nofun⟩ fun _ => ENOMEM_ne_OK
  have hRes0 : refsOwned result = [result.hdr] := by simp [refsOwned, hc4 result rfl, cellsOwned]
  refine (splitRefs_tri ref'.hdr ref'.cells e result).step (by rw [hRes0]; perm_count) (fun i hi => ?_)
    fun ⟨e5, one⟩ ⟨k5, q5⟩ => ?_
  · -- a borrowed string is one of the caller's strings
    obtain ⟨⟨_, x⟩, hx, rfl⟩ := List.mem_map.1 hi
    obtain ⟨hx, hst⟩ := List.mem_filter.1 hx
    obtain ⟨h1, h2⟩ := hprov x (List.mem_map.2 ⟨_, hx, rfl⟩)
    rw [← h1, hst, if_pos rfl]
    exact List.mem_map.2 ⟨_, h2, rfl⟩
  rcases one with _ | one <;> dsimp only
  · exact .ret (by simp) ⟨rfl, k5, fun _ => rfl, by simp [ENOMEM, OK], nofun⟩ fun _ => ENOMEM_ne_OK
  refine .release (listDestroy_frees StrElt.owned _ elt_destroys (some (⟨ref'.hdr, []⟩ : AList StrElt)))
    (Fr := e5.owned ++ refsOwned one) (by simp only [listOwned, cellsOwned_nil]; perm_count) ?_
  refine .ret (by simp) ⟨rfl, k5, fun h => absurd rfl h, fun _ => ⟨rfl, rfl⟩, fun one' ho x hx => ?_⟩ (by simp)
  cases ho
  exact (q5 one rfl x hx).elim (fun h => by simp [AList.items, hc4 result rfl] at h) (hprov x)

/-- The strings borrowed from the tree (`stat`) are live and none of the blocks held. -/
theorem borrowed_ready {strings : AList ABuf} {stat : Bool} {s : Ledger} {A : List Nat}
    (hbor : stat = true → ∀ b ∈ strings.cells.map (·.2), b.hdr ∈ s.live ∧ b.hdr ∉ A) :
    ∀ i ∈ (if stat then strings.items.map (·.hdr) else []), i ∈ s.live ∧ i ∉ A := by
  intro i hi
  cases stat with
  | false => cases hi
  | true =>
    obtain ⟨b, hb, rfl⟩ := List.mem_map.1 hi
    exact hbor rfl b hb

end Wbxml.Model.Alloc
