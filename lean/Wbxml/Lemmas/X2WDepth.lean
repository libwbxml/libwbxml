/-
  C02, bounds, depth: the element nesting of the tree `treeOfXml` builds (`Node.eltDepth`: CDATA nodes
  transparent, text 0, embedded documents entered) is at most its number of element nodes, and a
  callback adds an element node only for a start-element event: `eltWts_fits`. Hence
  `treeOfXml_eltDepth`: element nesting ≤ number of start-element events, embedded runs included
  (`expStarts`), and `expStarts ≤ expSize`.
-/
import Wbxml.Lemmas.X2WSize

namespace Wbxml.Lemmas.X2W
open Wbxml Wbxml.Model

def startW : XEvent → Nat
  | .startElt _ _ _ => 1
  | _ => 0

theorem eltWts_fits : eltWts.Fits startW where
  text_append _ _ := Nat.zero_le _
  held_none := rfl
  decode _ _ _ _ _ := Nat.zero_le _
  startCdata := Nat.zero_le _
  chars _ _ _ := Nat.zero_le _
  cache _ _ _ _ := Nat.zero_le _
  start _ _ _ _ := Nat.le_refl _

/-- Start-element events of a run, embedded runs included. -/
def expStarts (main : List Lang) (env : List (Bytes × ExpatRun)) : Nat → Bytes → Nat :=
  expSum startW main env

theorem startW_le (e : XEvent) : startW e ≤ evSize1 e := by
  cases e <;> simp only [startW, evSize1] <;> omega

theorem expStarts_le_expSize (main : List Lang) (env : List (Bytes × ExpatRun)) (f : Nat) (xml : Bytes) :
    expStarts main env f xml ≤ expSize main env f xml := by
  rw [← expSum_evSize1]
  exact expSum_le startW evSize1 startW_le main env f xml

/-- **Element nesting ≤ number of start-element events** (of the run and of the runs of the embedded
    documents it re-parses). -/
theorem treeOfXml_eltDepth (main : List Lang) (env : List (Bytes × ExpatRun)) (f : Nat) (xml : Bytes) (t : Tree)
    (h : treeOfXml main env f xml = .ok t) : t.eltDepth ≤ expStarts main env f xml := by
  have h1 := treeOfXml_w eltWts_fits main env 0 (fun _ _ _ _ => Nat.le_refl _) f xml t h
  have h2 := eltDepth_le_count (.tree t.lang t.origCharset t.root)
  simp only [expStarts, Tree.eltDepth, Tree.wsum] at h1 ⊢
  omega

end Wbxml.Lemmas.X2W
