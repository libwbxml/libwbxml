/- The hex codec of `Model/Codec/Hex.lean`: the encoder never indexes outside `hexits` (`hexEncodeE_ok`), and each
   direction inverts the other on its domain (`hexPairs_hexEnc`; `hexEnc_hexPairs` for digit strings of even length in
   the matching case). -/
import Wbxml.Model.Codec.Hex
import Wbxml.Lemmas.CodecBits
namespace Wbxml.Lemmas.Codec
open Wbxml Wbxml.Model.Codec

/-- The digit character for a nibble (any default outside the table: never used). -/
def hexSym (upper : Bool) (i : Nat) : UInt8 := ((if upper then hexitsUpper else hexitsLower)[i]?).getD 0

theorem hexit_of_lt (u : Bool) (i : Nat) (h : i < 16) : hexit u i = .ok (hexSym u i) := by
  have h' : i < (if u then hexitsUpper else hexitsLower).length := by cases u <;> exact h
  simp [hexit, hexSym, List.getElem?_eq_getElem h']

def hexEnc (u : Bool) : Bytes → Bytes
  | [] => []
  | b :: rest => hexSym u (b.toNat / 16) :: hexSym u (b.toNat % 16) :: hexEnc u rest

/-- The `hexits` index is always in range. -/
theorem hexEncodeE_ok (u : Bool) (bs : Bytes) : hexEncodeE u bs = .ok (hexEnc u bs) := by
  induction bs with
  | nil => rfl
  | cons b rest ih =>
    have hb := b.toNat_lt
    have : b.toNat / 16 % 16 = b.toNat / 16 := by omega
    rw [hexEncodeE, ih, hexit_of_lt _ _ (by omega), hexit_of_lt _ _ (by omega), this]; rfl

theorem hexEncode_eq (u : Bool) (bs : Bytes) : hexEncode u bs = hexEnc u bs := by
  simp [hexEncode, hexEncodeE_ok]

/-- Digit value of every digit character, both alphabets (kernel evaluation over the 2×16 table). -/
theorem nibble_sym_fin : ∀ (u : Bool) (i : Fin 16), hexNibble (hexSym u i.val) = i.val := by decide

theorem nibble_sym (u : Bool) (i : Nat) (h : i < 16) : hexNibble (hexSym u i) = i := nibble_sym_fin u ⟨i, h⟩

/-- The digit characters written arithmetically (kernel evaluation over the 2×16 table). -/
theorem hexSym_fin : ∀ (u : Bool) (i : Fin 16),
    hexSym u i.val = UInt8.ofNat (if i.val < 10 then 48 + i.val else (if u then 55 else 87) + i.val) := by decide

theorem hexNibble_lt (c : UInt8) : hexNibble c < 16 := by
  unfold hexNibble; split
  · omega
  · split
    · omega
    · split <;> omega

theorem hexPairs_hexEnc (u : Bool) (bs : Bytes) : hexPairs (hexEnc u bs) = bs := by
  induction bs with
  | nil => rfl
  | cons b rest ih =>
    have hb := b.toNat_lt
    rw [hexEnc, hexPairs, ih, nibble_sym _ _ (by omega), nibble_sym _ _ (by omega), or_mul_pow _ _ 4 (by omega)]
    have : b.toNat / 16 * 16 + b.toNat % 16 = b.toNat := by omega
    rw [this, UInt8.ofNat_toNat]

def isLowerHex (c : UInt8) : Prop := (48 ≤ c.toNat ∧ c.toNat ≤ 57) ∨ (97 ≤ c.toNat ∧ c.toNat ≤ 102)
def isUpperHex (c : UInt8) : Prop := (48 ≤ c.toNat ∧ c.toNat ≤ 57) ∨ (65 ≤ c.toNat ∧ c.toNat ≤ 70)

instance : DecidablePred isLowerHex := fun c => by unfold isLowerHex; infer_instance
instance : DecidablePred isUpperHex := fun c => by unfold isUpperHex; infer_instance

/-- A digit character of the alphabet selected by `u` (letters from `A` for `u = true`, from `a` otherwise) is the
    symbol of its own value. -/
theorem sym_nibble (u : Bool) (c : UInt8)
    (h : (48 ≤ c.toNat ∧ c.toNat ≤ 57) ∨ ((if u then 65 else 97) ≤ c.toNat ∧ c.toNat ≤ (if u then 70 else 102))) :
    hexSym u (hexNibble c) = c := by
  rw [hexSym_fin u ⟨hexNibble c, hexNibble_lt c⟩]
  have : (if hexNibble c < 10 then 48 + hexNibble c else (if u then 55 else 87) + hexNibble c) = c.toNat := by
    rcases h with ⟨h1, h2⟩ | ⟨h1, h2⟩
    · have hn : hexNibble c = c.toNat - 48 := by simp [hexNibble, h1, h2]
      rw [hn, if_pos (by omega)]; omega
    · have n1 : ¬ (48 ≤ c.toNat ∧ c.toNat ≤ 57) := by cases u <;> simp at h1 <;> omega
      cases u <;> simp only [Bool.false_eq_true, ↓reduceIte] at h1 h2 ⊢
      · have hn : hexNibble c = c.toNat - 97 + 10 := by simp [hexNibble, n1, h1, h2]
        rw [hn, if_neg (by omega)]; omega
      · have n2 : ¬ (97 ≤ c.toNat ∧ c.toNat ≤ 102) := by omega
        have hn : hexNibble c = c.toNat - 65 + 10 := by simp [hexNibble, n1, n2, h1, h2]
        rw [hn, if_neg (by omega)]; omega
  rw [this, UInt8.ofNat_toNat]

/-- binary → hex after hex → binary restores a digit string of even length, provided the case
    matches: `good` is `isLowerHex` for `u = false`, `isUpperHex` for `u = true`. -/
theorem hexEnc_hexPairs (u : Bool) (good : UInt8 → Prop) (hg : ∀ c, good c → hexSym u (hexNibble c) = c) :
    ∀ (s : Bytes), s.length % 2 = 0 → (∀ c ∈ s, good c) → hexEnc u (hexPairs s) = s
  | [], _, _ => rfl
  | [_], h, _ => by simp at h
  | a :: b :: rest, h, hall => by
    have ha := hexNibble_lt a; have hb := hexNibble_lt b
    have ih := hexEnc_hexPairs u good hg rest (by simp only [List.length_cons] at h; omega)
      (fun c hc => hall c (by simp [hc]))
    rw [hexPairs, hexEnc, ih, or_mul_pow _ _ 4 hb, toNat_ofNat_lt _ (by omega)]
    have e1 : (hexNibble a * 16 + hexNibble b) / 16 = hexNibble a := by omega
    have e2 : (hexNibble a * 16 + hexNibble b) % 16 = hexNibble b := by omega
    rw [e1, e2, hg a (hall a (by simp)), hg b (hall b (by simp))]

end Wbxml.Lemmas.Codec
