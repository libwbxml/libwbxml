/-
  C02: the names the tree builder delivers and the encoder needs — table rows, element and attribute
  names that are non-empty C strings (`langNames`, `nameOk`, `anameOk`), lifted to nodes and trees
  (`nodeOk`, `treeOk`). The builder half and the encoder half of C02 meet in these predicates only.
-/
import Wbxml.Model.EncXml
namespace Wbxml.Lemmas.X2W
open Wbxml Wbxml.Model

/-- Every row of the language's tag, attribute and attribute-value tables has a non-empty name
    (a `""` attribute-value row would make `strstr` succeed for ever in
    `wbxml_encode_value_element_buffer`). -/
def langNames (l : Lang) : Bool :=
  (match l.tags with | some t => t.all (fun r => !r.name.isEmpty) | none => true) &&
  (match l.attrs with | some t => t.all (fun r => !r.name.isEmpty) | none => true) &&
  (match l.values with | some t => t.all (fun r => !r.name.isEmpty) | none => true)

theorem langNames_tags {l : Lang} (h : langNames l = true) {t} (ht : l.tags = some t) {r} (hr : r ∈ t) :
    r.name ≠ [] := by
  simp only [langNames, ht, Bool.and_eq_true, List.all_eq_true] at h
  have := h.1.1 r hr
  intro e; simp [e] at this

theorem langNames_attrs {l : Lang} (h : langNames l = true) {t} (ht : l.attrs = some t) {r} (hr : r ∈ t) :
    r.name ≠ [] := by
  simp only [langNames, ht, Bool.and_eq_true, List.all_eq_true] at h
  have := h.1.2 r hr
  intro e; simp [e] at this

theorem langNames_values {l : Lang} (h : langNames l = true) {t} (ht : l.values = some t) {r} (hr : r ∈ t) :
    r.name ≠ [] := by
  simp only [langNames, ht, Bool.and_eq_true, List.all_eq_true] at h
  have := h.2 r hr
  intro e; simp [e] at this

/-- An element name the encoder can put into the string table: not the empty C string. -/
def nameOk : Name → Bool
  | .token r => !r.name.isEmpty
  | .literal s => !(cstrOf s).isEmpty

def anameOk : AName → Bool
  | .token r => !r.name.isEmpty
  | .literal s => !(cstrOf s).isEmpty

mutual
def nodeOk : Node → Bool
  | .elt name attrs kids => nameOk name && attrs.all (fun a => anameOk a.name) && nodesOk kids
  | .text _ => true
  | .cdata kids => nodesOk kids
  | .tree lang _ root =>
    match lang with
    | none => true
    | some l => langNames l && (match root with
      | some r => nodeOk r
      | none => false)
def nodesOk : List Node → Bool
  | [] => true
  | n :: rest => nodeOk n && nodesOk rest
end

theorem nodesOk_iff : ∀ (l : List Node), nodesOk l = true ↔ ∀ k ∈ l, nodeOk k = true
  | [] => by rw [nodesOk]; simp
  | k :: r => by rw [nodesOk, Bool.and_eq_true, nodesOk_iff r]; simp

/-- A tree as `wbxml_tree_to_wbxml` needs it: the predicate of an embedded document, on the document itself. -/
def treeOk (t : Tree) : Bool := nodeOk (.tree t.lang t.origCharset t.root)

end Wbxml.Lemmas.X2W
