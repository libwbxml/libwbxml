/-
  The library's main table `Gen.main`: its language identifiers are pairwise distinct, so an identifier finds
  its own entry (with `find?_self` of `Lemmas/KeyBits.lean`).
-/
import Wbxml.Gen.Tables
import Wbxml.Lemmas.KeyBits
namespace Wbxml.Lemmas.GenMain
open Wbxml

theorem gen_ids_pairwise : Gen.main.Pairwise (fun a b => a.id ≠ b.id) := by decide +kernel

end Wbxml.Lemmas.GenMain
