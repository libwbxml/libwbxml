/-
  C18 lemmas: the abstraction function.  Under `Inv` the executable walk `absList` / `absNode` /
  `absTree` (fuel `2 * heap + 2`) never faults, never runs out of fuel, and yields the plain tree
  `absBT` read off the ghost shape, which with the payloads determines it (`absTree_congr`); `add_node_abs`
  states the `addKid` equation of `addNode_under` for the executable `kidsAbs`.
-/
import Wbxml.Lemmas.TreeHeapAdd
namespace Wbxml.Model.TreeHeap
open Wbxml Wbxml.Model

theorem absList_spec {s : St} : ∀ (t : BT) (par prv : Option Nat) (fuel : Nat),
    Match s.cellAt par prv t → 2 * t.size + 1 ≤ fuel → absList s fuel t.rid = .ok (absBT s.cellAt t)
  | .nil, _, _, fuel, _, hf => by
    cases fuel with
    | zero => omega
    | succ f => rfl
  | .node i ch nx, par, prv, fuel, ⟨⟨c, hc, _, _, hfi, hnx, _⟩, mc, mn⟩, hf => by
    simp only [BT.size] at hf
    cases fuel with
    | zero => omega
    | succ f =>
      cases f with
      | zero => omega
      | succ f' =>
        have h1 := absList_spec ch (some i) none f' mc (by omega)
        have h2 := absList_spec nx par (some i) (f' + 1) mn (by omega)
        have hp : payOf s.cellAt i = c.pay := by simp [payOf, hc]
        simp only [BT.rid_node, absList, absNode, deref_of_cellAt hc, hfi, h1, hnx, h2, absBT, hp]

theorem absNode_spec {s : St} {n : Nat} {c : Cell} (hc : s.cellAt n = some c) (ch : BT)
    (hf : c.first = ch.rid) (hm : Match s.cellAt (some n) none ch) (fuel : Nat) (hfuel : 2 * ch.size + 2 ≤ fuel) :
    absNode s fuel n = .ok (mkNode c.pay (absBT s.cellAt ch)) := by
  cases fuel with
  | zero => omega
  | succ f =>
    have h1 := absList_spec ch (some n) none f hm (by omega)
    simp only [absNode, deref_of_cellAt hc, hf, h1]

theorem absNode_top {s : St} {T c T' : BT} {n : Nat} (hF : Forest s (T.snoc (.node n c T'))) :
    ∃ cn, s.cellAt n = some cn ∧ absNode s s.fuel n = .ok (mkNode cn.pay (absBT s.cellAt c)) := by
  obtain ⟨cn, hc, _, _, _, hf, _, hm⟩ := Loc.top_at hF.m
  refine ⟨cn, hc, absNode_spec hc _ hf hm _ ?_⟩
  have := hF.sub_size_lt
  unfold St.fuel; omega

theorem absTree_ok {s : St} (hI : Inv s) : ∃ t, absTree s = .ok t := by
  obtain ⟨G, hF⟩ := hI
  unfold absTree
  cases hr : s.root with
  | none => exact ⟨_, rfl⟩
  | some r =>
    obtain ⟨T, c, T', hG⟩ := BT.split_top r G (hF.root r hr)
    obtain ⟨cn, _, h⟩ := absNode_top (hG ▸ hF)
    simp only [h]; exact ⟨_, rfl⟩

/-- The same ghost shape with the same payloads has the same `absTree`. -/
theorem absTree_congr {s s' : St} {G : BT} (hF : Forest s G) (hF' : Forest s' G)
    (hpay : ∀ j, j ∈ G.ids → payOf s'.cellAt j = payOf s.cellAt j)
    (hr : s'.root = s.root) (hl : s'.lang = s.lang) (hc : s'.charset = s.charset) : absTree s' = absTree s := by
  unfold absTree
  rw [hr, hl, hc]
  cases hroot : s.root with
  | none => rfl
  | some r =>
    obtain ⟨T, c, T', hG⟩ := BT.split_top r G (hF.root r hroot)
    subst hG
    obtain ⟨cn, hcn, h⟩ := absNode_top hF
    obtain ⟨cn', hcn', h'⟩ := absNode_top hF'
    have hin : ∀ j, j = r ∨ j ∈ c.ids → j ∈ (T.snoc (.node r c T')).ids := fun j hj =>
      (BT.snoc_ids _ _ j).mpr (Or.inr (BT.mem_node.mpr (hj.imp_right Or.inl)))
    have hp : cn'.pay = cn.pay := by
      have := hpay r (hin r (Or.inl rfl)); simp only [payOf, hcn, hcn'] at this; exact this
    simp only [h, h', hp, absBT_frame c (fun j hj => hpay j (hin j (Or.inr hj)))]

theorem kidsAbs_spec {s : St} {G : BT} (hF : Forest s G) {P : Nat} (hP : P ∈ G.ids) :
    kidsAbs s P = .ok (absBT s.cellAt (BT.kidsOf P G)) := by
  obtain ⟨c, hc, hf, _, hm⟩ := hF.cell_kids hP
  simp only [kidsAbs, deref_of_cellAt hc, hf]
  apply absList_spec _ _ _ _ hm
  have h1 := BT.kidsOf_length_le P G hF.nodup
  have h2 := hF.size_le
  have h3 := BT.ids_length (BT.kidsOf P G)
  unfold St.fuel
  omega

/-- `wbxml_tree_add_node(tree, P, n)` acts on the abstract children list of `P` as `Model.addKid`:
    append — or, when the last child and `n` are both text, one text node with the joined content. -/
theorem add_node_abs {s : St} {T C T' : BT} {P n : Nat} {cP cn : Cell} (c : AddCtx s T C T' P n cP cn) :
    ∃ s' ks sub, addNode s (some P) n = .ok (true, s') ∧ kidsAbs s P = .ok ks ∧ absNode s s.fuel n = .ok sub ∧
      kidsAbs s' P = .ok (addKid ks sub) := by
  obtain ⟨_, _, _, hPG, hKeq⟩ := c.rest_facts
  obtain ⟨cn', hcn', hsub⟩ := absNode_top c.hF
  cases c.hcn.symm.trans hcn'
  obtain ⟨s', K', h⟩ := addNode_under c
  have hks := kidsAbs_spec c.hF hPG
  have := kidsAbs_spec h.forest (c.kids_after K').1
  rw [(c.kids_after K').2, h.abs] at this
  exact ⟨s', _, _, h.ok, hKeq ▸ hks, hsub, this⟩

end Wbxml.Model.TreeHeap
