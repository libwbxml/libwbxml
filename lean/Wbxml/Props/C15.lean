/-
  C15 — converter, parser and encoder objects carry nothing from one run to the next.

  Two layers.
  (1) Obligations over the REGENERATED `Gen.Fields` (what the compiler saw of the structs and of
      every function of wbxml_parser.c / wbxml_encoder.c / wbxml_conv.c in the tree under test),
      closed by kernel evaluation of the complete finite field/function tables, one evaluation
      per table.
  (2) The life-cycle machine of `Model/Objects.lean`, instantiated with those facts, for an
      ARBITRARY per-document function (`body`): history freedom and persistence of settings for all
      finite histories, by the inductions of `Lemmas/Objects.lean`.

  Known finding (known_findings.json, `encoder-reset-keeps-tree-derived-settings`): the encoder's
  `lang`, `use_strtbl`, `output_charset` are written by their setters AND derived from the tree by
  `encoder_encode_tree`, and `wbxml_encoder_reset` cannot restore the user's values.  The
  full-strength encoder clauses are therefore refuted by concrete witnesses
  (`encoder_reset_incomplete`, `encoder_plain_history_not_free`) and the provable parts carry the
  `_partial` suffix.
-/
import Wbxml.Lemmas.Objects
namespace Wbxml.Props.C15
open Wbxml.Gen.Fields Wbxml.Model.Objects

/-! ## Parser (`struct WBXMLParser_s`, `wbxml_parser_create`, `wbxml_parser_reinit`) -/

/-- Everything that is evaluated over the parser's table, in one declaration: the kernel then
    computes the number of each name (`keyBEq`) and each look-up once for all of it. The analyses
    are unfolded down to their tests on names (`setterN._f` is the body of the recursion of
    `setterN`), and the test is replaced by the one on numbers. The parts, in the order of the
    theorems below that state them (the k-th is `.2` k − 1 times, then `.1`; the last only `.2`s):
    1 `parser_settings_exact`, 2 `parser_derived_exact`, 3 `parser_reinit_complete`,
    4 `parser_reinit_keeps_settings`, 5 `parser_create_complete`, 6 `parser_reinit_frees_owned`,
    7 `parser_no_hidden_setter_calls`. -/
theorem parser_table :
    settings parser = ["user_data", "content_hdl", "mainTable", "lang_forced", "meta_charset"] ∧
    derived parser = ["wbxml", "strstbl", "langTable", "current_tag", "public_id", "public_id_index",
                      "charset", "pos", "version", "tagCodePage", "attrCodePage"] ∧
    (∀ f ∈ derived parser, restores parser f = true) ∧
    reinitKeepsSettings parser = true ∧
    (∀ f ∈ fieldNames parser, (initValue parser f).isSome = true) ∧
    reinitFreesOwned parser = true ∧
    setterCallsFromNonSetters parser = [] := by
  delta settings derived settingByWriters fnWrites isSetter setterN setterN._f storeSetterLike restores
    reinitValue initValue assignedValue createStores reinitStores storesOf reinitKeepsSettings reinitFreesOwned
    owned setterCallsFromNonSetters findFn
  rw [← keyBEq_eq]
  decide +kernel

/-- The settings — fields whose every writer other than create is a setter — are exactly these. -/
theorem parser_settings_exact :
    settings parser = ["user_data", "content_hdl", "mainTable", "lang_forced", "meta_charset"] := parser_table.1

/-- Every other field is per-document state (written by some non-setter function). -/
theorem parser_derived_exact :
    derived parser = ["wbxml", "strstbl", "langTable", "current_tag", "public_id", "public_id_index",
                      "charset", "pos", "version", "tagCodePage", "attrCodePage"] := parser_table.2.1

/-- Every derived field is assigned by `wbxml_parser_reinit`, unconditionally, the value
    `wbxml_parser_create` gives it. -/
theorem parser_reinit_complete : ∀ f ∈ derived parser, restores parser f = true := parser_table.2.2.1

/-- `wbxml_parser_reinit` stores to no setting. -/
theorem parser_reinit_keeps_settings : reinitKeepsSettings parser = true := parser_table.2.2.2.1

/-- `wbxml_parser_create` initialises every field of the malloc'ed object. -/
theorem parser_create_complete : ∀ f ∈ fieldNames parser, (initValue parser f).isSome = true := parser_table.2.2.2.2.1

/-- Heap objects owned by the parser are destroyed by reinit before their field is overwritten. -/
theorem parser_reinit_frees_owned : reinitFreesOwned parser = true := parser_table.2.2.2.2.2.1

/-- No function of wbxml_parser.c other than a setter calls a setter on an existing parser. -/
theorem parser_no_hidden_setter_calls : setterCallsFromNonSetters parser = [] := parser_table.2.2.2.2.2.2

/-! ## Encoder (`struct WBXMLEncoder_s`, `wbxml_encoder_create_real`, `wbxml_encoder_reset`) -/

/-- Everything that is evaluated over the encoder's table (as `parser_table`): settings and the
    derived fields reset leaves alone; what create and reset assign; and what the entry points do
    to an existing encoder behind the user's back — the setters they call, and what the four run
    kinds may leave changed among the user's fields. All these questions walk largely the same
    part of the call graph. The parts, in the order of the theorems below that state or use them:
    1 `encoder_settings_exact`, 2 `encoder_sticky_exact`, 3 the witness of `encoder_reset_incomplete`,
    4 `encoder_reset_recreates_strtbl`, 5 `encoder_sticky_have_setters`, 6 `encoder_reset_keeps_settings`,
    7 `encoder_create_complete`, 8 `encoder_reset_frees_owned`, 9 `encoder_encode_tree_restores_lang`,
    10 `encoder_hidden_setter_calls_exact`, 11 `encoder_flow_run_keeps_user_fields` and
    `encoder_node_run_keeps_user_fields`, 12 `encoder_tree_run_writes_exact`,
    13 `encoder_reset_leaves_sticky`, 14 `encoder_lang_indent_values`. -/
theorem encoder_table :
    settings encoder = ["ignore_empty_text", "remove_text_blanks", "output_type", "xml_gen_type", "indent_delta",
                        "xml_encode_header", "produce_anonymous", "wbxml_version", "flow_mode",
                        "textual_publicid"] ∧
    stickyList encoder = ["lang", "use_strtbl", "output_charset"] ∧
    ("encoder_encode_tree" ∈ writers encoder "lang" ∧ reinitValue encoder "lang" = none) ∧
    (reinitValue encoder "strstbl" = initValue encoder "strstbl" ∧ (initValue encoder "strstbl").isSome = true) ∧
    (∀ f ∈ stickyList encoder, hasSetter encoder f = true) ∧
    reinitKeepsSettings encoder = true ∧
    (∀ f ∈ fieldNames encoder, (initValue encoder f).isSome = true) ∧
    reinitFreesOwned encoder = true ∧
    (ownWrites encoder "wbxml_encoder_encode_tree" "lang" = true ∧
     restoresSaved encoder "wbxml_encoder_encode_tree" "lang" = true) ∧
    setterCallsFromNonSetters encoder =
      [("wbxml_encoder_encode_tree_to_wbxml", "wbxml_encoder_set_output_type"),
       ("wbxml_encoder_encode_tree_to_xml", "wbxml_encoder_set_output_type")] ∧
    (∀ k ∈ [encFlowRun, encNodeRun], keepsAll encoder k (settings encoder ++ stickyList encoder) = true) ∧
    (∀ k ∈ [encTreeRunW, encTreeRunX],
      (settings encoder ++ stickyList encoder).filter (fun f => !keepsNet encoder k f)
        = ["output_type", "lang", "use_strtbl", "output_charset"]) ∧
    reinitLeavesSticky encoder = true ∧
    initOf encoder "lang" = "NULL" ∧ initOf encoder "indent" = "0" ∧ reinitValue encoder "indent" = some "0" := by
  delta settings stickyList derived settingByWriters fnWrites hasSetter writers isSetter setterN setterN._f
    storeSetterLike restores initOf reinitValue initValue assignedValue createStores reinitStores storesOf
    reinitKeepsSettings reinitLeavesSticky reinitFreesOwned owned setterCallsFromNonSetters
    keepsAll keepsNet runWritten netWritten writtenFields reach reachN reachN._f calleesOnObj
    ownWrites ownWritten restoresSaved findFn
  rw [← keyBEq_eq]
  decide +kernel

theorem encoder_settings_exact :
    settings encoder = ["ignore_empty_text", "remove_text_blanks", "output_type", "xml_gen_type", "indent_delta",
                        "xml_encode_header", "produce_anonymous", "wbxml_version", "flow_mode",
                        "textual_publicid"] := encoder_table.1

/-- The derived fields that `wbxml_encoder_reset` does not give their creation value: exactly the
    three tree-derived settings of the known finding. -/
theorem encoder_sticky_exact : stickyList encoder = ["lang", "use_strtbl", "output_charset"] :=
  encoder_table.2.1

theorem encoder_lang_sticky : "lang" ∈ stickyList encoder := by
  rw [encoder_sticky_exact]; exact List.mem_cons_self

/-- Provable part of `encoder_reset_complete`: every derived field other than those three
    (`tree`, `output`, `output_header`, `current_*`, both code pages, `indent`, `in_content`,
    `in_cdata`, `cdata`, `strstbl`, `strstbl_len`, `pre_last_node_*`) is assigned by
    `wbxml_encoder_reset`, unconditionally, the value `wbxml_encoder_create_real` gives it. -/
theorem encoder_reset_complete_partial :
    ∀ f ∈ derived encoder, f ∉ ["lang", "use_strtbl", "output_charset"] → restores encoder f = true :=
  fun _ hd hn => restores_of_not_sticky hd (by rwa [encoder_sticky_exact])

/-- Negation of the full-strength clause, with the witness field: `lang` is stored by
    `encoder_encode_tree` (not a setter) and `wbxml_encoder_reset` does not assign it. -/
theorem encoder_reset_incomplete :
    ¬ (∀ f ∈ derived encoder, restores encoder f = true) ∧
    "lang" ∈ derived encoder ∧ "encoder_encode_tree" ∈ writers encoder "lang" ∧ reinitValue encoder "lang" = none := by
  obtain ⟨hd, hr⟩ := List.mem_filter.1 encoder_lang_sticky
  exact ⟨fun h => by simp [h _ hd] at hr, hd, encoder_table.2.2.1⟩

/-- The string-table list is recreated by reset exactly as create creates it (the defect fixed by
    this component: it used to be left NULL, so every later WBXML encoding failed). -/
theorem encoder_reset_recreates_strtbl :
    reinitValue encoder "strstbl" = initValue encoder "strstbl" ∧ (initValue encoder "strstbl").isSome = true :=
  encoder_table.2.2.2.1

/-- Each of the three sticky fields has a setter, so the user can re-apply them after reset. -/
theorem encoder_sticky_have_setters : ∀ f ∈ stickyList encoder, hasSetter encoder f = true :=
  encoder_table.2.2.2.2.1

theorem encoder_reset_keeps_settings : reinitKeepsSettings encoder = true := encoder_table.2.2.2.2.2.1

theorem encoder_create_complete : ∀ f ∈ fieldNames encoder, (initValue encoder f).isSome = true :=
  encoder_table.2.2.2.2.2.2.1

theorem encoder_reset_frees_owned : reinitFreesOwned encoder = true := encoder_table.2.2.2.2.2.2.2.1


/-! ## Encoder run kinds: what each public entry point may leave changed

  A run is what happens between two resets.  Besides `set_tree` + `encode_tree_to_wbxml/_to_xml`
  (`encTreeRunW/X`) the public API offers flow-style runs (`wbxml_encoder_encode_tree(encoder, tree)`
  then `wbxml_encoder_get_output`: `encFlowRun`) and node-wise runs (`encode_node`,
  `encode_node_with_elt_end`, `encode_raw_elt_start/_end`, `delete_last_node`, `delete_output_bytes`,
  `get_output`: `encNodeRun`).  The facts below are about EVERY path through these functions — a run
  that fails in the middle of a tree included. -/

/-- `wbxml_encoder_encode_tree` installs the tree's language for the duration of the call and puts the
    saved entry value of `lang` back on EVERY path (also when the root node could not be encoded). -/
theorem encoder_encode_tree_restores_lang :
    ownWrites encoder "wbxml_encoder_encode_tree" "lang" = true ∧
    restoresSaved encoder "wbxml_encoder_encode_tree" "lang" = true := encoder_table.2.2.2.2.2.2.2.2.1

/-- The only non-setter functions that call a setter on an existing encoder are the two entry points,
    which select the output type named in their own name. -/
theorem encoder_hidden_setter_calls_exact :
    setterCallsFromNonSetters encoder =
      [("wbxml_encoder_encode_tree_to_wbxml", "wbxml_encoder_set_output_type"),
       ("wbxml_encoder_encode_tree_to_xml", "wbxml_encoder_set_output_type")] :=
  encoder_table.2.2.2.2.2.2.2.2.2.1

/-- A flow-style run — successful or not — leaves every setting and each of `lang`, `use_strtbl`,
    `output_charset` as it found it. -/
theorem encoder_flow_run_keeps_user_fields :
    ∀ f ∈ settings encoder ++ stickyList encoder, keepsNet encoder encFlowRun f = true :=
  (keepsAll_iff ..).1 (encoder_table.2.2.2.2.2.2.2.2.2.2.1 _ List.mem_cons_self)

/-- So does a node-wise run, whatever mixture of the flow API it is made of. -/
theorem encoder_node_run_keeps_user_fields :
    ∀ f ∈ settings encoder ++ stickyList encoder, keepsNet encoder encNodeRun f = true :=
  (keepsAll_iff ..).1 (encoder_table.2.2.2.2.2.2.2.2.2.2.1 _ (List.mem_cons_of_mem _ List.mem_cons_self))

/-- What a tree run (`set_tree` + `encode_tree_to_wbxml/_to_xml`) may leave changed among the user's
    fields: exactly the three sticky fields and, of the settings, only the output type named in the
    entry point. -/
theorem encoder_tree_run_writes_exact :
    (settings encoder ++ stickyList encoder).filter (fun f => !keepsNet encoder encTreeRunW f)
      = ["output_type", "lang", "use_strtbl", "output_charset"] ∧
    (settings encoder ++ stickyList encoder).filter (fun f => !keepsNet encoder encTreeRunX f)
      = ["output_type", "lang", "use_strtbl", "output_charset"] :=
  ⟨encoder_table.2.2.2.2.2.2.2.2.2.2.2.1 _ List.mem_cons_self,
   encoder_table.2.2.2.2.2.2.2.2.2.2.2.1 _ (List.mem_cons_of_mem _ List.mem_cons_self)⟩

theorem encoder_tree_run_writes_lang : ∀ k ∈ [encTreeRunW, encTreeRunX], keepsNet encoder k "lang" = false := by
  intro k hk
  have h : "lang" ∈ (settings encoder ++ stickyList encoder).filter (fun f => !keepsNet encoder k f) := by
    rw [encoder_table.2.2.2.2.2.2.2.2.2.2.2.1 k hk]; simp
  simpa using (List.mem_filter.1 h).2

/-- The known finding, localised: the ONLY run kind after which the user has to call the setters of
    `lang`, `use_strtbl`, `output_charset` again is `set_tree` + `encode_tree_to_wbxml/_to_xml`
    (through `encoder_encode_tree`). -/
theorem encoder_reapply_exact :
    reapplyAfter encoder encFlowRun = false ∧ reapplyAfter encoder encNodeRun = false ∧
    reapplyAfter encoder encTreeRunW = true ∧ reapplyAfter encoder encTreeRunX = true :=
  ⟨reapplyAfter_eq_false.2 fun f hf => encoder_flow_run_keeps_user_fields f (List.mem_append_right _ hf),
   reapplyAfter_eq_false.2 fun f hf => encoder_node_run_keeps_user_fields f (List.mem_append_right _ hf),
   reapplyAfter_of_written encoder_lang_sticky (encoder_tree_run_writes_lang _ List.mem_cons_self),
   reapplyAfter_of_written encoder_lang_sticky
     (encoder_tree_run_writes_lang _ (List.mem_cons_of_mem _ List.mem_cons_self))⟩

/-- `wbxml_encoder_reset` does not store to `lang`, `use_strtbl`, `output_charset` at all. -/
theorem encoder_reset_leaves_sticky : reinitLeavesSticky encoder = true := encoder_table.2.2.2.2.2.2.2.2.2.2.2.2.1

/-! ## Converters (`struct WBXMLConvWBXML2XML_s`, `struct WBXMLConvXML2WBXML_s`; no re-initialisation function) -/

/-- Everything that is evaluated over the converters' tables (as `parser_table`). The parts:
    1 `conv_holds_options_only`, 2 `conv_settings_exact`, 3 `conv_create_complete`,
    4 `conv_reinit_keeps_settings`, 5 `conv_no_hidden_setter_calls`. -/
theorem conv_table :
    (derived convW2X = [] ∧ derived convX2W = []) ∧
    (settings convW2X = ["gen_type", "lang", "charset", "indent", "keep_ignorable_ws"] ∧
     settings convX2W = ["wbxml_version", "keep_ignorable_ws", "use_strtbl", "produce_anonymous"]) ∧
    ((∀ f ∈ fieldNames convW2X, (initValue convW2X f).isSome = true) ∧
     (∀ f ∈ fieldNames convX2W, (initValue convX2W f).isSome = true)) ∧
    (reinitKeepsSettings convW2X = true ∧ reinitKeepsSettings convX2W = true) ∧
    setterCallsFromNonSetters convW2X = [] ∧ setterCallsFromNonSetters convX2W = [] := by
  delta settings derived settingByWriters fnWrites isSetter setterN setterN._f storeSetterLike
    initValue assignedValue createStores reinitStores storesOf reinitKeepsSettings setterCallsFromNonSetters findFn
  rw [← keyBEq_eq]
  decide +kernel

/-- No converter field has a writer other than create and setters: converters hold options only. -/
theorem conv_holds_options_only : derived convW2X = [] ∧ derived convX2W = [] := conv_table.1

theorem conv_settings_exact :
    settings convW2X = ["gen_type", "lang", "charset", "indent", "keep_ignorable_ws"] ∧
    settings convX2W = ["wbxml_version", "keep_ignorable_ws", "use_strtbl", "produce_anonymous"] := conv_table.2.1

theorem conv_create_complete :
    (∀ f ∈ fieldNames convW2X, (initValue convW2X f).isSome = true) ∧
    (∀ f ∈ fieldNames convX2W, (initValue convX2W f).isSome = true) := conv_table.2.2.1

theorem conv_reinit_keeps_settings : reinitKeepsSettings convW2X = true ∧ reinitKeepsSettings convX2W = true :=
  conv_table.2.2.2.1

/-- `_run` and every other function of wbxml_conv.c call setters only on converters they created. -/
theorem conv_no_hidden_setter_calls :
    setterCallsFromNonSetters convW2X = [] ∧ setterCallsFromNonSetters convX2W = [] := conv_table.2.2.2.2

section
variable {D R : Type}

/-- **History freedom for the parser.**  For EVERY per-document function `body` (it may read and
    write every field; its stores to settings are discarded because no non-setter function of
    wbxml_parser.c stores to a setting), every finite history `ops` of setter calls and documents,
    and every initial choice of settings `s`: the results obtained on ONE parser object are, document
    by document, the results obtained on a fresh parser carrying the settings current at that point. -/
theorem parser_history_free (body : (String → String) → D → (String → String) × R)
    (ops : List (Machine.POp String String D)) (s : String → String) :
    ((machineOf parser body).pexec ((machineOf parser body).created s) ops).2
      = (machineOf parser body).pfresh s ops :=
  (machineOf_history parser body parser_reinit_keeps_settings parser_reinit_complete ops s).1

/-- **Settings persist**: after any history, each setting holds what the user set last. -/
theorem parser_settings_persist (body : (String → String) → D → (String → String) × R)
    (ops : List (Machine.POp String String D)) (s : String → String) (f : String)
    (hf : isSetting parser f = true) :
    ((machineOf parser body).pexec ((machineOf parser body).created s) ops).1 f
      = (machineOf parser body).userAfter s ops f :=
  (machineOf_history parser body parser_reinit_keeps_settings parser_reinit_complete ops s).2 f hf

/-- The hypotheses are satisfiable and the machine is not trivial: on the parser machine a body that
    reports the code page it sees and then switches it yields page 0 for every document. -/
example :
    ((machineOf parser (fun m (_ : Unit) => (upd m "tagCodePage" "1", m "tagCodePage"))).pexec
        ((machineOf parser (fun m (_ : Unit) => (upd m "tagCodePage" "1", m "tagCodePage"))).created (initOf parser))
        [.doc (), .doc (), .doc ()]).2 = ["0", "0", "0"] := by decide +kernel

/-- … and the same body WITHOUT re-initialisation would report the leftover page: the theorem is about
    reinit, not about the body. -/
example :
    let M := machineOf parser (fun m (_ : Unit) => (upd m "tagCodePage" "1", m "tagCodePage"))
    (M.run (M.run (M.created (initOf parser)) ()).1 ()).2 = "1" := by decide +kernel

/-- A body that tries to overwrite a setting does not succeed (settings persist). -/
example :
    let M := machineOf parser (fun m (_ : Unit) => (upd m "lang_forced" "9", m "lang_forced"))
    (M.pexec (M.created (initOf parser)) [.set "lang_forced" "7", .doc (), .doc ()]).2 = ["7", "7"] := by decide +kernel

/-- **History freedom for the converter objects** (no re-initialisation function exists and none is
    needed: `reinit` is the identity and no field is derived). -/
theorem convW2X_history_free (body : (String → String) → D → (String → String) × R)
    (ops : List (Machine.POp String String D)) (s : String → String) :
    ((machineOf convW2X body).pexec ((machineOf convW2X body).created s) ops).2
      = (machineOf convW2X body).pfresh s ops :=
  (machineOf_history convW2X body conv_reinit_keeps_settings.1 (by simp [conv_holds_options_only.1]) ops s).1

theorem convX2W_history_free (body : (String → String) → D → (String → String) × R)
    (ops : List (Machine.POp String String D)) (s : String → String) :
    ((machineOf convX2W body).pexec ((machineOf convX2W body).created s) ops).2
      = (machineOf convX2W body).pfresh s ops :=
  (machineOf_history convX2W body conv_reinit_keeps_settings.2 (by simp [conv_holds_options_only.2]) ops s).1

theorem conv_settings_persist (body : (String → String) → D → (String → String) × R)
    (ops : List (Machine.POp String String D)) (s : String → String) (f : String)
    (hf : isSetting convW2X f = true) :
    ((machineOf convW2X body).pexec ((machineOf convW2X body).created s) ops).1 f
      = (machineOf convW2X body).userAfter s ops f :=
  (machineOf_history convW2X body conv_reinit_keeps_settings.1 (by simp [conv_holds_options_only.1]) ops s).2 f hf

/-- **Encode after reset, provable part.**  For every per-tree function `body`, every history of
    setter calls and (encode; reset) steps in which the user calls the setters of `lang`,
    `use_strtbl`, `output_charset` again after each reset: every tree is encoded exactly as by a
    newly created encoder with the same settings. -/
theorem encoder_history_free_partial (body : (String → String) → D → (String → String) × R)
    (ops : List (Machine.EOp String String D)) (s : String → String) :
    ((machineOf encoder body).eexec ((machineOf encoder body).created s) s ops).2
      = (machineOf encoder body).efresh s ops :=
  (machineOf encoder body).eexec_history_free (machineOf_sound encoder body encoder_reset_keeps_settings) ops s

/-- **Encode after reset, all run kinds.**  For every body (a function of the run kind, the whole
    store and the document: it may fail at any point and leave anything in the per-run fields), every
    history of setter calls and runs of ANY kind — tree runs, flow-style runs, node-wise runs, in any
    order, each followed by `wbxml_encoder_reset` — in which the user calls the setters of `lang`,
    `use_strtbl`, `output_charset` again only after the runs that `reapplyAfter` names (by
    `encoder_reapply_exact`: after tree runs, never after flow-style or node-wise runs): every run
    gives exactly the result it gives on a newly created encoder with the same settings.
    (A tree run is preceded by `.set "output_type" …`: the entry point's name is the user's choice,
    `encoder_hidden_setter_calls_exact`.) -/
theorem encoder_history_free_mixed (body : List String → (String → String) → D → (String → String) × R)
    (ops : List (Machine.KOp String String D (List String))) (s : String → String) :
    ((machineOfK encoder body).kexec (keepsNet encoder) (reapplyAfter encoder)
        ((machineOfK encoder body).created s) s ops).2
      = (machineOfK encoder body).kfresh (keepsNet encoder) s ops :=
  (machineOfK_history encoder body encoder_reset_keeps_settings encoder_reset_leaves_sticky ops s).1

/-- **Full strength for the flow API**: a history made of setter calls and flow-style / node-wise
    runs only (failed ones included), reset after every run and NOTHING re-applied: every run gives
    the result of a newly created encoder with the same settings. -/
theorem encoder_flow_histories_free (body : List String → (String → String) → D → (String → String) × R)
    (ops : List (Machine.KOp String String D (List String))) (s : String → String)
    (h : ∀ k ∈ Machine.kindsOf ops, k = encFlowRun ∨ k = encNodeRun) :
    ((machineOfK encoder body).kexecPlain (keepsNet encoder) ((machineOfK encoder body).created s) ops).2
      = (machineOfK encoder body).kfresh (keepsNet encoder) s ops := by
  refine (machineOfK_history encoder body encoder_reset_keeps_settings encoder_reset_leaves_sticky ops s).2
    fun k hk => ?_
  rcases h k hk with rfl | rfl
  · exact encoder_reapply_exact.1
  · exact encoder_reapply_exact.2.1

end

/-- A per-tree function that does what `encoder_encode_tree` does with `lang`: keep the user's
    language if there is one, else take the tree's. -/
def langBody (m : String → String) (treeLang : String) : (String → String) × String :=
  let l := if m "lang" = "NULL" then treeLang else m "lang"
  (upd m "lang" l, l)

/-- `langBody` looks at three values of the tables only, so what it reports can be stated for any
    object class. -/
theorem langBody_reports (o : Obj) (hset : isSetting o "lang" = false) (hre : reinitValue o "lang" = none)
    (hl : initOf o "lang" = "NULL") :
    ((machineOf o langBody).eexecPlain ((machineOf o langBody).created (initOf o)) [.enc "WV", .enc "SI"]).2
      = ["WV", "WV"] ∧
    (machineOf o langBody).efresh (initOf o) [.enc "WV", .enc "SI"] = ["WV", "SI"] := by
  simp only [Machine.eexecPlain, Machine.efresh, Machine.run, Machine.reinit, Machine.created, machineOf, langBody,
    upd, hset, hre, hl, ite_self, if_true, if_false, Bool.false_eq_true]
  decide

theorem encoder_lang_not_setting : isSetting encoder "lang" = false := by
  simp [isSetting, encoder_reset_incomplete.2.1]

/-- What create and reset assign to the two fields the witnesses below look at. -/
theorem encoder_lang_indent_values :
    initOf encoder "lang" = "NULL" ∧ initOf encoder "indent" = "0" ∧ reinitValue encoder "indent" = some "0" :=
  encoder_table.2.2.2.2.2.2.2.2.2.2.2.2.2

/-- **Negation of full-strength encode-after-reset**, concrete witness in the model of the tree under
    test: WV tree, reset, SI tree on ONE encoder whose language the user never set encodes the SI
    tree as WV; fresh encoders encode it as SI.  (The same history is run on the real code by
    `tools/props/c15.py`: corpus/c15/encoder-sticky-lang.json.) -/
theorem encoder_plain_history_not_free :
    ((machineOf encoder langBody).eexecPlain ((machineOf encoder langBody).created (initOf encoder))
        [.enc "WV", .enc "SI"]).2 = ["WV", "WV"] ∧
    (machineOf encoder langBody).efresh (initOf encoder) [.enc "WV", .enc "SI"] = ["WV", "SI"] :=
  langBody_reports encoder encoder_lang_not_setting encoder_reset_incomplete.2.2.2 encoder_lang_indent_values.1

/-- A per-run function that does with `lang` what the entry points do — a flow-style run installs the
    tree's language and fails half-way, leaving `indent` and `in_content` behind; a tree run keeps the
    language it derived (`encoder_encode_tree`) — and reports the language and indentation it started with. -/
def kindBody (_k : List String) (m : String → String) (treeLang : String) : (String → String) × (String × String) :=
  (upd (upd (upd m "lang" treeLang) "indent" "7") "in_content" "1", (m "lang", m "indent"))

/-- Likewise `kindBody`: six values, two of them about the run kinds `k₁` and `k₂`. -/
theorem kindBody_reports (o : Obj) (k₁ k₂ k₃ : List String)
    (hset : isSetting o "lang" = false) (hre : reinitValue o "lang" = none)
    (hl : initOf o "lang" = "NULL") (hi : initOf o "indent" = "0") (hri : reinitValue o "indent" = some "0")
    (h₁ : keepsNet o k₁ "lang" = true) (h₂ : keepsNet o k₂ "lang" = false) :
    ((machineOfK o kindBody).kexecPlain (keepsNet o) ((machineOfK o kindBody).created (initOf o))
        [.run k₁ "SI", .run k₂ "WV", .run k₃ "SI"]).2
      = [("NULL", "0"), ("NULL", "0"), ("WV", "0")] ∧
    (machineOfK o kindBody).kfresh (keepsNet o) (initOf o) [.run k₁ "SI", .run k₂ "WV", .run k₃ "SI"]
      = [("NULL", "0"), ("NULL", "0"), ("NULL", "0")] := by
  simp only [Machine.kexecPlain, Machine.kfresh, Machine.runK, Machine.run, Machine.reinit, Machine.created,
    machineOfK, machineOf, kindBody, upd, hset, hre, hl, hi, hri, h₁, h₂, ite_self, if_true, if_false,
    Bool.false_eq_true]
  decide

/-- Non-vacuity of `encoder_flow_histories_free`, and **the known finding through mixed run kinds**
    (why `encoder_history_free_mixed` re-applies after tree runs), in one history on ONE encoder whose
    language the user never set, reset after every run, nothing re-applied: a FAILED flow-style SI run
    leaves nothing (the WV tree run starts without language, as on a new encoder); the WV tree run
    leaves its language, so the node-wise run after it starts with the WV language where a new encoder
    has none (`wbxml_encoder_encode_node` answers Bad Parameter there). -/
theorem encoder_mixed_plain_not_free :
    ((machineOfK encoder kindBody).kexecPlain (keepsNet encoder) ((machineOfK encoder kindBody).created (initOf encoder))
        [.run encFlowRun "SI", .run encTreeRunW "WV", .run encNodeRun "SI"]).2
      = [("NULL", "0"), ("NULL", "0"), ("WV", "0")] ∧
    (machineOfK encoder kindBody).kfresh (keepsNet encoder) (initOf encoder)
        [.run encFlowRun "SI", .run encTreeRunW "WV", .run encNodeRun "SI"]
      = [("NULL", "0"), ("NULL", "0"), ("NULL", "0")] :=
  kindBody_reports encoder _ _ _ encoder_lang_not_setting
    encoder_reset_incomplete.2.2.2 encoder_lang_indent_values.1 encoder_lang_indent_values.2.1 encoder_lang_indent_values.2.2
    (encoder_flow_run_keeps_user_fields "lang" (List.mem_append_right _ encoder_lang_sticky))
    (encoder_tree_run_writes_lang _ List.mem_cons_self)

end Wbxml.Props.C15
