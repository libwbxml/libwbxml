/-
  C12 — typed content survives encoding and decoding unchanged in value.

  Model: `Model/Typed/{Datetime,WvInt,WvDate}.lean`, `Lemmas/TypedBinary.lean` (tied to the C code by the TYPED
  correspondence run of `tools/props/c12.py`: static codec routines by source inclusion and minimal
  SI/EMN/WV/OTA/DRMREL/SyncML/AirSync documents through the conversion entry points).
  Spec:  `Spec/Calendar.lean` (calendar date-times, the canonical `YYYY-MM-DDThh:mm:ssZ` and Wireless-Village
  basic forms, SI §8.2.2 BCD), `Spec/Rfc4648.lean` (component C11), `beNat` (big-endian value).

  All theorems are universally quantified (every calendar date-time 0000–9999, every 32-bit integer, every
  opaque octet string, every zone letter, every byte string) and proved symbolically; the only kernel
  evaluations are over the complete tables of the 10 decimal digits, the 100 two-digit BCD octets and the
  64 base64 symbols.
-/
import Wbxml.Lemmas.TypedDatetime
import Wbxml.Lemmas.TypedWvInt
import Wbxml.Lemmas.TypedWvDate
import Wbxml.Lemmas.TypedBinary
import Wbxml.Lemmas.CodecBase64
namespace Wbxml.Props.C12
open Wbxml Wbxml.Model.Typed Wbxml.Spec Wbxml.Spec.Calendar Wbxml.Lemmas.Typed
open Wbxml.Model.Codec (b64Encode b64Decode)

/-- For every calendar date-time with a four-digit year, decoding what the encoder produced from
    `YYYY-MM-DDThh:mm:ssZ` gives back exactly that text (same instant, canonical form). -/
theorem datetime_roundtrip (d : DateTime) (h : d.Valid) :
    (datetimePayload (canon d)).bind decodeDatetime = .ok (canon d) := by
  rw [datetimePayload_canon d h]
  show decodeDatetime _ = _
  rw [decodeDatetime_take d h _ (keptOctets_range d), truncTo_kept]

/-- What is sent is the SI §8.2.2 BCD form cut after the last non-zero octet: between four and seven octets,
    and every omitted octet is zero — stripping never reaches the date and never drops a non-zero field. -/
theorem datetime_payload_is_bcd (d : DateTime) (h : d.Valid) :
    datetimePayload (canon d) = .ok ((bcd7 d).take (keptOctets d)) ∧
    4 ≤ keptOctets d ∧ keptOctets d ≤ 7 ∧ (∀ b ∈ (bcd7 d).drop (keptOctets d), b = 0) := by
  refine ⟨datetimePayload_canon d h, (keptOctets_range d).1, (keptOctets_range d).2, ?_⟩
  have z : bcd 0 = 0 := by decide
  unfold keptOctets bcd7
  by_cases s0 : d.second = 0 <;> by_cases m0 : d.minute = 0 <;> by_cases h0 : d.hour = 0 <;>
    simp [s0, m0, h0, z]

/-- The same through the caller's guard and the OPAQUE framing (the canonical text has no NUL and is not empty). -/
theorem datetime_item (d : DateTime) (h : d.Valid) :
    guarded encodeDatetime (canon d) = .ok (opaqueItem ((bcd7 d).take (keptOctets d))) := by
  have nz : ∀ n, (dig n != 0) = true := fun n =>
    bne_iff_ne.2 (Lemmas.Codec.ofNat_ne_zero _ (by omega) (by omega))
  have hc : cstr (canon d) = canon d := by
    simp [cstr, canon, d4, d2, List.takeWhile, nz]
  unfold guarded
  rw [hc]
  have : canon d ≠ [] := by simp [canon, d4]
  simp [this, encodeDatetime, datetimePayload_canon d h, Except.map]

/-- Every legal truncation: the first 4, 5, 6 or 7 BCD octets decode to the canonical form of the date-time
    whose omitted fields are zero. -/
theorem datetime_decode_truncation (d : DateTime) (h : d.Valid) (k : Nat) (hk : 4 ≤ k ∧ k ≤ 7) :
    decodeDatetime ((bcd7 d).take k) = .ok (canon (truncTo d k)) :=
  decodeDatetime_take d h k hk

/-- Fewer than four or more than seven octets are rejected with `WBXML_ERROR_BAD_DATETIME`. -/
theorem datetime_bad_length (p : Bytes) (h : p.length < 4 ∨ 7 < p.length) :
    decodeDatetime p = .error (.code 11) := by
  have hl := binToHex_length p
  rw [decodeDatetime, decodeHex, if_pos]
  simp only [hl, Bool.or_eq_true, decide_eq_true_eq, beq_iff_eq]
  omega

example : DateTime.Valid ⟨1999, 6, 30, 0, 0, 0⟩ := by decide
example : DateTime.Valid ⟨0, 2, 29, 23, 59, 59⟩ := by decide
example : DateTime.Valid ⟨9999, 12, 31, 10, 0, 0⟩ := by decide

/-- Every integer `n < 2^32`: its decimal text is encoded as the minimal big-endian opaque of value `n`
    (at most four octets, no leading zero octet), and that opaque decodes to the decimal text of `n`. -/
theorem wvint_roundtrip (n : Nat) (h : n < 2 ^ 32) :
    encodeWvInt (decNat n) = .ok (some (opaqueItem (wvIntOctets n))) ∧
    decodeWvInt (wvIntOctets n) = .ok (decNat n) ∧
    beNat (wvIntOctets n) = n ∧ (wvIntOctets n).length ≤ 4 ∧ (wvIntOctets n).head? ≠ some 0 := by
  have h' : n < 4294967296 := h
  have hv := beNat_wvIntOctets n h'
  refine ⟨?_, ?_, hv, (wvIntOctets_minimal n h').1, (wvIntOctets_minimal n h').2⟩
  · unfold encodeWvInt
    rw [wvIntNumeral_digits _ (decNat_ne_nil n) (all_isDigit_decNat n), decVal_decNat]
    have : ¬ n > 0xFFFFFFFF := by omega
    simp [this]
  · rw [decodeWvInt_eq, hv, if_pos h']

/-- An opaque integer of any length whose big-endian value does not fit in 32 bits is reported as
    `WBXML_ERROR_WV_INTEGER_OVERFLOW` (80) — not truncated. -/
theorem wvint_overflow (p : Bytes) (h : 2 ^ 32 ≤ beNat p) : decodeWvInt p = .error (.code 80) := by
  rw [decodeWvInt_eq, if_neg (Nat.not_lt.mpr h)]

/-- … and every opaque integer that does fit (leading zero octets allowed, any length) decodes to the decimal
    text of its value. Together: the decoder never yields another number. -/
theorem wvint_decode_value (p : Bytes) (h : beNat p < 2 ^ 32) : decodeWvInt p = .ok (decNat (beNat p)) := by
  rw [decodeWvInt_eq, if_pos h]

/-- Element text on the way to WBXML (DESIGN §6.3 #24): whatever the text is, the encoder either emits the
    opaque of exactly the number the text denotes (a decimal numeral, or `0x…` hexadecimal), or leaves the
    text to be carried unchanged as a string (`none`), or refuses with error 80 — it never emits another number. -/
theorem wvint_text_never_changes_value (s : Bytes) :
    (∃ v, wvIntNumeral s = some v ∧ v < 2 ^ 32 ∧ encodeWvInt s = .ok (some (opaqueItem (wvIntOctets v))) ∧
          decodeWvInt (wvIntOctets v) = .ok (decNat v)) ∨
    (wvIntNumeral s = none ∧ encodeWvInt s = .ok none) ∨
    (∃ v, wvIntNumeral s = some v ∧ 2 ^ 32 ≤ v ∧ encodeWvInt s = .error (.code 80)) := by
  unfold encodeWvInt
  cases hn : wvIntNumeral s with
  | none => exact Or.inr (Or.inl ⟨rfl, rfl⟩)
  | some v =>
    by_cases hv : v > 0xFFFFFFFF
    · refine Or.inr (Or.inr ⟨v, rfl, ?_, by simp [hv]⟩)
      omega
    · have hlt : v < 2 ^ 32 := by omega
      exact Or.inl ⟨v, rfl, hlt, by simp [hv], (wvint_roundtrip v hlt).2.1⟩

/-- What "the number the text denotes" means: all decimal digits, or `0x`/`0X` + hexadecimal digits. -/
theorem wvint_numeral_meaning (s : Bytes) (v : Nat) (h : wvIntNumeral s = some v) :
    (s ≠ [] ∧ s.all isDigit = true ∧ v = decVal s) ∨
    (∃ x hexs, s = 0x30 :: x :: hexs ∧ (x = 0x78 ∨ x = 0x58) ∧ hexs ≠ [] ∧ hexs.all isHexDigit = true ∧ v = Model.Typed.hexVal hexs) := by
  exact wvIntNumeral_meaning s v h

example : (2:Nat) ^ 32 ≤ beNat [1, 0, 0, 0, 0] := by decide
example : beNat [0, 0, 0, 0, 0xFF, 0xFF, 0xFF, 0xFF] < 2 ^ 32 := by decide

/-- For every calendar date-time, **years 0000–9999**, and every zone designator `A`–`Z` without `J`
    (including `Z`): the text `YYYYMMDDThhmmss<zone>` is encoded, and what the parser delivers for the encoded
    item reads as the same date-time and zone (zero seconds may be omitted in the text: same value). -/
theorem wvdate_roundtrip (d : DateTime) (h : d.Valid) (z : UInt8) (hz : isZone z = true) :
    ∃ item text, encodeWvDate (basic d (some z)) = .ok item ∧ decodeWvDateItem item = .ok text ∧
      readBasic text = some (d, some z) := by
  exact wvDate_roundtrip d h z hz

/-- Exactly which form is used and what comes back: the six-octet opaque for years 0000–4095 with a zone other
    than `Z` (printed with four year digits, seconds omitted when zero); the inline string, unchanged, for `Z`
    and for years 4096–9999, which the 12-bit field cannot carry. -/
theorem wvdate_forms (d : DateTime) (h : d.Valid) (z : UInt8) (hz : isZone z = true) :
    (z ≠ 0x5A ∧ d.year ≤ 4095 →
        encodeWvDate (basic d (some z)) = .ok (.opaque (wvPack d.year d.month d.day d.hour d.minute d.second z)) ∧
        decodeWvDate (wvPack d.year d.month d.day d.hour d.minute d.second z) = .ok (basicShort d (some z))) ∧
    (z = 0x5A ∨ d.year > 4095 → encodeWvDate (basic d (some z)) = .ok (.inline (basic d (some z)))) := by
  constructor
  · rintro ⟨hZ, hy⟩
    constructor
    · rw [encodeWvDate_basic d h z hz hZ]; simp [show ¬ d.year > 4095 by omega]
    · rw [decodeWvDate_pack d h hy, wvZoneText_zone z hz]; simp [basicShort]
  · rintro (hZ | hy)
    · subst hZ; exact encodeWvDate_basic_utc d
    · by_cases hZ : z = 0x5A
      · subst hZ; exact encodeWvDate_basic_utc d
      · rw [encodeWvDate_basic d h z hz hZ]; simp [hy]

/-- Observation, outside the property (the text is not zone-designated): a date-time *without* zone
    designator is sent with zone octet 0, which the parser prints as `Z` — it comes back as the same wall-clock
    fields marked UTC (the parser's comment calls a zero zone octet "a bug in the WBXML document"). -/
theorem wvdate_absent_zone_reads_utc (d : DateTime) (h : d.Valid) (hy : d.year ≤ 4095) :
    encodeWvDate (basic d none) = .ok (.opaque (wvPack d.year d.month d.day d.hour d.minute d.second 0)) ∧
    decodeWvDate (wvPack d.year d.month d.day d.hour d.minute d.second 0) = .ok (basicShort d (some 0x5A)) := by
  constructor
  · rw [encodeWvDate_basic_opt d h none (fun _ hx => by cases hx)]; simp [show ¬ d.year > 4095 by omega]
  · rw [decodeWvDate_pack d h hy, show wvZoneText 0 = [0x5A] by decide]; simp [basicShort]

example : isZone 0x41 = true ∧ isZone 0x5A = true ∧ isZone 0x4A = false := by decide

/-- OTA attribute values, DRMREL `ds:KeyValue`, SyncML `NextNonce` and the text of binary-flagged elements:
    a non-empty opaque is rendered as the RFC 4648 base64 of its bytes. -/
theorem opaque_to_base64_rfc4648 (bs : Bytes) (h : bs ≠ []) : opaqueToBase64 bs = .ok (Rfc4648.encode bs) := by
  simp [opaqueToBase64, h, Lemmas.Codec.b64Encode_eq_spec bs]

/-- XML → WBXML for `WBXML_TAG_OPTION_BINARY` elements: any text that is the base64 of `bs` with white space
    anywhere inside (line-wrapped, indented) becomes the opaque of exactly `bs`. -/
theorem binary_element_roundtrip (bs s : Bytes) (h : bs ≠ [])
    (hs : s.filter (fun c => !isSpace c) = b64Encode bs) :
    binaryElemItem s = .ok (opaqueItem bs) := by
  simp [binaryElemItem, base64ToBytesStrip, hs, Lemmas.Codec.b64Decode_b64Encode bs h, Except.map]

/-- In particular for the text the library itself generates (no white space in it): opaque → base64 → opaque
    is the identity on binary elements. -/
theorem binary_element_identity (bs : Bytes) (h : bs ≠ []) :
    (opaqueToBase64 bs).bind binaryElemItem = .ok (opaqueItem bs) := by
  simp only [opaqueToBase64, h, if_false]
  exact binary_element_roundtrip bs _ h (b64Encode_filter bs)

/-- OTA `ICON` values and DRMREL `ds:KeyValue` (XML → WBXML), full strength since the fix of finding
    `b64-whitespace-ota-drmrel`: ANY text that is the base64 of `bs` with white space (space, TAB, LF, VT, FF, CR)
    anywhere inside — line-wrapped, indented, or none at all — becomes the opaque of exactly `bs`
    (`bs = []`: text of white space only gives the empty opaque). -/
theorem base64_strip_roundtrip (bs s : Bytes)
    (hs : s.filter (fun c => !isSpace c) = b64Encode bs) :
    base64ToOpaqueStrip s = opaqueItem bs := by
  by_cases h : bs = []
  · subst h
    have e : b64Encode [] = [] := by decide
    have d : b64Decode [] = none := by decide
    simp [base64ToOpaqueStrip, hs, e, d]
  · simp [base64ToOpaqueStrip, hs, Lemmas.Codec.b64Decode_b64Encode bs h]

/-- What the encoder decodes is the text with its white space removed: the bytes it sends are those the
    stripped text denotes (nothing of the text behind a white-space character is lost). -/
theorem base64_strip_decodes_stripped_text (bs s : Bytes) (h : bs ≠ [])
    (hs : s.filter (fun c => !isSpace c) = b64Encode bs) :
    b64Decode (s.filter (fun c => !isSpace c)) = some bs := by
  rw [hs]; exact Lemmas.Codec.b64Decode_b64Encode bs h

/-- In particular for the text the library itself generates (no white space in it). -/
theorem base64_strip_roundtrip_plain (bs : Bytes) :
    base64ToOpaqueStrip (b64Encode bs) = opaqueItem bs :=
  base64_strip_roundtrip bs _ (b64Encode_filter bs)

/-- The round trip of the property for OTA `ICON` / DRMREL `ds:KeyValue`: opaque → base64 (parser) → opaque
    (encoder) is the identity, and so is it when the base64 text has been re-wrapped in between. -/
theorem base64_strip_identity (bs : Bytes) (h : bs ≠ []) :
    (opaqueToBase64 bs).map base64ToOpaqueStrip = .ok (opaqueItem bs) := by
  simp only [opaqueToBase64, h, if_false]
  exact congrArg Except.ok (base64_strip_roundtrip_plain bs)

/-- For text without white space the text itself is decoded: the stripping is idle. -/
theorem base64_strip_noSpace_unchanged (s : Bytes) (h : ∀ c ∈ s, isSpace c = false) :
    base64ToOpaqueStrip s = opaqueItem ((b64Decode s).getD []) := by
  simp only [base64ToOpaqueStrip, filter_noSpace_id s h]
  cases b64Decode s <;> rfl

/-- Regression for the former negation witness `ota_drmrel_whitespace_witness` (`QUJD REVG` gave `ABC`):
    the base64 of `ABCDEF` wrapped after four characters — by a space, a CR LF pair or a TAB with indentation —
    now carries the whole data. -/
theorem ota_drmrel_whitespace_regression :
    (b!"QUJD REVG").filter (fun c => !isSpace c) = b64Encode b!"ABCDEF" ∧
    base64ToOpaqueStrip b!"QUJD REVG" = opaqueItem b!"ABCDEF" ∧
    base64ToOpaqueStrip [0x51, 0x55, 0x4A, 0x44, 0x0D, 0x0A, 0x52, 0x45, 0x56, 0x47] = opaqueItem b!"ABCDEF" ∧
    base64ToOpaqueStrip [0x0A, 0x09, 0x51, 0x55, 0x4A, 0x44, 0x0A, 0x09, 0x52, 0x45, 0x56, 0x47, 0x0A] = opaqueItem b!"ABCDEF" := by
  decide

example : ∃ s : Bytes, s ≠ b64Encode b!"ABCDEF" ∧ s.filter (fun c => !isSpace c) = b64Encode b!"ABCDEF" :=
  ⟨b!"QUJD REVG", by decide, by decide⟩

example : (b!"abc" : Bytes) ≠ [] := by decide

end Wbxml.Props.C12
