/-
  C08, second half — the elements and attributes that parser and encoder single out for typed
  handling. `Gen.Typed.rows` is regenerated on every run by probing the freshly built library row
  by row (tools/gen_typed.py); `Model.TypedExpected.rows` is the committed list of intended names.
-/
import Wbxml.Gen.Typed
import Wbxml.Gen.Tables
import Wbxml.Model.TypedExpected
import Wbxml.Model.Tables
namespace Wbxml.Props.C08
open Wbxml

/-- Every element or attribute the encoder writes in a typed binary form is decoded by the parser
    with the same type. -/
theorem encoder_typed_subset_parser :
    Gen.Typed.rows.all (fun r => r.enc == 0 || r.dec == r.enc) = true := by decide +kernel

/-- Every (language, page, token) singled out for typed handling in 0.11.10 is still typed, with
    the same kind in the parser (and, where the encoder had a typed form, in the encoder), and the
    table row it applies to still carries the intended name. Typed rows may have been added. -/
theorem typed_names_match :
    Model.TypedExpected.rows.all (fun e => Gen.Typed.rows.any (fun r =>
      r.isAttr == e.isAttr && r.lang == e.lang && r.page == e.page && r.token == e.token &&
      r.name == e.name && r.dec == e.dec && (e.enc == 0 || r.enc == e.enc))) = true := by decide +kernel

/-- Every typed row is a row of that language's table (tags, or value-less attribute starts). -/
theorem typed_rows_exist_in_tables :
    Gen.Typed.rows.all (fun r => match Gen.main.find? (fun l => l.id == r.lang) with
      | some l =>
        if r.isAttr then
          (match l.attrs with
           | some t => t.any (fun a => a.page == r.page && a.token == r.token && a.name == r.name)
           | none => false)
        else
          (match l.tags with
           | some t => (Model.decTag t r.page r.token).map (·.name) == some r.name
           | none => false)
      | none => false) = true := by decide +kernel

example : Model.TypedExpected.rows.length ≥ 50 := by decide

end Wbxml.Props.C08
