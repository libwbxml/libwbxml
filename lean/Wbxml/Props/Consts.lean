/-
  The wire-level constants the hand-written models use as literals (global tokens, masks,
  the `unknown` public identifier, the two string charsets, version codes, XML generation
  modes, tag option bits), checked against the values the library was compiled with
  (`Gen/Consts.lean`, regenerated from the current source by `harness/dump_tables.c` on every run).
  A changed `#define` / enum value in the source breaks exactly this obligation.
  Error codes are deliberately not checked: a property that says "an error code" is satisfied by
  any non-zero value, and the correspondence compares error classes, not numbers.
-/
import Wbxml.Gen.Consts
namespace Wbxml.Props.C04
open Wbxml.Gen.Consts

/-- The WBXML 1.3 global tokens (WAP-192 §7) and masks as the model's parser / encoders write them. -/
def wireConstants : List (String × Int) := [
  ("WBXML_SWITCH_PAGE", 0x00), ("WBXML_END", 0x01), ("WBXML_ENTITY", 0x02), ("WBXML_STR_I", 0x03),
  ("WBXML_LITERAL", 0x04), ("WBXML_EXT_I_0", 0x40), ("WBXML_EXT_I_1", 0x41), ("WBXML_EXT_I_2", 0x42),
  ("WBXML_PI", 0x43), ("WBXML_LITERAL_C", 0x44), ("WBXML_EXT_T_0", 0x80), ("WBXML_EXT_T_1", 0x81),
  ("WBXML_EXT_T_2", 0x82), ("WBXML_STR_T", 0x83), ("WBXML_LITERAL_A", 0x84), ("WBXML_EXT_0", 0xC0),
  ("WBXML_EXT_1", 0xC1), ("WBXML_EXT_2", 0xC2), ("WBXML_OPAQUE", 0xC3), ("WBXML_LITERAL_AC", 0xC4),
  ("WBXML_TOKEN_MASK", 0x3F), ("WBXML_TOKEN_WITH_ATTRS", 0x80), ("WBXML_TOKEN_WITH_CONTENT", 0x40),
  ("WBXML_PUBLIC_ID_UNKNOWN", 1),
  ("WBXML_TAG_OPTION_BINARY", 1), ("WBXML_TAG_OPTION_OPAQUE", 2), ("WBXML_TAG_OPTION_CDATA", 4),
  ("WBXML_VERSION_10", 0), ("WBXML_VERSION_11", 1), ("WBXML_VERSION_12", 2), ("WBXML_VERSION_13", 3),
  ("WBXML_GEN_XML_COMPACT", 0), ("WBXML_GEN_XML_INDENT", 1), ("WBXML_GEN_XML_CANONICAL", 2),
  ("WBXML_CHARSET_US_ASCII", 3), ("WBXML_CHARSET_UTF_8", 106), ("WBXML_PARSER_DEFAULT_CHARSET", 106),
  ("WBXML_OK", 0), ("WB_ULONG_BITS", 32)]

/-- Every wire-level constant has, in the current build, the value the models assume. -/
theorem wire_constants_as_specified :
    wireConstants.all (fun kv => Gen.Consts.all.contains kv) = true := by
  -- the dump lists the constants in the order of `wireConstants`: one pass finds them all, and
  -- comparing two names costs the kernel far more than comparing two numbers
  have h : (wireConstants.isSublist Gen.Consts.all ||
      wireConstants.all (fun kv => Gen.Consts.all.contains kv)) = true := by decide +kernel
  refine (Bool.or_eq_true _ _ ▸ h).elim (fun hs => ?_) id
  exact List.all_eq_true.mpr fun kv hkv =>
    List.contains_iff_mem.mpr ((List.isSublist_iff_sublist.mp hs).subset hkv)

/-- The charset names the XML header prints for the two string charsets of this build. -/
theorem charset_names_as_modelled :
    Gen.Consts.charsets.lookup 3 = some "US-ASCII".toUTF8.toList ∧
    Gen.Consts.charsets.lookup 106 = some "UTF-8".toUTF8.toList := by decide +kernel

end Wbxml.Props.C04
