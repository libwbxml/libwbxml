/-
  C03 — XML → WBXML → XML round trip: the composition statements that follow from C06
  (`treeToWbxml` writes `Spec.ser d`) and C04 (`parse (ser d)` delivers `Spec.events d`).

  `RT` at tree level is `treeOfWbxml main fuel forced meta (treeToWbxml cfg t)`.
  Proved here:
    * the round trip keeps the language and announces UTF-8 (`rt_header`, every tree);
    * for outputs without OPAQUE token the round-trip tree is the tree the builder makes of the
      SPECIFICATION's reading of the document the encoder wrote (`rt_is_spec_tree_partial`; all 29
      languages under the source hypotheses of C06: `rt_is_spec_tree`);
    * the builder over the specification's events reconstructs the tree read off the grammar value
      (`build_reconstructs`, every item kind, no element called `Data`);
    * TREE level: `rt_preserves_partial` — for plain trees of plain languages `RT cfg t` is the
      explicit normalisation `normNode` of `t`, up to `canon` (token vs literal representation of
      names); `norm_idempotent`, `norm_idempotent_merged` (+ two counterexamples showing the
      hypotheses are needed);
    * TREE level, exact and typed: `rt_preserves_typed_partial` — for plain trees of 26 languages
      `RT cfg t` IS `normNodeTyped` of `t` (table rows of names included, typed content in its
      typed normal form, elements called `Data` under `dataIsNormal`); the table facts behind "the
      same row comes back" (`tag_tables_names_uniq`, `tag_tables_self_find`,
      `tag_tables_tokens_uniq_partial`, `exact_row_main`); `build_reconstructs_data`;
      `rt_preserves_exact_untyped` (the languages without typed content), `attr_start_row_spec`,
      `norm_typed_refines_norm`, `norm_typed_idempotent`;
    * SECOND trip, Expat as a parameter (`ReadsBack`): `main_docTypeFinds`, `printed_is_render_partial`,
      `xml_read_back_partial`, `rt2_tree_partial`, `rt_same_norm_partial`, `rt2_is_rt1_partial`
      (converting twice = converting once at tree and event level), `rt2_is_rt1_ns_partial` (the
      same for the languages WITH a namespace table, `ReadsBackNs`, exact tree equality), and the
      witnesses `rt2_bytes_differ_hollow` / `rt2_bytes_differ_adjacent_text` that octet-by-octet
      equality of the two WBXML documents is false as it stands.
  Not proved: see the note at the end.
-/
import Wbxml.Props.C06
import Wbxml.Lemmas.RtHeader
import Wbxml.Lemmas.RtNorm
import Wbxml.Lemmas.RtXRun
import Wbxml.Lemmas.RtPrinted
import Wbxml.Lemmas.RtData
import Wbxml.Lemmas.RtNs
import Wbxml.Lemmas.RtNsNorm
import Wbxml.Props.C08
import Wbxml.Props.C10
import Wbxml.Lemmas.GenMain
namespace Wbxml.Props.C03
open Wbxml Wbxml.Model Wbxml.Spec Wbxml.Lemmas.EncW Wbxml.Lemmas.ParseSer Wbxml.Lemmas.Rt

/-- **`rt_header`.** For EVERY tree the encoder accepts: the output starts with a header `hd` of
    the requested version announcing UTF-8, and whenever `wbxml_tree_from_wbxml` accepts the
    output under a reader configuration for which `hd` selects the tree's language (numeric or
    textual public identifier found in `main`, or the language forced), the resulting tree has
    that language (the main-table entry with its id) and the header's character set (UTF-8 for
    versions 1.1–1.3). -/
theorem rt_header (cfg : X2WCfg) (t : Tree) (bs : Bytes) (lang : Lang) (hlang : t.lang = some lang)
    (hl : langOk lang = true) (h : treeToWbxml cfg t = .ok bs) :
    ∃ (hd : Header) (body : Bytes), bs = serHeader hd ++ body ∧ hd.version = cfg.version ∧ hd.charset = 106 ∧
      ∀ (main : List Lang) (f forced metaCs : Nat) (t' : Tree),
        headerLang (pcfgOf main forced metaCs) hd = some lang →
        (headerCharset (pcfgOf main forced metaCs) hd = 3 ∨ headerCharset (pcfgOf main forced metaCs) hd = 106) →
        cfg.version < 256 → bs.length < 4294967295 →
        treeOfWbxml main (f + 1) forced metaCs bs = .ok t' →
        t'.lang = main.find? (fun x => x.id == lang.id) ∧
        t'.origCharset = headerCharset (pcfgOf main forced metaCs) hd := by
  obtain ⟨lang', r, fs, hl', hr, hrun, hbs⟩ := C06.header_is_ser cfg t bs h
  rw [hlang] at hl'; injection hl' with hl'; subst hl'
  obtain ⟨hinv, hno⟩ := doc_final_inv _ r fs hrun
  refine ⟨hdrOf (dcfgOf cfg lang) fs, fs.out, hbs, by simp [hdrOf], rfl, ?_⟩
  intro main f forced metaCs t' hsel hcs hver hsize hrt
  have htbl : (strtblBytes (finalTbl (dcfgOf cfg lang) fs)).length < 4294967295 := by
    have : (tblBytes (hdrOf (dcfgOf cfg lang) fs).strtbl).length ≤ bs.length := by
      rw [hbs, serHeader]
      simp only [List.length_append, List.length_cons]
      omega
    have e : tblBytes (hdrOf (dcfgOf cfg lang) fs).strtbl = strtblBytes (finalTbl (dcfgOf cfg lang) fs) :=
      tblBytes_map _
    rw [e] at this
    omega
  have hwf := hdrOf_wf (dcfgOf cfg lang) fs hinv (by rw [dcfgOf_lang]; exact langOk_pub hl) (pcfgOf main forced metaCs)
    hcs (charsets_ok main forced metaCs _ hcs) (by rw [dcfgOf_version]; exact hver) htbl
  have hph := Props.C04.parse_ser_header (pcfgOf main forced metaCs) _ hwf lang hsel fs.out
  obtain ⟨s, l, hh, h1, h2⟩ := treeOfWbxml_header main f forced metaCs bs t' hrt
  rw [hbs] at hh
  have heq := hh.symm.trans hph
  injection heq with heq
  injection heq with hs hl2
  subst hl2
  refine ⟨h1, ?_⟩
  rw [h2, hs]
  rfl

theorem main_find_self : ∀ l ∈ Gen.main, Gen.main.find? (fun x => x.id == l.id) = some l :=
  fun _ hl => find?_self (f := Lang.id) Lemmas.GenMain.gen_ids_pairwise hl

/-- The document type the printer writes selects its language again, for all 29 languages. -/
theorem main_docTypeFinds : ∀ l ∈ Gen.main, docTypeFinds Gen.main l = true := by
  -- the public identifier alone selects the entry (`C10.gen_doctype_route`), and none is empty; the
  -- entry without one (OTA settings) is found by its DTD
  have h0 : Gen.main.all (fun l => match l.pub.xmlId with
      | some x => !x.isEmpty
      | none => (match docTypeOf l with
        | .doctype sysid pubid => (searchTable Gen.main pubid sysid none).any (·.id == l.id)
        | _ => false)) = true := by decide +kernel
  intro l hl
  refine docTypeFinds_of_id Lemmas.GenMain.gen_ids_pairwise hl ?_
  have h1 := List.all_eq_true.mp h0 l hl
  have h2 := List.all_eq_true.mp C10.gen_doctype_route l hl
  cases hx : l.pub.xmlId with
  | none => rw [hx] at h1; exact h1
  | some x =>
    rw [hx] at h1 h2
    simp only [Bool.and_eq_true, beq_iff_eq, Bool.not_eq_true'] at h1 h2
    obtain ⟨l', hl', hid⟩ := Option.map_eq_some_iff.mp h2.1
    rw [Lemmas.Ident.searchTable_eq] at hl'
    have hp : Lemmas.Ident.byPub Gen.main (some x) = some l' := by
      simpa [Lemmas.Ident.bySys, Lemmas.Ident.byRoot] using hl'
    simp only [docTypeOf, hx, h1, Bool.false_eq_true, if_false, Lemmas.Ident.searchTable_eq, hp, Option.some_or,
      Option.any_some, hid, beq_self_eq_true]

/-- The table hypotheses of `rt_preserves_partial` for a language of the library's table other than
    ActiveSync are C06's facts about that table. -/
theorem main_table_hyps (l : Lang) (hl : l ∈ Gen.main) (ha : (!(l.id == 2401) && !(l.id == 2402)) = true) :
    langOk l = true ∧ valSemOk l = true ∧ attrSemOk l = true ∧ tagSemOk l = true ∧ attrNameSemOk l = true :=
  ⟨C06.langOk_of_main l hl, List.all_eq_true.mp C06.main_valSemOk l hl, List.all_eq_true.mp C06.main_attrSemOk l hl,
    List.all_eq_true.mp C06.main_tagSemOk l (List.mem_filter.mpr ⟨hl, ha⟩),
    List.all_eq_true.mp C06.main_attrNameSemOk l hl⟩

/-- `rt_header` for the library's table: the round-trip tree has exactly the source tree's
    language entry. -/
theorem rt_header_main (cfg : X2WCfg) (t : Tree) (bs : Bytes) (lang : Lang) (hlang : t.lang = some lang)
    (hm : lang ∈ Gen.main) (h : treeToWbxml cfg t = .ok bs) :
    ∃ (hd : Header) (body : Bytes), bs = serHeader hd ++ body ∧
      ∀ (f forced metaCs : Nat) (t' : Tree),
        headerLang (pcfgOf Gen.main forced metaCs) hd = some lang →
        (headerCharset (pcfgOf Gen.main forced metaCs) hd = 3 ∨ headerCharset (pcfgOf Gen.main forced metaCs) hd = 106) →
        cfg.version < 256 → bs.length < 4294967295 →
        treeOfWbxml Gen.main (f + 1) forced metaCs bs = .ok t' → t'.lang = t.lang := by
  obtain ⟨hd, body, hbs, _, _, hrt⟩ := rt_header cfg t bs lang hlang (C06.langOk_of_main lang hm) h
  refine ⟨hd, body, hbs, ?_⟩
  intro f forced metaCs t' h1 h2 h3 h4 h5
  rw [(hrt Gen.main f forced metaCs t' h1 h2 h3 h4 h5).1, main_find_self lang hm, hlang]

/-- The tree `wbxml_tree_from_wbxml` builds from an event list (what it does after parsing). -/
def treeOfEvents (main : List Lang) (emb : Nat → Bytes → Option Tree) (evs : List Event) : Except Err Tree :=
  let b := evs.foldl (buildStep main emb) {}
  match b.error with
  | some e => .error (.code e)
  | none => .ok { lang := b.lang, origCharset := b.charset, root := b.root }

/-- How `wbxml_tree_from_wbxml` reads embedded documents at fuel `f`. -/
def embOf (main : List Lang) (f : Nat) : Nat → Bytes → Option Tree := fun cs bs =>
  match treeOfWbxml main f 0 cs bs with
  | .ok t => some t
  | .error _ => none

/-- When the parser accepts, `wbxml_tree_from_wbxml` is the builder over the parser's events. -/
theorem treeOfWbxml_events (main : List Lang) (f forced metaCs : Nat) (bs : Bytes) (evs : List Event)
    (hres : (parse (pcfgOf main forced metaCs) bs).result = .ok ())
    (hev : (parse (pcfgOf main forced metaCs) bs).events = evs) :
    treeOfWbxml main (f + 1) forced metaCs bs = treeOfEvents main (embOf main f) evs := by
  have hp : parse { main := main, langForced := forced, metaCharset := metaCs } bs =
      parse (pcfgOf main forced metaCs) bs := rfl
  rw [treeOfWbxml, hp, hres, hev]
  rfl

/-- **Round trip = the specification's reading of what the encoder wrote** (`_partial`: languages
    without typed content, or outputs without OPAQUE token, see `C06.enc_is_ser_wf_partial`). The tree `RT cfg t` is the tree the
    builder makes of `Spec.events pcfg d`, where `d` is the grammar value with `bs = Spec.ser d`:
    the library's tolerant parser adds nothing to, and removes nothing from, the strict reading of
    the encoder's output. -/
theorem rt_is_spec_tree_partial (cfg : X2WCfg) (t : Tree) (bs : Bytes) (lang : Lang) (hlang : t.lang = some lang)
    (hl : langOk lang = true) (hover : treeOver lang t = true) (h : treeToWbxml cfg t = .ok bs) :
    ∃ d : Doc, bs = Spec.ser d ∧
      ∀ (main : List Lang) (f forced metaCs : Nat),
        headerLang (pcfgOf main forced metaCs) d.hdr = some lang →
        (headerCharset (pcfgOf main forced metaCs) d.hdr = 3 ∨ headerCharset (pcfgOf main forced metaCs) d.hdr = 106) →
        cfg.version < 256 → bs.length < 4294967296 → (opqsDoc d = [] ∨ untypedLang lang.id = true) →
        treeOfWbxml main (f + 1) forced metaCs bs =
          treeOfEvents main (embOf main f) (Spec.events (pcfgOf main forced metaCs) d) := by
  obtain ⟨d, hs, hdec⟩ := C06.decodes_by_spec_partial cfg t bs lang hlang hl hover h
  refine ⟨d, hs, ?_⟩
  intro main f forced metaCs h1 h2 h3 h4 h5
  obtain ⟨hres, hev⟩ := hdec (pcfgOf main forced metaCs) h1 h2 (charsets_ok main forced metaCs _ h2) h3 h4 h5
  exact treeOfWbxml_events main f forced metaCs bs _ hres hev

/-- **Round trip = the specification's reading of what the encoder wrote — all 29 languages, typed
    content included**, under the four source hypotheses of `C06.enc_is_ser_wf` (each a recorded
    finding: `cdata-in-typed-element`, `invalid-datetime-attribute-accepted`, D5 "text that is not
    base64 becomes an empty OPAQUE", DRMREL `ds:KeyValue` text behind a child element). -/
theorem rt_is_spec_tree (cfg : X2WCfg) (t : Tree) (bs : Bytes) (lang : Lang) (r : Node)
    (hlang : t.lang = some lang) (hroot : t.root = some r)
    (hl : langOk lang = true) (htl : typedLangOk lang = true) (hover : treeOver lang t = true)
    (h : treeToWbxml cfg t = .ok bs)
    (hcdata : noCdataInTyped lang false r = true) (hdt : validDatetimeAttrs lang r = true)
    (hb64 : b64TextDecodes (dcfgOf cfg lang) none r = true)
    (hkv : keyValueTextFirst (dcfgOf cfg lang) none true r = true) :
    ∃ d : Doc, bs = Spec.ser d ∧
      ∀ (main : List Lang) (f forced metaCs : Nat),
        headerLang (pcfgOf main forced metaCs) d.hdr = some lang →
        (headerCharset (pcfgOf main forced metaCs) d.hdr = 3 ∨ headerCharset (pcfgOf main forced metaCs) d.hdr = 106) →
        cfg.version < 256 → bs.length < 4294967296 →
        treeOfWbxml main (f + 1) forced metaCs bs =
          treeOfEvents main (embOf main f) (Spec.events (pcfgOf main forced metaCs) d) := by
  obtain ⟨d, hs, hdec⟩ := C06.decodes_by_spec cfg t bs lang r hlang hroot hl htl hover h hcdata hdt hb64 hkv
  refine ⟨d, hs, ?_⟩
  intro main f forced metaCs h1 h2 h3 h4
  obtain ⟨hres, hev⟩ := hdec (pcfgOf main forced metaCs) h1 h2 (charsets_ok main forced metaCs _ h2) h3 h4
  exact treeOfWbxml_events main f forced metaCs bs _ hres hev

/-- **Round trip at the level of parser events** (`_partial`: plain trees of plain languages, see
    `C06.denotes_source_partial`): what the library's own parser — as `wbxml_tree_from_wbxml` runs
    it — delivers on the encoder's output has exactly the XML-level view of the source tree:
    same element nesting and names, same attributes with the same values in the same order, same
    character data after `normText` (white space trimmed / white-space-only text dropped unless
    kept, C-string reading, SyncML media-type rewriting). -/
theorem rt_events_view_partial (cfg : X2WCfg) (t : Tree) (bs : Bytes) (lang : Lang) (r : Node)
    (hlang : t.lang = some lang) (hroot : t.root = some r)
    (hl : langOk lang = true) (hover : treeOver lang t = true) (h : treeToWbxml cfg t = .ok bs)
    (hpn : plainNode r = true) (hpl : plainLang lang = true) (hnta : noTypedAttr lang.id = true)
    (hvs : valSemOk lang = true) (has : attrSemOk lang = true) (hts : tagSemOk lang = true)
    (han : attrNameSemOk lang = true) :
    ∃ d : Doc, bs = Spec.ser d ∧
      ∀ (main : List Lang) (forced metaCs : Nat),
        headerLang (pcfgOf main forced metaCs) d.hdr = some lang →
        (headerCharset (pcfgOf main forced metaCs) d.hdr = 3 ∨ headerCharset (pcfgOf main forced metaCs) d.hdr = 106) →
        cfg.version < 256 → bs.length < 4294967296 →
        (parse (pcfgOf main forced metaCs) bs).result = .ok () ∧
        (parse (pcfgOf main forced metaCs) bs).events.flatMap toks = srcToks (dcfgOf cfg lang) r := by
  obtain ⟨d, hs, hk⟩ := C06.denotes_source_partial cfg t bs lang r hlang hroot hl hover h hpn hpl hnta hvs has hts han
  refine ⟨d, hs, ?_⟩
  intro main forced metaCs h1 h2 h3 h4
  obtain ⟨_, r1, _, r3⟩ := hk (pcfgOf main forced metaCs) h1 h2 (charsets_ok main forced metaCs _ h2) h3 h4
  exact ⟨r1, r3⟩

/-- **Builder reconstruction.** Over the events the
    specification assigns to a document `d` in which no element is called `Data`, the tree builder
    of `wbxml_tree_from_wbxml` (`buildStep`, `addKid`) succeeds and delivers exactly the tree read
    off `d` by structural recursion (`treeOfEventsSpec` / `nodeOfElem`): one element node per
    element with the reader's name and attributes, one text node per maximal run of non-empty
    character data, processing instructions dropped. Every item kind of the grammar is covered
    (strings, entities, extensions, opaque data all arrive as character data); the only
    restriction is `noDataEvents`, which makes `syncmlDataType` answer `normal` at every
    character-data event (no CDATA node, no embedded tree). -/
theorem build_reconstructs (main : List Lang) (emb : Nat → Bytes → Option Tree) (pcfg : PCfg) (d : Doc) (t : Tree)
    (ht : treeOfEventsSpec main pcfg d = some t) (hnd : noDataEvents (Spec.events pcfg d) = true) :
    treeOfEvents main emb (Spec.events pcfg d) = .ok t := by
  unfold treeOfEventsSpec at ht
  cases hl : headerLang pcfg d.hdr with
  | none => rw [hl] at ht; cases ht
  | some l =>
    rw [hl] at ht; injection ht with ht; subst ht
    unfold treeOfEvents
    rw [run_doc main emb pcfg d l hl hnd]

/-- The tree read off a document has the XML-level view of the document's events, and is in
    normal form (no empty text node, no two adjacent text nodes, at any depth). -/
theorem spec_tree_view (pcfg : PCfg) (d : Doc) (l : Lang) (hl : headerLang pcfg d.hdr = some l) :
    ntoks (rootOfDoc pcfg d l) = (Spec.events pcfg d).flatMap toks ∧ nfNode (rootOfDoc pcfg d l) = true :=
  ⟨(events_toks pcfg d l hl).symm, nf_nodeOfElem _ _ _⟩

/-- **`rt_preserves_partial`: the round trip at tree level.** For a plain tree (`plainNode`: no
    CDATA section, no embedded document) of a plain language (the hypotheses of
    `rt_events_view_partial`) in which no element is called `Data` (`noDataNode`):
    `wbxml_tree_from_wbxml` accepts the encoder's output under every reader configuration for
    which the header selects the language, for every fuel, and the tree it delivers has

      * the language entry the header selects and the header's character set,
      * a root `r'` in normal form (`nfNode`) with `canon r' = normNode (dcfgOf cfg lang) r`,
        whose view `ntoks r'` is the view of the parser's events:

    the round-trip tree IS the normalised source tree — same element nesting, same names, same
    attributes with the same values (C strings with the handlers' trailing NUL) in the same order
    (none without attribute table), character data `normText`-ed per source text node, empty text
    dropped, adjacent text merged — up to `canon`, which forgets only whether a name is
    represented as a table row or as a literal. `r'` is also given explicitly: the tree read off
    the grammar value the encoder wrote (`rootOfDoc`).
    `_partial`: see the note at the end of the file (exact table rows of names, `Data`, CDATA /
    embedded documents, typed content, ActiveSync). -/
theorem rt_preserves_partial (cfg : X2WCfg) (t : Tree) (bs : Bytes) (lang : Lang) (r : Node)
    (hlang : t.lang = some lang) (hroot : t.root = some r)
    (hl : langOk lang = true) (hover : treeOver lang t = true) (h : treeToWbxml cfg t = .ok bs)
    (hpn : plainNode r = true) (hpl : plainLang lang = true) (hnta : noTypedAttr lang.id = true)
    (hvs : valSemOk lang = true) (has : attrSemOk lang = true) (hts : tagSemOk lang = true)
    (han : attrNameSemOk lang = true) (hnd : noDataNode r = true) :
    ∃ d : Doc, bs = Spec.ser d ∧
      ∀ (main : List Lang) (f forced metaCs : Nat),
        headerLang (pcfgOf main forced metaCs) d.hdr = some lang →
        (headerCharset (pcfgOf main forced metaCs) d.hdr = 3 ∨ headerCharset (pcfgOf main forced metaCs) d.hdr = 106) →
        cfg.version < 256 → bs.length < 4294967296 →
        ∃ r' : Node,
          treeOfWbxml main (f + 1) forced metaCs bs =
            .ok { lang := main.find? (fun x => x.id == lang.id),
                  origCharset := headerCharset (pcfgOf main forced metaCs) d.hdr, root := some r' } ∧
          r' = rootOfDoc (pcfgOf main forced metaCs) d lang ∧ nfNode r' = true ∧
          canon r' = normNode (dcfgOf cfg lang) r ∧
          (parse (pcfgOf main forced metaCs) bs).events.flatMap toks = ntoks r' := by
  obtain ⟨d, hs, hk⟩ := C06.denotes_source_partial cfg t bs lang r hlang hroot hl hover h hpn hpl hnta hvs has hts han
  refine ⟨d, hs, ?_⟩
  intro main f forced metaCs h1 h2 h3 h4
  obtain ⟨_, hres, hev, hview⟩ := hk (pcfgOf main forced metaCs) h1 h2 (charsets_ok main forced metaCs _ h2) h3 h4
  rw [hev] at hview
  have hndE : noDataEvents (Spec.events (pcfgOf main forced metaCs) d) = true := by
    rw [noDataEvents_toks, hview, noData_srcToks, hnd]
  obtain ⟨hrElt, hrOver⟩ : isElt r = true ∧ nodeOver lang r = true := by
    simpa only [treeOver, hroot, Bool.and_eq_true] using hover
  refine ⟨rootOfDoc (pcfgOf main forced metaCs) d lang, ?_, rfl, nf_nodeOfElem _ _ _, ?_,
    by rw [hev]; exact events_toks _ d lang h1⟩
  · rw [treeOfWbxml_events main f forced metaCs bs _ hres hev, treeOfEvents,
      run_doc main _ (pcfgOf main forced metaCs) d lang h1 hndE]
  · have hnames : namesOk (dcfgOf cfg lang).lang r = true := by
      rw [dcfgOf_lang]; exact namesOk_of_over lang hts han r hrOver
    have hv : ntoks (rootOfDoc (pcfgOf main forced metaCs) d lang) = ntoks (normNode (dcfgOf cfg lang) r) := by
      rw [← events_toks _ d lang h1, hview, ntoks_normNode _ r hpn hnames]
    have := canon_eq_of_ntoks (rootOfDoc (pcfgOf main forced metaCs) d lang) _ (nf_nodeOfElem _ _ _)
      (nf_normNode (dcfgOf cfg lang) r hpn (isText_of_isElt r hrElt)) (isText_nodeOfElem _ _ _)
      (by rw [isText_normNode]; exact isText_of_isElt r hrElt) hv
    rw [this, canon_normNode]

/-- **Idempotence of the normalisation** — the algebraic core of "the second round trip is the
    identity": `normNode c (normNode c n) = normNode c n` for EVERY node (any depth, CDATA sections
    and embedded documents included — they are left alone) whose text nodes outside CDATA are
    NUL-free (`textsNulFree`: what an XML parser delivers), in every language but the three SyncML
    ones. Both hypotheses are needed, see `norm_not_idempotent_nul` and
    `norm_not_idempotent_syncml`; for SyncML see `norm_idempotent_merged`. -/
theorem norm_idempotent (c : WCfg) (hs : isSyncml c.lang.id = false) (n : Node) (h : textsNulFree n = true) :
    normNode c (normNode c n) = normNode c n := normNode_idem c hs n h

/-- **Idempotence in every language**, SyncML included, for trees with NUL-free text in which no
    two text nodes are adjacent siblings (`mergedNode`: what both tree builders deliver, since
    `wbxml_tree_add_node` merges adjacent character data). -/
theorem norm_idempotent_merged (c : WCfg) (n : Node) (h : textsNulFree n = true) (hm : mergedNode n = true) :
    normNode c (normNode c n) = normNode c n := normNode_idem_merged c n h hm

/-- **The text `ReadsBack` is about.** `wbxml_tree_to_xml` in compact or canonical mode, for a plain
    tree of a language without namespace table (not SyncML, no binary-flagged element name),
    writes the XML header followed by `renderNode` of the root: `<name` + ` attr="escaped value"`…
    + `/>` for an element without children, otherwise `>` children `</name>`; escaped
    `printedText` for a text node; nothing else. `xmlEventsOf` is what XML 1.0 (and namespace
    processing of the reserved `xml:` prefix) makes a conforming reader report for that text. -/
theorem printed_is_render_partial (cfg : W2XCfg) (fuel : Nat) (t : Tree) (lang : Lang) (r : Node) (xml : Bytes)
    (hlang : t.lang = some lang) (hroot : t.root = some r) (hg : cfg.gen ≠ 1) (hns : lang.ns = none)
    (hs : isSyncml lang.id = false) (hp : plainNode r = true) (hnb : noBinaryNames r = true)
    (h : treeToXml cfg fuel t = .ok xml) : xml = xmlHeader lang cfg.gen ++ renderNode (xcfgOf cfg lang) r :=
  treeToXml_render cfg fuel t lang r xml hlang hroot hg hns hs hp hnb h

/-- **Reading the printed tree back** (`_partial`: plain trees in normal form, languages without
    namespace table, compact or canonical generation — the scope of `ReadsDoc`).
    Let `t'` be any tree with a root element in normal form (`nfNode`: what `rt_preserves_partial`
    delivers) whose element names contain no `|` and are not `Data` (`readable`) and whose
    attributes survive printing (`attrsReadable`: no TAB / LF in a value unless the output is
    canonical, no name that starts with the XML namespace URI). Assume `ReadsBack env xml c t'`:
    **the recorded Expat run for the printed text `xml` succeeded and is a conforming reading of
    the printed tree** — start/end events with the printed names and attributes, character data as
    printed in any chunking, no CDATA (`Reads`; the canonical such sequence is `xmlEventsOf c t'`).
    This is the one assumption about Expat, which is not modelled; it is what the C05 check
    validates on the implementation side (recorded Expat runs of the printer's output against the
    tree). Then `wbxml_tree_from_xml` succeeds, finds the language through the printed document type
    (`docTypeFinds`), and its tree `t''` is `readNode` of `t'`, which equals `t'` up to `normNode`
    for every encoder configuration whose white-space policy absorbs the printer's (`flagsOk`). -/
theorem xml_read_back_partial (main : List Lang) (lang : Lang) (xcfg : W2XCfg) (wc : WCfg) (t' : Tree) (r' : Node)
    (fuel k : Nat) (xml : Bytes) (env : List (Bytes × ExpatRun))
    (hroot : t'.root = some r') (hpl : plainLang lang = true) (hdt : docTypeFinds main lang = true)
    (hnf : nfNode r' = true) (helt : isElt r' = true) (hre : readable r' = true)
    (har : attrsReadable (xcfgOf xcfg lang) r' = true)
    (hwl : wc.lang = lang) (hs : isSyncml lang.id = false) (hf : flagsOk (xcfgOf xcfg lang) wc = true)
    (hx : treeToXml xcfg fuel t' = .ok xml) (hrb : ReadsBack env xml (xcfgOf xcfg lang) t') :
    ∃ r'' : Node,
      treeOfXml main env (k + 1) xml = .ok { lang := some lang, origCharset := 0, root := some r'' } ∧
      r'' = readNode lang (xcfgOf xcfg lang) r' ∧ normNode wc r'' = normNode wc r' := by
  refine ⟨readNode lang (xcfgOf xcfg lang) r', ?_, rfl, ?_⟩
  · exact treeOfXml_readsBack main hpl rfl hdt t' r' hroot hre helt env xml (treeToXml_ne_nil xcfg fuel t' xml hx) hrb k
  · exact norm_read_node lang (xcfgOf xcfg lang) wc hwl (by rw [hwl]; exact hs) hf r' hnf hre har

/-- **The second trip at tree level.** For a source tree `t` as in `rt_preserves_partial`, with
    NUL-free text, in a language that is not SyncML: let `t'` be the round-trip tree
    (`wbxml_tree_from_wbxml` of the encoder's output). If `t'` is printed (`wbxml_tree_to_xml`,
    compact or canonical, white-space policy absorbed by the encoder's) and Expat reads the text
    back (`ReadsBack`, see `xml_read_back_partial`), then `wbxml_tree_from_xml` delivers a tree
    `t''` with `normNode c t'' = normNode c t' = normNode c t = canon t'`: the second trip starts
    from a tree that is, up to the normalisation, the first round-trip tree — and that tree is
    already normal (`norm_idempotent`). The hypotheses `readable` / `attrsReadable` are stated for
    the normalised source tree (they only look at XML names and values). -/
theorem rt2_tree_partial (cfg : X2WCfg) (t : Tree) (bs : Bytes) (lang : Lang) (r : Node)
    (hlang : t.lang = some lang) (hroot : t.root = some r)
    (hl : langOk lang = true) (hover : treeOver lang t = true) (h : treeToWbxml cfg t = .ok bs)
    (hpn : plainNode r = true) (hpl : plainLang lang = true) (hnta : noTypedAttr lang.id = true)
    (hvs : valSemOk lang = true) (has : attrSemOk lang = true) (hts : tagSemOk lang = true)
    (han : attrNameSemOk lang = true) (hnd : noDataNode r = true)
    (hsy : isSyncml lang.id = false) (hnul : textsNulFree r = true) :
    ∃ d : Doc, bs = Spec.ser d ∧
      ∀ (main : List Lang) (f forced metaCs : Nat),
        headerLang (pcfgOf main forced metaCs) d.hdr = some lang →
        (headerCharset (pcfgOf main forced metaCs) d.hdr = 3 ∨ headerCharset (pcfgOf main forced metaCs) d.hdr = 106) →
        cfg.version < 256 → bs.length < 4294967296 →
        ∃ (t' : Tree) (r' : Node), treeOfWbxml main (f + 1) forced metaCs bs = .ok t' ∧ t'.root = some r' ∧
          canon r' = normNode (dcfgOf cfg lang) r ∧
          ∀ (xcfg : W2XCfg) (fuel k : Nat) (xml : Bytes) (env : List (Bytes × ExpatRun)),
            docTypeFinds main lang = true → flagsOk (xcfgOf xcfg lang) (dcfgOf cfg lang) = true →
            readable (normNode (dcfgOf cfg lang) r) = true →
            attrsReadable (xcfgOf xcfg lang) (normNode (dcfgOf cfg lang) r) = true →
            treeToXml xcfg fuel t' = .ok xml → ReadsBack env xml (xcfgOf xcfg lang) t' →
            ∃ r'' : Node,
              treeOfXml main env (k + 1) xml = .ok { lang := some lang, origCharset := 0, root := some r'' } ∧
              normNode (dcfgOf cfg lang) r'' = normNode (dcfgOf cfg lang) r' ∧
              normNode (dcfgOf cfg lang) r'' = normNode (dcfgOf cfg lang) r ∧
              normNode (dcfgOf cfg lang) r'' = canon r' := by
  obtain ⟨d, hs, hk⟩ := rt_preserves_partial cfg t bs lang r hlang hroot hl hover h hpn hpl hnta hvs has hts han hnd
  refine ⟨d, hs, ?_⟩
  intro main f forced metaCs h1 h2 h3 h4
  obtain ⟨r', ht', hr', hnf, hcanon, _⟩ := hk main f forced metaCs h1 h2 h3 h4
  refine ⟨_, r', ht', rfl, hcanon, ?_⟩
  intro xcfg fuel k xml env hdt hf hre har hx hrb
  have hre' : readable r' = true := by rw [← readable_canon, hcanon]; exact hre
  have har' : attrsReadable (xcfgOf xcfg lang) r' = true := by rw [← attrsReadable_canon, hcanon]; exact har
  have helt : isElt r' = true := by rw [hr']; exact isElt_nodeOfElem _ _ _
  obtain ⟨r'', hx'', _, hn⟩ := xml_read_back_partial main lang xcfg (dcfgOf cfg lang) _ r' fuel k xml env rfl hpl hdt
    hnf helt hre' har' (dcfgOf_lang cfg lang) hsy hf hx hrb
  have hidem : normNode (dcfgOf cfg lang) r' = normNode (dcfgOf cfg lang) r := by
    rw [← normNode_canon, hcanon]
    exact normNode_idem _ (by rw [dcfgOf_lang]; exact hsy) r hnul
  exact ⟨r'', hx'', hn, hn.trans hidem, by rw [hn, hidem, hcanon]⟩

/-- **Trees with the same normal form have the same round trip.** Two plain trees of one language
    (table hypotheses `rtLangOk` = those of `rt_preserves_partial`) whose normalisations agree are
    encoded to documents whose event views agree and whose round-trip trees agree up to `canon`,
    whatever the two encodings look like octet by octet (text split differently, different string
    tables, empty content written or not). -/
theorem rt_same_norm_partial (cfg : X2WCfg) (lang : Lang) (hlk : rtLangOk lang = true)
    (t1 t2 : Tree) (r1 r2 : Node) (bs1 bs2 : Bytes)
    (hlang1 : t1.lang = some lang) (hroot1 : t1.root = some r1) (hover1 : treeOver lang t1 = true)
    (h1 : treeToWbxml cfg t1 = .ok bs1) (hpn1 : plainNode r1 = true) (hnd1 : noDataNode r1 = true)
    (hlang2 : t2.lang = some lang) (hroot2 : t2.root = some r2) (hover2 : treeOver lang t2 = true)
    (h2 : treeToWbxml cfg t2 = .ok bs2) (hpn2 : plainNode r2 = true) (hnd2 : noDataNode r2 = true)
    (hN : normNode (dcfgOf cfg lang) r1 = normNode (dcfgOf cfg lang) r2) :
    ∃ d1 d2 : Doc, bs1 = Spec.ser d1 ∧ bs2 = Spec.ser d2 ∧
      ∀ (main : List Lang) (f1 forced1 meta1 f2 forced2 meta2 : Nat),
        headerLang (pcfgOf main forced1 meta1) d1.hdr = some lang →
        (headerCharset (pcfgOf main forced1 meta1) d1.hdr = 3 ∨ headerCharset (pcfgOf main forced1 meta1) d1.hdr = 106) →
        headerLang (pcfgOf main forced2 meta2) d2.hdr = some lang →
        (headerCharset (pcfgOf main forced2 meta2) d2.hdr = 3 ∨ headerCharset (pcfgOf main forced2 meta2) d2.hdr = 106) →
        cfg.version < 256 → bs1.length < 4294967296 → bs2.length < 4294967296 →
        (parse (pcfgOf main forced1 meta1) bs1).events.flatMap toks =
          (parse (pcfgOf main forced2 meta2) bs2).events.flatMap toks ∧
        ∃ (t1' t2' : Tree) (r1' r2' : Node),
          treeOfWbxml main (f1 + 1) forced1 meta1 bs1 = .ok t1' ∧ t1'.root = some r1' ∧
          treeOfWbxml main (f2 + 1) forced2 meta2 bs2 = .ok t2' ∧ t2'.root = some r2' ∧
          t1'.lang = t2'.lang ∧ canon r1' = canon r2' := by
  obtain ⟨hl, hpl, hnta, hvs, has, hts, han⟩ := rtLangOk_spec lang hlk
  obtain ⟨d1, hs1, hk1⟩ := rt_preserves_partial cfg t1 bs1 lang r1 hlang1 hroot1 hl hover1 h1 hpn1 hpl hnta hvs has hts han hnd1
  obtain ⟨d2, hs2, hk2⟩ := rt_preserves_partial cfg t2 bs2 lang r2 hlang2 hroot2 hl hover2 h2 hpn2 hpl hnta hvs has hts han hnd2
  refine ⟨d1, d2, hs1, hs2, ?_⟩
  intro main f1 forced1 meta1 f2 forced2 meta2 a1 a2 b1 b2 hv hz1 hz2
  obtain ⟨r1', e1, _, _, hc1, hv1⟩ := hk1 main f1 forced1 meta1 a1 a2 hv hz1
  obtain ⟨r2', e2, _, _, hc2, hv2⟩ := hk2 main f2 forced2 meta2 b1 b2 hv hz2
  have hcc : canon r1' = canon r2' := by rw [hc1, hc2, hN]
  refine ⟨?_, _, _, r1', r2', e1, rfl, e2, rfl, rfl, hcc⟩
  rw [hv1, hv2, ← ntoks_canon r1', ← ntoks_canon r2', hcc]

/-- **`rt2_is_rt1_partial`: the second round trip is the first, at tree and event level.** Under the
    hypotheses of `rt2_tree_partial` (plus attribute values below 2^32 octets): let `t'` be the first
    round-trip tree, `xml` its printed form, `t''` what `wbxml_tree_from_xml` makes of Expat's
    reading of `xml` (`ReadsBack`). If the encoder accepts `t''` — output `bs2` — then `bs2` and the
    first output `bs` denote the same event view, and the tree `wbxml_tree_from_wbxml` builds from
    `bs2` equals `t'` up to `canon`: converting twice gives the document that converting once gives.
    `_partial`: (i) the class of trees / languages / generation modes of `rt_preserves_partial` and
    `ReadsDoc`; (ii) equality of the two WBXML documents OCTET BY OCTET is not claimed and is false
    as it stands — `rt2_bytes_differ_hollow` (an element whose only child is ignorable white space:
    written with an empty content the first time, without content the second; the known finding
    `empty-element-form-not-stable`) and `rt2_bytes_differ_adjacent_text` (two adjacent text nodes,
    which only API-built trees have: two `STR_I` the first time, one the second). -/
theorem rt2_is_rt1_partial (cfg : X2WCfg) (t : Tree) (bs : Bytes) (lang : Lang) (r : Node)
    (hlk : rtLangOk lang = true) (hlang : t.lang = some lang) (hroot : t.root = some r)
    (hover : treeOver lang t = true) (h : treeToWbxml cfg t = .ok bs)
    (hpn : plainNode r = true) (hnd : noDataNode r = true)
    (hsy : isSyncml lang.id = false) (hnul : textsNulFree r = true) :
    ∃ d : Doc, bs = Spec.ser d ∧
      ∀ (main : List Lang) (f forced metaCs : Nat),
        headerLang (pcfgOf main forced metaCs) d.hdr = some lang →
        (headerCharset (pcfgOf main forced metaCs) d.hdr = 3 ∨ headerCharset (pcfgOf main forced metaCs) d.hdr = 106) →
        cfg.version < 256 → bs.length < 4294967296 →
        ∃ (t' : Tree) (r' : Node), treeOfWbxml main (f + 1) forced metaCs bs = .ok t' ∧ t'.root = some r' ∧
          ∀ (xcfg : W2XCfg) (fuel k : Nat) (xml : Bytes) (env : List (Bytes × ExpatRun)),
            main.find? (fun x => x.id == lang.id) = some lang →
            docTypeFinds main lang = true → flagsOk (xcfgOf xcfg lang) (dcfgOf cfg lang) = true →
            readable (normNode (dcfgOf cfg lang) r) = true →
            attrsReadable (xcfgOf xcfg lang) (normNode (dcfgOf cfg lang) r) = true →
            valuesShort (normNode (dcfgOf cfg lang) r) = true →
            treeToXml xcfg fuel t' = .ok xml → ReadsBack env xml (xcfgOf xcfg lang) t' →
            ∃ t'' : Tree, treeOfXml main env (k + 1) xml = .ok t'' ∧
              ∀ bs2 : Bytes, treeToWbxml cfg t'' = .ok bs2 →
                ∃ d2 : Doc, bs2 = Spec.ser d2 ∧
                  ∀ (f2 forced2 meta2 : Nat),
                    headerLang (pcfgOf main forced2 meta2) d2.hdr = some lang →
                    (headerCharset (pcfgOf main forced2 meta2) d2.hdr = 3 ∨
                      headerCharset (pcfgOf main forced2 meta2) d2.hdr = 106) →
                    bs2.length < 4294967296 →
                    (parse (pcfgOf main forced2 meta2) bs2).events.flatMap toks =
                      (parse (pcfgOf main forced metaCs) bs).events.flatMap toks ∧
                    ∃ (t3 : Tree) (r3 : Node), treeOfWbxml main (f2 + 1) forced2 meta2 bs2 = .ok t3 ∧
                      t3.root = some r3 ∧ t3.lang = t'.lang ∧ canon r3 = canon r' ∧
                      ∀ (fuel3 : Nat) (xml3 : Bytes), treeToXml xcfg fuel3 t3 = .ok xml3 → xml3 = xml := by
  obtain ⟨hl, hpl, hnta, hvs, has, hts, han⟩ := rtLangOk_spec lang hlk
  obtain ⟨d, hs, hk⟩ := rt_preserves_partial cfg t bs lang r hlang hroot hl hover h hpn hpl hnta hvs has hts han hnd
  refine ⟨d, hs, ?_⟩
  intro main f forced metaCs a1 a2 hver hz
  obtain ⟨r', ht', hr', hnf, hcanon, hview⟩ := hk main f forced metaCs a1 a2 hver hz
  refine ⟨_, r', ht', rfl, ?_⟩
  intro xcfg fuel k xml env hfind hdt hf hre har hvsh hx hrb
  have hns : lang.ns = none := by obtain ⟨_, _, _, _, hns, _⟩ := hrb; exact hns
  have hg : xcfg.gen ≠ 1 := by obtain ⟨_, _, _, _, _, hg, _⟩ := hrb; exact hg
  have hre' : readable r' = true := by rw [← readable_canon, hcanon]; exact hre
  have har' : attrsReadable (xcfgOf xcfg lang) r' = true := by rw [← attrsReadable_canon, hcanon]; exact har
  have hvs' : valuesShort r' = true := by rw [← valuesShort_canon, hcanon]; exact hvsh
  have helt : isElt r' = true := by rw [hr']; exact isElt_nodeOfElem _ _ _
  obtain ⟨r'', hx'', hr'', hn⟩ := xml_read_back_partial main lang xcfg (dcfgOf cfg lang) _ r' fuel k xml env rfl hpl hdt
    hnf helt hre' har' (dcfgOf_lang cfg lang) hsy hf hx hrb
  refine ⟨_, hx'', ?_⟩
  intro bs2 h2
  obtain ⟨hov, hpn2, hnd2⟩ := good_readNode lang (xcfgOf xcfg lang) r' hre' hvs'
  rw [← hr''] at hov hpn2 hnd2
  have helt2 : isElt r'' = true := by rw [hr'']; exact isElt_readNode lang _ r' helt
  have hidem : normNode (dcfgOf cfg lang) r'' = normNode (dcfgOf cfg lang) r := by
    rw [hn, ← normNode_canon, hcanon]
    exact normNode_idem _ (by rw [dcfgOf_lang]; exact hsy) r hnul
  obtain ⟨d2, hs2, hk2⟩ := rt_preserves_partial cfg { lang := some lang, origCharset := 0, root := some r'' } bs2 lang r''
    rfl rfl hl (by simp only [treeOver, helt2, hov, Bool.and_self]) h2 hpn2 hpl hnta hvs has hts han hnd2
  refine ⟨d2, hs2, ?_⟩
  intro f2 forced2 meta2 b1 b2 hz2
  obtain ⟨r3, e3, hr3, hnf3, hc3, hv3⟩ := hk2 main f2 forced2 meta2 b1 b2 hver hz2
  have hcc : canon r3 = canon r' := by rw [hc3, hidem, hcanon]
  refine ⟨?_, _, r3, e3, rfl, rfl, hcc, ?_⟩
  · rw [hv3, hview, ← ntoks_canon r3, ← ntoks_canon r', hcc]
  · intro fuel3 xml3 hx3
    exact printed_congr xcfg lang _ _ r3 r' fuel3 fuel xml3 xml hfind hfind rfl rfl hg hns hsy
      (plain_of_nf r3 hnf3) (plain_of_nf r' hnf) (by rw [hr3]; exact noBinary_rootOfDoc _ _ _ hpl)
      (by rw [hr']; exact noBinary_rootOfDoc _ _ _ hpl) hcc hx3 hx

/-- The one row of the library's tables that is not the first with its page and token:
    ActiveSync `RequireStorageCardEncryption` (page 14, token 0x10). -/
def aliasRow (r : TagRow) : Bool := r.name == b!"RequireStorageCardEncryption" && r.page == 14 && r.token == 16

/-- **(page, token) pairs are unique** in every tag table but ActiveSync's, where exactly one row —
    `RequireStorageCardEncryption`, page 14 token 0x10 — stands behind another with the same page
    and token. -/
theorem tag_tables_tokens_uniq_partial : ∀ t ∈ Gen.allTagTables,
    t.all (fun r => decTag t r.page r.token == some r || aliasRow r) = true := by
  intro t ht
  rw [List.all_eq_true]
  intro r hr
  cases hx : aliasRow r with
  | true => rw [Bool.or_true]
  | false => rw [Props.C08.tag_row_self (List.mem_append_left _ ht) hr hx, beq_self_eq_true]; rfl

/-- **Table fact `tagNamesUniqPerPage`**: within one code page of a language no two rows of the
    tag table share a name — every one of the 22 tag tables of the library (so for all 29
    languages; ActiveSync's aliases share a TOKEN, not a name): the one-pass check of C08. -/
theorem tag_tables_names_uniq : ∀ t ∈ Gen.allTagTables, namesUniqPerPage t = true :=
  fun t ht => namesUniq_of_buckets t (tagTableOKLin_spec (Props.C08.tag_tables_lin t (List.mem_append_left _ ht))).2

/-- **The converse of the encoder's name resolution**: in every tag table, looking a row's name up
    from the row's own code page (`wbxml_tables_get_tag_from_xml`) finds that very row (names are
    unique per page, and the rows of a page are contiguous: C08). -/
theorem tag_tables_self_find : ∀ t ∈ Gen.allTagTables, selfFind t = true := by
  intro t ht
  obtain ⟨hc, hn⟩ := tagTableOKLin_spec (Props.C08.tag_tables_lin t (List.mem_append_left _ ht))
  simp only [selfFind, List.all_eq_true, beq_iff_eq]
  exact fun r hr => encTag_self hc hn hr

/-- ActiveSync's two names for token 0x10 of page 14 (`tag_tables_tokens_uniq_partial`): the row a reader
    reports for both is `DeviceEncryptionEnabled`. -/
theorem activesync_alias_first : ∀ l ∈ Gen.main, (l.id == 2401 || l.id == 2402) = true →
    (match l.tags with
     | some t => (decTag t 14 16).map (·.name) == some b!"DeviceEncryptionEnabled" &&
         (t.filter aliasRow).length == 1
     | none => false) = true := by decide +kernel

theorem main_tagNamesUniqPerPage : Gen.main.all tagNamesUniqPerPage = true := by
  rw [List.all_eq_true]
  intro l hl
  unfold tagNamesUniqPerPage
  cases ht : l.tags with
  | none => rfl
  | some t => exact namesUniq_of_buckets t (tagTableOKLin_spec (Props.C08.tag_tables_lin t (Props.C08.mem_swept hl ht))).2

/-- **Builder reconstruction with elements called `Data`** (extends `build_reconstructs`). Over the
    events the specification assigns to a document `d`, if the tree read off `d` satisfies
    `dataIsNormal` — every text node stands where `wbxml_tree_node_get_syncml_data_type` answers
    `normal` at the moment the text arrives: its parent is not called `Data`, or the `Meta`/`Type`
    look-up among the preceding children of the `Data` element's parent and grandparent finds none
    of the special media types and the grandparent is not `Add` / `Replace` — the tree builder of
    `wbxml_tree_from_wbxml` succeeds and delivers exactly that tree. `noDataEvents` is the special
    case without any `Data` element (`dataIsNormal_of_noData`). -/
theorem build_reconstructs_data (main : List Lang) (emb : Nat → Bytes → Option Tree) (pcfg : PCfg) (d : Doc) (t : Tree)
    (ht : treeOfEventsSpec main pcfg d = some t)
    (hnd : ∀ r, t.root = some r → dataIsNormal r = true) :
    treeOfEvents main emb (Spec.events pcfg d) = .ok t := by
  unfold treeOfEventsSpec at ht
  cases hl : headerLang pcfg d.hdr with
  | none => rw [hl] at ht; cases ht
  | some l =>
    rw [hl] at ht; injection ht with ht; subst ht
    unfold treeOfEvents
    rw [run_doc_d main emb pcfg d l hl (dataOkDoc_of_normal pcfg d l hl (hnd _ rfl))]

/-- **`rt_preserves_typed_partial`: the round trip at tree level — exact, typed, with `Data`
    elements.** For a plain tree `r` (no CDATA section, no embedded document) of any language but
    Wireless Village 1.1/1.2 and OTA settings (26 of 29, `C06.typed_view_languages`) under the four
    source hypotheses of `C06.enc_is_ser_wf` (each a recorded finding), with
    `dataIsNormal (normNodeTyped c r)`: `wbxml_tree_from_wbxml` accepts the encoder's output under
    every reader configuration for which the header selects the language, for every fuel, and the
    tree it delivers is — EXACTLY, representation of names included, no `canon` —

        { lang := the header's language entry, origCharset := the header's,
          root := normNodeTyped (dcfgOf cfg lang) r }

    the typed exact normalisation of the source tree (`Lemmas/RtTyped.lean`): every element name
    `.token d` with `d` the first row with the page and token of the row the encoder works with —
    the SAME `TagRow` for every row of every table but ActiveSync's second alias
    (`exactName_token`, `tag_tables_tokens_uniq_partial`) — or the literal C string when the table
    has no such name; attributes `xAttr` (start row `startRow`, see `attr_start_row_spec`); text in
    its typed normal form `vText`; empty text dropped, adjacent text merged.
    `_partial`: plain trees; WV / OTA settings; see the note at the end of the file. -/
theorem rt_preserves_typed_partial (cfg : X2WCfg) (t : Tree) (bs : Bytes) (lang : Lang) (r : Node)
    (hlang : t.lang = some lang) (hroot : t.root = some r)
    (hl : langOk lang = true) (htl : typedLangOk lang = true) (hover : treeOver lang t = true)
    (h : treeToWbxml cfg t = .ok bs)
    (hcdata : noCdataInTyped lang false r = true) (hdt : validDatetimeAttrs lang r = true)
    (hb64 : b64TextDecodes (dcfgOf cfg lang) none r = true)
    (hkv : keyValueTextFirst (dcfgOf cfg lang) none true r = true)
    (hpn : plainNode r = true) (hnw : isWv lang.id = false) (hno : (lang.id == 1901) = false)
    (hvs : valSemOk lang = true) (has : attrSemOk lang = true) (han : attrNameSemOk lang = true)
    (hdata : dataIsNormal (normNodeTyped (dcfgOf cfg lang) r) = true) :
    ∃ d : Doc, bs = Spec.ser d ∧
      ∀ (main : List Lang) (f forced metaCs : Nat),
        headerLang (pcfgOf main forced metaCs) d.hdr = some lang →
        (headerCharset (pcfgOf main forced metaCs) d.hdr = 3 ∨ headerCharset (pcfgOf main forced metaCs) d.hdr = 106) →
        cfg.version < 256 → bs.length < 4294967296 →
        rootOfDoc (pcfgOf main forced metaCs) d lang = normNodeTyped (dcfgOf cfg lang) r ∧
        treeOfWbxml main (f + 1) forced metaCs bs =
          .ok { lang := main.find? (fun x => x.id == lang.id),
                origCharset := headerCharset (pcfgOf main forced metaCs) d.hdr,
                root := some (normNodeTyped (dcfgOf cfg lang) r) } := by
  obtain ⟨r', d, st, hr', hres⟩ := treeToWbxml_doc cfg t bs lang hlang hl hover h
  rw [hroot] at hr'; injection hr' with hr'; subst hr'
  refine ⟨d, hres.ser, ?_⟩
  intro main f forced metaCs h1 h2 h3 h4
  have hwf := hres.wfTyped hl htl hcdata hdt hb64 hkv (pcfgOf main forced metaCs) h1 h2
    (charsets_ok main forced metaCs _ h2) h3 h4
  have hp := Props.C04.parse_ser (pcfgOf main forced metaCs) d hwf
  rw [← hres.ser] at hp
  have helt : isElt r = true := by
    simp only [treeOver, hroot, Bool.and_eq_true] at hover
    exact hover.1
  have hx := hres.exactRoot hl htl helt hpn hnw hno hvs has han (pcfgOf main forced metaCs)
  refine ⟨hx, ?_⟩
  rw [treeOfWbxml_events main f forced metaCs bs _ hp.1 hp.2, treeOfEvents,
    run_doc_d main _ (pcfgOf main forced metaCs) d lang h1
      (dataOkDoc_of_normal _ d lang h1 (by rw [hx]; exact hdata)), hx]

/-- `rt_preserves_typed_partial` in the 20 languages without typed content (`untypedLang`: all but
    WV, DRMREL, the three SyncML representation protocols, SI, EMN, OTA): no source hypothesis
    besides "plain tree" and `dataIsNormal` is needed (`C06.typed_hyps_untyped`). This extends
    `rt_preserves_partial` to trees with elements called `Data` and replaces `canon` by equality. -/
theorem rt_preserves_exact_untyped (cfg : X2WCfg) (t : Tree) (bs : Bytes) (lang : Lang) (r : Node)
    (hlang : t.lang = some lang) (hroot : t.root = some r)
    (hl : langOk lang = true) (htl : typedLangOk lang = true) (hover : treeOver lang t = true)
    (h : treeToWbxml cfg t = .ok bs) (hu : untypedLang lang.id = true)
    (hpn : plainNode r = true) (hnw : isWv lang.id = false) (hno : (lang.id == 1901) = false)
    (hvs : valSemOk lang = true) (has : attrSemOk lang = true) (han : attrNameSemOk lang = true)
    (hdata : dataIsNormal (normNodeTyped (dcfgOf cfg lang) r) = true) :
    ∃ d : Doc, bs = Spec.ser d ∧
      ∀ (main : List Lang) (f forced metaCs : Nat),
        headerLang (pcfgOf main forced metaCs) d.hdr = some lang →
        (headerCharset (pcfgOf main forced metaCs) d.hdr = 3 ∨ headerCharset (pcfgOf main forced metaCs) d.hdr = 106) →
        cfg.version < 256 → bs.length < 4294967296 →
        treeOfWbxml main (f + 1) forced metaCs bs =
          .ok { lang := main.find? (fun x => x.id == lang.id),
                origCharset := headerCharset (pcfgOf main forced metaCs) d.hdr,
                root := some (normNodeTyped (dcfgOf cfg lang) r) } := by
  obtain ⟨h1, h2, h3, h4⟩ := C06.typed_hyps_untyped cfg lang r hu
  obtain ⟨d, hs, hk⟩ := rt_preserves_typed_partial cfg t bs lang r hlang hroot hl htl hover h h1 h2 h3 h4 hpn hnw hno
    hvs has han hdata
  exact ⟨d, hs, fun main f forced metaCs a1 a2 a3 a4 => (hk main f forced metaCs a1 a2 a3 a4).2⟩

/-- Every token element name of every language of the library except ActiveSync's
    `RequireStorageCardEncryption` comes back from the round trip as the SAME table row
    (`exactName … = .token r`); that one comes back as `DeviceEncryptionEnabled`
    (`activesync_alias_first`). -/
theorem exact_row_main (l : Lang) (hl : l ∈ Gen.main) (tags : List TagRow) (ht : l.tags = some tags) (r : TagRow)
    (hr : r ∈ tags) (ha : aliasRow r = false) (nm : Bytes) : exactName l (some r) nm = .token r := by
  exact exactName_token l tags ht r (Props.C08.tag_row_self (Props.C08.mem_swept hl ht) hr ha) nm

/-- **`attr_start_row_spec`: which attribute start row the encoder picks** (the row behind
    `exactAName` / `xAttr`). For a literal attribute name `startRow` is the row
    `wbxml_tables_get_attr_from_xml` picks for (name, value) as C strings, and that is, in closed
    form: the FIRST row in table order with that name whose value IS the value; otherwise the first
    row with the LONGEST non-empty proper value prefix; otherwise the first row with that name and
    no value; otherwise none (the name is written as a literal). For a token name it is the name's
    own row when its value prefix matches, none otherwise (`startRow_token`). -/
theorem attr_start_row_spec (c : WCfg) (a : Attr) (s : Bytes) (ha : a.name = .literal s) (hs : s.isEmpty = false)
    (attrs : List AttrRow) (hattrs : c.lang.attrs = some attrs) :
    startRow c a =
      match attrs.find? (isExactRow (cstrOf s) (cstrOf a.value)) with
      | some e => some e
      | none =>
        if 0 < maxFrom (cstrOf s) (cstrOf a.value) 0 attrs then
          attrs.find? (fun r => preLenOf (cstrOf s) (cstrOf a.value) r == maxFrom (cstrOf s) (cstrOf a.value) 0 attrs)
        else attrs.find? (isNullRow (cstrOf s)) := by
  rw [startRow_literal c a s ha hs attrs hattrs, encAttr_choice]
  cases attrs.find? (isExactRow (cstrOf s) (cstrOf a.value)) with
  | some e => rfl
  | none =>
    simp only
    split
    · cases attrs.find? (fun r => preLenOf (cstrOf s) (cstrOf a.value) r == maxFrom (cstrOf s) (cstrOf a.value) 0 attrs) <;> rfl
    · cases attrs.find? (isNullRow (cstrOf s)) <;> rfl

/-- **The exact normal form refines `normNode`**: in a plain language (the 21 of
    `rt_preserves_partial`) forgetting the representation of names turns `normNodeTyped` into
    `normNode` — so `rt_preserves_partial`'s `canon r' = normNode c r` is what
    `rt_preserves_typed_partial` says after `canon`, and the two normalisations are consistent. -/
theorem norm_typed_refines_norm (c : WCfg) (hpl : plainLang c.lang = true) (hnta : noTypedAttr c.lang.id = true)
    (hts : tagSemOk c.lang = true) (han : attrNameSemOk c.lang = true) (r : Node)
    (hov : nodeOver c.lang r = true) (hp : plainNode r = true) : canon (normNodeTyped c r) = normNode c r :=
  canon_normNodeTyped c hpl hnta hts han r hov hp

/-- **The typed exact normalisation is idempotent** where the per-form normal forms are: on trees
    whose names are in round-trip form, whose attributes and texts are fixed points of `xAttr` /
    `vText` at their position (`fixedNode`: decidable) and that have no two adjacent text nodes.
    Per form: `textFixed_normal` (`normText` of NUL-free text, every language), `textFixed_binary`
    (raw octets under a binary-flagged tag), `C06.base64_by_value` (`b64Norm` idempotent),
    `C06.datetime_by_value_canon` (`datetimeNorm` on canonical texts of valid date-times),
    `nameFixed_token` / `nameFixed_exact` (what the first trip delivers for a token name). -/
theorem norm_typed_idempotent (c : WCfg) (r : Node) (h : fixedNode c none none 0 r = true) :
    normNodeTyped c (normNodeTyped c r) = normNodeTyped c r := normNodeTyped_idem c r h

/-- **`rt2_is_rt1_ns_partial`: the second round trip for languages WITH a namespace table** (SyncML
    1.0–1.2, DevInf, DM-DDF, ActiveSync; not DRMREL). Let `N = normNodeTyped c r` be the first
    round-trip tree of `rt_preserves_typed_partial` and assume the source is a fixed point form
    (`fixedNode`: what an XML reading delivers) and that every element of `N` is a resolved token
    element without attributes (`nsReadable`: its code page has a namespace that leads back to the
    page, its name is found from its own page — `tag_tables_self_find` —, it is not binary-flagged).
    If `N` is printed (`wbxml_tree_to_xml`, compact or canonical, white-space policy absorbed by the
    encoder's) and a namespace-aware Expat reads the text back (`ReadsBackNs`: element names
    reported as `uri|local` for the default namespace `xml_encode_tag` puts in scope, `xmlns`
    attributes not reported; the one assumption about Expat) with `syncmlDataType` answering
    `normal` at every printed text (`dataOkX`: SyncML `<Data>200</Data>` included), then
    `wbxml_tree_from_xml` succeeds, and whenever the encoder accepts its tree, the tree
    `wbxml_tree_from_wbxml` builds from the second WBXML document is EXACTLY the first one: same
    language entry, same root `N` — same table rows, same text — and printing it gives the SAME XML
    text again (`rt_idem` proper). Converting twice gives what converting once gives.
    `_partial`: token elements only, no attributes, no binary-flagged element; compact / canonical
    output; octet identity of the two WBXML documents is not claimed (false as it stands, see
    `rt2_bytes_differ_hollow`). -/
theorem rt2_is_rt1_ns_partial (cfg : X2WCfg) (t : Tree) (bs : Bytes) (lang : Lang) (r : Node) (ns : List NsRow)
    (hlang : t.lang = some lang) (hroot : t.root = some r) (hns : lang.ns = some ns)
    (hl : langOk lang = true) (htl : typedLangOk lang = true) (hover : treeOver lang t = true)
    (h : treeToWbxml cfg t = .ok bs)
    (hcdata : noCdataInTyped lang false r = true) (hdt : validDatetimeAttrs lang r = true)
    (hb64 : b64TextDecodes (dcfgOf cfg lang) none r = true)
    (hkv : keyValueTextFirst (dcfgOf cfg lang) none true r = true)
    (hpn : plainNode r = true) (hnw : isWv lang.id = false) (hno : (lang.id == 1901) = false)
    (hk : (lang.id == 1801) = false)
    (hvs : valSemOk lang = true) (has : attrSemOk lang = true) (han : attrNameSemOk lang = true)
    (hdata : dataIsNormal (normNodeTyped (dcfgOf cfg lang) r) = true)
    (hfix : fixedNode (dcfgOf cfg lang) none none 0 r = true)
    (hre : nsReadable lang (normNodeTyped (dcfgOf cfg lang) r) = true) :
    ∃ d : Doc, bs = Spec.ser d ∧
      ∀ (main : List Lang) (f forced metaCs : Nat),
        headerLang (pcfgOf main forced metaCs) d.hdr = some lang →
        (headerCharset (pcfgOf main forced metaCs) d.hdr = 3 ∨ headerCharset (pcfgOf main forced metaCs) d.hdr = 106) →
        cfg.version < 256 → bs.length < 4294967296 →
        ∃ t' : Tree, treeOfWbxml main (f + 1) forced metaCs bs = .ok t' ∧
          t'.root = some (normNodeTyped (dcfgOf cfg lang) r) ∧
          ∀ (xcfg : W2XCfg) (fuel k : Nat) (xml : Bytes) (env : List (Bytes × ExpatRun)),
            docTypeFinds main lang = true → flagsOk (xcfgOf xcfg lang) (dcfgOf cfg lang) = true →
            dataOkX (xcfgOf xcfg lang) [] (normNodeTyped (dcfgOf cfg lang) r) = true →
            treeToXml xcfg fuel t' = .ok xml → ReadsBackNs env xml (xcfgOf xcfg lang) t' →
            ∃ t'' : Tree, treeOfXml main env (k + 1) xml = .ok t'' ∧
              t''.root = some (readX (xcfgOf xcfg lang) (normNodeTyped (dcfgOf cfg lang) r)) ∧
              ∀ bs2 : Bytes, treeToWbxml cfg t'' = .ok bs2 →
                ∃ d2 : Doc, bs2 = Spec.ser d2 ∧
                  ∀ (f2 forced2 meta2 : Nat),
                    headerLang (pcfgOf main forced2 meta2) d2.hdr = some lang →
                    (headerCharset (pcfgOf main forced2 meta2) d2.hdr = 3 ∨
                      headerCharset (pcfgOf main forced2 meta2) d2.hdr = 106) →
                    bs2.length < 4294967296 →
                    treeOfWbxml main (f2 + 1) forced2 meta2 bs2 =
                      .ok { lang := main.find? (fun x => x.id == lang.id),
                            origCharset := headerCharset (pcfgOf main forced2 meta2) d2.hdr,
                            root := some (normNodeTyped (dcfgOf cfg lang) r) } ∧
                    ∀ (fuel3 : Nat) (xml3 : Bytes),
                      treeToXml xcfg fuel3 { lang := main.find? (fun x => x.id == lang.id),
                                             origCharset := headerCharset (pcfgOf main forced2 meta2) d2.hdr,
                                             root := some (normNodeTyped (dcfgOf cfg lang) r) } = .ok xml3 →
                      xml3 = xml := by
  obtain ⟨d, hs, hk1⟩ := rt_preserves_typed_partial cfg t bs lang r hlang hroot hl htl hover h hcdata hdt hb64 hkv
    hpn hnw hno hvs has han hdata
  refine ⟨d, hs, ?_⟩
  intro main f forced metaCs a1 a2 hver hz
  obtain ⟨hxr, ht'⟩ := hk1 main f forced metaCs a1 a2 hver hz
  refine ⟨_, ht', rfl, ?_⟩
  intro xcfg fuel k xml env hdtf hflags hdx hx hrb
  have hnfN : nfNode (normNodeTyped (dcfgOf cfg lang) r) = true := by rw [← hxr]; exact nf_nodeOfElem _ _ _
  have heltN : isElt (normNodeTyped (dcfgOf cfg lang) r) = true := by rw [← hxr]; exact isElt_nodeOfElem _ _ _
  have hx'' := treeOfXml_readsBackNs (c := xcfgOf xcfg lang) main rfl ns hns hdtf _ _ rfl hre heltN hdx env xml
    (treeToXml_ne_nil xcfg fuel _ xml hx) hrb k
  refine ⟨_, hx'', rfl, ?_⟩
  intro bs2 h2
  have hcl : (dcfgOf cfg lang).lang = lang := dcfgOf_lang cfg lang
  have hg := goodX_readX lang (dcfgOf cfg lang) (xcfgOf xcfg lang) hcl hk _ hre
  have hR : normNodeTyped (dcfgOf cfg lang) (readX (xcfgOf xcfg lang) (normNodeTyped (dcfgOf cfg lang) r)) =
      normNodeTyped (dcfgOf cfg lang) r := by
    have h1 := (xNode_readX (dcfgOf cfg lang) (xcfgOf xcfg lang) lang hflags (by rw [hcl]; exact hk)
      (normNodeTyped (dcfgOf cfg lang) r) none none 0 hre hnfN rfl).1
    unfold normNodeTyped at h1 ⊢
    rw [h1]
    exact (xNode_fixed (dcfgOf cfg lang) r none none 0 hfix).1
  obtain ⟨d2, hs2, hk2⟩ := rt_preserves_typed_partial cfg
    { lang := some lang, origCharset := 0, root := some (readX (xcfgOf xcfg lang) (normNodeTyped (dcfgOf cfg lang) r)) }
    bs2 lang _ rfl rfl hl htl
    (by simp only [treeOver, isElt_readX _ _ heltN, hg.over, Bool.and_self]) h2 (hg.cd false) hg.dt (hg.b64 none)
    (hg.kv none true) hg.plain hnw hno hvs has han (by rw [hR]; exact hdata)
  refine ⟨d2, hs2, ?_⟩
  intro f2 forced2 meta2 b1 b2 hz2
  have := (hk2 main f2 forced2 meta2 b1 b2 hver hz2).2
  rw [hR] at this
  refine ⟨this, ?_⟩
  intro fuel3 xml3 hx3
  exact treeToXml_same xcfg _ _ fuel3 fuel xml3 xml rfl rfl hx3 hx

/-- The round trip of C06's example tree under the library's table: accepted, same language,
    UTF-8. -/
example : (match treeToWbxml C06.exCfg C06.exTree with
    | .ok bs => (match treeOfWbxml Gen.main (bs.length + 1) 0 0 bs with
      | .ok t' => t'.lang == some Gen.lang15 && t'.origCharset == 106
      | .error _ => false)
    | .error _ => false) = true := by decide +kernel

example : headerLang (pcfgOf Gen.main 0 0) Props.C04.exSyncml.hdr = some Gen.lang15 := by decide +kernel

/-- `build_reconstructs` applies to C04's SyncML example document: a tree is read off it and no
    element is called `Data`. -/
example : (treeOfEventsSpec Gen.main Props.C04.exCfg Props.C04.exSyncml).isSome = true ∧
    noDataEvents (Spec.events Props.C04.exCfg Props.C04.exSyncml) = true := by decide +kernel

def rootOr (t : Tree) : Node :=
  match t.root with
  | some r => r
  | none => .text []

/-- `<wml><card id="a"> Hi <!-- two text nodes -->there<b>x</b>  </card></wml>` as a WML 1.3 tree
    with literal names (the encoder finds the tokens): white space to trim, two adjacent text
    nodes to merge, a white-space-only text node to drop. -/
def exWml : Tree where
  lang := some Gen.lang3
  origCharset := 106
  root := some (.elt (.literal b!"wml") [] [
    .elt (.literal b!"card") [{ name := .literal b!"id", value := b!"a" }] [
      .text b!" Hi ", .text b!"there", .elt (.literal b!"b") [] [.text b!"x"], .text b!"  "]])

def exWmlRoot : Node :=
  match exWml.root with
  | some r => r
  | none => .text []

/-- All hypotheses of `rt_preserves_partial` hold for `exWml` (WML 1.3 from `Gen.main`). -/
example : langOk Gen.lang3 = true ∧ treeOver Gen.lang3 exWml = true ∧ plainNode exWmlRoot = true ∧
    plainLang Gen.lang3 = true ∧ noTypedAttr Gen.lang3.id = true ∧ valSemOk Gen.lang3 = true ∧
    attrSemOk Gen.lang3 = true ∧ tagSemOk Gen.lang3 = true ∧ attrNameSemOk Gen.lang3 = true ∧
    noDataNode exWmlRoot = true := by
  obtain ⟨h1, h2, h3, h4, h5⟩ := main_table_hyps Gen.lang3 (by simp [Gen.main]) (by decide)
  exact ⟨h1, by decide +kernel, by decide +kernel, by decide +kernel, by decide +kernel, h2, h3, h4, h5, by decide +kernel⟩

/-- The normalised example: `<wml><card id="a">Hithere<b>x</b></card></wml>`. -/
example : plainEq (normNode (dcfgOf {} Gen.lang3) exWmlRoot)
    (.elt (.literal b!"wml") [] [
      .elt (.literal b!"card") [{ name := .literal b!"id", value := b!"a\x00" }] [
        .text b!"Hithere", .elt (.literal b!"b") [] [.text b!"x"]]]) = true := by decide +kernel

/-- … and the conclusion evaluated on it: the round trip under the library's table is accepted,
    keeps language and character set, and `canon` of its root is the normalised source root. -/
example : (match treeToWbxml {} exWml with
    | .ok bs => (match treeOfWbxml Gen.main (bs.length + 1) 0 0 bs with
      | .ok t' => (match t'.root with
        | some r' => t'.lang == some Gen.lang3 && t'.origCharset == 106 && nfNode r' &&
            plainEq (canon r') (normNode (dcfgOf {} Gen.lang3) exWmlRoot)
        | none => false)
      | .error _ => false)
    | .error _ => false) = true := by decide +kernel

/-- Hypotheses of `norm_idempotent` for the example. -/
example : isSyncml (dcfgOf {} Gen.lang3).lang.id = false ∧ textsNulFree exWmlRoot = true := by decide +kernel

/-- Hypotheses of `norm_idempotent_merged` for C06's SyncML 1.2 example tree. -/
example : textsNulFree (rootOr C06.exTree) = true ∧ mergedNode (rootOr C06.exTree) = true ∧
    isSyncml Gen.lang15.id = true := by decide +kernel

/-- `norm_idempotent` needs NUL-free text: `"a \0b"` is cut to `"a "` by the first pass (C string)
    and trimmed to `"a"` by the second. -/
theorem norm_not_idempotent_nul :
    normNode (dcfgOf {} Gen.lang3) (normNode (dcfgOf {} Gen.lang3) (.elt (.literal b!"p") [] [.text [0x61, 0x20, 0, 0x62]])) ≠
      normNode (dcfgOf {} Gen.lang3) (.elt (.literal b!"p") [] [.text [0x61, 0x20, 0, 0x62]]) := by
  intro h
  have := congrArg ntoks h
  revert this
  decide +kernel

/-- `norm_idempotent` excludes SyncML: two adjacent text nodes that spell the DevInf media type
    only after the reader has merged them are rewritten to `…+wbxml` by the second pass. -/
theorem norm_not_idempotent_syncml :
    normNode (dcfgOf {} Gen.lang15)
        (normNode (dcfgOf {} Gen.lang15)
          (.elt (.literal b!"Type") [] [.text b!"application/vnd.syncml-devinf", .text b!"+xml"])) ≠
      normNode (dcfgOf {} Gen.lang15)
        (.elt (.literal b!"Type") [] [.text b!"application/vnd.syncml-devinf", .text b!"+xml"]) := by
  intro h
  have := congrArg ntoks h
  revert this
  decide +kernel

/-- `<SyncML><SyncBody><Status><CmdID>1</CmdID><Cmd>SyncHdr</Cmd><Data> 200 </Data></Status><Final/></SyncBody></SyncML>`
    with literal names: the everyday `Data` element of a SyncML status. -/
def exStatus : Tree where
  lang := some Gen.lang15
  origCharset := 106
  root := some (.elt (.literal b!"SyncML") [] [
    .elt (.literal b!"SyncBody") [] [
      .elt (.literal b!"Status") [] [
        .elt (.literal b!"CmdID") [] [.text b!"1"],
        .elt (.literal b!"Cmd") [] [.text b!"SyncHdr"],
        .elt (.literal b!"Data") [] [.text b!" 200 "]],
      .elt (.literal b!"Final") [] []]])

/-- All hypotheses of `rt_preserves_typed_partial` for the SyncML status (SyncML 1.2), in particular
    `dataIsNormal` although an element is called `Data`; the conclusion evaluated: the round-trip
    tree IS `normNodeTyped` of the source, `<Data>` holds `200`, every literal name has come back
    as its table row; and that tree is a fixed point (`fixedNode`). -/
example : langOk Gen.lang15 = true ∧ typedLangOk Gen.lang15 = true ∧ treeOver Gen.lang15 exStatus = true ∧
    C06.typedHyps {} Gen.lang15 (rootOr exStatus) = true ∧ plainNode (rootOr exStatus) = true ∧
    isWv Gen.lang15.id = false ∧ (Gen.lang15.id == 1901) = false ∧ valSemOk Gen.lang15 = true ∧
    attrSemOk Gen.lang15 = true ∧ attrNameSemOk Gen.lang15 = true ∧ noDataNode (rootOr exStatus) = false ∧
    dataIsNormal (normNodeTyped (dcfgOf {} Gen.lang15) (rootOr exStatus)) = true ∧
    (match treeToWbxml {} exStatus with
     | .ok bs => (match treeOfWbxml Gen.main (bs.length + 1) 0 0 bs with
       | .ok t' => plainEq (rootOr t') (normNodeTyped (dcfgOf {} Gen.lang15) (rootOr exStatus)) &&
           t'.lang == some Gen.lang15
       | .error _ => false)
     | .error _ => false) = true ∧
    plainEq (normNodeTyped (dcfgOf {} Gen.lang15) (rootOr exStatus))
      (.elt (.token ⟨b!"SyncML", 0, 0x2D, 0⟩) [] [
        .elt (.token ⟨b!"SyncBody", 0, 0x2B, 0⟩) [] [
          .elt (.token ⟨b!"Status", 0, 0x29, 0⟩) [] [
            .elt (.token ⟨b!"CmdID", 0, 0x0B, 0⟩) [] [.text b!"1"],
            .elt (.token ⟨b!"Cmd", 0, 0x0A, 0⟩) [] [.text b!"SyncHdr"],
            .elt (.token ⟨b!"Data", 0, 0x0F, 0⟩) [] [.text b!"200"]],
          .elt (.token ⟨b!"Final", 0, 0x12, 0⟩) [] []]]) = true ∧
    fixedNode (dcfgOf {} Gen.lang15) none none 0 (normNodeTyped (dcfgOf {} Gen.lang15) (rootOr exStatus)) = true := by
  decide +kernel

/-- `dataIsNormal` does exclude what it has to: under `Add` the text of `Data` becomes a CDATA
    section (`vobject`), and with a preceding `Meta`/`Type` of `text/x-vcard` as well. -/
example : dataIsNormal (.elt (.literal b!"Add") [] [.elt (.literal b!"Item") [] [.elt (.literal b!"Data") [] [.text b!"x"]]]) = false ∧
    dataIsNormal (.elt (.literal b!"Item") [] [
      .elt (.literal b!"Meta") [] [.elt (.literal b!"Type") [] [.text b!"text/x-vcard"]],
      .elt (.literal b!"Data") [] [.text b!"x"]]) = false ∧
    dataIsNormal (.elt (.literal b!"Item") [] [
      .elt (.literal b!"Meta") [] [.elt (.literal b!"Type") [] [.text b!"text/plain"]],
      .elt (.literal b!"Data") [] [.text b!"x"]]) = true := by decide +kernel

/-- SI 1.0 with a `%Datetime` attribute, a literal element and attribute name that the tables
    resolve, and text to trim. -/
def exSiRoot : Node :=
  .elt (.token ⟨b!"si", 0, 5, 0⟩) [] [
    .elt (.token ⟨b!"indication", 0, 6, 0⟩) [⟨.token ⟨b!"created", none, 0, 10⟩, b!"1999-06-25T15:23:15Z" ++ [0]⟩]
      [.text b!" hello world hello "],
    .elt (.token ⟨b!"info", 0, 7, 0⟩) [] [
      .elt (.literal b!"item") [⟨.literal b!"class", b!"hello world hello" ++ [0]⟩] [.text b!"hello world hello"]]]
def exSi : Tree := { lang := some Gen.lang8, origCharset := 106, root := some exSiRoot }

/-- DRMREL: base64 text (with a blank) under `ds:KeyValue`. -/
def exDrmRoot : Node :=
  .elt (.token ⟨b!"o-ex:rights", 0, 5, 0⟩) [] [
    .elt (.token ⟨b!"ds:KeyValue", 0, 12, 0⟩) [] [.text b!"QU JD"],
    .elt (.token ⟨b!"o-dd:uid", 0, 8, 0⟩) [] [.text b!"cid:4567829547@foo.com"]]
def exDrm : Tree := { lang := some Gen.lang13, origCharset := 106, root := some exDrmRoot }

/-- ActiveSync: the aliased name, a binary-flagged element as token and as literal name. -/
def exAsRoot : Node :=
  .elt (.token ⟨b!"Sync", 0, 5, 0⟩) [] [
    .elt (.token ⟨b!"SyncKey", 0, 11, 0⟩) [] [.text b!"repeated text here"],
    .elt (.token ⟨b!"RequireStorageCardEncryption", 14, 16, 0⟩) [] [.text b!"1"],
    .elt (.token ⟨b!"ConversationId", 15, 32, 1⟩) [] [.text [1, 2, 0, 255]],
    .elt (.literal b!"ConversationId") [] [.text [3, 0, 4]]]
def exAs : Tree := { lang := some Gen.lang27, origCharset := 106, root := some exAsRoot }

/-- For one tree: the source hypotheses of `rt_preserves_typed_partial`, its conclusion evaluated
    (the round-trip tree IS `normNodeTyped`), `dataIsNormal`, and the hypothesis and conclusion of
    `norm_typed_idempotent` for the round-trip tree. -/
def typedChecks (l : Lang) (t : Tree) : Bool :=
  let r := rootOr t
  let c := dcfgOf {} l
  let n := normNodeTyped c r
  C06.typedHyps {} l r && treeOver l t && plainNode r &&
  (match treeToWbxml {} t with
   | .ok bs => (match treeOfWbxml Gen.main (bs.length + 1) 0 0 bs with
     | .ok t' => plainEq (rootOr t') n && t'.lang == some l
     | .error _ => false)
   | .error _ => false) &&
  dataIsNormal n && fixedNode c none none 0 n && plainEq (normNodeTyped c n) n

/-- SI 1.0: the literal `item` / `class` come back as their rows, `created` as the same text, the
    text trimmed; DRMREL: `QU JD` comes back as `QUJD`; ActiveSync: `RequireStorageCardEncryption`
    comes back as `DeviceEncryptionEnabled` (page 14 token 0x10), the literal `ConversationId` as
    its binary-flagged row with the raw octets. -/
example : typedChecks Gen.lang8 exSi = true ∧ typedChecks Gen.lang13 exDrm = true ∧ typedChecks Gen.lang27 exAs = true ∧
    plainEq (normNodeTyped (dcfgOf {} Gen.lang13) exDrmRoot)
      (.elt (.token ⟨b!"o-ex:rights", 0, 5, 0⟩) [] [
        .elt (.token ⟨b!"ds:KeyValue", 0, 12, 0⟩) [] [.text b!"QUJD"],
        .elt (.token ⟨b!"o-dd:uid", 0, 8, 0⟩) [] [.text b!"cid:4567829547@foo.com"]]) = true ∧
    plainEq (normNodeTyped (dcfgOf {} Gen.lang27) exAsRoot)
      (.elt (.token ⟨b!"Sync", 0, 5, 0⟩) [] [
        .elt (.token ⟨b!"SyncKey", 0, 11, 0⟩) [] [.text b!"repeated text here"],
        .elt (.token ⟨b!"DeviceEncryptionEnabled", 14, 16, 0⟩) [] [.text b!"1"],
        .elt (.token ⟨b!"ConversationId", 15, 32, 1⟩) [] [.text [1, 2, 0, 255]],
        .elt (.token ⟨b!"ConversationId", 15, 32, 1⟩) [] [.text [3, 0, 4]]]) = true := by
  decide +kernel

/-- `attr_start_row_spec` on SI 1.0 (rows for `href`: no value, `http://www.`, `http://`,
    `https://www.`, `https://`): `href="http://www.example.org/"` picks the row with the longest prefix
    `http://www.`, an exact value wins, a value without any matching prefix falls back to the
    value-less row, an unknown name has no row. -/
example : (startRow (dcfgOf {} Gen.lang8) ⟨.literal b!"href", b!"http://www.example.org/"⟩).map (·.value) = some (some b!"http://www.") ∧
    (startRow (dcfgOf {} Gen.lang8) ⟨.literal b!"href", b!"http://"⟩).map (·.value) = some (some b!"http://") ∧
    (startRow (dcfgOf {} Gen.lang8) ⟨.literal b!"href", b!"x"⟩).map (·.value) = some none ∧
    (startRow (dcfgOf {} Gen.lang8) ⟨.literal b!"nosuch", b!"x"⟩) = none := by decide +kernel

/-- `<wml><card id="a"> Hi there<b>x</b>  </card></wml>`: as `exWml`, without adjacent text nodes
    (what `wbxml_tree_from_xml` builds from an XML text). -/
def exMerged : Tree where
  lang := some Gen.lang3
  origCharset := 106
  root := some (.elt (.literal b!"wml") [] [
    .elt (.literal b!"card") [{ name := .literal b!"id", value := b!"a" }] [
      .text b!" Hi there", .elt (.literal b!"b") [] [.text b!"x"], .text b!"  "]])

/-- `<wml><card> </card></wml>`: an element whose only child is ignorable white space. -/
def exHollow : Tree where
  lang := some Gen.lang3
  origCharset := 106
  root := some (.elt (.literal b!"wml") [] [.elt (.literal b!"card") [] [.text b!" "]])

def exXcfg : W2XCfg := { main := Gen.main, gen := 0 }

/-- Both trips under the library's table and default options, Expat's run for the printed text
    being the canonical reading (`xmlEventsOf`, cf. `readsBack_canonical`): the first WBXML
    document, the printed XML, the second WBXML document, the XML printed from it. -/
def twoTrips (t : Tree) : Option (Bytes × Bytes × Bytes × Bytes) :=
  match treeToWbxml {} t with
  | .ok w1 =>
    match treeOfWbxml Gen.main (w1.length + 1) 0 0 w1 with
    | .ok t' =>
      match treeToXml exXcfg t'.xmlFuel t' with
      | .ok xml =>
        match treeOfXml Gen.main [(xml, { ok := true, events := xmlEventsOf (xcfgOf exXcfg Gen.lang3) t' })] 3 xml with
        | .ok t'' =>
          match treeToWbxml {} t'' with
          | .ok w2 =>
            (match wbxml2xml exXcfg w2 with
             | .ok xml3 => some (w1, xml, w2, xml3)
             | .error _ => none)
          | .error _ => none
        | _ => none
      | .error _ => none
    | .error _ => none
  | .error _ => none

/-- All hypotheses of `rt2_tree_partial` / `rt2_is_rt1_partial` that concern the source tree, the
    language and the options hold for `exMerged` (WML 1.3, compact XML, default encoder options). -/
example : rtLangOk Gen.lang3 = true ∧ treeOver Gen.lang3 exMerged = true ∧ plainNode (rootOr exMerged) = true ∧
    noDataNode (rootOr exMerged) = true ∧ isSyncml Gen.lang3.id = false ∧ textsNulFree (rootOr exMerged) = true ∧
    docTypeFinds Gen.main Gen.lang3 = true ∧ flagsOk (xcfgOf exXcfg Gen.lang3) (dcfgOf {} Gen.lang3) = true ∧
    readable (normNode (dcfgOf {} Gen.lang3) (rootOr exMerged)) = true ∧
    attrsReadable (xcfgOf exXcfg Gen.lang3) (normNode (dcfgOf {} Gen.lang3) (rootOr exMerged)) = true ∧
    valuesShort (normNode (dcfgOf {} Gen.lang3) (rootOr exMerged)) = true := by
  have hm : Gen.lang3 ∈ Gen.main := by simp [Gen.main]
  obtain ⟨h1, h2, h3, h4, h5⟩ := main_table_hyps Gen.lang3 hm (by decide)
  have hk : rtLangOk Gen.lang3 = true := by
    simp only [rtLangOk, h1, h2, h3, h4, h5, Bool.true_and, Bool.and_true]
    decide +kernel
  exact ⟨hk, by decide +kernel, by decide +kernel, by decide +kernel, by decide +kernel, by decide +kernel, main_docTypeFinds _ hm, by decide +kernel⟩

/-- `ReadsBack` is satisfiable: for every plain tree of a language without namespace table, in a
    generation mode other than indent, by the run that reports `xmlEventsOf`. -/
example (xml : Bytes) (c : XCfg) (t : Tree) (r : Node) (hr : t.root = some r) (hp : plainNode r = true)
    (hns : c.lang.ns = none) (hg : c.gen ≠ 1) :
    ReadsBack [(xml, { ok := true, events := xmlEventsOf c t })] xml c t :=
  readsBack_canonical xml c t r hr hp hns hg

/-- The languages of `Gen.main` in the scope of the second-trip theorems: 14 of 29 (WML 1.0–1.3,
    WTA, WTA-WML, CHANNEL 1.1/1.2, SL, CO, PROV, MetInf 1.1/1.2, ConML). The printed document type
    selects its language again for all 29 (`docTypeFinds`). -/
example : (Gen.main.filter (fun l => rtLangOk l && l.ns.isNone && !isSyncml l.id && docTypeFinds Gen.main l)).map (·.id) =
    [1101, 1102, 1103, 1104, 1201, 1202, 1203, 1204, 1401, 1501, 1601, 2203, 2103, 2501] ∧
    Gen.main.all (docTypeFinds Gen.main) = true := by
  refine ⟨?_, List.all_eq_true.mpr main_docTypeFinds⟩
  -- The table hypotheses in `rtLangOk` are C06's facts about `Gen.main`; `tagSemOk` fails for
  -- ActiveSync only, which has a namespace table. What is left to evaluate looks at no table row.
  have hns : ∀ l ∈ Gen.main, (!(l.id == 2401) && !(l.id == 2402)) = false → l.ns.isNone = false := by decide +kernel
  have h : ∀ l ∈ Gen.main, (rtLangOk l && l.ns.isNone && !isSyncml l.id && docTypeFinds Gen.main l) =
      (plainLang l && noTypedAttr l.id && l.ns.isNone && !isSyncml l.id) := by
    intro l hl
    simp only [rtLangOk, C06.langOk_of_main l hl, List.all_eq_true.mp C06.main_valSemOk l hl,
      List.all_eq_true.mp C06.main_attrSemOk l hl, List.all_eq_true.mp C06.main_attrNameSemOk l hl,
      main_docTypeFinds l hl, Bool.true_and, Bool.and_true]
    cases ha : !(l.id == 2401) && !(l.id == 2402) with
    | true => rw [List.all_eq_true.mp C06.main_tagSemOk l (List.mem_filter.mpr ⟨hl, ha⟩), Bool.and_true]
    | false => simp only [hns l hl ha, Bool.and_false, Bool.false_and]
  rw [List.filter_congr h]
  decide +kernel

/-- The printed text of the first round-trip tree of `exMerged`, and its rendering. -/
example : (match treeToWbxml {} exMerged with
    | .ok w1 => (match treeOfWbxml Gen.main (w1.length + 1) 0 0 w1 with
      | .ok t' => (match treeToXml exXcfg t'.xmlFuel t' with
        | .ok xml => xml == xmlHeader Gen.lang3 0 ++ renderNode (xcfgOf exXcfg Gen.lang3) (rootOr t') &&
            noBinaryNames (rootOr t') && plainNode (rootOr t') &&
            renderNode (xcfgOf exXcfg Gen.lang3) (rootOr t') == b!"<wml><card id=\"a\">Hi there<b>x</b></card></wml>"
        | .error _ => false)
      | .error _ => false)
    | .error _ => false) = true := by decide +kernel

/-- For `exMerged` the second WBXML document is the first, octet by octet, and so is the XML. -/
example : (twoTrips exMerged).map (fun p => p.1 == p.2.2.1 && p.2.1 == p.2.2.2) = some true := by decide +kernel

example : Gen.main.find? (fun x => x.id == Gen.lang3.id) = some Gen.lang3 := main_find_self _ (by simp [Gen.main])

/-- **Octet-by-octet equality of the two WBXML documents fails** for an element whose only child is
    ignorable white space: the first encoding writes `card` with the content flag and an `END`
    (`67 01`), the round-trip tree has no child left, the second encoding writes `27`
    (known finding `empty-element-form-not-stable`). -/
theorem rt2_bytes_differ_hollow :
    (twoTrips exHollow).map (fun p => (hexOfBytes p.1, hexOfBytes p.2.2.1, p.2.1 == p.2.2.2)) =
      some ("030a6a007f670101", "030a6a007f2701", true) := by decide +kernel

/-- … and for two adjacent text nodes (API-built trees only): `STR_I "Hi" STR_I "there"` the first
    time, `STR_I "Hithere"` the second. -/
theorem rt2_bytes_differ_adjacent_text :
    (twoTrips exWml).map (fun p => (p.1 == p.2.2.1, p.2.1 == p.2.2.2)) = some (false, true) := by decide +kernel

/-- A SyncML 1.2 message with two code pages (`MaxMsgSize` is MetInf) and a status `Data`, as
    `wbxml_tree_from_xml` delivers it (token names). -/
def exStatusT : Tree where
  lang := some Gen.lang15
  origCharset := 106
  root := some (.elt (.token ⟨b!"SyncML", 0, 0x2D, 0⟩) [] [
    .elt (.token ⟨b!"SyncHdr", 0, 0x2C, 0⟩) [] [
      .elt (.token ⟨b!"Meta", 0, 0x1A, 0⟩) [] [
        .elt (.token ⟨b!"MaxMsgSize", 1, 0x0C, 0⟩) [] [.text b!"5000"]]],
    .elt (.token ⟨b!"SyncBody", 0, 0x2B, 0⟩) [] [
      .elt (.token ⟨b!"Status", 0, 0x29, 0⟩) [] [
        .elt (.token ⟨b!"CmdID", 0, 0x0B, 0⟩) [] [.text b!"1"],
        .elt (.token ⟨b!"Cmd", 0, 0x0A, 0⟩) [] [.text b!"SyncHdr"],
        .elt (.token ⟨b!"Data", 0, 0x0F, 0⟩) [] [.text b!" 200 "]],
      .elt (.token ⟨b!"Final", 0, 0x12, 0⟩) [] []]])

/-- Both trips under the library's table and default options, the namespace-aware run for the
    printed text being the canonical reading (`xmlEventsNs`, cf. `readsBackNs_canonical`):
    the printed XML, whether the first and the third tree are `normNodeTyped` of the source, and
    whether the two WBXML documents are equal. -/
def twoTripsNs (t : Tree) (lang : Lang) : Option (Bytes × Bool × Bool × Bool) :=
  match treeToWbxml {} t with
  | .ok w1 =>
    match treeOfWbxml Gen.main (w1.length + 1) 0 0 w1 with
    | .ok t' =>
      match treeToXml exXcfg t'.xmlFuel t' with
      | .ok xml =>
        let evs := xmlDeclEv :: docTypeOf lang :: xmlEventsNs (xcfgOf exXcfg lang) .none none (rootOr t')
        match treeOfXml Gen.main [(xml, { ok := true, events := evs })] 3 xml with
        | .ok t'' =>
          match treeToWbxml {} t'' with
          | .ok w2 =>
            (match treeOfWbxml Gen.main (w2.length + 1) 0 0 w2 with
             | .ok t3 => some (xml, plainEq (rootOr t') (normNodeTyped (dcfgOf {} lang) (rootOr t)),
                 plainEq (rootOr t3) (normNodeTyped (dcfgOf {} lang) (rootOr t)) && t3.lang == t'.lang, w1 == w2)
             | .error _ => none)
          | .error _ => none
        | _ => none
      | .error _ => none
    | .error _ => none
  | .error _ => none

/-- All hypotheses of `rt2_is_rt1_ns_partial` that concern the source tree, the language and the
    options hold for the SyncML message (compact XML, default encoder options) … -/
example : Gen.lang15.ns.isSome = true ∧ (Gen.lang15.id == 1801) = false ∧ treeOver Gen.lang15 exStatusT = true ∧
    C06.typedHyps {} Gen.lang15 (rootOr exStatusT) = true ∧ plainNode (rootOr exStatusT) = true ∧
    dataIsNormal (normNodeTyped (dcfgOf {} Gen.lang15) (rootOr exStatusT)) = true ∧
    fixedNode (dcfgOf {} Gen.lang15) none none 0 (rootOr exStatusT) = true ∧
    nsReadable Gen.lang15 (normNodeTyped (dcfgOf {} Gen.lang15) (rootOr exStatusT)) = true ∧
    docTypeFinds Gen.main Gen.lang15 = true ∧ flagsOk (xcfgOf exXcfg Gen.lang15) (dcfgOf {} Gen.lang15) = true ∧
    dataOkX (xcfgOf exXcfg Gen.lang15) [] (normNodeTyped (dcfgOf {} Gen.lang15) (rootOr exStatusT)) = true := by
  exact ⟨by decide +kernel, by decide +kernel, by decide +kernel, by decide +kernel, by decide +kernel, by decide +kernel, by decide +kernel,
    by decide +kernel, main_docTypeFinds _ (by simp [Gen.main]), by decide +kernel⟩

/-- ActiveSync (two code pages, `AirSync:` and `Provision:`): the hypotheses of
    `rt2_is_rt1_ns_partial` hold as well. -/
def exAsT : Tree where
  lang := some Gen.lang27
  origCharset := 106
  root := some (.elt (.token ⟨b!"Sync", 0, 5, 0⟩) [] [
    .elt (.token ⟨b!"SyncKey", 0, 11, 0⟩) [] [.text b!" 12 "],
    .elt (.token ⟨b!"DeviceEncryptionEnabled", 14, 16, 0⟩) [] [.text b!"1"]])

example : Gen.lang27.ns.isSome = true ∧ (Gen.lang27.id == 1801) = false ∧ treeOver Gen.lang27 exAsT = true ∧
    C06.typedHyps {} Gen.lang27 (rootOr exAsT) = true ∧ plainNode (rootOr exAsT) = true ∧
    dataIsNormal (normNodeTyped (dcfgOf {} Gen.lang27) (rootOr exAsT)) = true ∧
    fixedNode (dcfgOf {} Gen.lang27) none none 0 (rootOr exAsT) = true ∧
    nsReadable Gen.lang27 (normNodeTyped (dcfgOf {} Gen.lang27) (rootOr exAsT)) = true ∧
    docTypeFinds Gen.main Gen.lang27 = true ∧ flagsOk (xcfgOf exXcfg Gen.lang27) (dcfgOf {} Gen.lang27) = true ∧
    dataOkX (xcfgOf exXcfg Gen.lang27) [] (normNodeTyped (dcfgOf {} Gen.lang27) (rootOr exAsT)) = true := by
  exact ⟨by decide +kernel, by decide +kernel, by decide +kernel, by decide +kernel, by decide +kernel, by decide +kernel, by decide +kernel,
    by decide +kernel, main_docTypeFinds _ (by simp [Gen.main]), by decide +kernel⟩

/-- `ReadsBackNs` is satisfiable: for every plain tree, in a generation mode other than indent. -/
example (xml : Bytes) (c : XCfg) (t : Tree) (r : Node) (hr : t.root = some r) (hp : plainNode r = true) (hg : c.gen ≠ 1) :
    ReadsBackNs [(xml, { ok := true, events := xmlDeclEv :: docTypeOf c.lang :: xmlEventsNs c .none none r })] xml c t :=
  readsBackNs_canonical xml c t r hr hp hg

/-- The languages with a namespace table `rt2_is_rt1_ns_partial` speaks about (9 of 29). -/
example : (Gen.main.filter (fun l => l.ns.isSome && !(l.id == 1801) && !isWv l.id && !(l.id == 1901))).map (·.id) =
    [2201, 2202, 2204, 2101, 2102, 2001, 2002, 2401, 2402] := by decide +kernel

/-!
  ## What is still missing (kept visible, not claimed)

  Full strength (DESIGN §5 C03):

      rt_preserves : accepted cfg t → treeOfWbxml main fuel 0 0 (treeToWbxml cfg t) = .ok (norm cfg t)
      rt_idem      : RT (RT x) = RT x   (XML text to XML text)

  Proved above — first trip: `rt_preserves_typed_partial` (EXACT equality with `normNodeTyped`, typed
  content, `Data` elements through `dataIsNormal`, 26 languages; `rt_preserves_exact_untyped`) and
  `rt_preserves_partial` (`canon r' = normNode c r`, 21 plain languages, no `Data`;
  `norm_typed_refines_norm`: `canon (normNodeTyped c r) = normNode c r` there);
  `build_reconstructs(_data)`; the normal forms are idempotent (`norm_idempotent(_merged)`,
  `norm_typed_idempotent`); second trip: `rt2_tree_partial`, `rt2_is_rt1_partial` (14 languages
  without namespace table) and `rt2_is_rt1_ns_partial` (9 languages with one: SyncML family,
  ActiveSync; exact tree equality). In detail:

    * EXACT table rows: `normNodeTyped` carries the representation of names
      (`exactName`: the first row with the page and token of the row the encoder works with — the
      same row except for ActiveSync's second alias, `exact_row_main`, `activesync_alias_first`;
      `exactAName` of the start row `startRow` for attributes). Table facts:
      `tag_tables_names_uniq` (`tagNamesUniqPerPage`, all 29 languages), `tag_tables_self_find` (the
      converse of the encoder's name resolution), `tag_tables_tokens_uniq_partial`.
    * `Data`: `dataIsNormal` (decidable, evaluated with the model's own
      `syncmlDataType` on the frames the builder has when the text arrives) instead of "no element
      is called `Data`"; SyncML status `<Data>200</Data>` is an example.
    * Typed content: the round-trip tree has typed texts in their typed normal form
      (`vText`: `normText` / raw octets under a binary-flagged tag / `b64Norm` under DRMREL
      `ds:KeyValue`; `vAttrValue`: `datetimeNorm` under an SI / EMN `%Datetime` start token).

  Still to be proved, each with the lemma that is missing:

    1. Wireless Village 1.1/1.2 and OTA settings in `rt_preserves_typed_partial`: `encNode_seg`'s
       typed view (`ViewT`, `TreeT`) excludes them (`wvContentW`'s position-dependent integer /
       date-time typing and the OTA icon value need their own `vText` / `vAttrValue` branches;
       `wvIntNorm` is idempotent, a `wvDateNorm` with idempotence does not exist in C12).
    2. CDATA sections and embedded documents in the source tree (written as OPAQUE; the reader's
       tree needs the nested document's own round-trip theorem and `st.cdata` accumulation as a
       source function), and `Data` elements where `syncmlDataType` does NOT answer `normal`
       (the builder opens a CDATA node / parses an embedded tree: `run_items_d` with the other
       three `SyncType` cases).
    3. `norm_typed_idempotent` is stated with the decidable per-form hypothesis `fixedNode`
       (`nameFixed`, `attrFixed`, `textFixed`); proved per form: `textFixed_normal`,
       `textFixed_binary`, `nameFixed_token`, `nameFixed_exact`. Missing as lemmas (they are
       evaluated in the examples): `textFixed` under `ds:KeyValue` from `C06.base64_by_value`
       (needs "the RFC 4648 text of ≥ 1 octet is non-empty, blank-free, NUL-free") and
       `attrFixed` from `attrSemOk` + "the value prefix of a token name matches" +
       `C06.datetime_by_value_canon`. Without `fixedNode` idempotence at the exact level is FALSE
       for API-built trees: a literal element name `ds:KeyValue` that the table resolves makes
       the second pass base64-normalise a text the first pass left alone; a token attribute name
       whose value prefix does not match is written as a literal and re-resolved by the second
       pass (both only for trees no XML reading produces).
    4. Second trip: (a) literal elements, attributes and binary-flagged elements in the namespace
       languages (`nsReadable` excludes them: needs `xmlElt`'s `encAttr` look-ups against
       `startRow`, and the base64 text of binary-flagged content in `ReadsNs`); the printer's
       SyncML media-type rewriting under `Type` is not in `printedText` (a tree with such a text
       falsifies the assumption `ReadsBackNs`, so the theorem is vacuous, not wrong, there);
       (b) indented output: `Reads`/`ReadsNs` need the white-space `chars` events between elements
       (C07 `indent_read_back_same_up_to_blank_text_partial` has the compact-equivalent form);
       (c) the XML TEXT of the second trip equal to the first IS proved in both scopes (last clause
       of `rt2_is_rt1_partial` and of `rt2_is_rt1_ns_partial`; `treeToXml_same`: a successful
       print depends neither on surplus fuel nor on the recorded charset);
       (d) octet-by-octet equality of the two WBXML documents is FALSE as it stands
       (`rt2_bytes_differ_hollow`, `rt2_bytes_differ_adjacent_text`); for trees without such
       elements / text nodes it needs an encoder congruence
       (`normNode c a = normNode c b → encNodeG c p e a st = encNodeG c p e b st` up to `textNo`),
       including the string-table pre-pass.
    5. `norm_idempotent` without hypothesis is false (`norm_not_idempotent_nul`,
       `norm_not_idempotent_syncml`); `norm_idempotent_merged` covers every language for trees
       without adjacent text nodes. Nothing missing here.

  Observation (a defect candidate, not modelled away): a TAB or LF in an
  attribute value (possible in a source document only as `&#9;` / `&#10;`) is written literally by
  `xml_encode_attr` in compact and indented mode; an XML reader normalises it to a space
  (XML 1.0 §3.3.3), so the second round trip differs from the first (`attrNormalize`,
  `attrReadable`). Same shape as the carriage-return defect fixed by 51380fd.
-/

end Wbxml.Props.C03
