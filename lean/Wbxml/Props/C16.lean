/-
  C16 — running out of memory yields a clean error, never a crash or a leak.

  Every theorem is about the ledger-monad models of `Model/Alloc*.lean` (tied to the C code by the
  OOM correspondence of `tools/props/c16.py`).  The clause proved per function is

      `SingleFailureClean f isErr s consumed owned` :
        for EVERY k, the run of `f` from ledger `s` with request k failing
          * ends without fault (no double free, no free of an unknown block, no use after free,
            no NULL dereference),
          * leaves  live = (live₀ \ consumed) ∪ owned(result)  — nothing leaked, nothing else freed,
          * returns an error, or else exactly the value of the run without failure.

  It is obtained from a stronger fact that holds for EVERY schedule (`AnyScheduleClean`: any set
  of failing requests — pairs, triples, …), proved by induction on the attribute / piece / cell
  lists in `Lemmas/Alloc*.lean`.  The `*_old_*` theorems are the kernel-checked `(function, k)`
  witnesses that the code before the `fix:` commits violated the clause.

  A function's clause is one line from its specification: `clean_of_tri` from a `Spec` (`*_tri`),
  `clean_of_frees` from a `Frees` (a destructor), `clean_of_spec` / `clean_of_live` from a statement
  made in a ledger.  A whole conversion has the second form, `OomResultSound` (strict) or
  `OomResultSoundUpTo … benign`, by `oom_sound_of_spec` / `oom_upto_of_spec`; `no_leak_of_spec`
  reads the same specification for every schedule.
-/
import Wbxml.Lemmas.AllocPipe
import Wbxml.Model.AllocOld
namespace Wbxml.Props.C16
open Wbxml Wbxml.Model.Alloc

/-- The clause under an arbitrary failure schedule. -/
def AnyScheduleClean {α : Type} (f : Prog α) (isErr : α → Bool) (s : Ledger) (consumed : List Nat)
    (owned : α → List Nat) : Prop :=
  ∀ sched : List Nat, ∃ r s', run f { s with sched := sched } = (.ok r, s') ∧
    (∀ i, i ∈ s'.live ↔ (i ∈ s.live ∧ i ∉ consumed) ∨ i ∈ owned r) ∧
    (isErr r = true ∨ (run f { s with sched := [] }).1 = .ok r)

/-- The clause of the property: one failing request, any k. -/
def SingleFailureClean {α : Type} (f : Prog α) (isErr : α → Bool) (s : Ledger) (consumed : List Nat)
    (owned : α → List Nat) : Prop :=
  ∀ k : Nat, ∃ r s', run f { s with sched := failAt k } = (.ok r, s') ∧
    (∀ i, i ∈ s'.live ↔ (i ∈ s.live ∧ i ∉ consumed) ∨ i ∈ owned r) ∧
    (isErr r = true ∨ (run f { s with sched := [] }).1 = .ok r)

/-- … and two failing requests (thorough tier of the enumeration). -/
def PairFailureClean {α : Type} (f : Prog α) (isErr : α → Bool) (s : Ledger) (consumed : List Nat)
    (owned : α → List Nat) : Prop :=
  ∀ k1 k2 : Nat, ∃ r s', run f { s with sched := [k1, k2] } = (.ok r, s') ∧
    (∀ i, i ∈ s'.live ↔ (i ∈ s.live ∧ i ∉ consumed) ∨ i ∈ owned r) ∧
    (isErr r = true ∨ (run f { s with sched := [] }).1 = .ok r)

theorem AnyScheduleClean.single {α : Type} {f : Prog α} {isErr : α → Bool} {s : Ledger} {c : List Nat} {o : α → List Nat}
    (h : AnyScheduleClean f isErr s c o) : SingleFailureClean f isErr s c o := fun k => h (failAt k)

theorem AnyScheduleClean.pair {α : Type} {f : Prog α} {isErr : α → Bool} {s : Ledger} {c : List Nat} {o : α → List Nat}
    (h : AnyScheduleClean f isErr s c o) : PairFailureClean f isErr s c o := fun k1 k2 => h [k1, k2]

theorem unfailed_of_no_hit {α : Type} {f : Prog α} {s t : Ledger} {sched : List Nat} {r : α}
    (hrun : run f { s with sched := sched } = (.ok r, t)) (hh : ¬ s.hits < t.hits) :
    (run f { s with sched := [] }).1 = .ok r := by
  have hle := run_hits_le f { s with sched := sched }
  have := run_nohit f { s with sched := sched } (by rw [hrun] at hle ⊢; exact Nat.le_antisymm (Nat.not_lt.1 hh) hle)
  rw [hrun] at this
  exact congrArg Prod.fst this

/-- From a specification under every schedule to the clause: a run that was delivered no failure is
    the un-failed run, a run that was must report an error.  Well-formedness, ownership and liveness
    do not look at the schedule, so the hypotheses about `s` serve for `{ s with sched := sched }` as
    they stand. -/
theorem clean_of_live {α : Type} {f : Prog α} {isErr : α → Bool} {s : Ledger} {c : List Nat} {o : α → List Nat}
    (spec : ∀ sched, Good f { s with sched := sched } (fun r t =>
      (∀ i, i ∈ t.live ↔ (i ∈ s.live ∧ i ∉ c) ∨ i ∈ o r) ∧ (s.hits < t.hits → isErr r = true))) :
    AnyScheduleClean f isErr s c o := by
  intro sched
  obtain ⟨r, t, hrun, hlive, herr⟩ := (spec sched).elim
  refine ⟨r, t, hrun, hlive, ?_⟩
  by_cases hh : s.hits < t.hits
  · exact Or.inl (herr hh)
  · exact Or.inr (unfailed_of_no_hit hrun hh)

theorem clean_of_spec {α : Type} {f : Prog α} {isErr : α → Bool} {s : Ledger} {c : List Nat} {o : α → List Nat}
    (spec : ∀ sched, Good f { s with sched := sched } (fun r t =>
      Clean { s with sched := sched } t c (o r) ∧ (s.hits < t.hits → isErr r = true))) :
    AnyScheduleClean f isErr s c o :=
  clean_of_live fun sched => (spec sched).mono fun _ _ ⟨c, h⟩ => ⟨c.live, h⟩

theorem clean_of_tri {α : Type} {p : Prog α} {R A : List Nat} {own : α → List Nat} {X E : α → Prop} {isErr : α → Bool}
    (h : Spec R A p own X E) (he : ∀ r, E r → isErr r = true) {s : Ledger} (wf : s.WF) (o : Owns s A)
    (hR : ∀ i ∈ R, i ∈ s.live ∧ i ∉ A) : AnyScheduleClean p isErr s A own :=
  clean_of_spec fun sched => (h.good (s := { s with sched := sched }) wf o hR).mono fun r _ ⟨c, e, _⟩ => ⟨c, fun hh => he r (e hh)⟩

/-- A destructor: no request, so no failure to report. -/
theorem clean_of_frees {p : Prog Unit} {s : Ledger} {A : List Nat} (h : Frees p A) (wf : s.WF) (own : Owns s A) :
    AnyScheduleClean p (fun _ => false) s A (fun _ => []) :=
  clean_of_spec fun sched => (h { s with sched := sched } wf own).mono
    fun _ _ ⟨c, e, _⟩ => ⟨c, fun hh => absurd (e ▸ hh) (Nat.lt_irrefl _)⟩

/-! ## Container core: buffers -/

theorem buffer_create_clean (src : Option Bytes) (blk : Nat) (s : Ledger) (wf : s.WF) :
    AnyScheduleClean (bufCreate src blk) Option.isNone s [] ownedBufOpt :=
  clean_of_tri (bufCreate_tri src blk) (fun _ h => h ▸ rfl) wf (.nil s) nofun

theorem buffer_sta_create_clean (d : Bytes) (s : Ledger) (wf : s.WF) :
    AnyScheduleClean (bufStaCreate d) Option.isNone s [] ownedBufOpt :=
  clean_of_tri (bufStaCreate_tri d) (fun _ h => h ▸ rfl) wf (.nil s) nofun

theorem buffer_destroy_clean (b : Option ABuf) (s : Ledger) (wf : s.WF) (own : Owns s (ownedBufOpt b)) :
    AnyScheduleClean (bufDestroy b) (fun _ => false) s (ownedBufOpt b) (fun _ => []) :=
  clean_of_frees (bufDestroy_frees b) wf own

/-- `grow_buff` (repaired): the old block is kept on failure. -/
theorem grow_buff_clean (b : ABuf) (size : Nat) (s : Ledger) (wf : s.WF) (own : Owns s b.owned) :
    AnyScheduleClean (growBuff b size) (fun r => !r.2) s b.owned (fun r => r.1.owned) :=
  clean_of_tri (growBuff_tri b size) (fun _ h => (Bool.not_eq_true' _).mpr h) wf own nofun

theorem insert_data_clean (b : ABuf) (pos : Nat) (d : Bytes) (s : Ledger) (wf : s.WF) (own : Owns s b.owned) (hok : b.ok) :
    AnyScheduleClean (insertData b pos d) (fun r => !r.2) s b.owned (fun r => r.1.owned) :=
  clean_of_tri (insertData_tri b pos d hok) (fun _ h => (Bool.not_eq_true' _).mpr h) wf own nofun

theorem buffer_append_data_clean (b : ABuf) (d : Option Bytes) (s : Ledger) (wf : s.WF) (own : Owns s b.owned) (hok : b.ok) :
    AnyScheduleClean (bufAppendData b d) (fun r => !r.2) s b.owned (fun r => r.1.owned) :=
  clean_of_tri (bufAppendData_tri b d hok) (fun _ h => (Bool.not_eq_true' _).mpr h) wf own nofun

theorem buffer_append_clean (dest : ABuf) (src : Option ABuf) (s : Ledger) (wf : s.WF) (own : Owns s dest.owned)
    (hok : dest.ok) (hsrc : ∀ x, src = some x → x.hdr ∈ s.live) :
    AnyScheduleClean (bufAppend dest src) (fun r => !r.2) s dest.owned (fun r => r.1.owned) :=
  clean_of_spec fun sched =>
    (Tri.good_live (s := { s with sched := sched }) (fun R h => bufAppend_tri R dest src hok h) wf own fun i hi => by
      rcases src with _ | x
      · cases hi
      · exact (by simpa using hi : i = x.hdr) ▸ hsrc x rfl).mono
      fun r t ⟨c, h, _⟩ => ⟨c, fun hh => by rw [h hh]; rfl⟩

theorem buffer_append_char_clean (b : ABuf) (ch : UInt8) (s : Ledger) (wf : s.WF) (own : Owns s b.owned) (hok : b.ok) :
    AnyScheduleClean (bufAppendChar b ch) (fun r => !r.2) s b.owned (fun r => r.1.owned) :=
  clean_of_tri (bufAppendChar_tri b ch hok) (fun _ h => (Bool.not_eq_true' _).mpr h) wf own nofun

/-- `wbxml_buffer_duplicate` of a non-NULL buffer. -/
theorem buffer_duplicate_clean (b : ABuf) (s : Ledger) (wf : s.WF) (hb : b.hdr ∈ s.live) :
    AnyScheduleClean (bufDuplicate (some b)) Option.isNone s [] ownedBufOpt :=
  clean_of_tri (bufDuplicate_tri (some b)) (fun _ h => h.1 ▸ rfl) wf (.nil s) fun _ hi => ⟨List.mem_singleton.1 hi ▸ hb, List.not_mem_nil⟩

/-! ## Container core: lists -/

theorem list_create_clean {ι : Type} (s : Ledger) (wf : s.WF) :
    AnyScheduleClean (listCreate (ι := ι)) Option.isNone s [] (fun r => match r with | none => [] | some l => [l.hdr]) :=
  clean_of_tri (listCreate_tri (ι := ι)) (fun _ h => h ▸ rfl) wf (.nil s) nofun

/-- The cells a list gained. -/
def newCells {ι : Type} (l : AList ι) (r : AList ι × Bool) : List Nat :=
  (r.1.cells.map (·.1)).filter (fun i => !(l.cells.map (·.1)).contains i)

theorem newCells_of_step {ι : Type} {l : AList ι} {s t : Ledger} {r : AList ι × Bool} {B : List Nat} (wf : s.WF)
    (hc : ∀ c ∈ l.cells.map (·.1), c ∈ s.live) (c : Clean s t [] B)
    (h : (r.2 = false ∧ r.1 = l ∧ B = []) ∨
      (r.2 = true ∧ ∃ cid, B = [cid] ∧ (r.1.cells.map (·.1)).Perm (cid :: l.cells.map (·.1)))) :
    ∀ i, i ∈ t.live ↔ (i ∈ s.live ∧ i ∉ ([] : List Nat)) ∨ i ∈ newCells l r := by
  intro i
  rw [c.live]
  rcases h with ⟨_, hl2, rfl⟩ | ⟨_, cid, rfl, hperm⟩
  · have : newCells l r = [] := by
      simp only [newCells, hl2, List.filter_eq_nil_iff]
      intro a ha; simp [ha]
    rw [this]
  · have hcid : cid ∉ l.cells.map (·.1) := fun hm => c.fresh_not_live wf cid (by simp) (hc cid hm)
    have hmem : i ∈ r.1.cells.map (·.1) ↔ i = cid ∨ i ∈ l.cells.map (·.1) := by
      rw [hperm.mem_iff]; simp
    simp only [newCells, List.mem_filter, hmem, List.contains_eq_mem, Bool.not_eq_eq_eq_not, Bool.not_true,
      decide_eq_false_iff_not, List.mem_singleton, List.not_mem_nil, not_false_eq_true, and_true]
    constructor
    · rintro (h | h)
      · exact Or.inl h
      · subst h; exact Or.inr ⟨Or.inl rfl, hcid⟩
    · rintro (h | ⟨h | h, hn⟩)
      · exact Or.inl h
      · exact Or.inr h
      · exact (hn h).elim

/-- `wbxml_list_append`: on success exactly one fresh cell; the list struct and the item are untouched. -/
theorem list_append_clean {ι : Type} (l : AList ι) (item : ι) (s : Ledger) (wf : s.WF) (hl : l.hdr ∈ s.live)
    (hc : ∀ c ∈ l.cells.map (·.1), c ∈ s.live) :
    AnyScheduleClean (listAppend l item) (fun r => !r.2) s [] (newCells l) :=
  clean_of_live fun sched => (listAppend_tri l item { s with sched := sched } wf (.nil _) (by simpa using hl)).mono
    fun r t ⟨B, ⟨_, q⟩, c, h⟩ => ⟨newCells_of_step (s := { s with sched := sched }) wf hc c
      (q.imp_right fun ⟨a, cid, hcells, e⟩ => ⟨a, cid, e, by rw [hcells]; simp [List.perm_append_singleton]⟩),
      fun hh => by rw [h (.inr hh)]; rfl⟩

theorem list_insert_clean {ι : Type} (l : AList ι) (item : ι) (pos : Nat) (s : Ledger) (wf : s.WF) (hl : l.hdr ∈ s.live)
    (hc : ∀ c ∈ l.cells.map (·.1), c ∈ s.live) :
    AnyScheduleClean (listInsert l item pos) (fun r => !r.2) s [] (newCells l) :=
  clean_of_live fun sched => (listInsert_tri l item pos { s with sched := sched } wf (.nil _) (by simpa using hl)).mono
    fun r t ⟨B, ⟨_, q⟩, c, h⟩ => ⟨newCells_of_step (s := { s with sched := sched }) wf hc c q, fun hh => by rw [h (.inr hh)]; rfl⟩

theorem list_destroy_clean {ι : Type} (oi : ι → List Nat) (d : ι → Prog Unit) (hd : Destroys oi d)
    (l : Option (AList ι)) (s : Ledger) (wf : s.WF) (own : Owns s (listOwned oi l)) :
    AnyScheduleClean (listDestroy l d) (fun _ => false) s (listOwned oi l) (fun _ => []) :=
  clean_of_frees (listDestroy_frees oi d hd l) wf own

/-! ## Container core: tags, attribute names, attributes (`wbxml_elt.c`), tree node -/

theorem name_create_token_clean (row : Nat) (s : Ledger) (wf : s.WF) :
    AnyScheduleClean (nameCreateToken row) Option.isNone s [] ownedNameOpt :=
  clean_of_tri (nameCreateToken_tri row) (fun _ h => h ▸ rfl) wf (.nil s) nofun

theorem name_create_literal_clean (value : Option Bytes) (s : Ledger) (wf : s.WF) :
    AnyScheduleClean (nameCreateLiteral value) Option.isNone s [] ownedNameOpt :=
  clean_of_tri (nameCreateLiteral_tri value) (fun _ h => h ▸ rfl) wf (.nil s) nofun

/-- `wbxml_tag_duplicate` / `wbxml_attribute_name_duplicate` (repaired): NULL on any failed copy. -/
theorem name_duplicate_clean (t : AName) (s : Ledger) (wf : s.WF) (own : Owns s t.owned) :
    AnyScheduleClean (nameDuplicate (some t)) Option.isNone s [] ownedNameOpt :=
  clean_of_tri (nameDuplicate_tri (some t)) (fun _ h => h.1 ▸ rfl) wf (.nil s) fun i hi => ⟨own.2 i hi, List.not_mem_nil⟩

theorem name_destroy_clean (t : Option AName) (s : Ledger) (wf : s.WF) (own : Owns s (ownedNameOpt t)) :
    AnyScheduleClean (nameDestroy t) (fun _ => false) s (ownedNameOpt t) (fun _ => []) :=
  clean_of_frees (nameDestroy_frees t) wf own

theorem attribute_create_clean (s : Ledger) (wf : s.WF) :
    AnyScheduleClean attrCreate Option.isNone s [] ownedAttrOpt :=
  clean_of_tri attrCreate_tri (fun _ h => h ▸ rfl) wf (.nil s) nofun

/-- `wbxml_attribute_duplicate` (repaired): NULL when the name or the value cannot be copied. -/
theorem attribute_duplicate_clean (a : AAttr) (s : Ledger) (wf : s.WF) (own : Owns s a.owned) :
    AnyScheduleClean (attrDuplicate (some a)) Option.isNone s [] ownedAttrOpt :=
  clean_of_tri (attrDuplicate_tri (some a)) (fun _ h => h ▸ rfl) wf (.nil s) fun i hi => ⟨own.2 i hi, List.not_mem_nil⟩

theorem attribute_destroy_clean (a : Option AAttr) (s : Ledger) (wf : s.WF) (own : Owns s (ownedAttrOpt a)) :
    AnyScheduleClean (attrDestroy a) (fun _ => false) s (ownedAttrOpt a) (fun _ => []) :=
  clean_of_frees (attrDestroy_frees a) wf own

/-- `wbxml_tree_node_add_attr` (repaired): the caller's attribute is never touched (it is not among
    the consumed blocks), the node keeps everything it had, and a failure is reported. -/
theorem tree_node_add_attr_clean (n : ANode) (attr : AAttr) (s : Ledger) (wf : s.WF) (own : Owns s n.owned)
    (ownA : Owns s attr.owned) :
    AnyScheduleClean (nodeAddAttr n attr) (fun r => r.2 != OK) s n.owned (fun r => r.1.owned) :=
  clean_of_spec fun sched =>
    (Tri.good_live (s := { s with sched := sched }) (fun R h => nodeAddAttr_tri R n attr fun i hi => (h i hi).symm) wf own
      ownA.2).mono fun r t ⟨c, h, _⟩ => ⟨c, fun hh => by rw [h hh]; rfl⟩

theorem tree_node_destroy_clean (n : ANode) (s : Ledger) (wf : s.WF) (own : Owns s n.owned) :
    AnyScheduleClean (nodeDestroy (some n)) (fun _ => false) s n.owned (fun _ => []) :=
  clean_of_frees (nodeDestroy_frees (some n)) wf own

/-! ## Parser functions, modelled statement by statement -/

/-- `parse_attr_start` (repaired `LITERAL` case): an error code whenever the name could not be made. -/
theorem parse_attr_start_clean (st : AttrStart) (hst : st.wf) (s : Ledger) (wf : s.WF) :
    AnyScheduleClean (parseAttrStart st) (fun r => r.1 != OK) s [] (fun r => ownedNameOpt r.2.1) :=
  clean_of_tri (parseAttrStart_tri st hst) (fun _ => bne_iff_ne.2) wf (.nil s) nofun

/-- … and with OK the name is there (what `parse_attribute` dereferences). -/
theorem parse_attr_start_ok_has_name (st : AttrStart) (hst : st.wf) (s : Ledger) (wf : s.WF) :
    Good (parseAttrStart st) s (fun r _ => r.1 = OK → r.2.1.isSome) :=
  ((parseAttrStart_tri st hst).result wf (.nil s) nofun).mono fun _ _ h => h.2

/-- `parse_attribute`, for every attribute start and every list of value pieces. -/
theorem parse_attribute_clean (a : AttrShape) (hst : a.start.wf) (s : Ledger) (wf : s.WF) :
    AnyScheduleClean (parseAttribute a) (fun r => r.1 != OK) s [] (fun r => ownedAttrOpt r.2) :=
  clean_of_tri (parseAttribute_tri a hst) (fun _ => bne_iff_ne.2) wf (.nil s) nofun

/-- `parse_element` with its `realloc`ed attribute table, for every tag and every attribute list. -/
theorem parse_element_clean (t : TagShape) (ht : t.wf) (attrs : List AttrShape) (hshape : ∀ a ∈ attrs, a.start.wf)
    (s : Ledger) (wf : s.WF) :
    AnyScheduleClean (parseElement t attrs) (fun ret => ret != OK) s [] (fun _ => []) :=
  clean_of_tri (parseElement_tri t ht attrs hshape) (fun _ => bne_iff_ne.2) wf (.nil s) nofun

theorem free_attrs_table_clean (tbl : Ptr) (entries : List AAttr) (s : Ledger) (wf : s.WF)
    (own : Owns s (tbl.toList ++ entries.flatMap AAttr.owned)) (hnone : tbl = none → entries = []) :
    AnyScheduleClean (freeAttrsTable tbl entries) (fun _ => false) s (tbl.toList ++ entries.flatMap AAttr.owned) (fun _ => []) :=
  clean_of_frees (freeAttrsTable_frees tbl entries hnone) wf own

/-! ## Encoder functions, modelled statement by statement -/

theorem strtbl_element_create_clean (string : ABuf) (stat : Bool) (s : Ledger) (wf : s.WF) :
    AnyScheduleClean (strEltCreate string stat) Option.isNone s [] (fun r => match r with | none => [] | some e => [e.hdr]) :=
  clean_of_tri (strEltCreate_tri string stat) (fun _ h => h ▸ rfl) wf (.nil s) nofun

theorem strtbl_element_destroy_clean (e : Option StrElt) (s : Ledger) (wf : s.WF) (own : Owns s (ownedEltOpt e)) :
    AnyScheduleClean (strEltDestroy e) (fun _ => false) s (ownedEltOpt e) (fun _ => []) :=
  clean_of_frees (strEltDestroy_frees e) wf own

/-- `wbxml_strtbl_add_element`: the element belongs to the table exactly when `added`; otherwise it
    stays the caller's (who destroys it — once). -/
theorem strtbl_add_element_clean (e : AEnc) (elt : StrElt) (s : Ledger) (wf : s.WF) (own : Owns s (e.owned ++ elt.owned)) :
    AnyScheduleClean (strtblAddElement e elt) (fun r => !r.2.1) s (e.owned ++ elt.owned)
      (fun r => r.1.owned ++ (if r.2.2 then [] else elt.owned)) :=
  clean_of_tri (strtblAddElement_tri e elt) (fun _ h => (Bool.not_eq_true' _).mpr h) wf own nofun

/-- `wbxml_strtbl_check_references` (repaired, incl. the copy of shared text-node buffers): for every
    list of strings, borrowed (`stat`) or owned, and every schedule. Blocks afterwards: the encoder
    with what was added to its string table, `*strings` (only when the first allocation failed) and
    `one_ref`; an error whenever a request failed. -/
theorem strtbl_check_references_clean (e : AEnc) (strings : AList ABuf) (stat : Bool) (s : Ledger) (wf : s.WF)
    (own : Owns s (e.owned ++ stringsOwned stat strings.hdr strings.cells))
    (hbor : stat = true → ∀ b ∈ strings.cells.map (·.2),
      b.hdr ∈ s.live ∧ b.hdr ∉ e.owned ++ stringsOwned stat strings.hdr strings.cells) :
    AnyScheduleClean (checkReferences e strings stat) (fun r => r.2.1 != OK) s
      (e.owned ++ stringsOwned stat strings.hdr strings.cells)
      (fun r => r.1.owned ++ ((match r.2.2.1 with | none => [] | some l => stringsOwned stat l.hdr l.cells) ++
          (match r.2.2.2 with | none => [] | some one => refsOwned one))) :=
  clean_of_tri (checkReferences_tri e strings stat) (fun _ h => by simpa using h) wf own (borrowed_ready hbor)

/-- … with `WBXML_OK`, `*strings` has been destroyed and reset and `one_ref` is there. -/
theorem strtbl_check_references_ok (e : AEnc) (strings : AList ABuf) (stat : Bool) (s : Ledger) (wf : s.WF)
    (own : Owns s (e.owned ++ stringsOwned stat strings.hdr strings.cells))
    (hbor : stat = true → ∀ b ∈ strings.cells.map (·.2),
      b.hdr ∈ s.live ∧ b.hdr ∉ e.owned ++ stringsOwned stat strings.hdr strings.cells) :
    Good (checkReferences e strings stat) s (fun r _ =>
      (r.2.1 = OK → r.2.2.1 = none ∧ r.2.2.2.isSome) ∧ (r.2.1 ≠ OK → r.2.2.2 = none)) :=
  ((checkReferences_tri e strings stat).result wf own (borrowed_ready hbor)).mono fun _ _ ⟨_, a, b, _⟩ => ⟨b, a⟩

theorem encoder_create_clean (s : Ledger) (wf : s.WF) :
    AnyScheduleClean encCreate Option.isNone s [] ownedEncOpt :=
  clean_of_tri encCreate_tri (fun _ h => h ▸ rfl) wf (.nil s) nofun

theorem encoder_destroy_clean (e : Option AEnc) (s : Ledger) (wf : s.WF) (own : Owns s (ownedEncOpt e)) :
    AnyScheduleClean (encDestroy e) (fun _ => false) s (ownedEncOpt e) (fun _ => []) :=
  clean_of_frees (encDestroy_frees e) wf own

theorem encoder_init_output_clean (e : AEnc) (s : Ledger) (wf : s.WF) (own : Owns s e.owned)
    (hok : ∀ o, e.output = some o → o.ok) :
    AnyScheduleClean (encInitOutput e) (fun r => !r.2) s e.owned (fun r => r.1.owned) :=
  clean_of_tri (encInitOutput_tri e hok) (fun _ h => (Bool.not_eq_true' _).mpr h) wf own nofun

/-! ### The string-table chain -/

/-- `wbxml_strtbl_collect_strings` — which IGNORES a failed `wbxml_list_append` on purpose — for every
    list of text nodes and every schedule: no fault; the only blocks allocated are the new cells of
    the list, one per string the list now refers to; these strings are a sub-sequence of the
    collectable text nodes (all of them when no request failed); nothing is released; exactly one
    request per collectable text node. -/
theorem strtbl_collect_strings_clean (texts : List ABuf) (strings : AList ABuf) (s : Ledger) (wf : s.WF)
    (hs : strings.hdr ∈ s.live) (hl : ∀ t ∈ texts, t.hdr ∈ s.live) :
    ∀ sched : List Nat, ∃ r s', run (collectStrings strings texts) { s with sched := sched } = (.ok r, s') ∧
      r.hdr = strings.hdr ∧ ∃ newc : List (Nat × ABuf), r.cells = strings.cells ++ newc ∧
        (∀ i, i ∈ s'.live ↔ i ∈ s.live ∨ i ∈ newc.map (·.1)) ∧ (newc.map (·.1)).Nodup ∧
        (newc.map (·.2)).Sublist (texts.filter collectable) ∧
        (s'.hits = s.hits → newc.map (·.2) = texts.filter collectable) ∧
        s'.next = s.next + (texts.filter collectable).length := by
  intro sched
  obtain ⟨r, t, hrun, eh, newc, hc, c, sub, all, n⟩ :=
    (collectStrings_spec texts strings { s with sched := sched } wf hs hl).elim
  exact ⟨r, t, hrun, eh, newc, hc, fun i => by have := c.live i; simpa using this, c.nodup, sub, all, n⟩

/-- `wbxml_buffer_split_words_real` (repaired): the list with the words it owns, or NULL with
    everything released; NULL whenever a request failed. -/
theorem buffer_split_words_clean (b : ABuf) (s : Ledger) (wf : s.WF) (hb : b.hdr ∈ s.live) :
    AnyScheduleClean (splitWords b) Option.isNone s [] bufListOwned :=
  clean_of_tri (splitWords_tri b) (fun _ h => h ▸ rfl) wf (.nil s) fun _ hi => ⟨List.mem_singleton.1 hi ▸ hb, List.not_mem_nil⟩

/-- The word-moving loop of `wbxml_strtbl_collect_words`: the words of `temp_list` end up in `list`
    (the emptied `temp_list` struct is left to the caller), or — on a failed append — the word in
    hand, the rest of `temp_list` with its struct and `list` are all released and NULL is returned. -/
theorem strtbl_move_words_clean (cells : List (Nat × ABuf)) (tHdr : Nat) (list : AList ABuf) (s : Ledger) (wf : s.WF)
    (own : Owns s ((tHdr :: cellsOwned ABuf.owned cells) ++ bufListOwned (some list))) :
    AnyScheduleClean (moveWords tHdr list cells) Option.isNone s
      ((tHdr :: cellsOwned ABuf.owned cells) ++ bufListOwned (some list))
      (fun r => match r with | none => [] | some l => tHdr :: bufListOwned (some l)) :=
  clean_of_tri (moveWords_tri cells tHdr list) (fun _ h => h ▸ rfl) wf own nofun

/-- `wbxml_strtbl_collect_words` (repaired): the elements are only read; the result is the list of
    words with the words it owns, or an error with everything released; an error whenever a request
    failed. -/
theorem strtbl_collect_words_clean (elements : AList StrElt) (s : Ledger) (wf : s.WF) (hh : elements.hdr ∈ s.live)
    (hl : ∀ x ∈ elements.items, x.hdr ∈ s.live ∧ x.string.hdr ∈ s.live) :
    AnyScheduleClean (collectWords elements) (fun r => r.1 != OK) s [] (fun r => bufListOwned r.2) :=
  clean_of_tri (collectWords_tri elements) (fun _ h => by simpa using h) wf (.nil s) (eltReads_live hh hl)

/-- … and an error never comes with a list. -/
theorem strtbl_collect_words_error_has_no_list (elements : AList StrElt) (s : Ledger) (wf : s.WF) (hh : elements.hdr ∈ s.live)
    (hl : ∀ x ∈ elements.items, x.hdr ∈ s.live ∧ x.string.hdr ∈ s.live) :
    Good (collectWords elements) s (fun r _ => r.1 ≠ OK → r.2 = none) :=
  (collectWords_tri elements).result wf (.nil s) (eltReads_live hh hl)

/-- A valid string table: offsets consecutive from 0 and adding up to `strstbl_len`, no two entries
    with the same bytes (`TblInv`), and every entry owns its string (so the table survives the tree). -/
def TableValid (e : AEnc) : Prop :=
  TblInv e ∧ ∀ l, e.strstbl = some l → ∀ x ∈ l.items, x.stat = false

theorem TableValid.step {e e' : AEnc} (h : TableValid e) (hi : TblInv e → TblInv e') (hg : TblGrew e e') : TableValid e' := by
  refine ⟨hi h.1, fun l' hl' x hx => ?_⟩
  rcases hg l' hl' x hx with ⟨l, hl, hxl⟩ | h'
  · exact h.2 l hl x hxl
  · exact h'

/-- The encoder as `wbxml_encoder_create` makes it has a valid (empty) table. -/
theorem TableValid.of_empty {e : AEnc} (l : AList StrElt) (hl : e.strstbl = some l) (hc : l.items = []) (hlen : e.strstblLen = 0) :
    TableValid e :=
  ⟨⟨l, hl, by rw [hc, hlen]; rfl, by rw [hc]; exact List.nodup_nil⟩, fun l' hl' x hx => by
    rw [hl] at hl'; cases hl'; rw [hc] at hx; cases hx⟩

theorem fails_iff_mem (s : Ledger) (k : Nat) : s.fails k = true ↔ k ∈ s.sched := by
  simp [Ledger.fails]

/-- `wbxml_strtbl_initialize` as a whole, for every encoder, every list of text nodes (borrowed from
    the tree: live, not the encoder's) and EVERY failure schedule:
      * no fault;
      * everything allocated is owned by the encoder afterwards (in its string table) or released,
        the text buffers are untouched:  live' = (live ∖ encoder) ∪ encoder';
      * the string table is valid on every exit (`TableValid`) — in particular when a failure was
        ignored and `WBXML_OK` is returned with a smaller table;
      * a failed request is reported as an error code, EXCEPT at the request sites listed in
        `InitBenign`, whose failure the code ignores on purpose:
          - `wbxml_strtbl_initialize>wbxml_strtbl_collect_strings>wbxml_list_append#1`
            (request numbers `next+2 … next+1+#collectable`): the string is just not shared;
          - every request below the second `wbxml_strtbl_check_references(…, FALSE)`
            (`wbxml_list_create_real#1`, `wbxml_strtbl_element_create#1`, `wbxml_list_append#1`,
            `wbxml_strtbl_add_element>wbxml_list_append#1`): the words only improve the table;
      * the result is an error, or the result of the un-failed run, or `WBXML_OK` after a failure at
        one of those sites. -/
theorem strtbl_initialize_clean (e : AEnc) (texts : List ABuf) (s : Ledger) (wf : s.WF) (own : Owns s e.owned)
    (htx : ∀ t ∈ texts, t.hdr ∈ s.live ∧ t.hdr ∉ e.owned) (hval : TableValid e) :
    ∀ sched : List Nat, ∃ r s', run (strtblInitialize e texts) { s with sched := sched } = (.ok r, s') ∧
      (∀ i, i ∈ s'.live ↔ (i ∈ s.live ∧ i ∉ e.owned) ∨ i ∈ r.1.owned) ∧
      r.1.hdr = e.hdr ∧ r.1.output = e.output ∧ TableValid r.1 ∧
      (∀ k ∈ sched, s.next < k → k ≤ s'.next → ¬ InitBenign e texts { s with sched := sched } k → r.2 ≠ OK) ∧
      (r.2 ≠ OK ∨ (run (strtblInitialize e texts) { s with sched := [] }).1 = .ok r ∨
        (r.2 = OK ∧ ∃ k ∈ sched, s.next < k ∧ k ≤ s'.next ∧ InitBenign e texts { s with sched := sched } k)) := by
  intro sched
  obtain ⟨r, t, hrun, k, c, hrep⟩ :=
    (strtblInitialize_spec e texts { s with sched := sched } wf own htx).elim
  have hrep' : ∀ k ∈ sched, s.next < k → k ≤ t.next → ¬ InitBenign e texts { s with sched := sched } k → r.2 ≠ OK := by
    intro k hk a b hnb
    refine hrep k ((fails_iff_mem _ k).2 hk) a b (fun hw => hnb (Or.inl hw)) (fun hp => hnb (Or.inr ⟨hp, ?_⟩))
    rw [hrun]; exact b
  refine ⟨r, t, hrun, c.live, k.hdr, k.output, hval.step k.inv k.grew, hrep', ?_⟩
  by_cases hret : r.2 = OK
  · by_cases hh : ({ s with sched := sched } : Ledger).hits < t.hits
    · obtain ⟨k, hf, a, b⟩ := fail_of_hits hrun hh
      have hk : k ∈ sched := (fails_iff_mem _ k).1 hf
      refine Or.inr (Or.inr ⟨hret, k, hk, a, b, ?_⟩)
      apply Classical.byContradiction
      intro hnb
      exact hrep' k hk a b hnb hret
    · exact Or.inr (Or.inl (unfailed_of_no_hit hrun hh))
  · exact Or.inl hret

/-- `encoder_encode_tree` (repaired), with or without string table, for every tree (text nodes
    `texts`, body chunks `body`) and every schedule: the encoder stays the caller's on every exit
    (it is "consumed and produced again"), nothing else is left allocated, its string table is valid,
    and a failed request is reported unless it is one of the benign ones (`EncBenign`: the sites of
    `strtbl_initialize_clean`; none without string table). -/
theorem encoder_encode_tree_strtbl (texts : List ABuf) (body : List Bytes) (e : AEnc)
    (s : Ledger) (wf : s.WF) (own : Owns s e.owned) (hout : e.output = none)
    (htx : ∀ t ∈ texts, t.hdr ∈ s.live ∧ t.hdr ∉ e.owned)
    (htbl : ∀ l, e.strstbl = some l → l.items = []) (hinv : TblInv e) :
    ∀ sched : List Nat, ∃ r s', run (encodeTree e texts body) { s with sched := sched } = (.ok r, s') ∧
      (∀ i, i ∈ s'.live ↔ (i ∈ s.live ∧ i ∉ e.owned) ∨ i ∈ r.1.owned) ∧ TblInv r.1 ∧
      (∀ l, r.1.strstbl = some l → ∀ x ∈ l.items, x.string.hdr ∈ s'.live ∧ x.string.hdr ∉ ownedBufOpt r.1.output) ∧
      (∀ k ∈ sched, s.next < k → k ≤ s'.next → ¬ EncBenign e texts { s with sched := sched } k → r.2 ≠ OK) := by
  intro sched
  obtain ⟨r, t, hrun, ⟨_, c, _, _⟩, hs, hi, hrep⟩ :=
    (encodeTree_spec texts body e { s with sched := sched } wf own hout htx htbl).elim
  exact ⟨r, t, hrun, c.live, hi hinv, hs, fun k hk a b hnb => hrep k ((fails_iff_mem _ k).2 hk) a b hnb⟩

/-- Without string table every failure is reported (the `AnyScheduleClean` clause). -/
theorem encoder_encode_tree_clean (body : List Bytes) (e : AEnc) (s : Ledger) (wf : s.WF) (own : Owns s e.owned)
    (hout : e.output = none) (hu : e.useStrtbl = false) (htbl : ∀ l, e.strstbl = some l → l.items = []) :
    AnyScheduleClean (encodeTree e [] body) (fun r => r.2 != OK) s e.owned (fun r => r.1.owned) :=
  clean_of_spec fun sched =>
    ((encodeTree_spec [] body e { s with sched := sched } wf own hout (fun t ht => by cases ht) htbl).strict
      (fun _ _ q => q.2.2.2) fun k hb => by rw [hb.1] at hu; cases hu).mono
      fun r t ⟨⟨⟨_, c, _, _⟩, _⟩, h⟩ => ⟨c, fun hh => by simpa using h hh⟩

/-- `wbxml_build_result`: the encoder is only read, the header never outlives the call. -/
theorem build_result_clean (e : AEnc) (version publicId : Nat) (s : Ledger) (wf : s.WF) (hl : e.hdr ∈ s.live)
    (hout : ∀ o, e.output = some o → o.hdr ∈ s.live ∧ o.ok)
    (hstr : ∀ l, e.strstbl = some l → ∀ x ∈ l.items, x.string.hdr ∈ s.live) :
    AnyScheduleClean (buildResult e version publicId) (fun r => r.1 != OK) s [] (fun r => ownedResult r.2) :=
  clean_of_tri (buildResult_tri e version publicId fun o ho => (hout o ho).2) (fun _ h => by simpa using h) wf (.nil s)
    (AEnc.reads_live hl (fun o ho => (hout o ho).1) hstr)

/-- … and an error never comes with a result (`*wbxml` stays NULL). -/
theorem build_result_error_has_no_output (e : AEnc) (version publicId : Nat) (s : Ledger) (wf : s.WF) (hl : e.hdr ∈ s.live)
    (hout : ∀ o, e.output = some o → o.hdr ∈ s.live ∧ o.ok)
    (hstr : ∀ l, e.strstbl = some l → ∀ x ∈ l.items, x.string.hdr ∈ s.live) :
    Good (buildResult e version publicId) s (fun r _ => r.1 ≠ OK → r.2 = none) :=
  (buildResult_tri e version publicId fun o ho => (hout o ho).2).result wf (.nil s)
    (AEnc.reads_live hl (fun o ho => (hout o ho).1) hstr)

/-! ## The whole conversion -/

/-- `oom_result_sound` for a conversion `conv` returning (status, output): whichever single request
    fails, the run ends without fault, the status is an error with no output and nothing left
    allocated, or the conversion returns exactly what it returns without failure and only that
    output is left allocated. -/
def OomResultSound (conv : Prog (Nat × Option (Nat × Bytes))) (s : Ledger) : Prop :=
  ∀ k : Nat, ∃ r s', run conv { s with sched := failAt k } = (.ok r, s') ∧
    ((r.1 ≠ OK ∧ r.2 = none ∧ ∀ i, i ∈ s'.live ↔ i ∈ s.live) ∨
     ((run conv { s with sched := [] }).1 = .ok r ∧ ∀ i, i ∈ s'.live ↔ i ∈ s.live ∨ i ∈ ownedResult r.2))

/-- The same, up to the allocations that are inessential (`benign`): if such a request fails the
    conversion may still return `WBXML_OK` with a correct — possibly different — result, and only
    that result is left allocated. -/
def OomResultSoundUpTo (conv : Prog (Nat × Option (Nat × Bytes))) (s : Ledger) (benign : Ledger → Nat → Prop) : Prop :=
  ∀ k : Nat, ∃ r s', run conv { s with sched := failAt k } = (.ok r, s') ∧
    ((r.1 ≠ OK ∧ r.2 = none ∧ ∀ i, i ∈ s'.live ↔ i ∈ s.live) ∨
     ((run conv { s with sched := [] }).1 = .ok r ∧ ∀ i, i ∈ s'.live ↔ i ∈ s.live ∨ i ∈ ownedResult r.2) ∨
     (benign { s with sched := failAt k } k ∧ r.1 = OK ∧ ∀ i, i ∈ s'.live ↔ i ∈ s.live ∨ i ∈ ownedResult r.2))

theorem OomResultSoundUpTo.strict {conv : Prog (Nat × Option (Nat × Bytes))} {s : Ledger} {benign : Ledger → Nat → Prop}
    (h : OomResultSoundUpTo conv s benign) (hb : ∀ t k, ¬ benign t k) : OomResultSound conv s := by
  intro k
  obtain ⟨r, s', hrun, h1 | h2 | h3⟩ := h k
  · exact ⟨r, s', hrun, Or.inl h1⟩
  · exact ⟨r, s', hrun, Or.inr h2⟩
  · exact (hb _ _ h3.1).elim

/-- From a specification with the list of reported requests to the clause up to benign requests:
    an error comes without output and with nothing left; `WBXML_OK` after a delivered failure means
    the failed request `k` was benign; a run that was delivered no failure is the un-failed run. -/
theorem oom_upto_of_spec {conv : Prog (Nat × Option (Nat × Bytes))} {s : Ledger} {benign : Ledger → Nat → Prop}
    (spec : ∀ k : Nat, Good conv { s with sched := failAt k } (fun r t =>
      Clean { s with sched := failAt k } t [] (ownedResult r.2) ∧ (r.1 ≠ OK → r.2 = none) ∧
      (∀ k', ({ s with sched := failAt k } : Ledger).fails k' = true → s.next < k' → k' ≤ t.next →
        ¬ benign { s with sched := failAt k } k' → r.1 ≠ OK))) :
    OomResultSoundUpTo conv s benign := by
  intro k
  obtain ⟨r, t, hrun, hc, hnone, hrep⟩ := (spec k).elim
  refine ⟨r, t, hrun, ?_⟩
  have hlive : ∀ i, i ∈ t.live ↔ i ∈ s.live ∨ i ∈ ownedResult r.2 := fun i => by have := hc.live i; simpa using this
  by_cases hret : r.1 = OK
  · by_cases hh : ({ s with sched := failAt k } : Ledger).hits < t.hits
    · obtain ⟨k', hf, a, b⟩ := fail_of_hits hrun hh
      have hk : k' = k := by simpa [Ledger.fails, failAt] using hf
      subst hk
      exact Or.inr (Or.inr ⟨Classical.byContradiction fun hnb => hrep k' hf a b hnb hret, hret, hlive⟩)
    · exact Or.inr (Or.inl ⟨unfailed_of_no_hit hrun hh, hlive⟩)
  · have hn := hnone hret
    rw [hn] at hlive
    exact Or.inl ⟨hret, hn, fun i => by simpa [ownedResult] using hlive i⟩

/-- … and to the strict clause, when every delivered failure is reported. -/
theorem oom_sound_of_spec {conv : Prog (Nat × Option (Nat × Bytes))} {s : Ledger}
    (spec : ∀ sched, Good conv { s with sched := sched } (fun r t =>
      Clean { s with sched := sched } t [] (ownedResult r.2) ∧ (r.1 ≠ OK → r.2 = none) ∧ (s.hits < t.hits → r.1 ≠ OK))) :
    OomResultSound conv s := by
  have upto : OomResultSoundUpTo conv s (fun _ _ => False) := oom_upto_of_spec fun k => by
    refine (spec (failAt k)).later.mono fun r t ⟨⟨clean, noOutput, rep⟩, later, _⟩ => ⟨clean, noOutput, fun k' hf a b _ => ?_⟩
    -- a request of the run's window that is scheduled to fail has been delivered
    have delivered : ({ s with sched := failAt k } : Ledger).hits < t.hits := later.window.2 ⟨k', hf, a, b⟩
    exact rep delivered
  exact upto.strict fun _ _ h => h

/-- The same specification read for an arbitrary schedule. -/
theorem no_leak_of_spec {conv : Prog (Nat × Option (Nat × Bytes))} {s : Ledger} {benign : Ledger → Nat → Prop}
    (spec : ∀ sched, Good conv { s with sched := sched } (fun r t =>
      Clean { s with sched := sched } t [] (ownedResult r.2) ∧ (r.1 ≠ OK → r.2 = none) ∧
      (∀ k, ({ s with sched := sched } : Ledger).fails k = true → s.next < k → k ≤ t.next →
        ¬ benign { s with sched := sched } k → r.1 ≠ OK))) (sched : List Nat) :
    ∃ r s', run conv { s with sched := sched } = (.ok r, s') ∧
      (r.1 ≠ OK → r.2 = none) ∧ (∀ i, i ∈ s'.live ↔ i ∈ s.live ∨ i ∈ ownedResult r.2) ∧
      (∀ k ∈ sched, s.next < k → k ≤ s'.next → ¬ benign { s with sched := sched } k → r.1 ≠ OK) := by
  obtain ⟨r, t, hrun, hc, hnone, hrep⟩ := (spec sched).elim
  exact ⟨r, t, hrun, hnone, fun i => by have := hc.live i; simpa using this,
    fun k hk a b hnb => hrep k ((fails_iff_mem _ k).2 hk) a b hnb⟩

/-- `wbxml_tree_to_wbxml` under ANY schedule, with or without string table, for every tree: no
    fault, no result with an error code, nothing but the result stays allocated, and a failed request
    that is not benign (`TreeBenign`) yields an error code. -/
theorem tree_to_wbxml_no_leak (useStrtbl : Bool) (texts : List ABuf)
    (body : List Bytes) (version publicId : Nat) (s : Ledger) (wf : s.WF) (htx : ∀ t ∈ texts, t.hdr ∈ s.live) :
    ∀ sched : List Nat, ∃ r s', run (treeToWbxml useStrtbl texts body version publicId) { s with sched := sched } = (.ok r, s') ∧
      (r.1 ≠ OK → r.2 = none) ∧ (∀ i, i ∈ s'.live ↔ i ∈ s.live ∨ i ∈ ownedResult r.2) ∧
      (∀ k ∈ sched, s.next < k → k ≤ s'.next → ¬ TreeBenign useStrtbl texts { s with sched := sched } k → r.1 ≠ OK) := by
  exact no_leak_of_spec fun sched =>
    treeToWbxml_spec useStrtbl texts body version publicId { s with sched := sched } wf htx

/-- Without string table nothing is benign. -/
theorem tree_benign_false (texts : List ABuf) (t : Ledger) (k : Nat) : ¬ TreeBenign false texts t k := by
  rintro ⟨e0, s1, _, hu, _⟩
  simp at hu

/-- `oom_result_sound` for the encoder half, `wbxml_tree_to_wbxml` (encoder create →
    `encoder_encode_tree` incl. `wbxml_strtbl_initialize` → `wbxml_build_result` → encoder destroy),
    with or without string table, for every tree, every document body and every k.  With the string
    table the clause holds up to the benign requests of `strtbl_initialize_clean` (`TreeBenign`).
    Composed with the parser main loop, the tree-building call-backs and the glue of
    `wbxml_tree_from_wbxml` it gives the clause for the whole WBXML → tree → WBXML conversion
    (`oom_result_sound_wbxml2wbxml` below); composed with the Expat call-backs, the one for
    XML → tree → WBXML (`oom_result_sound_xml2wbxml`).  The body of the encoder is taken as the
    chunks that are appended (`body`): what `oom_result_sound_partial` lists as in no model. -/
theorem oom_result_sound_tree_to_wbxml (useStrtbl : Bool) (texts : List ABuf) (body : List Bytes) (version publicId : Nat)
    (s : Ledger) (wf : s.WF) (htx : ∀ t ∈ texts, t.hdr ∈ s.live) :
    OomResultSoundUpTo (treeToWbxml useStrtbl texts body version publicId) s (TreeBenign useStrtbl texts) :=
  oom_upto_of_spec fun k =>
    treeToWbxml_spec useStrtbl texts body version publicId { s with sched := failAt k } wf htx

/-- Without string table: the strict clause. -/
theorem oom_result_sound_no_strtbl (body : List Bytes) (version publicId : Nat) (s : Ledger) (wf : s.WF) :
    OomResultSound (treeToWbxml false [] body version publicId) s :=
  (oom_result_sound_tree_to_wbxml false [] body version publicId s wf (fun t ht => by cases ht)).strict
    (fun t k => tree_benign_false [] t k)

/-! ### With the string table the strict clause does not hold — and is not meant to -/

/-- Status and output bytes of a conversion run. -/
def resultIs (r : Except Err (Nat × Option (Nat × Bytes)) × Ledger) (code : Nat) (bytes : Option Bytes) : Bool :=
  match r.1 with
  | .ok x => x.1 == code && x.2.map (·.2) == bytes
  | .error _ => false

theorem resultIs_ok {x : Except Err (Nat × Option (Nat × Bytes)) × Ledger} {r : Nat × Option (Nat × Bytes)}
    {code : Nat} {bytes : Option Bytes} (h : x.1 = .ok r) (hr : resultIs x code bytes = true) :
    r.1 = code ∧ r.2.map (·.2) = bytes := by
  unfold resultIs at hr
  rw [h] at hr
  simpa using hr

/-- Two text nodes "abcd" (blocks 1 and 2 of the caller's tree). -/
def benignTexts : List ABuf := [⟨1, none, b!"abcd", 0, true⟩, ⟨2, none, b!"abcd", 0, true⟩]
def benignStart : Ledger := { next := 2, live := [1, 2] }

/-- Request 7 is the first `wbxml_list_append` of `wbxml_strtbl_collect_strings`: when it fails the
    conversion still returns `WBXML_OK`, with an empty string table instead of the table {"abcd"}. -/
theorem strtbl_benign_failure_changes_output :
    resultIs (run (treeToWbxml true benignTexts [[0x45]] 3 10) { benignStart with sched := failAt 7 }) 0
      (some [3, 10, 106, 0, 69]) = true ∧
    resultIs (run (treeToWbxml true benignTexts [[0x45]] 3 10) { benignStart with sched := [] }) 0
      (some [3, 10, 106, 5, 97, 98, 99, 100, 0, 69]) = true := by decide +kernel

/-- Hence the strict `OomResultSound` is false with the string table: the statement that holds is
    `oom_result_sound_tree_to_wbxml` (`OomResultSoundUpTo … TreeBenign`). -/
theorem oom_result_sound_strict_fails_with_strtbl :
    ¬ OomResultSound (treeToWbxml true benignTexts [[0x45]] 3 10) benignStart := by
  intro h
  obtain ⟨a, b⟩ := strtbl_benign_failure_changes_output
  obtain ⟨r, s', hrun, h1 | h2⟩ := h 7
  · exact h1.1 (resultIs_ok (congrArg Prod.fst hrun) a).1
  · have := (resultIs_ok (congrArg Prod.fst hrun) a).2.symm.trans (resultIs_ok h2.1 b).2
    simp at this

/-- The hypotheses of `strtbl_initialize_clean` / `oom_result_sound_tree_to_wbxml` are satisfiable (the
    scenario above). -/
example : benignStart.WF ∧ (∀ t ∈ benignTexts, t.hdr ∈ benignStart.live) := by
  refine ⟨fun i hi => ?_, fun t ht => ?_⟩
  · simp [benignStart] at hi ⊢; omega
  · simp [benignTexts] at ht; rcases ht with rfl | rfl <;> simp [benignStart]

example : ∃ (e : AEnc) (s : Ledger), s.WF ∧ Owns s e.owned ∧
    (∀ t ∈ benignTexts, t.hdr ∈ s.live ∧ t.hdr ∉ e.owned) ∧ TableValid e := by
  refine ⟨⟨3, some ⟨4, []⟩, 0, none, true⟩, { next := 4, live := [1, 2, 3, 4] }, ?_, ?_, ?_, ?_⟩
  · intro i hi; simp at hi ⊢; omega
  · exact ⟨by decide, by decide⟩
  · intro t ht; simp [benignTexts] at ht; rcases ht with rfl | rfl <;> decide
  · exact TableValid.of_empty ⟨4, []⟩ rfl rfl rfl

/-! ## Tree building: the call-backs of the WBXML parser (`wbxml_tree_clb_wbxml_*`) -/

theorem evObjs_live {events : List TEvent} {s : Ledger} (hr : ∀ e ∈ events, ∀ X ∈ evObjs e, Owns s X) :
    ∀ i ∈ events.flatMap TEvent.owned, i ∈ s.live ∧ i ∉ ([] : List Nat) := fun i hi =>
  have ⟨e, he, h⟩ := List.mem_flatMap.1 hi
  have ⟨X, hX, hiX⟩ := mem_evObjs h
  ⟨(hr e he X hX).2 i hiX, List.not_mem_nil⟩

/-- One event delivered to the tree-building call-backs (`start_element` with
    `wbxml_tree_add_elt_with_attrs` / `wbxml_tree_extract_node`, `end_element`, `characters` with
    `wbxml_tree_add_cdata` / `wbxml_tree_add_text` and the join of adjacent text nodes), for every
    consistent context and every schedule: no fault; the context owns afterwards exactly what it
    owned plus what was allocated and not released again (nothing leaks, the tag and the attributes
    of the parser are untouched); and a failed request leaves an error code in the context. -/
theorem tree_clb_event_clean (c : TCtx) (e : TEvent) (s : Ledger) (wf : s.WF) (hok : c.ok) (own : Owns s c.owned)
    (b : Nat) (hb : ∀ i ∈ c.owned, b < i) (hr : EvReady b s e) :
    AnyScheduleClean (clbEvent c e) (fun c' => c'.error != OK) s c.owned TCtx.owned :=
  clean_of_tri (clbEvent_tri c e hok) (fun _ => bne_iff_ne.2) wf own (hr.foreign hb)

/-- … the context stays consistent, keeps its tree, and an error code is never cleared. -/
theorem tree_clb_event_keeps (c : TCtx) (e : TEvent) (s : Ledger) (wf : s.WF) (hok : c.ok) (own : Owns s c.owned)
    (b : Nat) (hb : ∀ i ∈ c.owned, b < i) (hr : EvReady b s e) :
    Good (clbEvent c e) s (fun c' _ => c'.tree = c.tree ∧ c'.ok ∧ (c.error ≠ OK → c'.error ≠ OK)) :=
  (clbEvent_tri c e hok).result wf own (hr.foreign hb)

set_option linter.unusedVariables false in
/-- A list of events, by induction on the list.  (`hbs` is not used: that the objects of the events
    are not the context's follows from `hb` and `hr`.) -/
theorem tree_clb_events_clean (events : List TEvent) (c : TCtx) (s : Ledger) (wf : s.WF) (hok : c.ok) (own : Owns s c.owned)
    (b : Nat) (hbs : b ≤ s.next) (hb : ∀ i ∈ c.owned, b < i) (hr : ∀ e ∈ events, EvReady b s e) :
    AnyScheduleClean (clbEvents c events) (fun c' => c'.error != OK) s c.owned TCtx.owned :=
  clean_of_tri (clbEvents_tri events c hok) (fun _ => bne_iff_ne.2) wf own fun i hi =>
    have ⟨e, he, h⟩ := List.mem_flatMap.1 hi
    (hr e he).foreign hb i h

/-- `wbxml_tree_destroy`: everything the tree owns is released, once. -/
theorem tree_destroy_clean (c : TCtx) (s : Ledger) (wf : s.WF) (own : Owns s c.owned) :
    AnyScheduleClean (treeDestroy c) (fun _ => false) s c.owned (fun _ => []) :=
  clean_of_frees (treeDestroy_frees c) wf own

/-- The tree side of `wbxml_tree_from_wbxml` (`wbxml_tree_create`, the
    call-backs on the events of a parse, `wbxml_tree_destroy` when a call-back reported an error), for
    EVERY list of events and every schedule: no fault; an error code with the tree destroyed and
    nothing left allocated, or `WBXML_OK` with the tree owning everything that is left; an error
    whenever a request failed. -/
theorem tree_from_wbxml_events_clean (events : List TEvent) (s : Ledger) (wf : s.WF)
    (hr : ∀ e ∈ events, ∀ X ∈ evObjs e, Owns s X) :
    AnyScheduleClean (treeFromEvents events) (fun r => r.1 != OK) s [] (fun r => ownedCtxOpt r.2) :=
  clean_of_tri (treeFromEvents_tri events) (fun _ => bne_iff_ne.2) wf (.nil s) (evObjs_live hr)

/-- … an error never comes with a tree, and a tree that is returned is consistent and error-free. -/
theorem tree_from_wbxml_events_result (events : List TEvent) (s : Ledger) (wf : s.WF)
    (hr : ∀ e ∈ events, ∀ X ∈ evObjs e, Owns s X) :
    Good (treeFromEvents events) s (fun r _ => (r.1 ≠ OK → r.2 = none) ∧ ∀ c, r.2 = some c → c.ok ∧ c.error = OK) :=
  (treeFromEvents_tri events).result wf (.nil s) (evObjs_live hr)

theorem single_failure_clean_tree_from_wbxml_events (events : List TEvent) (s : Ledger) (wf : s.WF)
    (hr : ∀ e ∈ events, ∀ X ∈ evObjs e, Owns s X) :
    SingleFailureClean (treeFromEvents events) (fun r => r.1 != OK) s [] (fun r => ownedCtxOpt r.2) :=
  (tree_from_wbxml_events_clean events s wf hr).single

/-- The hypotheses are satisfiable: `<T5 id="x">ab</T5>` with the tag and the attribute owned by the
    parser (blocks 1 … 6). -/
example : ∃ (events : List TEvent) (s : Ledger), s.WF ∧ events.length = 3 ∧ ∀ e ∈ events, ∀ X ∈ evObjs e, Owns s X := by
  refine ⟨[.start ⟨1, .token 5⟩ [⟨2, some ⟨3, .token 7⟩, some ⟨4, some 5, b!"x", 2, false⟩⟩], .chars b!"ab" false, .stop],
    { next := 6, live := [1, 2, 3, 4, 5, 6] }, ?_, rfl, ?_⟩
  · intro i hi; simp at hi ⊢; omega
  · intro e he X hX
    simp only [List.mem_cons, List.not_mem_nil, or_false] at he
    rcases he with rfl | rfl | rfl
    · simp only [evObjs, List.map_cons, List.map_nil, List.mem_cons, List.not_mem_nil, or_false] at hX
      rcases hX with rfl | rfl
      · exact ⟨by decide, by decide⟩
      · exact ⟨by decide, by decide⟩
    · simp [evObjs] at hX
    · simp [evObjs] at hX


/-! ## The parser main loop (`wbxml_parser_parse` with the tree builder as content handler) -/

theorem pars_foreign {p : APars} {X : List Nat} {s : Ledger} (own : Owns s (p.owned ++ X)) :
    ∀ i ∈ p.owned, i ∈ s.live ∧ i ∉ X := fun i hi =>
  ⟨own.left.2 i hi, (Owns.append_iff.1 own).2.2 i hi⟩

/-- `parse_pi`, for every attribute start and every list of value pieces. -/
theorem parse_pi_clean (a : AttrShape) (hst : a.start.wf) (s : Ledger) (wf : s.WF) :
    AnyScheduleClean (parsePi a) (fun ret => ret != OK) s [] (fun _ => []) :=
  clean_of_tri (parsePi_tri a hst) (fun _ => bne_iff_ne.2) wf (.nil s) nofun

/-- The per-item buffers of `parse_content`: `parse_string` (static buffer), `parse_entity`,
    `parse_opaque` (+ `decode_base64_value` with its temporary block), `parse_extension` for the WML
    variables (`var_value`, the `ext` block, the result buffer): the result is the only block left,
    it comes with `WBXML_OK` only, and a failed request is an error code. -/
theorem parse_content_clean (ci : Content) (s : Ledger) (wf : s.WF) :
    AnyScheduleClean (parseContent ci) (fun r => r.1 != OK) s [] (fun r => ownedBufOpt r.2) :=
  clean_of_tri (parseContent_tri ci) (fun _ => bne_iff_ne.2) wf (.nil s) nofun

/-- `parse_strtbl` (table buffer + the four terminating bytes): the buffer is the parser's on every
    exit (destroyed by `wbxml_parser_destroy`). -/
theorem parse_strtbl_clean (sh : StrtblShape) (s : Ledger) (wf : s.WF) :
    AnyScheduleClean (parseStrtbl sh) (fun r => r.1 != OK) s [] (fun r => ownedBufOpt r.2) :=
  clean_of_tri (parseStrtbl_tri sh) (fun _ => bne_iff_ne.2) wf (.nil s) nofun

/-- `check_public_id`: a failed read of a textual public id is "not found" (`WB_BOOL`), which
    `wbxml_parser_parse` turns into `WBXML_ERROR_UNKNOWN_PUBLIC_ID`: an error, as the clause demands
    (inside an *embedded* document the same answer means "keep as text": the known finding, outside
    this model). -/
theorem check_public_id_clean (sh : PubidShape) (s : Ledger) (wf : s.WF) :
    AnyScheduleClean (checkPublicId sh) (fun r => !r) s [] (fun _ => []) :=
  clean_of_tri (checkPublicId_tri sh) (fun _ h => h ▸ rfl) wf (.nil s) nofun

/-- The start of `parse_element` (tag, attribute table, `start_element` call-back into the tree
    builder, release of the table). -/
theorem start_element_clean (c : TCtx) (t : TagShape) (ht : t.wf) (attrs : List AttrShape)
    (hshape : ∀ a ∈ attrs, a.start.wf) (s : Ledger) (wf : s.WF) (hok : c.ok) (own : Owns s c.owned) :
    AnyScheduleClean (startElement c t attrs) (fun r => r.1 != OK || r.2.2.error != OK) s c.owned
      (fun r => ownedNameOpt r.2.1 ++ r.2.2.owned) :=
  clean_of_tri (startElement_tri c t ht attrs hshape hok) (fun _ h => by simpa using h) wf own nofun

/-- The content loops of the open elements — `parse_element` → `parse_content` → `parse_element` … —
    over ANY list of body items, from ANY stack of open tags and any consistent tree context, for
    EVERY schedule (induction on the item list): no fault; on every return all tags of the open frames
    have been destroyed, the content buffers and attribute tables are gone, and the context owns
    whatever else was allocated; a failed request is an error code, returned by the parser or left in
    the context by a call-back. -/
theorem parse_loop_clean (p : APars) (hpw : p.wbxml.isSome) (items : List Item) (hw : ∀ it ∈ items, it.wf)
    (st : List AName) (c : TCtx) (s : Ledger) (wf : s.WF) (hok : c.ok)
    (own : Owns s (p.owned ++ (stackOwned st ++ c.owned))) :
    AnyScheduleClean (parseLoop p st c items) (fun r => r.1 != OK || r.2.error != OK) s
      (stackOwned st ++ c.owned) (fun r => r.2.owned) :=
  clean_of_tri (parseLoop_tri p hpw items hw st c hok) (fun _ h => by simpa using h) wf own.right (pars_foreign own)

/-- … the context stays consistent, keeps its tree, and an error code is never cleared. -/
theorem parse_loop_keeps (p : APars) (hpw : p.wbxml.isSome) (items : List Item) (hw : ∀ it ∈ items, it.wf)
    (st : List AName) (c : TCtx) (s : Ledger) (wf : s.WF) (hok : c.ok)
    (own : Owns s (p.owned ++ (stackOwned st ++ c.owned))) :
    Good (parseLoop p st c items) s (fun r _ => r.2.tree = c.tree ∧ r.2.ok ∧ (c.error ≠ OK → r.2.error ≠ OK)) :=
  (parseLoop_tri p hpw items hw st c hok).result wf own.right (pars_foreign own)

/-- `wbxml_parser_parse` (document buffer, header, `parse_strtbl`,
    `check_public_id`, `start_document`, `parse_body` = PIs, root element with the whole main loop,
    PIs) on a fresh parser, with the tree builder as content handler, for every well-formed document
    shape and EVERY schedule: no fault; afterwards the parser owns its (at most two) buffers, the
    context owns its tree, and nothing else is left; a failed request is an error code (returned, or
    in the context).  No request of the parser / tree-building half is benign. -/
theorem parse_document_clean (hdr : Nat) (c : TCtx) (d : Doc) (hd : d.wf) (s : Ledger) (wf : s.WF) (hok : c.ok)
    (own : Owns s ([hdr] ++ c.owned)) :
    AnyScheduleClean (parserParse hdr c d) (fun r => r.1 != OK || r.2.2.error != OK) s ([hdr] ++ c.owned)
      (fun r => r.2.1.owned ++ r.2.2.owned) :=
  clean_of_tri (parserParse_tri hdr c d hd hok) (fun _ h => by simpa using h) wf own nofun

theorem parser_destroy_clean (p : APars) (s : Ledger) (wf : s.WF) (own : Owns s p.owned) :
    AnyScheduleClean (parserDestroy p) (fun _ => false) s p.owned (fun _ => []) :=
  clean_of_frees (parserDestroy_frees p) wf own

/-- The whole of `wbxml_tree_from_wbxml` — parser create, tree create, the
    parse above, `wbxml_tree_destroy` when the parser or a call-back reported an error, parser destroy —
    for every well-formed document shape and EVERY schedule: no fault; an error code with NOTHING left
    allocated, or `WBXML_OK` with the tree owning everything that is left; an error whenever a request
    failed (no benign site). -/
theorem tree_from_wbxml_clean (d : Doc) (hd : d.wf) (s : Ledger) (wf : s.WF) :
    AnyScheduleClean (treeFromWbxml d) (fun r => r.1 != OK) s [] (fun r => ownedCtxOpt r.2) :=
  clean_of_tri (treeFromWbxml_tri d hd) (fun _ => bne_iff_ne.2) wf (.nil s) nofun

/-- … an error never comes with a tree, and a tree that is returned is consistent and error-free. -/
theorem tree_from_wbxml_result (d : Doc) (hd : d.wf) (s : Ledger) (wf : s.WF) :
    Good (treeFromWbxml d) s (fun r _ => (r.1 ≠ OK → r.2 = none) ∧ ∀ c, r.2 = some c → c.ok ∧ c.error = OK) :=
  (treeFromWbxml_tri d hd).result wf (.nil s) nofun

theorem single_failure_clean_tree_from_wbxml (d : Doc) (hd : d.wf) (s : Ledger) (wf : s.WF) :
    SingleFailureClean (treeFromWbxml d) (fun r => r.1 != OK) s [] (fun r => ownedCtxOpt r.2) :=
  (tree_from_wbxml_clean d hd s wf).single

/-- A sample document — `<T5>ab<T7/>$(x:escape)</T5>` with a string table — is well formed, parses
    to a tree (17 blocks) without failure, and with request 9 (inside the `start_element` call-back of
    the root: the parser goes on to the end of the document, the glue then destroys the partial tree)
    returns `WBXML_ERROR_NOT_ENOUGH_MEMORY` with nothing left (kernel-evaluated). -/
def sampleDoc : Doc :=
  ⟨[3, 1, 106, 0], OK, .tbl b!"x", .known, [], .elem (.token 5) [] true,
   [.content (.ref (.sta b!"ab")) false, .elem (.token 7) [⟨.token 0 none, [.sta b!"v"]⟩] false,
    .content (.ext (.sta b!"x") b!":escape") false, .stop]⟩

example : sampleDoc.wf := by
  refine ⟨fun a ha => (by cases ha), ⟨trivial, fun a ha => (by cases ha)⟩, fun it hit => ?_⟩
  simp only [sampleDoc, List.mem_cons, List.not_mem_nil, or_false] at hit
  rcases hit with rfl | rfl | rfl | rfl
  · trivial
  · exact ⟨trivial, fun a ha => by simp only [List.mem_singleton] at ha; subst ha; trivial⟩
  · trivial
  · trivial

/-- Status of a `wbxml_tree_from_wbxml` run, whether a tree came back, and what is left allocated. -/
def fromWbxmlIs (r : Except Err (Nat × Option TCtx) × Ledger) (code : Nat) (tree : Bool) (live : Nat) : Bool :=
  match r.1 with
  | .ok x => x.1 == code && x.2.isSome == tree && r.2.live.length == live
  | .error _ => false

theorem sample_unfailed_and_failed :
    fromWbxmlIs (run (treeFromWbxml sampleDoc) (Ledger.start [])) OK true 17 = true ∧
    fromWbxmlIs (run (treeFromWbxml sampleDoc) (Ledger.start (failAt 9))) ENOMEM false 0 = true := by decide +kernel

/-! ## A whole conversion: WBXML → tree → WBXML -/

/-- `wbxml_tree_from_wbxml` ∘ `wbxml_tree_to_wbxml` ∘ `wbxml_tree_destroy` under ANY schedule, with or
    without string table, for every well-formed document shape and whatever text buffers / body
    chunks the encoder reads off the tree: no fault, no result with an error code, nothing but the
    result stays allocated, and a failed request that is not one of the encoder's benign string-table
    requests (`PipeBenign`) yields an error code. -/
theorem wbxml2wbxml_no_leak (d : Doc) (hd : d.wf) (useStrtbl : Bool) (texts : TCtx → List ABuf)
    (htexts : ∀ c, ∀ t ∈ texts c, t.hdr ∈ c.owned) (body : TCtx → List Bytes) (version publicId : Nat)
    (s : Ledger) (wf : s.WF) :
    ∀ sched : List Nat, ∃ r s', run (wbxml2wbxml d useStrtbl texts body version publicId) { s with sched := sched } = (.ok r, s') ∧
      (r.1 ≠ OK → r.2 = none) ∧ (∀ i, i ∈ s'.live ↔ i ∈ s.live ∨ i ∈ ownedResult r.2) ∧
      (∀ k ∈ sched, s.next < k → k ≤ s'.next → ¬ PipeBenign d useStrtbl texts { s with sched := sched } k → r.1 ≠ OK) := by
  exact no_leak_of_spec fun sched =>
    wbxml2wbxml_spec d hd useStrtbl texts htexts body version publicId { s with sched := sched } wf

/-- Without string table nothing is benign in the whole conversion. -/
theorem pipe_benign_false (d : Doc) (texts : TCtx → List ABuf) (t : Ledger) (k : Nat) : ¬ PipeBenign d false texts t k := by
  rintro ⟨c, s1, _, hb⟩
  exact tree_benign_false (texts c) s1 k hb

/-- `oom_result_sound` for the WBXML → tree → WBXML conversion — parser main loop, tree-building
    call-backs, glue, encoder, result — for every well-formed document shape and EVERY k: the run
    ends without fault; the status is an error with no output and nothing left allocated, or the
    conversion returns exactly what it returns without failure and only that output is left; with
    the string table, up to the encoder's benign requests (`PipeBenign` = `TreeBenign` after the first
    half; see `oom_result_sound_strict_fails_with_strtbl` for why the strict clause cannot hold there). -/
theorem oom_result_sound_wbxml2wbxml (d : Doc) (hd : d.wf) (useStrtbl : Bool) (texts : TCtx → List ABuf)
    (htexts : ∀ c, ∀ t ∈ texts c, t.hdr ∈ c.owned) (body : TCtx → List Bytes) (version publicId : Nat)
    (s : Ledger) (wf : s.WF) :
    OomResultSoundUpTo (wbxml2wbxml d useStrtbl texts body version publicId) s (PipeBenign d useStrtbl texts) :=
  oom_upto_of_spec fun k =>
    wbxml2wbxml_spec d hd useStrtbl texts htexts body version publicId { s with sched := failAt k } wf

/-- Without string table: the strict clause, for the whole conversion. -/
theorem oom_result_sound_wbxml2wbxml_no_strtbl (d : Doc) (hd : d.wf) (texts : TCtx → List ABuf)
    (htexts : ∀ c, ∀ t ∈ texts c, t.hdr ∈ c.owned) (body : TCtx → List Bytes) (version publicId : Nat)
    (s : Ledger) (wf : s.WF) :
    OomResultSound (wbxml2wbxml d false texts body version publicId) s :=
  (oom_result_sound_wbxml2wbxml d hd false texts htexts body version publicId s wf).strict
    (fun t k => pipe_benign_false d texts t k)

/-! ## The XML output half: `wbxml_tree_to_xml` (`Model/AllocXml.lean`) -/

theorem bufs_live {B : List ABuf} {s : Ledger} (hb : ∀ t ∈ B, t.hdr ∈ s.live) :
    ∀ i ∈ B.map (·.hdr), i ∈ s.live ∧ i ∉ ([] : List Nat) := fun _ hi =>
  have ⟨t, ht, e⟩ := List.mem_map.1 hi
  ⟨e ▸ hb t ht, List.not_mem_nil⟩

/-- A run of `wbxml_buffer_append_*` calls on `encoder->output` (every piece of the document is
    written by one): the encoder stays the caller's, the output block may move, a failure is the
    error code of the call site. -/
theorem xml_appends_clean (e : AEnc) (err : Nat) (herr : err ≠ OK) (chunks : List Bytes) (s : Ledger) (wf : s.WF)
    (rdy : EncReady e s) :
    AnyScheduleClean (appendAll e err chunks) (fun r => r.2 != OK) s e.owned (fun r => r.1.owned) :=
  clean_of_tri (appendAll_tri e err herr chunks (.of_out rdy.2)) (fun _ => bne_iff_ne.2) wf rdy.1 nofun

/-- `xml_encode_attr`: the temporary copy of the value never outlives the call. -/
theorem xml_attr_clean (g : XGen) (e : AEnc) (name value : Bytes) (s : Ledger) (wf : s.WF) (rdy : EncReady e s) :
    AnyScheduleClean (xmlAttr g e name value) (fun r => r.2 != OK) s e.owned (fun r => r.1.owned) :=
  clean_of_tri (xmlAttr_tri g e name value (.of_out rdy.2)) (fun _ => bne_iff_ne.2) wf rdy.1 nofun

set_option linter.unusedVariables false in
/-- `wbxml_buffer_encode_base64` on the temporary copy of a binary element's text.  (`hst` is not needed:
    a static buffer is refused by the append, which is reported.) -/
theorem buffer_encode_base64_clean (tmp : ABuf) (s : Ledger) (wf : s.WF) (own : Owns s tmp.owned) (hok : tmp.ok)
    (hst : tmp.isStatic = false) :
    AnyScheduleClean (bufEncodeB64 tmp) (fun r => r.2 != OK) s tmp.owned (fun r => r.1.owned) :=
  clean_of_tri (bufEncodeB64_tri tmp hok) (fun _ => bne_iff_ne.2) wf own nofun

/-- `parse_text` + `xml_encode_text` (copy, SyncML replacement, base64 rewrite, entities, CDATA text). -/
theorem xml_text_clean (g : XGen) (l : XLang) (e : AEnc) (st : XSt) (content : ABuf) (s : Ledger) (wf : s.WF)
    (rdy : EncReady e s) (hc : content.hdr ∈ s.live) :
    AnyScheduleClean (xmlText g l e st content) (fun r => r.2.2 != OK) s e.owned (fun r => r.1.owned) :=
  (Classical.em (content.hdr ∈ e.owned)).elim
    (fun h => clean_of_tri (xmlText_tri (R := []) g l e st content (.inl h) (.of_out rdy.2)) (fun _ => bne_iff_ne.2) wf rdy.1 nofun)
    fun h => clean_of_tri (xmlText_tri (R := [content.hdr]) g l e st content (.inr List.mem_cons_self) (.of_out rdy.2)) (fun _ => bne_iff_ne.2) wf rdy.1
      fun _ hi => List.mem_singleton.1 hi ▸ ⟨hc, h⟩

/-- `xml_build_result` with `xml_fill_header`: only the result block is produced, with `WBXML_OK` only. -/
theorem xml_build_result_clean (g : XGen) (l : XLang) (e : AEnc) (withHeader : Bool) (s : Ledger) (wf : s.WF)
    (hl : e.hdr ∈ s.live) (hout : ∀ o, e.output = some o → o.hdr ∈ s.live ∧ o.ok) :
    AnyScheduleClean (xmlBuildResult g l e withHeader) (fun r => r.1 != OK) s [] (fun r => ownedResult r.2) :=
  clean_of_tri (xmlBuildResult_tri g l e withHeader fun o ho => (hout o ho).2) (fun _ => bne_iff_ne.2) wf (.nil s) fun i hi =>
    ⟨(List.mem_cons.1 hi).elim (· ▸ hl) fun h => have ⟨o, ho, e⟩ := List.mem_map.1 h; e ▸ (hout o (by simpa using ho)).1, List.not_mem_nil⟩

/-- The node walk (`parse_node` in XML mode) for EVERY tree — elements with attributes, text, CDATA
    sections, embedded trees with their second encoder, nodes the printer refuses — from any state of
    the walk and under EVERY schedule (structural induction over the tree): no fault; the encoder
    stays the caller's; every temporary is gone; a failed request is an error code. -/
theorem xml_node_clean (g : XGen) (l : XLang) (n : XNode) (e : AEnc) (st : XSt) (s : Ledger) (wf : s.WF) (rdy : EncReady e s)
    (hb : ∀ t ∈ n.bufs, t.hdr ∈ s.live ∧ t.hdr ∉ e.owned) :
    AnyScheduleClean (xmlNode g l e st n) (fun r => r.2.2 != OK) s e.owned (fun r => r.1.owned) :=
  clean_of_tri (xmlNode_tri g n l e st (fun _ => List.mem_map_of_mem) (.of_out rdy.2)) (fun _ => bne_iff_ne.2) wf rdy.1 fun _ hi =>
    have ⟨t, ht, e⟩ := List.mem_map.1 hi
    e ▸ hb t ht

/-- The whole of `wbxml_tree_to_xml` for every tree whose text buffers are live,
    every generation type / indentation / language shape and EVERY schedule: no fault; an error code
    with NOTHING left allocated, or `WBXML_OK` with the result block as the only thing left; an error
    whenever a request failed.  Benign sites of the XML output half: none. -/
theorem tree_to_xml_clean (g : XGen) (l : XLang) (root : XNode) (s : Ledger) (wf : s.WF)
    (hb : ∀ t ∈ root.bufs, t.hdr ∈ s.live) :
    AnyScheduleClean (treeToXml g l root) (fun r => r.1 != OK) s [] (fun r => ownedResult r.2) :=
  clean_of_tri (treeToXml_tri g l root fun _ => List.mem_map_of_mem) (fun _ => bne_iff_ne.2) wf (.nil s) (bufs_live hb)

/-- … and an error never comes with a result. -/
theorem tree_to_xml_result (g : XGen) (l : XLang) (root : XNode) (s : Ledger) (wf : s.WF)
    (hb : ∀ t ∈ root.bufs, t.hdr ∈ s.live) :
    Good (treeToXml g l root) s (fun r _ => r.1 ≠ OK → r.2 = none) :=
  (treeToXml_tri g l root fun _ => List.mem_map_of_mem).result wf (.nil s) (bufs_live hb)

/-- The strict clause for `wbxml_tree_to_xml` on its own. -/
theorem oom_result_sound_tree_to_xml (g : XGen) (l : XLang) (root : XNode) (s : Ledger) (wf : s.WF)
    (hb : ∀ t ∈ root.bufs, t.hdr ∈ s.live) :
    OomResultSound (treeToXml g l root) s :=
  oom_sound_of_spec fun sched =>
    ((treeToXml_tri g l root fun _ => List.mem_map_of_mem).good (s := { s with sched := sched }) wf (.nil _) (bufs_live hb)).mono
      fun _ _ ⟨c, e, x⟩ => ⟨c, x, e⟩

/-- A sample: `<a id="x&quot;">T<![CDATA[]]]]><![CDATA[>]]></a>` in indent mode — text buffers are the blocks
    1 … 4 of the tree — un-failed (the XML text), and with request 13 − 4 = the 9th of the call (a `realloc` of the output buffer
    while the attribute value is written: the temporary copy is live) failing: error 90, nothing but
    the tree left (kernel-evaluated). -/
def sampleXLang : XLang := ⟨true, false, false, b!"r", b!"P", b!"d"⟩
def sampleXTree : XNode :=
  .elt b!"a" none false false [⟨some b!"id", b!"x\""⟩] [.text ⟨1, some 2, b!"T", 2, false⟩, .cdata [.text ⟨3, some 4, b!"]]>", 4, false⟩]]
def sampleXStart : Ledger := { next := 4, live := [1, 2, 3, 4] }

example : sampleXStart.WF ∧ ∀ t ∈ sampleXTree.bufs, t.hdr ∈ sampleXStart.live := by
  refine ⟨fun i hi => ?_, fun t ht => ?_⟩
  · simp [sampleXStart] at hi ⊢; omega
  · simp [sampleXTree, XNode.bufs, XNode.bufsL] at ht; rcases ht with rfl | rfl <;> simp [sampleXStart]

theorem sample_xml_unfailed_and_failed :
    resultIs (run (treeToXml ⟨1, 1, true, true⟩ sampleXLang sampleXTree) sampleXStart) OK
      (some b!"<?xml version=\"1.0\"?>\n<!DOCTYPE r PUBLIC \"P\" \"d\">\n<a id=\"x&quot;\">T<![CDATA[]]]]><![CDATA[>]]></a>\n") = true ∧
    resultIs (run (treeToXml ⟨1, 1, true, true⟩ sampleXLang sampleXTree) { sampleXStart with sched := failAt 13 }) EAPPEND none = true ∧
    (run (treeToXml ⟨1, 1, true, true⟩ sampleXLang sampleXTree) { sampleXStart with sched := failAt 13 }).2.live = [1, 2, 3, 4] := by
  decide +kernel

/-! ## A whole conversion: WBXML → tree → XML -/

/-- `wbxml_tree_from_wbxml` ∘ `wbxml_tree_to_xml` ∘ `wbxml_tree_destroy` under ANY schedule, for every
    well-formed document shape and whatever the printer reads off the tree (`xtree`, its text buffers
    being the tree's): no fault; an error code with nothing left allocated, or `WBXML_OK` with only the
    result left; an error whenever a request failed. -/
theorem wbxml2xml_clean (d : Doc) (hd : d.wf) (g : XGen) (l : XLang) (xtree : TCtx → XNode)
    (hx : ∀ c, ∀ t ∈ (xtree c).bufs, t.hdr ∈ c.owned) (s : Ledger) (wf : s.WF) :
    AnyScheduleClean (wbxml2xml d g l xtree) (fun r => r.1 != OK) s [] (fun r => ownedResult r.2) :=
  clean_of_spec fun sched => (wbxml2xml_spec d hd g l xtree hx { s with sched := sched } wf).mono
    fun r t ⟨c, _, h⟩ => ⟨c, fun hh => by simpa using h hh⟩

/-- `oom_result_sound` for the WBXML → tree → XML conversion, strict: parser main loop, tree-building
    call-backs, glue, XML printer with all its temporaries, result — for every well-formed document
    shape and EVERY k: the run ends without fault; the status is an error with no output and nothing
    left allocated, or the conversion returns exactly what it returns without failure and only that
    output is left.  Neither half has a benign request. -/
theorem oom_result_sound_wbxml2xml (d : Doc) (hd : d.wf) (g : XGen) (l : XLang) (xtree : TCtx → XNode)
    (hx : ∀ c, ∀ t ∈ (xtree c).bufs, t.hdr ∈ c.owned) (s : Ledger) (wf : s.WF) :
    OomResultSound (wbxml2xml d g l xtree) s :=
  oom_sound_of_spec fun sched => wbxml2xml_spec d hd g l xtree hx { s with sched := sched } wf

/-! ## The Expat call-backs: `wbxml_tree_from_xml` (`Model/AllocTreeXml.lean`) -/

/-- `wbxml_tree_add_xml_elt_with_attrs` (tag, node, link into the tree, attribute list with the
    `"xml:"` name buffer, names, values, list cells; removal of the half-built node on failure). -/
theorem tree_add_xml_elt_with_attrs_clean (c : TCtx) (tag : XName) (attrs : List XAttrIn) (s : Ledger) (wf : s.WF) (hok : c.ok)
    (own : Owns s c.owned) :
    AnyScheduleClean (treeAddXmlEltWithAttrs c tag attrs) (fun r => !r.2) s c.owned (fun r => r.1.owned) :=
  clean_of_tri (treeAddXmlEltWithAttrs_tri c tag attrs hok) (fun _ h => (Bool.not_eq_true' _).mpr h) wf own nofun

/-- `wbxml_buffer_decode_base64` on the cached text of a binary element (the result block of
    `wbxml_base64_decode` is released on every exit, also when nothing could be decoded). -/
theorem buffer_decode_base64_clean (b : ABuf) (s : Ledger) (wf : s.WF) (own : Owns s b.owned) (hok : b.ok) :
    AnyScheduleClean (bufDecodeB64 b) (fun r => r.2 != OK) s b.owned (fun r => r.1.owned) :=
  clean_of_tri (bufDecodeB64_tri b hok) (fun _ => bne_iff_ne.2) wf own nofun

/-- One call-back of `wbxml_tree_clb_xml.c` — start element (with attributes), end element (with
    the base64 decoding of a binary element's cache), start / end of a CDATA section, characters
    (LF → CRLF, missing CDATA section, cache of a binary element, text node) — from any consistent
    context: the context keeps owning exactly its blocks; a failed request leaves an error code. -/
theorem tree_clb_xml_event_clean (binRow : Nat → Bool) (c : TCtx) (e : XEvent) (s : Ledger) (wf : s.WF) (hok : c.ok)
    (own : Owns s c.owned) :
    AnyScheduleClean (clbXmlEvent binRow c e) (fun c' => c'.error != OK) s c.owned TCtx.owned :=
  clean_of_tri (clbXmlEvent_tri binRow c e hok) (fun _ => bne_iff_ne.2) wf own nofun

/-- … and any list of them (induction on the list). -/
theorem tree_clb_xml_events_clean (binRow : Nat → Bool) (events : List XEvent) (c : TCtx) (s : Ledger) (wf : s.WF) (hok : c.ok)
    (own : Owns s c.owned) :
    AnyScheduleClean (clbXmlEvents binRow c events) (fun c' => c'.error != OK) s c.owned TCtx.owned :=
  clean_of_tri (clbXmlEvents_tri binRow events c hok) (fun _ => bne_iff_ne.2) wf own nofun

/-- `wbxml_tree_from_xml` around the call-backs Expat makes
    (`wbxml_tree_create`, the events, `wbxml_tree_destroy` when Expat or a call-back reported an
    error), for EVERY list of events, every table of binary tags, either outcome of `XML_Parse` and
    every schedule: no fault; an error code with nothing left allocated, or `WBXML_OK` with the tree
    owning everything that is left; an error whenever a request failed.  Benign sites: none. -/
theorem tree_from_xml_events_clean (binRow : Nat → Bool) (events : List XEvent) (parseOk : Bool) (s : Ledger) (wf : s.WF) :
    AnyScheduleClean (treeFromXml binRow events parseOk) (fun r => r.1 != OK) s [] (fun r => ownedCtxOpt r.2) :=
  clean_of_tri (treeFromXml_tri binRow events parseOk) (fun _ => bne_iff_ne.2) wf (.nil s) nofun

/-- … an error never comes with a tree, and a tree that is returned is consistent and error-free. -/
theorem tree_from_xml_events_result (binRow : Nat → Bool) (events : List XEvent) (parseOk : Bool) (s : Ledger) (wf : s.WF) :
    Good (treeFromXml binRow events parseOk) s (fun r _ => (r.1 ≠ OK → r.2 = none) ∧ ∀ c, r.2 = some c → c.ok ∧ c.error = OK) :=
  (treeFromXml_tri binRow events parseOk).result wf (.nil s) nofun

theorem single_failure_clean_tree_from_xml (binRow : Nat → Bool) (events : List XEvent) (parseOk : Bool) (s : Ledger) (wf : s.WF) :
    SingleFailureClean (treeFromXml binRow events parseOk) (fun r => r.1 != OK) s [] (fun r => ownedCtxOpt r.2) :=
  (tree_from_xml_events_clean binRow events parseOk s wf).single

/-- A sample: `<T0 xml:lang="en" a="v"><T1>QUJD\nRA==</T1>x</T0>` with `T1` a binary tag — un-failed: a tree
    of 24 blocks whose binary element holds the decoded text; with request 25 (the result block of
    `wbxml_base64_decode`) failing: `WBXML_ERROR_B64_DEC`, nothing left; and when Expat reports a parse error
    after these events: `WBXML_ERROR_XML_PARSING_FAILED`, nothing left (kernel-evaluated). -/
def sampleXEvents : List XEvent :=
  [.start true (.token 0) [⟨some b!"lang", .token 0, b!"en"⟩, ⟨none, .literal b!"a", b!"v"⟩],
   .start true (.token 1) [], .chars b!"QUJD" .normal, .chars b!"\n" .normal, .chars b!"RA==" .normal, .stop,
   .chars b!"x" .normal, .stop]

theorem sample_from_xml_unfailed_and_failed :
    fromWbxmlIs (run (treeFromXml (· == 1) sampleXEvents true) (Ledger.start [])) OK true 24 = true ∧
    fromWbxmlIs (run (treeFromXml (· == 1) sampleXEvents true) (Ledger.start (failAt 25))) EB64DEC false 0 = true ∧
    fromWbxmlIs (run (treeFromXml (· == 1) sampleXEvents false) (Ledger.start [])) EXMLPARSE false 0 = true := by
  decide +kernel

/-! ## Whole conversions from XML: XML → tree → WBXML, XML → tree → XML -/

/-- `wbxml_tree_from_xml` ∘ `wbxml_tree_to_wbxml` ∘ `wbxml_tree_destroy` under ANY schedule: no fault, no
    result with an error code, nothing but the result stays allocated, and a failed request that is
    not one of the encoder's benign string-table requests (`XPipeBenign`) yields an error code. -/
theorem xml2wbxml_no_leak (binRow : Nat → Bool) (events : List XEvent) (parseOk : Bool) (useStrtbl : Bool)
    (texts : TCtx → List ABuf) (htexts : ∀ c, ∀ t ∈ texts c, t.hdr ∈ c.owned) (body : TCtx → List Bytes) (version publicId : Nat)
    (s : Ledger) (wf : s.WF) :
    ∀ sched : List Nat, ∃ r s', run (xml2wbxml binRow events parseOk useStrtbl texts body version publicId) { s with sched := sched } = (.ok r, s') ∧
      (r.1 ≠ OK → r.2 = none) ∧ (∀ i, i ∈ s'.live ↔ i ∈ s.live ∨ i ∈ ownedResult r.2) ∧
      (∀ k ∈ sched, s.next < k → k ≤ s'.next → ¬ XPipeBenign binRow events parseOk useStrtbl texts { s with sched := sched } k → r.1 ≠ OK) := by
  exact no_leak_of_spec fun sched =>
    xml2wbxml_spec binRow events parseOk useStrtbl texts htexts body version publicId { s with sched := sched } wf

theorem xpipe_benign_false (binRow : Nat → Bool) (events : List XEvent) (parseOk : Bool) (texts : TCtx → List ABuf) (t : Ledger) (k : Nat) :
    ¬ XPipeBenign binRow events parseOk false texts t k := by
  rintro ⟨c, s1, _, hb⟩
  exact tree_benign_false (texts c) s1 k hb

/-- `oom_result_sound` for the XML → tree → WBXML conversion: the Expat call-backs and the glue of
    `wbxml_tree_from_xml` for EVERY event list, composed with the encoder half, for EVERY k; with the
    string table up to the encoder's benign requests (`XPipeBenign` = `TreeBenign` after the first half). -/
theorem oom_result_sound_xml2wbxml (binRow : Nat → Bool) (events : List XEvent) (parseOk : Bool) (useStrtbl : Bool)
    (texts : TCtx → List ABuf) (htexts : ∀ c, ∀ t ∈ texts c, t.hdr ∈ c.owned) (body : TCtx → List Bytes) (version publicId : Nat)
    (s : Ledger) (wf : s.WF) :
    OomResultSoundUpTo (xml2wbxml binRow events parseOk useStrtbl texts body version publicId) s
      (XPipeBenign binRow events parseOk useStrtbl texts) :=
  oom_upto_of_spec fun k =>
    xml2wbxml_spec binRow events parseOk useStrtbl texts htexts body version publicId { s with sched := failAt k } wf

/-- Without string table: the strict clause. -/
theorem oom_result_sound_xml2wbxml_no_strtbl (binRow : Nat → Bool) (events : List XEvent) (parseOk : Bool)
    (texts : TCtx → List ABuf) (htexts : ∀ c, ∀ t ∈ texts c, t.hdr ∈ c.owned) (body : TCtx → List Bytes) (version publicId : Nat)
    (s : Ledger) (wf : s.WF) :
    OomResultSound (xml2wbxml binRow events parseOk false texts body version publicId) s :=
  (oom_result_sound_xml2wbxml binRow events parseOk false texts htexts body version publicId s wf).strict
    (fun t k => xpipe_benign_false binRow events parseOk texts t k)

/-- XML → tree → XML, strict: neither the call-backs nor the printer have a benign request. -/
theorem oom_result_sound_xml2xml (binRow : Nat → Bool) (events : List XEvent) (parseOk : Bool) (g : XGen) (l : XLang)
    (xtree : TCtx → XNode) (hx : ∀ c, ∀ t ∈ (xtree c).bufs, t.hdr ∈ c.owned) (s : Ledger) (wf : s.WF) :
    OomResultSound (xml2xml binRow events parseOk g l xtree) s :=
  oom_sound_of_spec fun sched => xml2xml_spec binRow events parseOk g l xtree hx { s with sched := sched } wf

/-! ## `oom_result_sound`: the four public conversions in one statement -/

/-- The clause of the property for the four conversions an application can run — WBXML → XML,
    XML → WBXML, and the two round trips through the tree (WBXML → WBXML, XML → XML) — each as
    `from` ∘ `to` ∘ `wbxml_tree_destroy` on the ledger, for EVERY well-formed WBXML document shape /
    EVERY list of Expat call-backs, every option set of the printers and encoders, EVERY k: the run
    ends without fault (no double free, no use after free, no NULL dereference); the status is an
    error with no output and nothing left allocated, or the conversion returns exactly what it returns
    without failure and only that output is left.  The two conversions that end in the WBXML encoder
    hold up to its benign string-table requests (`PipeBenign` / `XPipeBenign`; strict without string
    table: `oom_result_sound_wbxml2wbxml_no_strtbl`, `oom_result_sound_xml2wbxml_no_strtbl`); the two
    that end in the XML printer are strict.

    It keeps the suffix `_partial` because the following allocate and are in NO model (they are
    covered by the conversion-level enumeration only, a TEST):
      * the body of the WBXML encoder — `wbxml_encode_value_element_buffer` with its value-element
        lists and buffers, the typed encoders (WV, date-time, OTA icon, DRMREL), the CDATA buffer of
        `parse_cdata`, and `parse_text`'s in-place `wbxml_buffer_insert_cstr(node->content, "\r", 0)`
        (a `realloc` of a TREE buffer inside the encoder; its result was ignored until fix 8847582,
        found while this model was written): the model takes the body as the chunks that are
        appended (`body`);
      * the Wireless-Village / date-time decoders and the WV extension values of the WBXML parser;
      * an embedded document: `WBXML_SYNCML_DATA_TYPE_WBXML` inside the WBXML `characters` call-back
        (nested `wbxml_tree_from_wbxml`; the known finding `check-public-id-oom-embedded` lives there)
        and the `DevInf` / `MgmtTree` element of the XML call-backs (nested `wbxml_tree_from_xml`,
        with the skip-level counter);
      * Expat itself (libc `malloc`: neither failed nor on the ledger) and the converter objects
        (`wbxml_conv_*_create`: one block, released by `wbxml_conv_*_destroy`). -/
theorem oom_result_sound_partial
    (d : Doc) (hd : d.wf) (binRow : Nat → Bool) (events : List XEvent) (parseOk : Bool)
    (g : XGen) (l : XLang) (xtree : TCtx → XNode) (hx : ∀ c, ∀ t ∈ (xtree c).bufs, t.hdr ∈ c.owned)
    (useStrtbl : Bool) (texts : TCtx → List ABuf) (htexts : ∀ c, ∀ t ∈ texts c, t.hdr ∈ c.owned)
    (body : TCtx → List Bytes) (version publicId : Nat) (s : Ledger) (wf : s.WF) :
    OomResultSound (wbxml2xml d g l xtree) s ∧
    OomResultSoundUpTo (xml2wbxml binRow events parseOk useStrtbl texts body version publicId) s
      (XPipeBenign binRow events parseOk useStrtbl texts) ∧
    OomResultSoundUpTo (wbxml2wbxml d useStrtbl texts body version publicId) s (PipeBenign d useStrtbl texts) ∧
    OomResultSound (xml2xml binRow events parseOk g l xtree) s :=
  ⟨oom_result_sound_wbxml2xml d hd g l xtree hx s wf,
   oom_result_sound_xml2wbxml binRow events parseOk useStrtbl texts htexts body version publicId s wf,
   oom_result_sound_wbxml2wbxml d hd useStrtbl texts htexts body version publicId s wf,
   oom_result_sound_xml2xml binRow events parseOk g l xtree hx s wf⟩

/-- The hypotheses of `oom_result_sound_partial` are satisfiable together (the samples above; the
    printer and the encoder read nothing off the tree). -/
example : ∃ (d : Doc) (xtree : TCtx → XNode) (texts : TCtx → List ABuf) (s : Ledger),
    d.wf ∧ (∀ c, ∀ t ∈ (xtree c).bufs, t.hdr ∈ c.owned) ∧ (∀ c, ∀ t ∈ texts c, t.hdr ∈ c.owned) ∧ s.WF := by
  refine ⟨⟨[3, 1, 106, 0], OK, .none, .known, [], .elem (.token 5) [] false, []⟩, fun _ => .elt b!"a" none false false [] [],
    fun _ => [], Ledger.start [], ?_, ?_, ?_, ?_⟩
  · exact ⟨fun a ha => (by cases ha), ⟨trivial, fun a ha => (by cases ha)⟩, fun it hit => (by cases hit)⟩
  · intro c t ht; simp [XNode.bufs, XNode.bufsL] at ht
  · intro c t ht; cases ht
  · intro i hi; cases hi

/-! ## The property's statement for one function, as `single_failure_clean` -/

/-- `single_failure_clean` — the form quoted in DESIGN §5 C16 — for `parse_element`: for EVERY k. -/
theorem single_failure_clean_parse_element (t : TagShape) (ht : t.wf) (attrs : List AttrShape)
    (hshape : ∀ a ∈ attrs, a.start.wf) (s : Ledger) (wf : s.WF) :
    SingleFailureClean (parseElement t attrs) (fun ret => ret != OK) s [] (fun _ => []) :=
  (parse_element_clean t ht attrs hshape s wf).single

theorem pair_failure_clean_parse_element (t : TagShape) (ht : t.wf) (attrs : List AttrShape)
    (hshape : ∀ a ∈ attrs, a.start.wf) (s : Ledger) (wf : s.WF) :
    PairFailureClean (parseElement t attrs) (fun ret => ret != OK) s [] (fun _ => []) :=
  (parse_element_clean t ht attrs hshape s wf).pair

/-! ## The code before the `fix:` commits: kernel-checked `(function, k)` witnesses -/

/-- Did the run end in a fault? -/
def faulted {α : Type} (r : Except Err α × Ledger) : Bool :=
  match r.1 with
  | .error (.ub _) => true
  | _ => false

/-- `grow_buff` (old), k = 3: the append fails cleanly for the caller, but the old data block (id 2)
    is never released. -/
theorem grow_buff_old_leaks : (run Old.growScenario (Ledger.start (failAt 3))).2.live = [2] := by decide +kernel

/-- … and a caller that carries on writes through the NULL `data` pointer. -/
theorem grow_buff_old_null_write : faulted (run Old.growScenario2 (Ledger.start (failAt 3))) = true := by decide +kernel

/-- The repaired function on the same scenario: nothing live, no fault. -/
theorem grow_buff_new_same_scenario :
    (run Old.growScenarioNew (Ledger.start (failAt 3))).2.live = [] ∧
    faulted (run Old.growScenarioNew (Ledger.start (failAt 3))) = false := by decide +kernel

/-- `wbxml_tree_node_add_attr` (old), k = 11 (the list element): the caller's attribute is destroyed,
    so the caller's own destroy is a double free. -/
theorem add_attr_old_double_free :
    faulted (run (Old.addAttrScenario Old.nodeAddAttr) (Ledger.start (failAt 11))) = true := by decide +kernel

theorem add_attr_new_same_scenario :
    faulted (run (Old.addAttrScenario nodeAddAttr) (Ledger.start (failAt 11))) = false ∧
    (run (Old.addAttrScenario nodeAddAttr) (Ledger.start (failAt 11))).2.live = [] := by decide +kernel

/-- `encoder_encode_tree` (old), k = 3 (the output buffer): the encoder is destroyed by the callee
    and used / freed again by `wbxml_tree_to_wbxml`. -/
theorem encode_tree_old_double_destroy :
    faulted (run (Old.treeToWbxml false [] [[0x45]] 3 10) (Ledger.start (failAt 3))) = true := by decide +kernel

theorem encode_tree_new_same_scenario :
    faulted (run (treeToWbxml false [] [[0x45]] 3 10) (Ledger.start (failAt 3))) = false ∧
    (run (treeToWbxml false [] [[0x45]] 3 10) (Ledger.start (failAt 3))).2.live = [] := by decide +kernel

/-- `parse_attr_start` (old), literal attribute name with a non-empty value, k = 3 (the name buffer):
    OK is returned with a NULL name, which `parse_attribute` dereferences. -/
theorem parse_attr_start_old_null_name :
    faulted (run (Old.parseAttribute ⟨.literal b!"id", [.sta b!"x"]⟩) (Ledger.start (failAt 3))) = true := by decide +kernel

/-- `parse_element` (old), two attributes, k = 15 (the second `realloc`): the first table and the
    attribute in it stay allocated. -/
theorem parse_element_old_leaks_table :
    (run (Old.parseElement (.token 5) [⟨.token 0 none, [.sta b!"ab"]⟩, ⟨.token 1 none, [.sta b!"c"]⟩]) (Ledger.start (failAt 15))).2.live ≠ [] := by
  decide +kernel

/-- The negation of the clause for the old `parse_element`: there IS a k that breaks it. -/
theorem parse_element_old_not_single_failure_clean :
    ¬ SingleFailureClean (Old.parseElement (.token 5) [⟨.token 0 none, [.sta b!"ab"]⟩, ⟨.token 1 none, [.sta b!"c"]⟩])
        (fun ret => ret != OK) (Ledger.start []) [] (fun _ => []) := by
  intro h
  obtain ⟨r, s', hrun, hlive, _⟩ := h 15
  have hl : s'.live = (run (Old.parseElement (.token 5) [⟨.token 0 none, [.sta b!"ab"]⟩, ⟨.token 1 none, [.sta b!"c"]⟩])
      (Ledger.start (failAt 15))).2.live := by
    have : ({ Ledger.start [] with sched := failAt 15 } : Ledger) = Ledger.start (failAt 15) := rfl
    rw [this] at hrun; rw [hrun]
  have hne := parse_element_old_leaks_table
  rw [← hl] at hne
  apply hne
  cases hs : s'.live with
  | nil => rfl
  | cons a rest =>
    have := (hlive a).1 (by rw [hs]; simp)
    simp [Ledger.start] at this

end Wbxml.Props.C16
