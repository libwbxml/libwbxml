/-
  C20 — the command-line tools report the library's verdict and nothing else.

  All theorems are about `Model.Tool.tool t g lib w argv`: tool `t` (wbxml2xml / xml2wbxml) linked with
  option scanner `g` (attgetopt.c or the C library's getopt), for EVERY library behaviour `lib`, EVERY
  world `w` (stdin, what `fopen` answers for every path, whether the output device stores bytes, the
  `fread` schedule) and EVERY argv made of C strings. The model is tied to the executables by
  `tools/props/c20.py`.
-/
import Wbxml.Lemmas.ToolMain
import Wbxml.Gen.Tables
namespace Wbxml.Props.C20
open Wbxml Wbxml.Model.Tool

/-- `wbxml_getopt` (attgetopt.c), run to EOF on any argv: never reads outside an argv string or
    dereferences `argv[argc]`, terminates within the model's fuel, and hands `main` an argument with
    every option that is declared with `:`. -/
theorem att_getopt_safe_and_total (opts : Bytes) (argv : Argv) (hn : NulFree argv) :
    ∃ sr, attScan opts argv = .ok sr ∧ ScanOK opts argv sr :=
  attScan_ok opts argv hn

/-- The same contract for the C library's getopt as specified by `gnuScan`. -/
theorem gnu_getopt_contract (opts : Bytes) (argv : Argv) : ScanOK opts argv (gnuScan opts argv) :=
  gnuScan_ok opts argv

/-- Quirk of attgetopt.c recorded in DESIGN Appendix C: a leading `--` is not an end-of-options marker
    but the illegal option `-`; the C library's getopt treats it as the marker. -/
theorem att_dashdash_is_illegal_option :
    (match attScan (toolOpts .x2w) [b!"p", b!"--", b!"f"] with
      | .ok r => r.evs.map (·.opt) == [63] && r.optind == 2
      | .error _ => false) = true ∧
    ((gnuScan (toolOpts .x2w) [b!"p", b!"--", b!"f"]).evs, (gnuScan (toolOpts .x2w) [b!"p", b!"--", b!"f"]).optind)
      = ([], 2) := by decide

/-- The mid-cluster `--` test of attgetopt.c (`sp != 1` and `argv[optind]` is `--`) can never fire:
    in a state with `sp > 1` the current word has more than two characters. -/
theorem att_midcluster_dashdash_dead (argv : Argv) (st : GState) (hi : Inv argv st) (hsp : st.sp ≠ 1) :
    argv[st.optind]? ≠ some b!"--" := by
  rcases hi.2 with h | ⟨w, hw, h1, h2⟩
  · exact absurd h hsp
  · rw [hw]
    exact fun h => midword_ne_dashdash h1 h2 (Option.some.inj h)

/-- Every language name `-l` accepts denotes a language of the library's (regenerated) main table. -/
theorem lang_names_are_library_languages :
    langNames.all (fun p => Gen.main.any (fun l => l.id == p.2)) = true := by decide +kernel

/-- Unknown options, missing arguments, unreadable input, unwritable output — whatever argv, world
    and library: the run ends with an exit status, never in a fault. -/
theorem never_crashes (t : Tool) (g : Getopt) (lib : Lib) (w : World) (argv : Argv) (hn : NulFree argv) :
    ∃ o, tool t g lib w argv = .done o :=
  let ⟨o, h, _⟩ := tool_shape t g lib w argv hn
  ⟨o, h⟩

/-- `fread` may cut the input into any pieces of 1…1000 bytes: the buffer handed on is the input. -/
theorem reads_whole_input (t : Tool) (sched : List Nat) (content : Bytes) :
    readAll t sched content = .data content :=
  readAll_spec t sched content

/-- The bytes given to the library are the complete contents of the designated input (stdin for `-`). -/
theorem conversion_input_is_designated_input (t : Tool) (g : Getopt) (lib : Lib) (w : World) (argv : Argv)
    (hn : NulFree argv) (o : Out) (h : tool t g lib w argv = .done o) (p : Params) (i : Bytes)
    (hc : o.call = some (p, i)) :
    ∃ sr, scan g (toolOpts t) argv = .ok sr ∧ InputIs w sr i := by
  obtain ⟨pre, _, ⟨ls, _, rfl⟩ | ⟨sr, p', i', hs, hi, hsh⟩⟩ := shape_of_done hn h
  · cases hc
  · cases hsh.call.symm.trans hc
    exact ⟨sr, hs, hi⟩

/-- The result does not depend on how `fread` cuts the input. -/
theorem chunking_is_unobservable (t : Tool) (g : Getopt) (lib : Lib) (w : World) (argv : Argv) (s : List Nat) :
    tool t g lib { w with sched := s } argv = tool t g lib w argv := by
  have h : ∀ p output sr errs, afterOpts t lib { w with sched := s } p output sr errs = afterOpts t lib w p output sr errs := by
    intro p output sr errs
    simp only [afterOpts, readAll_spec]
    rfl
  cases t <;> simp only [tool, toolMain, w2xMain, x2wMain, h]

theorem conv_success_no_output (t : Tool) (lib : Lib) (w : World) (p : Params) (i : Bytes)
    (pre : List Line) (res : Bytes) (h : lib.conv p i = .ok res) :
    convAndWrite t lib w p none i pre = .done ⟨0, [], pre ++ [.succeeded t], [], some (p, i)⟩ := by
  simp [convAndWrite, h, mkOut]

/-- `-o -`: stdout receives exactly the library's bytes. -/
theorem conv_success_stdout (t : Tool) (lib : Lib) (w : World) (p : Params) (i : Bytes)
    (pre : List Line) (res : Bytes) (h : lib.conv p i = .ok res) (hs : w.stdout = .ok) :
    convAndWrite t lib w p (some b!"-") i pre = .done ⟨0, res, pre ++ [.succeeded t], [], some (p, i)⟩ := by
  simp [convAndWrite, h, mkOut, hs, fwriteShort, flushFails, stored]

/-- `-o path`: the file is created/truncated and receives exactly the library's bytes; stdout nothing. -/
theorem conv_success_file (t : Tool) (lib : Lib) (w : World) (p : Params) (i : Bytes)
    (pre : List Line) (res path : Bytes) (h : lib.conv p i = .ok res) (hp : path ≠ b!"-")
    (hs : w.openW path = .ok .ok) :
    convAndWrite t lib w p (some path) i pre =
      .done ⟨0, [], pre ++ [.succeeded t], [⟨path, res, true⟩], some (p, i)⟩ := by
  simp [convAndWrite, h, mkOut, hs, hp, fwriteShort, flushFails, stored]

/-- Unwritable output (cannot be opened): reported on stderr, exit status still the library's 0,
    nothing written anywhere, no fault. -/
theorem conv_success_unopenable_output (t : Tool) (lib : Lib) (w : World) (p : Params) (i : Bytes)
    (pre : List Line) (res path : Bytes) (h : lib.conv p i = .ok res) (hp : path ≠ b!"-")
    (hs : w.openW path = .fail) :
    convAndWrite t lib w p (some path) i pre =
      .done ⟨0, [], pre ++ [.succeeded t, .failedOpenOut path], [], some (p, i)⟩ := by
  simp [convAndWrite, h, mkOut, hs, hp]

/-- Unwritable output (device stores nothing): a non-empty result is reported as a write error,
    whichever of `fwrite` / `fflush` / `fclose` notices. -/
theorem conv_success_full_device (t : Tool) (lib : Lib) (w : World) (p : Params) (i : Bytes)
    (pre : List Line) (res path : Bytes) (buf : Nat) (h : lib.conv p i = .ok res) (hne : res ≠ [])
    (hs : (path = b!"-" ∧ w.stdout = .full buf) ∨ (path ≠ b!"-" ∧ w.openW path = .ok (.full buf))) :
    ∃ o, convAndWrite t lib w p (some path) i pre = .done o ∧ Line.writeError path ∈ o.stderr ∧
      o.exit = 0 ∧ o.stdout = [] := by
  have hl : 0 < res.length := List.length_pos_iff.mpr hne
  have hbad : (fwriteShort (.full buf) res.length || flushFails (.full buf) res.length) = true := by
    simp only [fwriteShort, flushFails, hl, decide_true, Bool.true_and, Bool.or_eq_true, decide_eq_true_eq]
    omega
  have hst : stored (.full buf) res = false := by
    cases res with
    | nil => exact absurd rfl hne
    | cons _ _ => rfl
  rcases hs with ⟨hp, hs⟩ | ⟨hp, hs⟩
  · subst hp
    refine ⟨_, by simp only [convAndWrite, h, beq_self_eq_true, if_true, hs, hbad, hst, mkOut]; rfl, ?_, rfl, rfl⟩
    simp
  · have hb : (path == b!"-") = false := by simp [hp]
    refine ⟨_, by simp only [convAndWrite, h, hb, hs, hbad, hst, mkOut]; rfl, ?_, rfl, rfl⟩
    simp

/-- The exit status is the library's result code modulo 256 (0 for success, and 0
    when the library was never called). -/
theorem exit_is_lib_code (t : Tool) (g : Getopt) (lib : Lib) (w : World) (argv : Argv) (hn : NulFree argv)
    (o : Out) (h : tool t g lib w argv = .done o) :
    o.exit = match o.call with
      | none => 0
      | some (p, i) => (match lib.conv p i with
        | .ok _ => 0
        | .error c => c % 256) := by
  obtain ⟨pre, _, ⟨ls, _, rfl⟩ | ⟨sr, p, i, _, _, ⟨c, hl, rfl⟩ | ⟨res, so, files, tail, hl, rfl, _⟩⟩⟩ :=
    shape_of_done hn h
  · rfl
  · simp [hl]
  · simp [hl]

/-- When the conversion fails (or never takes place) stdout stays empty and no
    file is opened for writing — an existing output file keeps its contents. -/
theorem no_output_on_failure (t : Tool) (g : Getopt) (lib : Lib) (w : World) (argv : Argv) (hn : NulFree argv)
    (o : Out) (h : tool t g lib w argv = .done o)
    (hf : o.call = none ∨ ∃ p i c, o.call = some (p, i) ∧ lib.conv p i = .error c) :
    o.stdout = [] ∧ o.files = [] := by
  obtain ⟨pre, _, ⟨ls, _, rfl⟩ | ⟨sr, p, i, _, _, ⟨c, hl, rfl⟩ | ⟨res, so, files, tail, hl, rfl, _⟩⟩⟩ :=
    shape_of_done hn h
  · exact ⟨rfl, rfl⟩
  · exact ⟨rfl, rfl⟩
  · -- a successful conversion is neither of the two cases of `hf`
    rcases hf with hf | ⟨p', i', c, hf, hc⟩
    · cases hf
    · cases hf
      rw [hl] at hc
      cases hc

/-- The "nothing else" half: whatever reaches stdout or a file is the library's
    result, byte for byte; at most one file is written. The "exactly" half for each output
    designation is `conv_success_stdout` / `conv_success_file` / `conv_success_no_output`. -/
theorem out_is_lib_bytes (t : Tool) (g : Getopt) (lib : Lib) (w : World) (argv : Argv) (hn : NulFree argv)
    (o : Out) (h : tool t g lib w argv = .done o) (p : Params) (i res : Bytes)
    (hc : o.call = some (p, i)) (hl : lib.conv p i = .ok res) :
    (o.stdout = [] ∨ o.stdout = res) ∧ o.files.length ≤ 1 ∧
    (∀ f ∈ o.files, f.complete = true → f.content = res) := by
  obtain ⟨pre, _, ⟨ls, _, rfl⟩ | ⟨sr, p', i', _, _, ⟨c, hl', rfl⟩ |
    ⟨res', so, files, tail, hl', rfl, hso, hfiles, _⟩⟩⟩ := shape_of_done hn h
  · cases hc
  · cases hc
    rw [hl] at hl'
    cases hl'
  · cases hc
    cases hl.symm.trans hl'
    refine ⟨hso, ?_, ?_⟩
    · rcases hfiles with rfl | ⟨path, c, rfl⟩ <;> simp
    · rcases hfiles with rfl | ⟨path, c, rfl⟩
      · intro f hf; cases hf
      · intro f hf hcomp
        cases List.mem_singleton.mp hf
        simp only at hcomp
        simp [hcomp]

/-- A "<tool> failed:" line is printed exactly when the conversion fails. -/
theorem failed_line_iff_failure (t : Tool) (g : Getopt) (lib : Lib) (w : World) (argv : Argv) (hn : NulFree argv)
    (o : Out) (h : tool t g lib w argv = .done o) :
    (∃ t' x, Line.failed t' x ∈ o.stderr) ↔ (∃ p i c, o.call = some (p, i) ∧ lib.conv p i = .error c) := by
  obtain ⟨pre, hg, ⟨ls, hu, rfl⟩ | ⟨sr, p, i, _, _, ⟨c, hl, rfl⟩ | ⟨res, so, files, tail, hl, rfl, _, _, htail⟩⟩⟩ :=
    shape_of_done hn h
  · constructor
    · rintro ⟨t', x, hm⟩
      rcases List.mem_append.mp hm with hm | hm
      · exact absurd hm (hg.not_failed t' x)
      · rcases hu with rfl | rfl | ⟨n, rfl⟩ | ⟨n, rfl⟩ <;> simp at hm
    · rintro ⟨_, _, _, hc, _⟩
      cases hc
  · exact ⟨fun _ => ⟨p, i, c, rfl, hl⟩, fun _ => ⟨t, lib.errStr c, by simp⟩⟩
  · constructor
    · rintro ⟨t', x, hm⟩
      exfalso
      rcases List.mem_append.mp hm with hm | hm
      · exact hg.not_failed t' x hm
      · rcases List.mem_cons.mp hm with hm | hm
        · cases hm
        · rcases htail _ hm with ⟨q, hq⟩ | ⟨q, hq⟩ <;> cases hq
    · rintro ⟨p', i', c, hc, hcv⟩
      cases hc
      rw [hl] at hcv
      cases hcv

/-- The line is attributed to the right tool. -/
theorem failed_line_names_the_tool (t : Tool) (g : Getopt) (lib : Lib) (w : World) (argv : Argv) (hn : NulFree argv)
    (o : Out) (h : tool t g lib w argv = .done o) (t' : Tool) (x : Bytes) (hm : Line.failed t' x ∈ o.stderr) :
    t' = t ∧ ∃ p i c, o.call = some (p, i) ∧ lib.conv p i = .error c ∧ x = lib.errStr c := by
  obtain ⟨p, i, c, hc, hcv⟩ := (failed_line_iff_failure t g lib w argv hn o h).mp ⟨t', x, hm⟩
  obtain ⟨pre, hg, ⟨ls, _, rfl⟩ | ⟨sr, p', i', _, _, ⟨c', hl, rfl⟩ | ⟨res, so, files, tail, hl, rfl, _⟩⟩⟩ :=
    shape_of_done hn h
  · cases hc
  · rcases List.mem_append.mp hm with hm | hm
    · exact absurd hm (hg.not_failed t' x)
    · cases List.mem_singleton.mp hm
      exact ⟨rfl, p', i', c', rfl, hl, rfl⟩
  · cases hc
    rw [hl] at hcv
    cases hcv

/-- Unknown options, missing arguments and unreadable input are reported on standard error (and
    only there): a run that does not convert prints at least one line on stderr, nothing on stdout. -/
theorem usage_errors_reported_on_stderr (t : Tool) (g : Getopt) (lib : Lib) (w : World) (argv : Argv)
    (hn : NulFree argv) (o : Out) (h : tool t g lib w argv = .done o) (hc : o.call = none) :
    o.stderr ≠ [] ∧ o.stdout = [] ∧ o.exit = 0 := by
  obtain ⟨pre, _, ⟨ls, hu, rfl⟩ | ⟨sr, p, i, _, _, hsh⟩⟩ := shape_of_done hn h
  · refine ⟨?_, rfl, rfl⟩
    rcases hu with rfl | rfl | ⟨n, rfl⟩ | ⟨n, rfl⟩ <;> simp
  · cases hsh.call.symm.trans hc

/-- "a line starting with the tool name and 'failed:'". -/
def failedPrefix (t : Tool) : Bytes := toolName t ++ b!" failed:"

/-- A message of the option scanner (`argv[0]: …`) does not start with "<tool> failed:" unless
    `argv[0]` itself starts with "<tool> ". -/
theorem getopt_line_not_failed (t : Tool) (a0 r : Bytes) (h0 : ¬ (toolName t ++ b!" ") <+: a0) :
    ¬ failedPrefix t <+: (a0 ++ b!": " ++ r) := by
  intro hp
  have hT : (toolName t ++ b!" ") <+: failedPrefix t := by
    cases t <;> exact ⟨b!"failed:", rfl⟩
  have hlenT : (toolName t ++ b!" ").length = 10 := by cases t <;> rfl
  have hlenP : (failedPrefix t).length = 17 := by cases t <;> rfl
  by_cases hlen : 10 ≤ a0.length
  · apply h0
    have h1 : (toolName t ++ b!" ") <+: (a0 ++ b!": " ++ r) := hT.trans hp
    rw [List.append_assoc] at h1
    exact List.prefix_of_prefix_length_le h1 (List.prefix_append a0 _) (by omega)
  · have h2 : (a0 ++ b!": ") <+: failedPrefix t :=
      List.prefix_of_prefix_length_le (List.prefix_append _ r) hp (by simp; omega)
    have hi : a0.length < (a0 ++ b!": ").length := by simp
    have h3 := h2.getElem hi
    have h4 : (a0 ++ b!": ")[a0.length] = 58 := by simp
    have key : ∀ i, (h : i < (failedPrefix t).length) → i ≤ 9 → (failedPrefix t)[i] ≠ 58 := by
      cases t <;> decide
    exact key a0.length (by omega) (by omega) (h3 ▸ h4)

/-- Every line a run prints on stderr is of one of these kinds. -/
theorem stderr_line_kinds (t : Tool) (g : Getopt) (lib : Lib) (w : World) (argv : Argv) (hn : NulFree argv)
    (o : Out) (h : tool t g lib w argv = .done o) :
    ∀ l ∈ o.stderr,
      (∃ a0 r, argv.head? = some a0 ∧ l = .getopt (a0 ++ b!": " ++ r)) ∨ l = .help ∨ l = .missingArgs ∨
      (∃ n, l = .failedOpenIn n) ∨ (∃ n, l = .readError n) ∨ (∃ x, l = .failed t x) ∨ l = .succeeded t ∨
      (∃ q, l = .failedOpenOut q) ∨ (∃ q, l = .writeError q) := by
  obtain ⟨pre, hg, ⟨ls, hu, rfl⟩ | ⟨sr, p, i, _, _, ⟨c, hl, rfl⟩ | ⟨res, so, files, tail, hl, rfl, _, _, htail⟩⟩⟩ :=
    shape_of_done hn h
  all_goals
    intro l hl
    rcases List.mem_append.mp hl with hl | hl
    · exact .inl (hg l hl)
  · rcases hu with rfl | rfl | ⟨n, rfl⟩ | ⟨n, rfl⟩
    · simp at hl; simp [hl]
    · simp at hl; rcases hl with rfl | rfl <;> simp
    · simp at hl; simp [hl]
    · simp at hl; simp [hl]
  · rw [List.mem_singleton] at hl
    simp [hl]
  · rcases List.mem_cons.mp hl with hl | hl
    · simp [hl]
    · rcases htail l hl with ⟨q, hq⟩ | ⟨q, hq⟩ <;> simp [hq]

/-- `failed_line_iff_failure` on the bytes: provided `argv[0]` does not itself begin with "<tool> ",
    a stderr line starts with "<tool> failed:" exactly when it is the failure line. -/
theorem rendered_failed_prefix_iff (t : Tool) (g : Getopt) (lib : Lib) (w : World) (argv : Argv)
    (hn : NulFree argv) (o : Out) (h : tool t g lib w argv = .done o)
    (h0 : ∀ a0, argv.head? = some a0 → ¬ (toolName t ++ b!" ") <+: a0) :
    ∀ l ∈ o.stderr, (failedPrefix t <+: l.render ↔ ∃ x, l = .failed t x) := by
  intro l hl
  -- a line that is not the failure line and begins with neither `w` nor `x` does not begin with the tool's name
  have other : ∀ {l' : Line} (c : UInt8) {rest : Bytes}, l'.render = c :: rest → c ≠ 119 → c ≠ 120 →
      (∀ x, l' ≠ .failed t x) → (failedPrefix t <+: l'.render ↔ ∃ x, l' = .failed t x) := by
    intro l' c rest hr h1 h2 hne
    refine ⟨fun hp => ?_, fun ⟨x, hx⟩ => absurd hx (hne x)⟩
    rw [hr] at hp
    cases t <;> simp [failedPrefix, toolName, List.cons_prefix_cons] at hp
    · exact absurd hp.1.symm h1
    · exact absurd hp.1.symm h2
  rcases stderr_line_kinds t g lib w argv hn o h l hl with
    ⟨a0, r, hh, rfl⟩ | rfl | rfl | ⟨n, rfl⟩ | ⟨n, rfl⟩ | ⟨x, rfl⟩ | rfl | ⟨q, rfl⟩ | ⟨q, rfl⟩
  · exact ⟨fun hp => absurd hp (getopt_line_not_failed t a0 r (h0 a0 hh)), fun ⟨x, hx⟩ => by cases hx⟩
  · exact other 60 rfl (by decide) (by decide) (fun _ h => nomatch h)   -- `<help>`
  · exact other 77 rfl (by decide) (by decide) (fun _ h => nomatch h)   -- `Missing arguments`
  · exact other 70 rfl (by decide) (by decide) (fun _ h => nomatch h)   -- `Failed to open …`
  · exact other 69 rfl (by decide) (by decide) (fun _ h => nomatch h)   -- `Error while reading …`
  · refine ⟨fun _ => ⟨x, rfl⟩, fun _ => ?_⟩
    cases t <;> exact ⟨32 :: x, by simp [failedPrefix, toolName, Line.render]⟩
  · refine ⟨fun hp => ?_, fun ⟨x, hx⟩ => by cases hx⟩
    exfalso
    cases t <;> simp [failedPrefix, toolName, Line.render, List.cons_prefix_cons] at hp
  · exact other 70 rfl (by decide) (by decide) (fun _ h => nomatch h)   -- `Failed to open output file: …`
  · exact other 69 rfl (by decide) (by decide) (fun _ h => nomatch h)   -- `Error while writing …`

/-- The hypothesis on `argv[0]` is needed: with `argv[0] = "wbxml2xml failed"` the scanner's own
    complaint about `-z` starts with "wbxml2xml failed:" although nothing was converted. -/
theorem argv0_hypothesis_needed :
    failedPrefix .w2x <+: (attIllegal b!"wbxml2xml failed" 122) := by
  exact ⟨b!" illegal option -- z", by decide⟩

/-! ### non-vacuity: concrete runs through the whole model -/

section Examples

private def lib1 : Lib := { conv := fun _ i => if i == b!"good" then .ok b!"RESULT" else .error 300, errStr := fun _ => b!"bad" }
private def w1 : World := {
  stdin := .file b!"good", stdout := .ok, sched := [0, 2],
  openR := fun p => if p == b!"in" then .file b!"good" else if p == b!"junk" then .file b!"xx" else if p == b!"d" then .dir else .fail,
  openW := fun p => if p == b!"out" then .ok .ok else if p == b!"full" then .ok (.full 4096) else .fail }

example : NulFree [b!"xml2wbxml", b!"-ko", b!"out", b!"in"] := by unfold NulFree; decide

example : tool .x2w .gnu lib1 w1 [b!"xml2wbxml", b!"in", b!"-ko", b!"out"] =
    .done ⟨0, [], [.succeeded .x2w], [⟨b!"out", b!"RESULT", true⟩],
           some (.x2w { keepWs := true }, b!"good")⟩ := by decide

example : tool .w2x .att lib1 w1 [b!"wbxml2xml", b!"-i4", b!"-o", b!"-", b!"-"] =
    .done ⟨0, b!"RESULT", [.succeeded .w2x], [], some (.w2x { indent := 4 }, b!"good")⟩ := by decide

example : tool .w2x .gnu lib1 w1 [b!"wbxml2xml", b!"-o", b!"out", b!"junk"] =
    .done ⟨300 % 256, [], [.failed .w2x b!"bad"], [], some (.w2x {}, b!"xx")⟩ := by decide

example : tool .w2x .gnu lib1 w1 [b!"wbxml2xml", b!"-o", b!"nodir/x", b!"in"] =
    .done ⟨0, [], [.succeeded .w2x, .failedOpenOut b!"nodir/x"], [], some (.w2x {}, b!"good")⟩ := by decide

example : tool .x2w .gnu lib1 w1 [b!"xml2wbxml", b!"-o", b!"full", b!"in"] =
    .done ⟨0, [], [.succeeded .x2w, .writeError b!"full"], [⟨b!"full", [], false⟩], some (.x2w {}, b!"good")⟩ := by decide

example : tool .x2w .att lib1 w1 [b!"xml2wbxml", b!"-z", b!"in"] =
    .done ⟨0, [], [.getopt b!"xml2wbxml: illegal option -- z", .help], [], none⟩ := by decide

example : tool .x2w .gnu lib1 w1 [b!"xml2wbxml", b!"d", b!"-n"] =
    .done ⟨0, [], [.readError b!"-n"], [], none⟩ := by decide

end Examples

end Wbxml.Props.C20
