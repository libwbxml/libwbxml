/-
  C17 — flow-mode encoding always equals batch encoding of the nodes that remain.

  Model: `Model/Flow.lean` — the flow API of `wbxml_encoder.c` as a state machine
  (`output_header`, `output`, the encoding state `σ` = `tagCodePage`/`attrCodePage`/`current_tag`
  resp. `indent`/`in_content`/`current_tag`, and the `pre_last_node_*` fields) over the operations
  encode node | encode node without end | raw element start | raw element end | delete last node |
  get output.  The byte encoding of ONE item is a parameter `e : Enc σ` (header, initial state,
  `item : σ → Item → Except Err (Bytes × σ)`): every theorem holds for an ARBITRARY per-item encoder,
  i.e. under the single hypothesis that the encoding of an item is a function of the encoding state
  and the item (which is what the type of `Enc.item` says).  `xmlEnc c` is the instance built from
  the validated XML generation model; for WBXML output the instance comes from the WBXML encoder
  model (and, in the correspondence run, from the real library).

  All theorems are inductions over the operation list (`Lemmas/Flow.lean`): they hold for ALL finite
  histories, all nodes, all options, both output types.
-/
import Wbxml.Lemmas.FlowReader
import Wbxml.Lemmas.FlowXml
namespace Wbxml.Props.C17
open Wbxml Wbxml.Model Wbxml.Model.Flow

variable {σ : Type}

/-- The history starts on a freshly configured encoder: nothing remains, nothing to delete. -/
abbrev none0 : Surv := { items := [], mark := 0 }

/-- **flow = batch.**  After ANY history the output buffer is exactly the batch encoding (one item
    after the other on one encoder starting from the initial state; the string table plays no part in
    `Enc`) of the items encoded so far and not deleted, the encoder's encoding state is the state
    batch encoding ends in, and `wbxml_encoder_get_output` returns the header — present from the
    first `encode_node` call on — followed by those bytes. -/
theorem flow_eq_batch (e : Enc σ) (ops : List Op) :
    batch e e.init (remaining e none0 ops).items
        = .ok ((run e (FState.init e) ops).output, (run e (FState.init e) ops).st) ∧
    (run e (FState.init e) ops).result
        = (if nodeCalled ops then e.header else []) ++ (run e (FState.init e) ops).output := by
  refine ⟨(inv_run e ops _ _ (inv_init e)).full, ?_⟩
  simp only [FState.result, run_header, FState.init, Option.getD_none]
  split <;> rfl

/-- … at every moment: what the caller reads after the `i`-th call is the header followed by the
    batch encoding of what remains of the first `i+1` operations. -/
theorem flow_eq_batch_every_step (e : Enc σ) (ops : List Op) (i : Nat) (h : i < ops.length) :
    ∃ ret body st,
      (trace e (FState.init e) ops)[i]? = some (ret, (if nodeCalled (ops.take (i + 1)) then e.header else []) ++ body) ∧
      batch e e.init (remaining e none0 (ops.take (i + 1))).items = .ok (body, st) := by
  have ht := trace_getElem? e (FState.init e) ops i h
  have hf := flow_eq_batch e (ops.take (i + 1))
  exact ⟨_, _, _, by rw [ht, hf.2], hf.1⟩

/-- `wbxml_encoder_get_output_len` is the length of what `wbxml_encoder_get_output` returns. -/
theorem output_len (s : FState σ) : s.resultLen = s.result.length := by
  simp [FState.resultLen, FState.result]

/-- An item that cannot be encoded leaves no trace: output buffer, encoding state and the point
    `delete_last_node` returns to are what they were (only the header may have been built). -/
theorem failed_item_leaves_no_trace (e : Enc σ) (s : FState σ) (it : Item) {err}
    (h : (encodeStep e s it).2 = some err) :
    (encodeStep e s it).1.output = s.output ∧ (encodeStep e s it).1.st = s.st ∧
    (encodeStep e s it).1.preLast = s.preLast := by
  cases hi : e.item s.st it with
  | error er => obtain ⟨a, b, c, _⟩ := encodeStep_error e s it hi; exact ⟨a, b, c⟩
  | ok r =>
    obtain ⟨_, _, _, d⟩ := encodeStep_ok e s it hi
    rw [d] at h; cases h

/-- **The encoder's code pages are those of a reader of its output.**  Hypothesis: the new pages an
    item's encoding reports are the pages a WBXML reader is in after reading the bytes it appended
    (`Reads`: token by token, content space to content space).  Then after ANY history — deletions
    and failed items included — a reader that starts with the initial pages and reads the output
    buffer ends with exactly the encoder's (tag page, attribute page). -/
theorem pages_track_output (e : Enc σ) (pg : σ → Pages)
    (hitem : ∀ st it bs st', e.item st it = .ok (bs, st') → Reads false (pg st) bs false (pg st'))
    (ops : List Op) :
    Reads false (pg e.init) (run e (FState.init e) ops).output false (pg (run e (FState.init e) ops).st) := by
  have hb : ∀ (items : List Item) (st : σ) (bs : Bytes) (st' : σ),
      batch e st items = .ok (bs, st') → Reads false (pg st) bs false (pg st') := by
    intro items
    induction items with
    | nil => intro st bs st' h; simp only [batch] at h; cases h; exact Reads.nil _ _
    | cons it rest ih =>
      intro st bs st' h
      cases hi : e.item st it with
      | error err => rw [batch_cons_err e st it rest hi] at h; cases h
      | ok r =>
        obtain ⟨b, st1⟩ := r
        rw [batch_cons_ok e st it rest hi] at h
        cases hr : batch e st1 rest with
        | error err => rw [hr] at h; cases h
        | ok r2 =>
          rw [hr] at h; cases h
          exact (hitem _ _ _ _ hi).append (ih _ _ _ hr)
  exact hb _ _ _ _ (flow_eq_batch e ops).1

/-- The same with the executable reader: `pagesAfter` of the output buffer is defined and equals
    the encoder's pages. -/
theorem pages_track_output_fn (e : Enc σ) (pg : σ → Pages)
    (hitem : ∀ st it bs st', e.item st it = .ok (bs, st') → pagesAfter (pg st) bs = some (pg st'))
    (ops : List Op) :
    pagesAfter (pg e.init) (run e (FState.init e) ops).output = some (pg (run e (FState.init e) ops).st) :=
  (pagesAfter_iff _ _ _).2
    (pages_track_output e pg (fun st it bs st' h => (pagesAfter_iff _ _ _).1 (hitem st it bs st' h)) ops)

/-- The reader is a function: "the pages a reader would have" is well defined. -/
theorem reader_deterministic {a p bs a1 p1 a2 p2} (h1 : Reads a p bs a1 p1) (h2 : Reads a p bs a2 p2) :
    a1 = a2 ∧ p1 = p2 := h1.det h2

/-- **delete restores.**  After ANY history: a node is encoded (with or without its end), then
    deleted ⇒ the output buffer AND the encoding state (code pages, current tag, indentation) are
    exactly what they were before that node. -/
theorem delete_restores (e : Enc σ) (ops : List Op) (n : Node) (encEnd : Bool)
    (hok : (encodeStep e (run e (FState.init e) ops) (.node n encEnd)).2 = none) :
    let before := run e (FState.init e) ops
    let after := run e (FState.init e) (ops ++ [if encEnd then .encodeNode n else .encodeNodeNoEnd n, .deleteLast])
    after.output = before.output ∧ after.st = before.st := by
  have h := delete_after_node e (run e (FState.init e) ops) n encEnd hok
  cases encEnd <;> simpa [run_append, run, step, Op.item?] using h

/-- … so whatever is encoded next is emitted exactly as if the deleted node had never been: for every
    sequence of encoding calls that follows, the bytes appended, the return codes and the resulting
    encoding state are the same with and without the deleted node. -/
theorem delete_restores_next (e : Enc σ) (ops : List Op) (n : Node) (encEnd : Bool) (next : List Op)
    (hok : (encodeStep e (run e (FState.init e) ops) (.node n encEnd)).2 = none)
    (hnext : ∀ op ∈ next, op.isEncode = true) :
    let with_ := run e (FState.init e) (ops ++ [if encEnd then .encodeNode n else .encodeNodeNoEnd n, .deleteLast])
    let without := run e (FState.init e) ops
    (run e with_ next).output = (run e without next).output ∧
    (run e with_ next).st = (run e without next).st ∧
    (trace e with_ next).map (·.1) = (trace e without next).map (·.1) := by
  have h := delete_restores e ops n encEnd hok
  exact run_encode_congr e next _ _ hnext h.1 h.2

/-- On the specification side: the deleted node is not among the remaining items. -/
theorem delete_restores_remaining (e : Enc σ) (ops : List Op) (n : Node) (encEnd : Bool)
    (hok : (encodeStep e (run e (FState.init e) ops) (.node n encEnd)).2 = none) :
    (remaining e none0 (ops ++ [if encEnd then .encodeNode n else .encodeNodeNoEnd n, .deleteLast])).items
      = (remaining e none0 ops).items := by
  have hinv := inv_run e ops _ _ (inv_init e)
  have hsn := batch_snoc e _ (.node n encEnd) hinv.full
  cases hi : e.item (run e (FState.init e) ops).st (.node n encEnd) with
  | error err =>
    obtain ⟨_, _, _, h4⟩ := encodeStep_error e _ _ hi
    rw [h4] at hok; cases hok
  | ok r =>
    rw [hi] at hsn
    rw [remaining_append]
    cases encEnd <;>
      simp [remaining, survStep, Op.item?, hsn, Item.isNode]

/-- Deleting twice, or before any node, deletes nothing more (one level of undo, as in the C code). -/
theorem delete_twice (s : FState σ) : deleteStep (deleteStep s) = deleteStep s := by
  simp only [deleteStep, List.take_take, Nat.min_self]

theorem delete_first (e : Enc σ) : deleteStep (FState.init e) = FState.init e := rfl

/-! ### The defect of the code before the repair, in Lean

`demo` is a two-page toy encoder: an element whose tag is on page `p` with token `t` is `[t]` when the
reader is already on page `p` and `00 p t` otherwise. -/

def demo : Enc WSt :=
  { header := [3, 1, 106, 0]
    init := {}
    item := fun w it =>
      match it with
      | .node (.elt (.token r) _ _) _ =>
        if (r.page == 0 || r.page == 1) && r.token == 5 then
          .ok ((if w.pages.tag == r.page then [] else [0, UInt8.ofNat r.page]) ++ [5],
               { pages := { w.pages with tag := r.page }, curTag := none })
        else .error (.code 100)
      | _ => .error (.code 100) }

def demoNode (page : Nat) : Node := .elt (.token { name := [], page := page, token := 5, opts := 0 }) [] []

/-- The three-operation history of DESIGN §6.3 #7: node on page 0, node on page 1, delete, node on
    page 1. -/
def witnessOps : List Op :=
  [.encodeNode (demoNode 0), .encodeNode (demoNode 1), .deleteLast, .encodeNode (demoNode 1)]

/-- On the code BEFORE the repair (`delete_last_node` truncated the output but left the code pages)
    the last node is emitted without `00 01`: the output is not the batch encoding of the two nodes
    that remain, and a reader of it is on page 0 while the encoder believes page 1. -/
theorem unfixed_delete_witness :
    (runUnfixed demo (FState.init demo) witnessOps).output = [5, 5] ∧
    (batch demo demo.init (remaining demo none0 witnessOps).items).toOption
        = some ([5, 0, 1, 5], { pages := { tag := 1, attr := 0 } }) ∧
    pagesAfter demo.init.pages (runUnfixed demo (FState.init demo) witnessOps).output = some { tag := 0, attr := 0 } ∧
    (runUnfixed demo (FState.init demo) witnessOps).st.pages = { tag := 1, attr := 0 } := by
  decide

/-- The same history on the repaired code. -/
example : (run demo (FState.init demo) witnessOps).result = [3, 1, 106, 0] ++ [5, 0, 1, 5] := by decide

/-- Non-vacuity of the hypothesis of `pages_track_output`: the toy encoder satisfies it. -/
example : ∀ st it bs st', demo.item st it = .ok (bs, st') → Reads false st.pages bs false st'.pages := by
  intro st it bs st' h
  apply (pagesAfter_iff _ _ _).1
  -- every item but an element with a token name is refused
  cases it with
  | start n hc => cases h
  | fin n hc => cases h
  | node n ee =>
    cases n with
    | text s => cases h
    | cdata k => cases h
    | tree l c r => cases h
    | elt name attrs kids =>
      cases name with
      | literal s => cases h
      | token r =>
        obtain ⟨rn, rp, rt, ro⟩ := r
        obtain ⟨⟨tg, ap⟩, ct⟩ := st
        have h : (if ((rp == 0 || rp == 1) && rt == 5) = true then _ else _) = Except.ok (bs, st') := h
        by_cases hc : ((rp == 0 || rp == 1) && rt == 5) = true
        · rw [if_pos hc] at h
          cases h
          simp only [Bool.and_eq_true, Bool.or_eq_true, beq_iff_eq] at hc
          -- on the page already: the token alone; otherwise `00 page` first
          by_cases heq : tg = rp
          · subst heq
            rcases hc.1 with rfl | rfl <;> rfl
          · have hb : (tg == rp) = false := by simpa using heq
            simp only [hb]
            rcases hc.1 with rfl | rfl <;> rfl
        · rw [if_neg hc] at h
          cases h

/-- `flow_eq_batch` for XML output, any configuration. -/
theorem xml_flow_eq_batch (c : XCfg) (ops : List Op) :
    batch (xmlEnc c) {} (remaining (xmlEnc c) none0 ops).items
        = .ok ((run (xmlEnc c) (FState.init (xmlEnc c)) ops).output, (run (xmlEnc c) (FState.init (xmlEnc c)) ops).st) ∧
    (run (xmlEnc c) (FState.init (xmlEnc c)) ops).result
        = (if nodeCalled ops then xmlHeader c.lang c.gen else []) ++ (run (xmlEnc c) (FState.init (xmlEnc c)) ops).output :=
  flow_eq_batch (xmlEnc c) ops

/-- In XML output `delete_last_node` restores indentation and the in-content flag: a node encoded
    without its end tag (indentation one level deeper) and deleted leaves no indentation behind. -/
theorem xml_delete_restores (c : XCfg) (ops : List Op) (n : Node) (encEnd : Bool)
    (hok : (encodeStep (xmlEnc c) (run (xmlEnc c) (FState.init (xmlEnc c)) ops) (.node n encEnd)).2 = none) :
    let before := run (xmlEnc c) (FState.init (xmlEnc c)) ops
    let after := run (xmlEnc c) (FState.init (xmlEnc c)) (ops ++ [if encEnd then .encodeNode n else .encodeNodeNoEnd n, .deleteLast])
    after.output = before.output ∧ after.st.indent = before.st.indent ∧ after.st.inContent = before.st.inContent ∧
      after.st.curTag = before.st.curTag := by
  have h := delete_restores (xmlEnc c) ops n encEnd hok
  exact ⟨h.1, by rw [h.2], by rw [h.2], by rw [h.2]⟩

/-- The fuel handed to the XML generation model is sufficient: it never runs out. -/
theorem xml_fuel_suffices (c : XCfg) (p : Parent) (n : Node) (st : XSt) :
    xmlNode c p (needNode n) n st ≠ .error .fuel := xmlNode_fuel c p n st (Nat.le_refl _)

/-- Batch encoding of a forest of whole nodes by `xmlEnc` IS the XML generation model run over the
    sibling list (`xmlNodes`, the `next` chain of `parse_node`) on one encoder: same bytes, same final
    indentation / in-content flag / current tag. -/
theorem xml_batch_is_xmlNodes (c : XCfg) (ns : List Node) :
    batch (xmlEnc c) {} (ns.map (fun n => Item.node n true))
      = (match xmlNodes c .none (needList ns) ns {} with
         | .ok st => .ok (st.out, XFl.ofXSt st)
         | .error e => .error e) :=
  batch_xmlNodes c ns

end Wbxml.Props.C17
