/-
  C14 — concurrent conversions do not interfere with each other.

  For ALL thread counts, programs and schedules, by induction: on a machine whose steps read the
  shared state and touch only the stepping thread's local state, every complete interleaving gives
  every thread exactly the results of running its program alone.
  Over the REGENERATED `Gen.Globals`, by kernel evaluation of complete finite tables, the structural
  premises: the C library meets the machine's premise — it owns no writable process-wide memory and
  references no external that is not re-entrant.
  A data race between C statements is not expressible in the interleaving semantics; that part
  of the property is validated (not proved) by the ThreadSanitizer runs of `tools/props/c14.py`.
-/
import Wbxml.Lemmas.Conc
import Wbxml.Lemmas.Posix
import Wbxml.Gen.Globals
namespace Wbxml.Props.C14
open Wbxml Wbxml.Model.Conc Wbxml.Model.Posix

variable {Sh L Op Out : Type} {n : Nat}

/-- Steps of distinct threads commute: the shared state is not written and the two updates of the
    thread family are at distinct indices. -/
theorem steps_of_distinct_threads_commute (M : Machine Sh L Op Out) (hro : M.ReadOnly) {i j : Fin n}
    (hij : i ≠ j) (c : Config n Sh L Op Out) :
    stepThread M i (stepThread M j c) = stepThread M j (stepThread M i c) := by
  apply config_ext
  · rw [stepThread_sh M hro, stepThread_sh M hro, stepThread_sh M hro, stepThread_sh M hro]
  · intro k
    simp only [stepThread_th, stepThread_sh M hro]
    by_cases hki : k = i
    · subst hki
      simp [hij]
    · by_cases hkj : k = j
      · subst hkj
        simp [hki]
      · simp [hki, hkj]

/-- Hence any two adjacent turns of distinct threads may be swapped anywhere in a schedule. -/
theorem adjacent_turns_swap (M : Machine Sh L Op Out) (hro : M.ReadOnly) {i j : Fin n} (hij : i ≠ j)
    (a b : List (Fin n)) (c : Config n Sh L Op Out) :
    run M (a ++ i :: j :: b) c = run M (a ++ j :: i :: b) c := by
  rw [run_append, run_append]
  simp only [run]
  rw [steps_of_distinct_threads_commute M hro (Ne.symm hij)]

/-- After ANY schedule (complete or not) a thread has produced exactly the first `count i` results of
    its own sequential run: nothing another thread did is visible in them. -/
theorem outputs_are_a_prefix_of_the_sequential_run (M : Machine Sh L Op Out) (hro : M.ReadOnly) (sh : Sh)
    (init : Fin n → L) (progs : Fin n → List Op) (s : List (Fin n)) (i : Fin n) :
    outputs (run M s (start sh init progs)) i = (seqRun M sh (init i) (progs i)).2.2.take (s.count i) := by
  simp only [outputs]
  rw [run_th M hro, iter_outs_prefix, seqRun_readOnly M hro]
  simp [start]

theorem complete_run_eq_sequential (M : Machine Sh L Op Out) (hro : M.ReadOnly) (sh : Sh)
    (init : Fin n → L) (progs : Fin n → List Op) (s : List (Fin n)) (hs : Complete progs s) (i : Fin n) :
    (run M s (start sh init progs)).sh = sh ∧
    ((run M s (start sh init progs)).th i).todo = [] ∧
    ((run M s (start sh init progs)).th i).loc = (seqRun M sh (init i) (progs i)).2.1 ∧
    outputs (run M s (start sh init progs)) i = (seqRun M sh (init i) (progs i)).2.2 := by
  have hth := run_th M hro s (start sh init progs) i
  rw [iter_complete M _ _ _ (hs i)] at hth
  refine ⟨by rw [run_sh M hro]; rfl, ?_, ?_, ?_⟩
  · rw [hth]
  · rw [hth, seqRun_readOnly M hro]; rfl
  · simp only [outputs]
    rw [hth, seqRun_readOnly M hro]
    simp [start]

/-- **Schedule independence**, for every number of threads `n`, every family of programs and
    initial local states, and every two complete interleavings: each thread's outputs coincide, and
    equal the outputs of its program run alone. -/
theorem schedule_independence (M : Machine Sh L Op Out) (hro : M.ReadOnly) (sh : Sh)
    (init : Fin n → L) (progs : Fin n → List Op) (s₁ s₂ : List (Fin n))
    (h₁ : Complete progs s₁) (h₂ : Complete progs s₂) (i : Fin n) :
    outputs (run M s₁ (start sh init progs)) i = outputs (run M s₂ (start sh init progs)) i ∧
    outputs (run M s₁ (start sh init progs)) i = (seqRun M sh (init i) (progs i)).2.2 := by
  have a := (complete_run_eq_sequential M hro sh init progs s₁ h₁ i).2.2.2
  have b := (complete_run_eq_sequential M hro sh init progs s₂ h₂ i).2.2.2
  exact ⟨a.trans b.symm, a⟩

/-- The whole final configuration (not only the outputs) is the same for any two complete schedules. -/
theorem final_configuration_independent (M : Machine Sh L Op Out) (hro : M.ReadOnly) (sh : Sh)
    (init : Fin n → L) (progs : Fin n → List Op) (s₁ s₂ : List (Fin n))
    (h₁ : Complete progs s₁) (h₂ : Complete progs s₂) :
    run M s₁ (start sh init progs) = run M s₂ (start sh init progs) := by
  apply config_ext
  · rw [run_sh M hro, run_sh M hro]
  · intro i
    rw [run_th M hro, run_th M hro, iter_complete M _ _ _ (h₁ i), iter_complete M _ _ _ (h₂ i)]

/-- Complete schedules exist for every family of programs (the hypothesis is never vacuous): running
    the threads one after the other is one. -/
theorem sequential_schedule_is_complete (progs : Fin n → List Op) : Complete progs (sequentialSchedule progs) :=
  fun i => Nat.le_of_eq (sequentialSchedule_count progs i).symm

/-- The shape the library's calls have once the structural premises hold — a pure function of the read-only tables,
    the caller's own objects and the request — is a read-only machine, whatever the function. -/
theorem pure_machine_read_only (f : Sh → L → Op → L × Out) : (pureMachine f).ReadOnly :=
  fun _ _ _ => rfl

/-- So conversions of that shape are schedule independent, for any `f` (the byte-level conversion
    model plugs in here). -/
theorem conversions_schedule_independent (f : Sh → L → Op → L × Out) (sh : Sh)
    (init : Fin n → L) (progs : Fin n → List Op) (s₁ s₂ : List (Fin n))
    (h₁ : Complete progs s₁) (h₂ : Complete progs s₂) (i : Fin n) :
    outputs (run (pureMachine f) s₁ (start sh init progs)) i
      = outputs (run (pureMachine f) s₂ (start sh init progs)) i :=
  (schedule_independence (pureMachine f) (pure_machine_read_only f) sh init progs s₁ s₂ h₁ h₂ i).1

/-- The premise is necessary: with ONE writable global (a call counter) two complete schedules of two
    one-operation threads give thread 0 different results. -/
theorem writable_global_breaks_independence :
    ∃ (s₁ s₂ : List (Fin 2)) (progs : Fin 2 → List Unit),
      Complete progs s₁ ∧ Complete progs s₂ ∧
      outputs (run counterMachine s₁ (start 0 (fun _ => ()) progs)) 0
        ≠ outputs (run counterMachine s₂ (start 0 (fun _ => ()) progs)) 0 :=
  ⟨[0, 1], [1, 0], fun _ => [()], by decide, by decide, by decide⟩

theorem counter_machine_not_read_only : ¬ counterMachine.ReadOnly :=
  fun h => absurd (h 0 () ()) (by decide)

/-! ### Non-vacuity: a concrete 3-thread instance with two genuinely different complete schedules -/

example : Complete demoProgs ([0, 1, 2, 0, 1, 0] : List (Fin 3)) := by decide
example : Complete demoProgs ([2, 1, 1, 0, 0, 0, 2] : List (Fin 3)) := by decide
example : ([0, 1, 2, 0, 1, 0] : List (Fin 3)) ≠ [2, 1, 1, 0, 0, 0, 2] := by decide
example : outputs (run demoMachine ([0, 1, 2, 0, 1, 0] : List (Fin 3)) (start [10, 20, 30] (fun _ => 0) demoProgs)) 0
    = [10, 30, 60] := by decide
example : outputs (run demoMachine ([2, 1, 1, 0, 0, 0, 2] : List (Fin 3)) (start [10, 20, 30] (fun _ => 0) demoProgs)) 0
    = [10, 30, 60] := by decide
example : (seqRun demoMachine [10, 20, 30] 0 (demoProgs 0)).2.2 = [10, 30, 60] := by decide
/-- An incomplete schedule is rejected by `Complete` (the predicate is not trivially true). -/
example : ¬ Complete demoProgs ([0, 1, 2] : List (Fin 3)) := by decide

/-- **No writable globals**: every object symbol of every archive member — file-scope variables and
    function-local statics alike — lies in a read-only section (`.rodata*`, `.data.rel.ro*`, `.text*` …)
    or is a C-runtime / sanitizer object. -/
theorem no_writable_globals :
    ∀ g ∈ Gen.Globals.objects, objectOK g.sec g.name = true := by decide +kernel

/-- The same fact without relying on symbols: every non-empty section that is writable and allocated
    is a `.data.rel.ro*` section (no `.data`, `.bss`, `.tdata`, `.tbss`, COMMON or anonymous writable data). -/
theorem no_writable_sections :
    ∀ s ∈ Gen.Globals.wsections, writableSectionOK s.sec = true := by decide +kernel

/-- No object is a COMMON or thread-local symbol either (per-thread state would survive from one call
    to the next on the same thread). -/
theorem no_common_or_tls_objects :
    ∀ g ∈ Gen.Globals.objects, (g.kind == b!"OBJECT") = true := by decide +kernel

theorem externals_classified_ok :
    ∀ s ∈ Gen.Globals.undefined, okMasked s = true := by decide +kernel

/-- **Externals are re-entrant**: no undefined symbol of the library is on the POSIX.1-2017 §2.9.1
    list of functions that need not be thread-safe (nor on its NULL-state rider, nor MT-Unsafe in
    glibc), none mutates process-wide state, and each is a POSIX function, an Expat `XML_*`
    per-parser entry point, or a toolchain/sanitizer symbol. -/
theorem externals_reentrant : ∀ s ∈ Gen.Globals.undefined,
    keyOf (canon s) ∉ needNotBeThreadSafe ∧ keyOf (canon s) ∉ conditionallyNotThreadSafe ∧
    keyOf (canon s) ∉ implementationNotThreadSafe ∧ keyOf (canon s) ∉ processStateMutators ∧
    (keyOf (canon s) ∈ functions ∨ expatPrefix.isPrefixOf s = true ∨ isToolchain s = true) :=
  fun s hs => (externOK_spec s).1 (externOK_of_masked (externals_classified_ok s hs))

/-- The dump is not empty or truncated: it has objects, externals, and sees the main token table. -/
theorem dump_is_populated :
    (decide (0 < Gen.Globals.objects.length) && decide (0 < Gen.Globals.undefined.length) &&
     Gen.Globals.objects.any (fun g => g.name == b!"sv_table_entry") &&
     Gen.Globals.members.contains b!"wbxml_parser.c.o") = true := by decide +kernel

/-! ### The committed constants behave as the rule says -/

/-- `sym!` (elaboration time) and `keyOf` (kernel) compute the same key. -/
theorem key_agrees : keyOf b!"strtok" = sym!"strtok" ∧ keyOf b!"XML_Parse" = sym!"XML_Parse" := by decide

/-- Every function on the §2.9.1 list, its riders and the mutator list is a POSIX.1-2017 interface
    (the lists refine `functions`; a typo in one of them would show here). -/
theorem bad_lists_are_posix :
    (needNotBeThreadSafe ++ conditionallyNotThreadSafe ++ implementationNotThreadSafe ++ processStateMutators).all
      (fun k => functions.contains k) = true := by
  -- each name is looked up in the alphabetical part of `functions` that has its initial
  have h : (needNotBeThreadSafe ++ conditionallyNotThreadSafe ++ implementationNotThreadSafe ++
      processStateMutators).all (fun k => (partFor k).contains k) = true := by decide +kernel
  exact List.all_eq_true.2 fun k hk =>
    List.contains_iff_mem.2 (mem_functions_of_mem_partFor (List.contains_iff_mem.1 (List.all_eq_true.1 h k hk)))

/-- The named offenders alarm (also through their glibc aliases). -/
theorem offenders_alarm :
    ([b!"strtok", b!"rand", b!"localtime", b!"gmtime", b!"asctime", b!"ctime", b!"strerror", b!"setlocale",
      b!"getenv", b!"readdir", b!"setenv", b!"putenv", b!"srand", b!"tmpnam", b!"getpwnam", b!"basename",
      b!"dirname", b!"inet_ntoa", b!"system", b!"chdir", b!"umask", b!"signal", b!"exit", b!"environ",
      b!"readdir64", b!"__wctomb_chk", b!"__xpg_basename", b!"some_unknown_function"] : List Bytes).all
      (fun s => !externOK s) = true := by decide +kernel

/-- Ordinary thread-safe POSIX functions, their re-entrant variants and fortify/ISO aliases do not. -/
theorem ordinary_functions_quiet :
    ([b!"strlen", b!"memcmp", b!"memcpy", b!"strtok_r", b!"rand_r", b!"localtime_r", b!"gmtime_r", b!"strerror_r",
      b!"snprintf", b!"qsort", b!"bsearch", b!"strtod", b!"iconv", b!"pthread_mutex_lock", b!"fopen", b!"fwrite",
      b!"__sprintf_chk", b!"__memcpy_chk", b!"__isoc99_sscanf", b!"__isoc23_strtol", b!"fopen64",
      b!"__stack_chk_fail", b!"__asan_report_load8", b!"__tsan_read4", b!"XML_ParserCreate"] : List Bytes).all
      externOK = true := all_externOK_of_masked (by decide +kernel)

/-- Which sections count as read-only, and which do not. -/
theorem section_rule :
    ([b!".rodata", b!".rodata.str1.1", b!".rodata.cst16", b!".data.rel.ro", b!".data.rel.ro.local", b!".text",
      b!".text.unlikely"] : List Bytes).all readOnlySection = true ∧
    ([b!".data", b!".bss", b!".tdata", b!".tbss", b!"COMMON", b!".data.rel", b!".data.rel.local", b!".init_array",
      b!".rodata_x", b!".data.rel.rox", b!""] : List Bytes).all (fun s => !readOnlySection s) = true := by
  decide +kernel

end Wbxml.Props.C14
