/-
  C09 — published token assignments never change (wire compatibility).
  `Registry.reg` is the copy of the 0.11.10 tables (committed once); `Gen.main` is
  regenerated from the current source on every run. Kernel evaluation over every row: one pass
  per table that matches the current rows against the published ones (`Lemmas/Compat.lean`).
-/
import Wbxml.Lemmas.Compat
import Wbxml.Registry
import Wbxml.Props.C08
namespace Wbxml.Props.C09
open Wbxml Wbxml.Model

/-- Every language, tag, attribute start (with value prefix), attribute value, extension value,
    namespace↔page mapping, public identifier (numeric and textual), root element and DTD that
    0.11.10 understood is understood identically by the current tables, in both directions, and
    every identification route still selects the same language. Rows may have been added. -/
theorem registry_preserved : registryPreserved Registry.reg Gen.main = true := by
  exact registryPreserved_of_grown (fun c hc t ht =>
    (tagTableOKLin_spec (C08.tag_tables_lin t (C08.mem_swept hc ht))).1) (by decide +kernel)

/-- Consequence for the parser: decoding a published (page, token) gives the published name and
    options, for every language of the registry. -/
theorem published_tags_decode_identically (r c : Lang) (hr : r ∈ Registry.reg)
    (hc : langOf Gen.main r.id = some c) (rt ct : List TagRow) (h1 : r.tags = some rt) (h2 : c.tags = some ct)
    (x : TagRow) (hx : x ∈ rt) :
    (decTag ct x.page x.token).map (fun y => (y.name, y.opts)) = (decTag rt x.page x.token).map (fun y => (y.name, y.opts)) := by
  have h := registry_preserved
  unfold registryPreserved at h
  have h := List.all_eq_true.mp h r hr
  simp only [hc, Bool.and_eq_true] at h
  have hl := h.1
  unfold langPreserved at hl
  simp only [Bool.and_eq_true, h1, h2, optPreserved] at hl
  have ht := hl.1.1.1.1.2
  unfold tagsPreserved at ht
  have hp := List.all_eq_true.mp ht x.page (mem_pagesOf hx)
  simp only [Bool.and_eq_true] at hp
  exact decTag_preserved_of_row (List.all_eq_true.mp hp.2 x (mem_bucket_self hx))

/-- The registry is the full 0.11.10 set (29 languages), so the theorem is not vacuous. -/
example : Registry.reg.length = 29 := by decide

end Wbxml.Props.C09
