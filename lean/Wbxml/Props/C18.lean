/-
  C18 — a tree built through the API equals the tree parsed from the same XML.

  Model: `Model/TreeHeap.lean` — `WBXMLTreeNode`s are cells of an index-linked heap (`parent`,
  `first` = `children`, `next`, `prev` : `Option Nat`; freed cells stay behind with `live = false`), every
  C statement of `wbxml_tree_add_node`, `wbxml_tree_extract_node`, the `wbxml_tree_add_*` wrappers and
  the iterative `wbxml_tree_node_destroy_all` is one `deref` / `upd` / `free`, each of which answers
  `Err.ub` on a NULL, wild or freed pointer (`deref_none_is_ub`, `double_free_is_ub`).

  Invariant (`Lemmas/TreeHeapForest.lean`):  `Inv s` := there is a ghost shape `G` (first-child /
  next-sibling tree of addresses, its top-level chain listing the tree root and every detached
  sub-tree root) such that
    * every cell of `G` is live and its four links are exactly those of its position in `G`
      (parent / first child / previous / next mutually consistent; text and nested-document nodes
      have no children),
    * no address occurs twice in `G` (acyclic; nothing is reached twice),
    * every live cell occurs in `G` (everything is reachable from the root or from a detached root),
    * `tree->root`, if set, is a top of `G`.
  `links_consistent` below spells the first item out without the ghost.

  The theorems quantify over ALL states satisfying `Inv` and all arguments inside the executable
  precondition `pre` (live nodes used as the header documents them: a parent that can have children,
  re-insertion / destruction of detached nodes only, never below itself); `inv_all_histories` lifts
  them to ALL finite sequences of calls by induction over the list.  Calls outside `pre` are skipped
  in the model exactly as on both sides of the correspondence (`stepChecked`).
-/
import Wbxml.Lemmas.TreeHeapXmlWitness
import Wbxml.Lemmas.TreeHeapXmlRun
import Wbxml.Lemmas.TreeHeapReinsert
namespace Wbxml.Props.C18
open Wbxml Wbxml.Model Wbxml.Model.TreeHeap

/-! ### Pointer hazards are visible in the model -/

/-- Dereferencing NULL-free but wild or freed node pointers is the model's `Err.ub`. -/
theorem deref_none_is_ub (s : St) (i : Nat) (h : s.cellAt i = none) : ∃ w, s.deref i = .error (.ub w) :=
  deref_none_ub h

/-- Destroying a node twice is `Err.ub`: a successful teardown contains no double free. -/
theorem double_free_is_ub (s : St) (i : Nat) (h : s.cellAt i = none) : ∃ w, s.free i = .error (.ub w) :=
  (deref_none_ub h).imp fun w hw => by unfold St.free St.upd; rw [hw]

/-- `wbxml_tree_create`: the empty tree satisfies the invariant. -/
theorem inv_create (main : List Lang) (lang cs : Nat) : Inv (create main lang cs) :=
  TreeHeap.inv_create main lang cs

/-! ### Every call keeps the links consistent and never faults -/

/-- `wbxml_tree_add_node` (insertion of a detached node under NULL or under an element / CDATA
    node that is not below it): no fault, links consistent afterwards. -/
theorem inv_add_node (s : St) (hI : Inv s) (parent : Option Nat) (node : Nat)
    (hpre : pre s (.addNode parent node) = true) :
    ∃ b s', addNode s parent node = .ok (b, s') ∧ Inv s' := by
  obtain ⟨r, s', e, hI', _, _⟩ := step_inv hI (.addNode parent node) hpre
  simp only [step] at e
  split at e
  · cases e
  · next b s1 h => cases e; exact ⟨b, _, h, hI'⟩

/-- `wbxml_tree_extract_node` of any live node. -/
theorem inv_extract (s : St) (hI : Inv s) (node : Nat) (hpre : pre s (.extract node) = true) :
    ∃ s', extractNode s node = .ok s' ∧ Inv s' := by
  obtain ⟨r, s', e, hI', _, _⟩ := step_inv hI (.extract node) hpre
  simp only [step] at e
  split at e
  · cases e
  · next s1 h => cases e; exact ⟨_, h, hI'⟩

/-- `wbxml_tree_add_elt`. -/
theorem inv_add_elt (s : St) (hI : Inv s) (parent : Option Nat) (name : Name)
    (hpre : parentOK s parent = true) :
    ∃ r s', addElt s parent name = .ok (r, s') ∧ Inv s' :=
  inv_of_step hI (.addElt parent name) hpre rfl

/-- `wbxml_tree_add_elt_with_attrs`. -/
theorem inv_add_elt_with_attrs (s : St) (hI : Inv s) (parent : Option Nat) (name : Name) (attrs : List Attr)
    (hpre : parentOK s parent = true) :
    ∃ r s', addEltWithAttrs s parent name attrs = .ok (r, s') ∧ Inv s' :=
  inv_of_step hI (.addEltAttrs parent name attrs) hpre rfl

/-- `wbxml_tree_add_xml_elt` (`tree->lang` set). -/
theorem inv_add_xml_elt (s : St) (hI : Inv s) (parent : Option Nat) (name : Bytes)
    (hpre : pre s (.addXmlElt parent name) = true) :
    ∃ r s', addXmlElt s parent name = .ok (r, s') ∧ Inv s' :=
  inv_of_step hI (.addXmlElt parent name) hpre rfl

/-- `wbxml_tree_add_xml_elt_with_attrs`. -/
theorem inv_add_xml_elt_with_attrs (s : St) (hI : Inv s) (parent : Option Nat) (name : Bytes)
    (attrs : List (Bytes × Bytes)) (hpre : pre s (.addXmlEltAttrs parent name attrs) = true) :
    ∃ r s', addXmlEltWithAttrs s parent name attrs = .ok (r, s') ∧ Inv s' :=
  inv_of_step hI (.addXmlEltAttrs parent name attrs) hpre rfl

/-- `wbxml_tree_add_xml_elt_with_attrs_and_text`. -/
theorem inv_add_xml_elt_with_attrs_and_text (s : St) (hI : Inv s) (parent : Option Nat) (name : Bytes)
    (attrs : List (Bytes × Bytes)) (text : Bytes) (hpre : pre s (.addXmlEltAttrsText parent name attrs text) = true) :
    ∃ r s', addXmlEltWithAttrsAndText s parent name attrs text = .ok (r, s') ∧ Inv s' :=
  inv_of_step hI (.addXmlEltAttrsText parent name attrs text) hpre rfl

/-- `wbxml_tree_add_text`. -/
theorem inv_add_text (s : St) (hI : Inv s) (parent : Option Nat) (t : Bytes) (hpre : parentOK s parent = true) :
    ∃ r s', addText s parent t = .ok (r, s') ∧ Inv s' :=
  inv_of_step hI (.addText parent t) hpre rfl

/-- `wbxml_tree_add_cdata`. -/
theorem inv_add_cdata (s : St) (hI : Inv s) (parent : Option Nat) (hpre : parentOK s parent = true) :
    ∃ r s', addCdata s parent = .ok (r, s') ∧ Inv s' :=
  inv_of_step hI (.addCdata parent) hpre rfl

/-- `wbxml_tree_add_tree`. -/
theorem inv_add_tree (s : St) (hI : Inv s) (parent : Option Nat) (t : Tree) (hpre : parentOK s parent = true) :
    ∃ r s', addTree s parent t = .ok (r, s') ∧ Inv s' :=
  inv_of_step hI (.addTree parent t) hpre rfl

/-- Every call of the API (inside the contract) on every state satisfying the invariant. -/
theorem inv_step (s : St) (hI : Inv s) (op : Op) (hpre : pre s op = true) :
    ∃ r s', step s op = .ok (r, s') ∧ Inv s' := by
  obtain ⟨r, s', e, hI', _, _⟩ := step_inv hI op hpre
  exact ⟨r, s', e, hI'⟩

/-- ALL finite histories on a new tree of any language: the replay never faults (no `Err.ub`, no fuel
    exhaustion, no error at all) and the links are consistent at the end — and, the list being
    arbitrary, after every call. -/
theorem inv_all_histories (main : List Lang) (lang cs : Nat) (ops : List Op) :
    ∃ s', run (create main lang cs) ops = .ok s' ∧ Inv s' := by
  obtain ⟨s', e, hI', _, _⟩ := run_inv ops _ (TreeHeap.inv_create main lang cs)
  exact ⟨s', e, hI'⟩

/-- … and from any state that satisfies the invariant. -/
theorem inv_histories_from (s : St) (hI : Inv s) (ops : List Op) : ∃ s', run s ops = .ok s' ∧ Inv s' := by
  obtain ⟨s', e, hI', _, _⟩ := run_inv ops s hI
  exact ⟨s', e, hI'⟩

/-! ### `abs` is total under the invariant -/

/-- The abstraction walk (`children` / `next`, fuel `2 * heap + 2`) never faults and never runs out
    of fuel on a state that satisfies the invariant. -/
theorem abs_total (s : St) (hI : Inv s) : ∃ t, absTree s = .ok t := absTree_ok hI

/-- … in particular after every history. -/
theorem abs_total_all_histories (main : List Lang) (lang cs : Nat) (ops : List Op) :
    ∃ s' t, run (create main lang cs) ops = .ok s' ∧ absTree s' = .ok t := by
  obtain ⟨s', e, hI'⟩ := inv_all_histories main lang cs ops
  obtain ⟨t, ht⟩ := abs_total s' hI'
  exact ⟨s', t, e, ht⟩

/-- `wbxml_tree_node_destroy_all` on a sub-tree without parent (a detached sub-tree, or the root as
    `wbxml_tree_destroy` calls it): the iterative walk terminates within the model's fuel
    (`2 * heap + 2`), never touches a freed cell (any second `free` would be `Err.ub`), and
    afterwards exactly the cells of the sub-tree are gone — every one of them, none outside. -/
theorem destroy_frees_each_once (s : St) (hI : Inv s) (node : Nat) (c : Cell)
    (hc : s.cellAt node = some c) (hp : c.parent = none) :
    ∃ s' sub, destroyAll s node = .ok s' ∧ below s node = .ok sub ∧
      (∀ j, s'.cellAt j = if j = node ∨ j ∈ sub then none else s.cellAt j) := by
  obtain ⟨G, hF⟩ := hI
  obtain ⟨T, k, T', hG⟩ := hF.split_detached hc hp
  subst hG
  obtain ⟨s', e, hv, _⟩ := destroyAll_spec hF
  refine ⟨s', _, e, below_spec hF, ?_⟩
  intro j
  rw [hv]
  simp only [vdelAll, List.mem_cons]

/-- Destroying a detached sub-tree keeps the rest of the heap consistent. -/
theorem inv_destroy (s : St) (hI : Inv s) (node : Nat) (hpre : pre s (.destroy node) = true) :
    ∃ s', destroyAll s node = .ok s' ∧ Inv s' := by
  obtain ⟨r, s', e, hI', _, _⟩ := step_inv hI (.destroy node) hpre
  simp only [step] at e
  split at e
  · cases e
  · next s1 h => cases e; exact ⟨_, h, hI'⟩

/-! ### What the invariant says, cell by cell -/

/-- "Each node's parent, first-child, previous and next links are mutually consistent": in a state
    satisfying `Inv`, for every live node
    * its first child is live, names it as parent and has no previous sibling;
    * its next sibling is live, names it as previous sibling and has the same parent;
    * its previous sibling is live, names it as next sibling and has the same parent;
    * its parent is a live element / CDATA node that has children;
    * text and nested-document nodes have no children;  the root has no parent.
    (Acyclicity and "reachable exactly once" are the repetition-freeness and coverage parts of `Inv`.) -/
theorem links_consistent (s : St) (hI : Inv s) (i : Nat) (c : Cell) (hc : s.cellAt i = some c) :
    (∀ j, c.first = some j → ∃ cj, s.cellAt j = some cj ∧ cj.parent = some i ∧ cj.prev = none) ∧
    (∀ j, c.next = some j → ∃ cj, s.cellAt j = some cj ∧ cj.prev = some i ∧ cj.parent = c.parent) ∧
    (∀ j, c.prev = some j → ∃ cj, s.cellAt j = some cj ∧ cj.next = some i ∧ cj.parent = c.parent) ∧
    (∀ p, c.parent = some p → ∃ cp, s.cellAt p = some cp ∧ cp.pay.isBranch = true ∧ cp.first.isSome = true) ∧
    (c.pay.isBranch = false → c.first = none) ∧
    (s.root = some i → c.parent = none) :=
  hI.links i c hc

/-- … after every call of every finite history. -/
theorem links_consistent_all_histories (main : List Lang) (lang cs : Nat) (ops : List Op) :
    ∃ s', run (create main lang cs) ops = .ok s' ∧
      ∀ i c, s'.cellAt i = some c →
        (∀ j, c.next = some j → ∃ cj, s'.cellAt j = some cj ∧ cj.prev = some i ∧ cj.parent = c.parent) ∧
        (∀ j, c.first = some j → ∃ cj, s'.cellAt j = some cj ∧ cj.parent = some i ∧ cj.prev = none) := by
  obtain ⟨s', e, hI'⟩ := inv_all_histories main lang cs ops
  refine ⟨s', e, fun i c hc => ?_⟩
  have := hI'.links i c hc
  exact ⟨this.2.1, this.1⟩

/-- `wbxml_tree_add_node(tree, P, n)` acts on the ABSTRACT children of `P` exactly as `Model.addKid`
    (the append of the tree builders `BState.attach`, i.e. what both parsers do for every node they
    add): plain append — or, when the last child and `n` are both text, ONE text node carrying the
    joined content.  For every state satisfying the invariant and every call inside `pre`. -/
theorem add_node_abs (s : St) (hI : Inv s) (P n : Nat) (hpre : pre s (.addNode (some P) n) = true) :
    ∃ s' ks sub, addNode s (some P) n = .ok (true, s') ∧ kidsAbs s P = .ok ks ∧ absNode s s.fuel n = .ok sub ∧
      kidsAbs s' P = .ok (addKid ks sub) := by
  obtain ⟨G, hF⟩ := hI
  simp only [pre, Bool.and_eq_true] at hpre
  obtain ⟨T, C, T', cP, cn, ctx⟩ := addCtx_of_pre hF hpre.1.1 hpre.1.2 hpre.2
  exact TreeHeap.add_node_abs ctx

/-- The merge spelled out: appending text `t` after children that end in text `u` yields the same
    children with the last one replaced by the single text node `u ++ t`. -/
theorem add_node_merges_text (s : St) (hI : Inv s) (P n : Nat) (hpre : pre s (.addNode (some P) n) = true)
    (pre_kids : List Node) (u t : Bytes)
    (hk : kidsAbs s P = .ok (pre_kids ++ [.text u])) (hn : absNode s s.fuel n = .ok (.text t)) :
    ∃ s', addNode s (some P) n = .ok (true, s') ∧ kidsAbs s' P = .ok (pre_kids ++ [.text (u ++ t)]) := by
  obtain ⟨s', ks, sub, h1, h2, h3, h4⟩ := add_node_abs s hI P n hpre
  cases hk.symm.trans h2
  cases hn.symm.trans h3
  refine ⟨s', h1, ?_⟩
  rw [h4]
  simp [addKid]

/-- `NoAdjText` ("adjacent text siblings have been merged": no live text node whose `next` is a live
    text node) is kept by every call except `wbxml_tree_extract_node` … -/
theorem no_adjacent_text_step (s : St) (hI : Inv s) (hN : NoAdjText s) (op : Op) (hpre : pre s op = true)
    (hop : op.isExtract = false) :
    ∃ r s', step s op = .ok (r, s') ∧ NoAdjText s' := by
  obtain ⟨r, s', e, _, _, hna⟩ := step_inv hI op hpre
  exact ⟨r, s', e, hna hop hN⟩

/-- … hence by ALL finite histories that contain no extraction (insertions of every kind,
    re-insertion, destruction, calls outside the contract): the invariant of add-only histories. -/
theorem no_adjacent_text_partial (main : List Lang) (lang cs : Nat) (ops : List Op)
    (hops : ∀ op, op ∈ ops → op.isExtract = false) :
    ∃ s', run (create main lang cs) ops = .ok s' ∧ NoAdjText s' := by
  obtain ⟨s', e, _, _, hna⟩ := run_inv ops _ (TreeHeap.inv_create main lang cs)
  refine ⟨s', e, hna hops ?_⟩
  intro i j ci cj hci
  simp [create, St.cellAt] at hci

/-- Stated at full strength — for ALL histories — "adjacent text siblings have been merged" is FALSE for
    the code as it is: `wbxml_tree_extract_node` does not join the neighbours of the node it unlinks.
    (Recorded in `known_findings.json`, id `adjacent-text-after-extract`; every state of the history
    still satisfies `Inv`, see `inv_all_histories`.) -/
theorem no_adjacent_text_all_histories_false :
    ¬ (∀ (ops : List Op) (s' : St), run (create [] 0 0) ops = .ok s' → NoAdjText s') := by
  intro h
  exact adjWitness_adjacent (h adjWitness adjWitnessState adjWitness_runs)

/-- The witness: root `<r>`, text "a", element `<e/>`, text "b", extraction of `<e/>` (5 calls). -/
theorem adjWitness_history : run (create [] 0 0) adjWitness = .ok adjWitnessState ∧ ¬ NoAdjText adjWitnessState :=
  ⟨adjWitness_runs, adjWitness_adjacent⟩

/-- The abstract tree of the witness: `<r>` with the two text children `a`, `b` side by side. -/
theorem adjWitness_abs_two_texts :
    absTree adjWitnessState =
      .ok { lang := none, origCharset := 0,
            root := some (.elt (.literal b!"r") [] [.text b!"a", .text b!"b"]) } := by rfl

/-! ### `wbxml_tree_extract_node` on a node that is not in the tree -/

/-- After the repair (`fix:` commit recorded in `known_findings.json`): extracting a node that is
    already detached changes nothing — neither the cells nor `tree->root`. -/
theorem extract_detached_keeps_tree (s : St) (hI : Inv s) (n : Nat) (hd : isDetached s n = true) :
    ∃ s', extractNode s n = .ok s' ∧ s'.cellAt = s.cellAt ∧ s'.root = s.root := by
  obtain ⟨G, hF⟩ := hI
  obtain ⟨cn, hcn, hp, _, _, hr⟩ := isDetached_spec hd
  obtain ⟨s', e, _, hv, hroot, _⟩ := extract_top hF hcn hp
  refine ⟨s', e, hv, ?_⟩
  rw [hroot]; simp [hr]

/-- The code as it was pinned (`extractNodeG false`): the same call on a detached node executed
    `tree->root = node->next` and emptied the tree — root `<r>`, child `<c>`, extract the child,
    extract it again. -/
theorem extract_detached_drops_root_unfixed :
    ∃ s s', run (create [] 0 0) [.addElt none (.literal b!"r"), .addElt (some 0) (.literal b!"c"), .extract 1] = .ok s ∧
      isDetached s 1 = true ∧ s.root = some 0 ∧
      extractNodeG false s 1 = .ok s' ∧ s'.root = none :=
  ⟨x3, { x3 with root := none }, extWitness_runs, rfl, rfl, rfl, rfl⟩

/-! ### `wbxml_tree_node_add_child` is not `wbxml_tree_add_node` -/

/-- `wbxml_tree_node_add_child` links without merging: on a state where `NoAdjText` holds (root with
    one text child, plus a fresh text node) it produces two adjacent text siblings.  (It is used by
    `wbxml_tree_node_create_cdata` / `_create_xml_elt_with_text` on fresh parents only; it is not one of
    the calls the histories of C18 range over.) -/
theorem add_child_does_not_merge :
    ∃ s s', Inv s ∧ NoAdjText s ∧ addChild s 0 2 = .ok s' ∧ ¬ NoAdjText s' :=
  addChild_witness

/-! ### Encoders see `abs` only -/

/-- Two states (two pointer histories) with the same abstract tree have the same model XML.  True by
    construction — the model encoder `treeToXml` is a function on `abs` — and therefore NOT the
    evidence for the property; the evidence is the correspondence check: the REAL `wbxml_tree_to_xml`
    bytes equal `treeToXml (abs …)` on every history, and two real trees built by different histories
    with the same dump give the same XML and WBXML bytes (tools/props/c18.py, `T2`/`X2`/`W2`). -/
theorem abs_eq_same_xml (cfg : W2XCfg) (fuel : Nat) (s₁ s₂ : St) (h : absTree s₁ = absTree s₂) :
    (absTree s₁ >>= treeToXml cfg fuel) = (absTree s₂ >>= treeToXml cfg fuel) := by
  rw [h]

/-! ### Name resolution of `wbxml_tree_add_xml_elt` -/

/-- The element created for an XML name carries the token `wbxml_tables_get_tag_from_xml` finds with
    the code page of the name's namespace (else a literal), whatever the calls before it were:
    `tree->cur_code_page` is overwritten from the name on every call, so the order in which an API
    user adds elements cannot change the tokens (the XML front end makes the very same call). -/
theorem add_xml_elt_name (s : St) (lang : Lang) (hl : s.lang = some lang) (parent : Option Nat) (name : Bytes) :
    addXmlElt s parent name =
      addFresh { s with curPage := (xmlEltName lang name).2 } parent (.elt (xmlEltName lang name).1 []) := by
  simp only [addXmlElt, hl]

/-- The preconditions are satisfiable and the theorems have content: a concrete history with
    insertion, merge, extraction, re-insertion and destruction runs inside `pre` at every step. -/
example : ∃ s', run (create [] 0 0)
      [.addElt none (.literal b!"r"), .addText (some 0) b!"a", .addText (some 0) b!"b",
       .addCdata (some 0), .extract 3, .addNode (some 0) 3, .extract 3, .destroy 3] = .ok s' ∧
      absTree s' = .ok { lang := none, origCharset := 0,
                         root := some (.elt (.literal b!"r") [] [.text b!"ab"]) } :=
  ⟨m8, mixWitness_runs, rfl⟩

example : pre adjWitnessState (.addNode (some 0) 2) = true := by rfl
example : pre adjWitnessState (.extract 1) = true := by rfl
example : pre adjWitnessState (.destroy 2) = true := by rfl

/-! ### API-built tree equals parsed tree

  `apiHistoryOf es` (`Lemmas/TreeHeapXml.lean`) is the document-order history a client issues for the
  document Expat reports as `es`: `wbxml_tree_add_xml_elt_with_attrs` under the current parent at a start
  tag, `wbxml_tree_add_text` for character data, `wbxml_tree_add_cdata` (+ `wbxml_tree_add_text` below it)
  for a CDATA section, one step up at an end tag.  `plainEvents L es` says which event lists are covered:
  well-nested Expat output (prolog with XML declaration / DOCTYPE / PIs, one root, epilog) without the
  four things the XML front end does beyond those calls —
    * `embeddedName`: a `DevInf` / `MgmtTree` start tag below the root (embedded SyncML document),
    * `attrPlain`:   an attribute reported in the XML namespace (`xml:lang` … mapping),
    * `textPlain`:   character data below an element called `Data` (SyncML CDATA wrapping, LF → CRLF),
    * `textPlain`:   character data below a binary-flagged element (ActiveSync base64 decoding).
  Each exclusion has a kernel-evaluated witness below on which the two sides really differ.
  Covered (no exclusion): DOCTYPE- and root-name-based language selection (`L` is whatever the front end
  selected), the encoding declaration, names without table row (literals on both sides), namespace
  prefixes / code pages, white-space-only text (the front end model attaches it like any text), text
  reported in pieces (merged on both sides), processing instructions. -/

/-- **Headline clause, `_partial`** (partial = restricted to `plainEvents`).  For EVERY language table,
    every environment of Expat runs, every document on which the XML front end succeeds with tree `t`
    (`treeOfXml … = .ok t`; the events are those of the run recorded for the document, and Expat's
    verdict was `ok`), whose events are `plainEvents` for the language `L` the front end selected:
    creating the tree with an id `lid` that denotes `L` and the parsed charset, and issuing the
    document-order API history of the events, never faults, keeps the link invariant, and ends in a
    state whose abstraction IS `t` — same language, same charset, same root, node for node. -/
theorem api_tree_equals_parsed_partial (main : List Lang) (env : List (Bytes × ExpatRun)) (fuel : Nat)
    (xml key : Bytes) (r : ExpatRun) (t : Tree) (L : Lang) (lid : Nat)
    (henv : env.find? (fun p => p.1 == xml) = some (key, r))
    (hparsed : treeOfXml main env fuel xml = .ok t)
    (hlang : t.lang = some L)
    (hplain : plainEvents L r.events = true)
    (hlid : main.find? (fun l => l.id == lid) = t.lang) :
    r.ok = true ∧
    ∃ s', run (create main lid t.origCharset) (apiHistoryOf r.events) = .ok s' ∧ Inv s' ∧ absTree s' = .ok t := by
  obtain ⟨f', k, run', b, rfl, hfind, hok, hb, _, herr, ht⟩ := Lemmas.X2W.treeOfXml_ok_run hparsed
  rw [henv] at hfind
  cases hfind
  subst hb ht
  generalize Lemmas.X2W.subOf main env f' = sub at *
  refine ⟨hok, ?_⟩
  simp only at hlang hlid
  obtain ⟨s', hr, hI, habs⟩ := api_history_abs main xml sub r.events
    (r.events.foldl (xbuildStep main xml sub) {}).charset hplain herr hlang
  have hc : create main lid (r.events.foldl (xbuildStep main xml sub) {}).charset =
      { lang := some L, charset := (r.events.foldl (xbuildStep main xml sub) {}).charset } := by
    simp only [create, hlid, hlang]
  refine ⟨s', by rw [hc]; exact hr, hI, ?_⟩
  rw [habs, hlang]

/-- … hence the API-built document converts to the same WBXML bytes and the same XML bytes as the
    parsed one, for EVERY option tuple of the two encoders. -/
theorem api_built_converts_like_parsed_partial (main : List Lang) (env : List (Bytes × ExpatRun)) (fuel : Nat)
    (xml key : Bytes) (r : ExpatRun) (t : Tree) (L : Lang) (lid : Nat)
    (henv : env.find? (fun p => p.1 == xml) = some (key, r))
    (hparsed : treeOfXml main env fuel xml = .ok t)
    (hlang : t.lang = some L)
    (hplain : plainEvents L r.events = true)
    (hlid : main.find? (fun l => l.id == lid) = t.lang)
    (cfgW : X2WCfg) (cfgX : W2XCfg) (xfuel : Nat) :
    ∃ s', run (create main lid t.origCharset) (apiHistoryOf r.events) = .ok s' ∧
      (absTree s' >>= treeToWbxml cfgW) = treeToWbxml cfgW t ∧
      (absTree s' >>= treeToXml cfgX xfuel) = treeToXml cfgX xfuel t := by
  obtain ⟨_, s', hr, _, habs⟩ := api_tree_equals_parsed_partial main env fuel xml key r t L lid henv hparsed hlang hplain hlid
  refine ⟨s', hr, ?_, ?_⟩ <;> rw [habs] <;> rfl

/-! ### Shape determines the bytes -/

-- `h₂` (and with it the second history) plays no part: equal `abs` is all the encoders see
set_option linter.unusedVariables false in
/-- ANY two histories (insertions of every kind, extractions, re-insertions, destructions, calls outside
    the contract; on trees of any language and charset) that end in the same shape — equal `abs` — give
    the same WBXML bytes and the same XML bytes under every option tuple; and `abs` is defined for both.
    (As `abs_eq_same_xml`: true by construction of the model encoders, which are functions of `abs`; the
    evidence that the REAL encoders are is the correspondence check `T2`/`X2`/`W2`.) -/
theorem same_shape_same_bytes (main : List Lang) (lang₁ cs₁ lang₂ cs₂ : Nat) (ops₁ ops₂ : List Op) (s₁ s₂ : St)
    (h₁ : run (create main lang₁ cs₁) ops₁ = .ok s₁) (h₂ : run (create main lang₂ cs₂) ops₂ = .ok s₂)
    (hshape : absTree s₁ = absTree s₂) (cfgW : X2WCfg) (cfgX : W2XCfg) (fuel : Nat) :
    ∃ t, absTree s₁ = .ok t ∧ absTree s₂ = .ok t ∧
      (absTree s₁ >>= treeToWbxml cfgW) = (absTree s₂ >>= treeToWbxml cfgW) ∧
      (absTree s₁ >>= treeToXml cfgX fuel) = (absTree s₂ >>= treeToXml cfgX fuel) := by
  obtain ⟨s', t, e, ht⟩ := abs_total_all_histories main lang₁ cs₁ ops₁
  cases h₁.symm.trans e
  exact ⟨t, ht, by rw [← hshape]; exact ht, by rw [hshape], by rw [hshape]⟩

/-- `wbxml_tree_extract_node(tree, n)` followed by `wbxml_tree_add_node(tree, P, n)` is the identity on
    `abs` — for every state satisfying the invariant and every live node `n` that is the LAST child of its
    parent `P` (`n->next == NULL`), provided `n` and its previous sibling are not both text nodes.
    Both calls are inside the contract (`run` does not skip them), the invariant holds afterwards.
    The side condition is exact: see `extract_then_reinsert_merges_adjacent_text`. -/
theorem extract_then_reinsert_last_child (s : St) (hI : Inv s) (n P : Nat) (cn : Cell)
    (hcn : s.cellAt n = some cn) (hp : cn.parent = some P) (hlast : cn.next = none)
    (hside : ∀ q cq, cn.prev = some q → s.cellAt q = some cq → ¬ (cn.pay.isText = true ∧ cq.pay.isText = true)) :
    ∃ s', run s [.extract n, .addNode (some P) n] = .ok s' ∧ Inv s' ∧ absTree s' = absTree s := by
  obtain ⟨G, hF⟩ := hI
  obtain ⟨s2, e, hF2, _, habs⟩ := extract_reinsert_last hF hcn hp hlast hside
  exact ⟨s2, e, ⟨G, hF2⟩, habs⟩

/-- Corollary: inserting a detached sub-tree, extracting it and inserting it again at the same place gives
    the same `abs` as inserting it once — for every state with the invariant and without adjacent text
    siblings (e.g. after any extraction-free history, `no_adjacent_text_partial`) and every insertion
    inside the contract; no call of the longer history is skipped. -/
theorem insert_extract_insert_same_abs (s : St) (hI : Inv s) (hN : NoAdjText s) (P n : Nat)
    (hpre : pre s (.addNode (some P) n) = true) :
    ∃ s1 s3, run s [.addNode (some P) n] = .ok s1 ∧
      run s [.addNode (some P) n, .extract n, .addNode (some P) n] = .ok s3 ∧ Inv s3 ∧ absTree s3 = absTree s1 := by
  obtain ⟨G, hF⟩ := hI
  exact insert_extract_insert hF hN hpre

/-- Without the side condition the statement is false: on the state of the known finding
    `adjacent-text-after-extract` (root with the adjacent text children "a", "b") the last child "b" has a
    text node as previous sibling; extracting it and adding it back leaves ONE child "ab". -/
theorem extract_then_reinsert_merges_adjacent_text : reinsertMergeCheck = true := by decide +kernel

/-! ### Non-vacuity of the headline theorems: a WML and a SyncML document -/

/-- WML 1.2 (DOCTYPE, encoding declaration, attributes, nested elements, text reported in pieces, a
    CDATA section, a processing instruction): all hypotheses hold, the theorems apply. -/
example : ∃ t s', treeOfXml Gen.main wmlEnv 1 wmlXml = .ok t ∧ t.lang = some Gen.lang2 ∧
    run (create Gen.main 1103 t.origCharset) (apiHistoryOf wmlEvents) = .ok s' ∧ absTree s' = .ok t ∧
    (∀ cfgW, (absTree s' >>= treeToWbxml cfgW) = treeToWbxml cfgW t) ∧
    (∀ cfgX f, (absTree s' >>= treeToXml cfgX f) = treeToXml cfgX f t) := by
  have h1 : parsedLangIs (treeOfXml Gen.main wmlEnv 1 wmlXml) Gen.lang2 = true :=
    parsedLangIs_of_id 2 rfl (by decide +kernel)
  have h2 : plainEvents Gen.lang2 wmlEvents = true := by decide +kernel
  have h3 : Gen.main.find? (fun l => l.id == 1103) = some Gen.lang2 := by decide +kernel
  obtain ⟨t, ht, hl⟩ := parsedLangIs_inv h1
  have henv : wmlEnv.find? (fun p => p.1 == wmlXml) = some (wmlXml, { ok := true, events := wmlEvents }) := by
    simp [wmlEnv]
  obtain ⟨_, s', hr, _, habs⟩ := api_tree_equals_parsed_partial Gen.main wmlEnv 1 wmlXml wmlXml _ t Gen.lang2 1103
    henv ht hl h2 (by rw [h3, hl])
  refine ⟨t, s', ht, hl, hr, habs, ?_, ?_⟩
  · intro cfgW; rw [habs]; rfl
  · intro cfgX f; rw [habs]; rfl

/-- … and, evaluated independently of the theorem, both sides of the WML example give the same non-empty
    WBXML and XML bytes. -/
example : sidesAgree (treeOfXml Gen.main wmlEnv 1 wmlXml) Gen.lang2 wmlEvents = true := by decide +kernel

/-- SyncML 1.2 (language found from the root element's namespace, two code pages, a literal attribute,
    nesting, text in pieces). -/
example : ∃ t s', treeOfXml Gen.main syncEnv 1 syncXml = .ok t ∧ t.lang = some Gen.lang15 ∧
    run (create Gen.main 2201 t.origCharset) (apiHistoryOf syncEvents) = .ok s' ∧ absTree s' = .ok t ∧
    (∀ cfgW, (absTree s' >>= treeToWbxml cfgW) = treeToWbxml cfgW t) ∧
    (∀ cfgX f, (absTree s' >>= treeToXml cfgX f) = treeToXml cfgX f t) := by
  have h1 : parsedLangIs (treeOfXml Gen.main syncEnv 1 syncXml) Gen.lang15 = true :=
    parsedLangIs_of_id 15 rfl (by decide +kernel)
  have h2 : plainEvents Gen.lang15 syncEvents = true := by decide +kernel
  have h3 : Gen.main.find? (fun l => l.id == 2201) = some Gen.lang15 := by decide +kernel
  obtain ⟨t, ht, hl⟩ := parsedLangIs_inv h1
  have henv : syncEnv.find? (fun p => p.1 == syncXml) = some (syncXml, { ok := true, events := syncEvents }) := by
    simp [syncEnv]
  obtain ⟨_, s', hr, _, habs⟩ := api_tree_equals_parsed_partial Gen.main syncEnv 1 syncXml syncXml _ t Gen.lang15 2201
    henv ht hl h2 (by rw [h3, hl])
  refine ⟨t, s', ht, hl, hr, habs, ?_, ?_⟩
  · intro cfgW; rw [habs]; rfl
  · intro cfgX f; rw [habs]; rfl

example : sidesAgree (treeOfXml Gen.main syncEnv 1 syncXml) Gen.lang15 syncEvents = true := by decide +kernel

/-! ### What `plainEvents` excludes: on each kind the two sides really differ

  In every witness the XML front end succeeds (tree of the stated language), `plainEvents` rejects the
  event list, and the document-order API history builds a tree whose WBXML bytes AND XML bytes (default
  options) differ from those of the parsed tree (`sidesDiffer`). -/

/-- `attrPlain`: `<wml xml:lang="en"/>` — the front end maps the namespace-qualified name back to `xml:lang`
    (a table attribute), `wbxml_tree_add_xml_elt_with_attrs` called with the reported name does not. -/
theorem excluded_xml_namespace_attr :
    parsedLangIs (treeOfXml Gen.main xmlLangEnv 1 xmlLangXml) Gen.lang0 = true ∧
    plainEvents Gen.lang0 xmlLangEvents = false ∧
    sidesDiffer (treeOfXml Gen.main xmlLangEnv 1 xmlLangXml) Gen.lang0 xmlLangEvents = true :=
  ⟨parsedLangIs_of_id 0 rfl (by decide +kernel), by decide +kernel, by decide +kernel⟩

/-- `textPlain` (element called `Data`): `<Add><Item><Data>x</Data>…` in SyncML — the front end wraps the text
    in a CDATA node. -/
theorem excluded_syncml_data_text :
    parsedLangIs (treeOfXml Gen.main dataEnv 1 dataXml) Gen.lang15 = true ∧
    plainEvents Gen.lang15 dataEvents = false ∧
    sidesDiffer (treeOfXml Gen.main dataEnv 1 dataXml) Gen.lang15 dataEvents = true :=
  ⟨parsedLangIs_of_id 15 rfl (by decide +kernel), by decide +kernel, by decide +kernel⟩

/-- `textPlain` (binary-flagged element): `<MIME>QUJD</MIME>` in ActiveSync — the front end attaches the
    base64 DECODING `ABC`. -/
theorem excluded_binary_flagged_text :
    parsedLangIs (treeOfXml Gen.main mimeEnv 1 mimeXml) Gen.lang27 = true ∧
    plainEvents Gen.lang27 mimeEvents = false ∧
    sidesDiffer (treeOfXml Gen.main mimeEnv 1 mimeXml) Gen.lang27 mimeEvents = true :=
  ⟨parsedLangIs_of_id 27 rfl (by decide +kernel), by decide +kernel, by decide +kernel⟩

/-- `embeddedName`: `<SyncML><DevInf>…</DevInf></SyncML>` — the front end re-parses the byte range as a DevInf
    document and attaches a nested tree; the API history adds an element. -/
theorem excluded_embedded_devinf :
    parsedLangIs (treeOfXml Gen.main devinfEnv 2 devinfXml) Gen.lang15 = true ∧
    plainEvents Gen.lang15 devinfEvents = false ∧
    sidesDiffer (treeOfXml Gen.main devinfEnv 2 devinfXml) Gen.lang15 devinfEvents = true :=
  ⟨parsedLangIs_of_id 15 rfl (by decide +kernel), by decide +kernel, by decide +kernel⟩

/-- The SHAPE part of `plainEvents` excludes event lists Expat never reports for a well-formed document
    (unbalanced tags, text outside the root, a second root, CDATA outside an element …).  On most of them
    the front end answers an error (the hypothesis `treeOfXml … = .ok t` is false); where it does not,
    the two sides may well agree — e.g. a CDATA section as the whole document — but that is not proved. -/
theorem excluded_shape_agrees_unproved :
    parsedLangIs (treeOfXml Gen.main cdataRootEnv 1 b!"x") Gen.lang2 = true ∧
    plainEvents Gen.lang2 cdataRootEvents = false ∧
    sidesAgree (treeOfXml Gen.main cdataRootEnv 1 b!"x") Gen.lang2 cdataRootEvents = true :=
  ⟨parsedLangIs_of_id 2 rfl (by decide +kernel), by decide +kernel, by decide +kernel⟩

end Wbxml.Props.C18
