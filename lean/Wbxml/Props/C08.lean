/-
  C08 — every language's token tables form a consistent, self-inverse code.
  All theorems are about the *regenerated* `Gen.Tables` (what the compiler saw of
  `src/wbxml_tables.c` in the current tree) and are discharged by kernel evaluation
  (`decide +kernel`, no axioms beyond the kernel's own reduction), lifted through the parametric
  lemmas of `Lemmas/Tables.lean`, which reduce the row-by-row searches to one pass per table.
-/
import Wbxml.Lemmas.Tables
import Wbxml.Gen.Tables
import Wbxml.Gen.Consts
namespace Wbxml.Props.C08
open Wbxml Wbxml.Model

/-- The model's literal global tokens are the ones the library was compiled with. -/
theorem global_tokens_agree :
    ([Gen.Consts.WBXML_SWITCH_PAGE, Gen.Consts.WBXML_END, Gen.Consts.WBXML_ENTITY, Gen.Consts.WBXML_STR_I,
      Gen.Consts.WBXML_LITERAL, Gen.Consts.WBXML_EXT_I_0, Gen.Consts.WBXML_EXT_I_1, Gen.Consts.WBXML_EXT_I_2,
      Gen.Consts.WBXML_PI, Gen.Consts.WBXML_LITERAL_C, Gen.Consts.WBXML_EXT_T_0, Gen.Consts.WBXML_EXT_T_1,
      Gen.Consts.WBXML_EXT_T_2, Gen.Consts.WBXML_STR_T, Gen.Consts.WBXML_LITERAL_A, Gen.Consts.WBXML_EXT_0,
      Gen.Consts.WBXML_EXT_1, Gen.Consts.WBXML_EXT_2, Gen.Consts.WBXML_OPAQUE, Gen.Consts.WBXML_LITERAL_AC] : List Int)
    = globalTokens.map Int.ofNat := by decide

/-! Each table is swept once, here, and the encoder's and the round trip's table facts (C06, C03)
    cite these. What is swept is the list of tables `Gen` names and, after it, the tables of the
    language entries: the kernel evaluates a check once per closed term it is applied to, so the
    second half is not evaluated again, and no table has to be compared with another to know that the
    tables of a language were swept. -/

def swept {α : Type} (listed : List (List α)) (f : Lang → Option (List α)) : List (List α) :=
  listed ++ Gen.main.filterMap f

theorem mem_swept {α : Type} {listed : List (List α)} {f : Lang → Option (List α)} {l : Lang}
    (hl : l ∈ Gen.main) {t : List α} (ht : f l = some t) : t ∈ swept listed f :=
  List.mem_append_right _ (List.mem_filterMap.2 ⟨l, hl, ht⟩)

/-- ActiveSync's second name for token 0x10 of page 14, the one row that is not the first with its
    page and token (`C03.aliasRow` is the same predicate). -/
def aliasRow (r : TagRow) : Bool := r.name == b!"RequireStorageCardEncryption" && r.page == 14 && r.token == 16

theorem tag_keys_fresh : ∀ t ∈ swept Gen.allTagTables (·.tags),
    keysFresh (fun r => rowKey r.page r.token) aliasRow 0 t = true := by
  decide +kernel

theorem attr_keys_fresh : ∀ t ∈ swept Gen.allAttrTables (·.attrs),
    keysFresh (fun r => rowKey r.page r.token) (fun _ => false) 0 t = true := by decide +kernel

theorem val_keys_fresh : ∀ t ∈ swept Gen.allValTables (·.values),
    keysFresh (fun r => rowKey r.page r.token) (fun _ => false) 0 t = true := by decide +kernel

/-- Token ranges, contiguous pages, no page repeats a name. -/
theorem tag_tables_lin : ∀ t ∈ swept Gen.allTagTables (·.tags), tagTableOKLin t = true := by decide +kernel

/-- Tag tokens lie in 0x05–0x3F, none is a global token, decode→encode and encode→decode→encode
    (from the row's own page and from no page) are the identity on (page, token). -/
theorem tag_tables_ok : ∀ t ∈ Gen.allTagTables, tagTableOK t = true :=
  fun t ht => tagTableOK_of_lin (tag_tables_lin t (List.mem_append_left _ ht))

theorem attr_tables_swept : ∀ t ∈ swept Gen.allAttrTables (·.attrs), attrTableOK t = true := by
  have h : ∀ t ∈ swept Gen.allAttrTables (·.attrs), t.all (fun r => rowRange 0x05 0x7F r.page r.token) = true := by
    decide +kernel
  exact fun t ht => attrTableOK_of_keys (h t ht) (attr_keys_fresh t ht)

/-- Attribute-start tokens lie in 0x05–0x7F, none is global; decoding a start token and encoding
    its (name, value prefix) yields a start token that decodes to the same (name, value prefix)
    and covers the whole prefix. -/
theorem attr_tables_ok : ∀ t ∈ Gen.allAttrTables, attrTableOK t = true :=
  fun t ht => attr_tables_swept t (List.mem_append_left _ ht)

theorem val_ranges_swept : ∀ t ∈ swept Gen.allValTables (·.values), valTableRange t = true := by decide +kernel

/-- Attribute-value tokens lie in 0x85–0xFF and none is a global token. -/
theorem val_tables_range : ∀ t ∈ Gen.allValTables, valTableRange t = true :=
  fun t ht => val_ranges_swept t (List.mem_append_left _ ht)

/-- Every value token decodes (first match) to a row with that (page, token). -/
theorem val_tables_ok : ∀ t ∈ Gen.allValTables, valTableOK t = true := fun t _ => valTableOK_any t

/-- Namespaces: name → page → name and page → name → page are identities. -/
theorem ns_tables_ok : ∀ t ∈ Gen.allNsTables, nsTableOK t = true := by
  -- the predicate itself stands behind the one-pass condition: a regenerated table that satisfies
  -- the statement without having distinct pages and names must still get through
  have h : ∀ t ∈ swept Gen.allNsTables (·.ns), (nsTableOKLin t || nsTableOK t) = true := by decide +kernel
  exact fun t ht => (Bool.or_eq_true _ _ ▸ h t (List.mem_append_left _ ht)).elim nsTableOK_of_lin id

/-- The rows of the Wireless-Village extension table whose token does *not* re-encode to itself
    (two tokens share one name; the meaning is preserved, the token is not). Known finding. -/
def extAliasExceptions : List (Bytes × Nat) := [(b!"SMS", 0x75), (b!"IM", 0x68)]

/-- The three facts about the extension tables chain the same look-ups row by row, so they are
    evaluated together. -/
theorem ext_tables_facts : ∀ t ∈ swept Gen.allExtTables (·.exts),
    (decide (t.length < 256) && t.all (extEncDec t) &&
      t.all (fun r => extDecEnc t r || extAliasExceptions.contains (r.name, r.token)) &&
      t.all (extMeaningKept t)) = true := by decide +kernel

/-- Extension values: the table is short enough for the parser's 8-bit index and
    name → token → name → token closes. -/
theorem ext_tables_enc_dec : ∀ t ∈ Gen.allExtTables,
    (decide (t.length < 256) && t.all (extEncDec t)) = true := fun t ht => by
  have h := ext_tables_facts t (List.mem_append_left _ ht)
  simp only [Bool.and_eq_true] at h ⊢
  exact h.1.1

/-- Full-strength statement `∀ r, extDecEnc t r` is false on the tables of the tree under test (the
    rows of `extAliasExceptions`); it holds for every other row. -/
theorem ext_tables_dec_enc_partial : ∀ t ∈ Gen.allExtTables,
    t.all (fun r => extDecEnc t r || extAliasExceptions.contains (r.name, r.token)) = true := fun t ht => by
  have h := ext_tables_facts t (List.mem_append_left _ ht)
  simp only [Bool.and_eq_true] at h
  exact h.1.2

/-- The exceptions still preserve meaning: token → name → token' → the same name. -/
theorem ext_alias_meaning_preserved : ∀ t ∈ Gen.allExtTables,
    t.all (fun r => match decExt t r.token with
      | some d => (match encExt t d.name with
        | some e => (match decExt t e.token with
          | some d' => d'.name == d.name
          | none => false)
        | none => false)
      | none => false) = true := fun t ht => by
  have h := ext_tables_facts t (List.mem_append_left _ ht)
  simp only [Bool.and_eq_true] at h
  exact h.2

/-- User-facing form: for every language entry, every tag row. -/
theorem every_language_tag_row (l : Lang) (hl : l ∈ Gen.main) (t : List TagRow) (ht : l.tags = some t)
    (r : TagRow) (hr : r ∈ t) :
    tagRowRange r = true ∧ tagDecEnc t r = true ∧ tagEncDec t r = true := by
  have hok := tagTableOK_of_lin (tag_tables_lin t (mem_swept hl ht))
  unfold tagTableOK at hok
  simp only [Bool.and_eq_true, List.all_eq_true] at hok
  exact ⟨hok.1.1 r hr, hok.1.2 r hr, hok.2 r hr⟩

theorem tag_row_self {t : List TagRow} (ht : t ∈ swept Gen.allTagTables (·.tags)) {r : TagRow} (hr : r ∈ t)
    (hx : aliasRow r = false) : decTag t r.page r.token = some r :=
  find?_own_key TagRow.page TagRow.token (tag_keys_fresh t ht) hr hx

theorem attr_row_self {l : Lang} (hl : l ∈ Gen.main) {t : List AttrRow} (ht : l.attrs = some t)
    {r : AttrRow} (hr : r ∈ t) : decAttr t r.page r.token = some r :=
  decAttr_self (attr_keys_fresh t (mem_swept hl ht)) hr

theorem val_row_self {l : Lang} (hl : l ∈ Gen.main) {t : List ValRow} (ht : l.values = some t)
    {r : ValRow} (hr : r ∈ t) : decVal t r.page r.token = some r :=
  find?_own_key ValRow.page ValRow.token (val_keys_fresh t (mem_swept hl ht)) hr rfl

/-- Every language has a tag table and a public-id entry (29 entries in the tree under test). -/
theorem every_language_has_tags : Gen.main.all (fun l => l.tags.isSome) = true := by decide +kernel

example : Gen.main.length ≥ 29 ∧ Gen.allTagTables.length ≥ 20 := by decide

end Wbxml.Props.C08
