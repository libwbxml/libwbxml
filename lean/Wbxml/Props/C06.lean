/-
  C06 — generated WBXML is grammatical and denotes the source.

  Model: `Model/EncWbxml*.lean` (`treeToWbxml` = `wbxml_tree_to_wbxml`, tied byte for byte to
  `src/wbxml_encoder.c` by the ENCW / X2W correspondence runs). Grammar: `Spec/Wbxml.lean`
  (`Spec.Doc`, `Spec.ser`, `Doc.WF`, `Spec.events`), whose reading by the parser model is C04's
  `parse_ser`.

  Every theorem is for ALL trees, option tuples and languages (induction over the tree,
  `Lemmas/EncW*.lean`); the hypotheses, where there are any, are
    `langOk lang`      decidable range facts of the language's tables — true for every entry of the
                       regenerated main table (`main_langOk`);
    `treeOver lang t`  the root is an element and token names are rows of that language's tables
                       (what the XML tree builder produces; a tree built through the API with rows
                       of another language is outside);
    `typedLangOk lang` table facts of the typed forms (`main_typedLangOk`);
    four decidable conditions on the source tree, each a recorded finding, for `Doc.WF` of outputs
    with typed content (`enc_is_ser_wf`, `decodes_by_spec`: all 29 languages, nothing excluded):
    `noCdataInTyped` (cdata-in-typed-element), `validDatetimeAttrs` (invalid-datetime-attribute-accepted),
    `b64TextDecodes` (invalid-base64-in-binary-element: text that is not base64 becomes an empty
    OPAQUE), `keyValueTextFirst` (mixed-content-in-binary-element: DRMREL `ds:KeyValue` text behind a
    child element) — each with a necessity witness;
    `opqsDoc d = []`   (only `enc_is_ser_wf_partial`, the output-side variant) no OPAQUE token was written.
-/
import Wbxml.Lemmas.EncWReadBack
import Wbxml.Lemmas.EncWTables
import Wbxml.Props.C08
import Wbxml.Props.C04
import Wbxml.Props.C11
import Wbxml.Lemmas.TypedWvDate
import Wbxml.Gen.Tables
namespace Wbxml.Props.C06
open Wbxml Wbxml.Model Wbxml.Spec Wbxml.Lemmas.EncW Wbxml.Lemmas.ParseSer
open Wbxml.Model.Codec (mbEncode)

/-- The table facts the encoder relies on (token ranges, code pages are octets, extension tables
    only for Wireless Village, `%Datetime` start tokens without value prefix, public ids in range)
    hold for every language of the library. -/
theorem main_langOk : Gen.main.all langOk = true := by
  have hr : Gen.main.all langOkRest = true := by decide +kernel
  refine List.all_eq_true.mpr fun l hl => ?_
  exact langOk_of_tables (fun t ht => tagTableOK_of_lin (C08.tag_tables_lin t (C08.mem_swept hl ht)))
    (fun t ht => C08.attr_tables_swept t (C08.mem_swept hl ht))
    (fun t ht => C08.val_ranges_swept t (C08.mem_swept hl ht)) (List.all_eq_true.mp hr l hl)

theorem langOk_of_main (l : Lang) (h : l ∈ Gen.main) : langOk l = true :=
  List.all_eq_true.mp main_langOk l h

/-- A successful run writes `serHeader h ++ body` where `h` is the header value `hdrOf` of the
    final encoder state and `body` the output of the node walk — for every tree. -/
theorem header_is_ser (cfg : X2WCfg) (t : Tree) (bs : Bytes) (h : treeToWbxml cfg t = .ok bs) :
    ∃ lang r st, t.lang = some lang ∧ t.root = some r ∧
      encNodeG (dcfgOf cfg lang) none true r (docStartW (dcfgOf cfg lang) r) = .ok st ∧
      bs = serHeader (hdrOf (dcfgOf cfg lang) st) ++ st.out := by
  obtain ⟨lang, r, st, hl, hr, hrun, hbs⟩ := treeToWbxml_ok h
  obtain ⟨hinv, hno⟩ := doc_final_inv _ r st hrun
  exact ⟨lang, r, st, hl, hr, hrun, by rw [hbs, fillHeaderW_ser _ _ hinv hno]⟩

/-- "The header carries the requested version": the first octet is the version token. -/
theorem header_version (cfg : X2WCfg) (t : Tree) (bs : Bytes) (h : treeToWbxml cfg t = .ok bs) :
    bs.head? = some (UInt8.ofNat cfg.version) ∧ bs[0]? = some (UInt8.ofNat cfg.version) := by
  obtain ⟨lang, r, st, _, _, _, hbs⟩ := header_is_ser cfg t bs h
  subst hbs
  simp [serHeader, hdrOf, byte]

/-- "…and UTF-8": after the public identifier comes the charset field `6A` (MIBenum 106) for every
    version but 1.0; a WBXML 1.0 header has no charset field. -/
theorem header_charset_utf8 (cfg : X2WCfg) (t : Tree) (bs : Bytes) (h : treeToWbxml cfg t = .ok bs) :
    ∃ lang st rest, t.lang = some lang ∧
      bs = UInt8.ofNat cfg.version :: (serPubid (hdrPubid (dcfgOf cfg lang) st) ++
        ((if cfg.version = 0 then [] else [0x6A]) ++ rest)) := by
  obtain ⟨lang, r, st, hl, _, _, hbs⟩ := header_is_ser cfg t bs h
  refine ⟨lang, st, mb (tblBytes (hdrOf (dcfgOf cfg lang) st).strtbl).length ++
    (tblBytes (hdrOf (dcfgOf cfg lang) st).strtbl ++ st.out), hl, ?_⟩
  rw [hbs]
  simp only [serHeader, hdrOf, dcfgOf_version, mb106, byte, List.cons_append, List.append_assoc]

/-- "The language's public identifier — numerically, or as an index to its text in the string
    table, or as 'unknown' when anonymity is requested". The identifier written is

    * `01` (unknown) when anonymity is requested;
    * otherwise the language's numeric identifier when it has one (≠ 1);
    * otherwise (numeric identifier 1) `00 idx` where `idx` is the offset of an entry of the final
      string table whose string is the language's textual identifier — or `01` when the language
      has no textual identifier either. -/
theorem header_publicid (cfg : X2WCfg) (lang : Lang) (st : WSt) :
    (cfg.anonymous = true → hdrPubid (dcfgOf cfg lang) st = .num 1) ∧
    (cfg.anonymous = false → lang.pub.wbxmlId ≠ 1 → hdrPubid (dcfgOf cfg lang) st = .num lang.pub.wbxmlId) ∧
    (cfg.anonymous = false → lang.pub.wbxmlId = 1 → lang.pub.xmlId = none →
      hdrPubid (dcfgOf cfg lang) st = .num 1) ∧
    (cfg.anonymous = false → lang.pub.wbxmlId = 1 → ∀ p, lang.pub.xmlId = some p →
      ∃ idx e, hdrPubid (dcfgOf cfg lang) st = .str idx ∧ e ∈ finalTbl (dcfgOf cfg lang) st ∧
        e.offset = idx ∧ e.str = p) := by
  refine ⟨?_, ?_, ?_, ?_⟩
  · intro ha
    simp [hdrPubid, hdrPid, ha]
  · intro ha hid
    simp [hdrPubid, hdrPid, ha, hid]
  · intro ha hid hx
    simp [hdrPubid, hdrPid, ha, hid, hx]
  · intro ha hid p hx
    have hp : hdrPid (dcfgOf cfg lang) = some p := by simp [hdrPid, ha, hid, hx]
    cases hu : (dcfgOf cfg lang).useStrtbl with
    | true =>
      obtain ⟨e, he, ho, hs⟩ := strtblAdd_idx st p none
      exact ⟨_, e, by simp [hdrPubid, hp, hu], by simpa [finalTbl, hp, hu] using he, ho, hs⟩
    | false =>
      exact ⟨0, ⟨p, 0, none⟩, by simp [hdrPubid, hp, hu], by simp [finalTbl, hp, hu], rfl, rfl⟩

/-- "An anonymous document's header carries the 'unknown' identifier and no public-identifier
    string": the identifier is `01` and the string table is exactly the one the body built
    (empty when the string table is disabled). -/
theorem anonymous_no_pid_string (cfg : X2WCfg) (lang : Lang) (st : WSt) (ha : cfg.anonymous = true) :
    hdrPubid (dcfgOf cfg lang) st = .num 1 ∧
    finalTbl (dcfgOf cfg lang) st = (if (dcfgOf cfg lang).useStrtbl then st.strtbl else []) := by
  have hp : hdrPid (dcfgOf cfg lang) = none := by simp [hdrPid, ha]
  exact ⟨(header_publicid cfg lang st).1 ha, by simp [finalTbl, hp]⟩

/-- "The declared string-table length is exact": the header's length field is `mb_u_int32` of the
    octet length of the table that follows, the table is the concatenation of its entries each
    followed by NUL, and every entry's offset is the sum of `length + 1` of the entries before it. -/
theorem strtbl_len_exact (cfg : X2WCfg) (t : Tree) (bs : Bytes) (h : treeToWbxml cfg t = .ok bs) :
    ∃ lang st pre, t.lang = some lang ∧
      bs = pre ++ (mbEncode (strtblBytes (finalTbl (dcfgOf cfg lang) st)).length ++
        (strtblBytes (finalTbl (dcfgOf cfg lang) st) ++ st.out)) ∧
      (strtblBytes (finalTbl (dcfgOf cfg lang) st)).length = tblLen (finalTbl (dcfgOf cfg lang) st) ∧
      OffsFrom 0 (finalTbl (dcfgOf cfg lang) st) := by
  obtain ⟨lang, r, st, hl, _, hrun, hbs⟩ := header_is_ser cfg t bs h
  obtain ⟨hinv, _⟩ := doc_final_inv _ r st hrun
  refine ⟨lang, st, byte cfg.version :: (serPubid (hdrPubid (dcfgOf cfg lang) st) ++
    (if cfg.version = 0 then [] else mb 106)), hl, ?_, strtblBytes_length _, finalTbl_offs _ _ hinv⟩
  rw [hbs]
  simp only [serHeader, hdrOf, dcfgOf_version, tblBytes_map, mb, List.cons_append, List.append_assoc]

/-- The state invariant behind it, on every tree and from every state that satisfies it: the node
    walk only appends entries, keeps `offset e = Σ (len + 1)` of earlier entries and
    `strtblLen = Σ (len + 1)`, and adds nothing when the string table is disabled. -/
theorem strtbl_invariant (c : WCfg) (parent : Option Name) (encEnd : Bool) (n : Node) (st st' : WSt)
    (hinv : StrInv st) (h : encNodeG c parent encEnd n st = .ok st') :
    StrInv st' ∧ st.strtbl <+: st'.strtbl ∧ (c.useStrtbl = false → st'.strtbl = st.strtbl) := by
  have t := encNode_tbl.1 c parent encEnd n st hinv st' h
  exact ⟨t.inv hinv, t.pre, t.no⟩

/-- **`enc_is_ser`** (grammaticality). For every tree whose root is an element over its language:
    the output is `Spec.ser d` for a document `d` of the WBXML grammar, with the header `hdrOf`
    and no processing instructions. In particular attribute lists, elements and the document
    terminate and balance (`ends_balance`). -/
theorem enc_is_ser (cfg : X2WCfg) (t : Tree) (bs : Bytes) (lang : Lang) (hlang : t.lang = some lang)
    (hl : langOk lang = true) (hover : treeOver lang t = true) (h : treeToWbxml cfg t = .ok bs) :
    ∃ d : Doc, bs = Spec.ser d ∧ d.pre = [] ∧ d.post = [] ∧
      ∃ st, d.hdr = hdrOf (dcfgOf cfg lang) st := by
  obtain ⟨r, d, st, _, hres⟩ := treeToWbxml_doc cfg t bs lang hlang hl hover h
  exact ⟨d, hres.ser, hres.pre, hres.post, st, hres.hdr⟩

/-- "Attribute lists, elements and the document terminate and balance": what follows the header
    is exactly `serElem root` — one element, whose attribute list (when not empty) and content
    (when present) are each closed by their own END, recursively, and nothing after it. -/
theorem ends_balance (cfg : X2WCfg) (t : Tree) (bs : Bytes) (lang : Lang) (hlang : t.lang = some lang)
    (hl : langOk lang = true) (hover : treeOver lang t = true) (h : treeToWbxml cfg t = .ok bs) :
    ∃ (hd : Header) (root : Elem), bs = serHeader hd ++ serElem root := by
  obtain ⟨d, hs, hpre, hpost, _⟩ := enc_is_ser cfg t bs lang hlang hl hover h
  refine ⟨d.hdr, d.root, ?_⟩
  rw [hs, Spec.ser, serBody, hpre, hpost]
  simp [serPis]

/-- "Every string reference and literal index points at the first byte of a NUL-terminated
    entry": every index used by the document (STR_T in content and attribute values, literal tag
    and attribute names, the textual public identifier) is the offset of the `i`-th entry of the
    header's string table, i.e. the total length of the `i` entries (with their NULs) before it. -/
theorem refs_hit_entry_starts (cfg : X2WCfg) (t : Tree) (bs : Bytes) (lang : Lang) (hlang : t.lang = some lang)
    (hl : langOk lang = true) (hover : treeOver lang t = true) (h : treeToWbxml cfg t = .ok bs) :
    ∃ d : Doc, bs = Spec.ser d ∧
      ∀ off ∈ refsDoc d, ∃ i, i < d.hdr.strtbl.length ∧ off = (tblBytes (d.hdr.strtbl.take i)).length := by
  obtain ⟨r, d, st, _, hres⟩ := treeToWbxml_doc cfg t bs lang hlang hl hover h
  refine ⟨d, hres.ser, ?_⟩
  intro off ho
  obtain ⟨e, he, heo⟩ := hres.refs off ho
  obtain ⟨i, hi, hoff⟩ := offsFrom_index 0 _ (finalTbl_offs _ _ hres.inv) e he
  refine ⟨i, by rw [hres.hdr]; simpa [hdrOf] using hi, ?_⟩
  rw [← heo, hoff, hres.hdr]
  simp only [hdrOf, ← List.map_take, tblBytes_map, strtblBytes_length, Nat.zero_add]

/-- "Literal names only through the string table": with the string table disabled the body
    contains no string-table index at all (an unknown name is refused with error 100 instead). -/
theorem literals_only_via_strtbl (cfg : X2WCfg) (t : Tree) (bs : Bytes) (lang : Lang) (hlang : t.lang = some lang)
    (hl : langOk lang = true) (hover : treeOver lang t = true) (h : treeToWbxml cfg t = .ok bs)
    (hu : (dcfgOf cfg lang).useStrtbl = false) :
    ∃ d : Doc, bs = Spec.ser d ∧ refsElem d.root = [] := by
  obtain ⟨r, d, st, _, hres⟩ := treeToWbxml_doc cfg t bs lang hlang hl hover h
  refine ⟨d, hres.ser, ?_⟩
  have hempty := hres.no hu
  cases hr : refsElem d.root with
  | nil => rfl
  | cons off rest =>
    obtain ⟨e, he, _⟩ := hres.body.refs off (by rw [refsItems_single, refsItem_elem, hr]; exact List.mem_cons_self)
    rw [hempty] at he; cases he

/-- "SWITCH_PAGE emitted iff the page changes" — tag space: `wbxml_encode_tag_token` writes
    `00 page` exactly when the tracked tag page differs from the token's page, then the token, and
    tracks the token's page; the attribute page is not touched. -/
theorem switch_iff_page_changes_tag (token page : Nat) (st : WSt) :
    (tagTokenW token page st).out =
      st.out ++ ((if st.tagPage = page % 256 then [] else [0x00, UInt8.ofNat page]) ++ [UInt8.ofNat token]) ∧
    (tagTokenW token page st).tagPage = page % 256 ∧ (tagTokenW token page st).attrPage = st.attrPage := by
  have h := tagTokenW_out token page st
  refine ⟨?_, h.2.1, h.2.2⟩
  rw [h.1]; unfold swFor
  by_cases hp : st.tagPage = page % 256
  · simp [hp, serSw]
  · simp [hp, serSw, byte_mod]

/-- … and attribute space (attribute starts and attribute value tokens alike); the tag page is
    not touched: the two code spaces are tracked separately. -/
theorem switch_iff_page_changes_attr (token page : Nat) (st : WSt) :
    (attrTokenW token page st).out =
      st.out ++ ((if st.attrPage = page % 256 then [] else [0x00, UInt8.ofNat page]) ++ [UInt8.ofNat token]) ∧
    (attrTokenW token page st).attrPage = page % 256 ∧ (attrTokenW token page st).tagPage = st.tagPage := by
  have h := attrTokenW_out token page st
  refine ⟨?_, h.2, (attrTokenW_frame token page st).1⟩
  rw [h.1]; unfold swFor
  by_cases hp : st.attrPage = page % 256
  · simp [hp, serSw]
  · simp [hp, serSw, byte_mod]

/-- "Every token is emitted under its own code page": the tag written for a node is a row of the
    language's tag table preceded by `SWITCH_PAGE` exactly when the tracked page is not the row's
    page (or a literal through the string table), and the tracked page afterwards is the page a
    reader is in. -/
theorem token_under_own_page (c : WCfg) (name : Name) (hc ha : Bool) (st st' : WSt)
    (hl : langOk c.lang = true) (hn : nameOver c.lang name = true) (h : encTagW c name hc ha st = .ok st') :
    ∃ sw tag, st'.out = st.out ++ (serSw sw ++ serTag (tagFlags ha hc) tag) ∧
      st'.tagPage = swPage sw st.tagPage ∧ TagOk c st'.strtbl st.tagPage name.cName sw tag := by
  obtain ⟨sw, tag, h1, h2, _, _, h6, _⟩ := encTagW_spec c name hc ha st st' hl hn h
  exact ⟨sw, tag, h1, h2, h6⟩

/-- The tracked pages always equal the pages a reader has after reading the output so far: for
    the whole document, the pages `Spec.evElem` computes from (0, 0) over the root element are the
    encoder's final `tagCodePage` / `attrCodePage`; `Lemmas.EncW.Seg.pages` is the same statement
    for every node and every intermediate state. -/
theorem tracked_pages_are_reader_pages (cfg : X2WCfg) (t : Tree) (bs : Bytes) (lang : Lang)
    (hlang : t.lang = some lang) (hl : langOk lang = true) (hover : treeOver lang t = true)
    (h : treeToWbxml cfg t = .ok bs) :
    ∃ (d : Doc) (st : WSt), bs = Spec.ser d ∧ ∀ ctx, (evElem ctx ⟨0, 0⟩ d.root).2 = ⟨st.tagPage, st.attrPage⟩ := by
  obtain ⟨r, d, st, _, hres⟩ := treeToWbxml_doc cfg t bs lang hlang hl hover h
  refine ⟨d, st, hres.ser, ?_⟩
  intro ctx
  have := hres.body.pages ctx none
  rw [(docStartW_fields _ r).tagPage, (docStartW_fields _ r).attrPage, evItems_single_pages, evItem_elem] at this
  exact this

/-- "Multi-byte integer writer": every length, index and identifier of `Spec.ser` is written by
    `mbEncode`, which uses the least number of 7-bit groups (C11). -/
theorem mb_uint_minimal (v : Nat) (hv : v < 2 ^ 32) :
    1 ≤ (mbEncode v).length ∧ (mbEncode v).length ≤ 5 ∧ v < 2 ^ (7 * (mbEncode v).length) ∧
    ∀ j, 1 ≤ j → v < 2 ^ (7 * j) → (mbEncode v).length ≤ j := Props.C11.mb_minimal v hv

/-! ## Values: "split into tokens / table references / inline strings" denotes the source -/

/-- Reader-side table facts used below (first row with a value token's page and token has the same
    text; first row with an attribute start's page and token has the same value prefix) hold for
    every language of the library. -/
theorem main_valSemOk : Gen.main.all valSemOk = true :=
  List.all_eq_true.mpr fun _ hl => valSemOk_of_self fun _ ht _ hr => C08.val_row_self hl ht hr
theorem main_attrSemOk : Gen.main.all attrSemOk = true :=
  List.all_eq_true.mpr fun _ hl => attrSemOk_of_self fun _ ht _ hr => C08.attr_row_self hl ht hr

/-- One pass of the splitting loop of `wbxml_encode_value_element_buffer` (needle = an attribute
    value token's text or a string-table entry) keeps the concatenation of the element values,
    for ANY needle and ANY list — "independent of which strings the table heuristics select". -/
theorem split_preserves_concat (c : WCfg) (tbl : List StrEntry) (tb : Bytes) (hres : Resolves tb tbl)
    (l out : List VElt) (hl : ∀ e ∈ l, VOk c tbl e) :
    (∀ vals, (∀ r ∈ vals, VOk c tbl (.tok r)) → splitByValues vals l = .ok out →
      out.flatMap (vval tb) = l.flatMap (vval tb)) ∧
    (∀ es, (∀ e ∈ es, e ∈ tbl) → splitByStrtbl es l = .ok out →
      out.flatMap (vval tb) = l.flatMap (vval tb)) :=
  ⟨fun vals hv h => (splitByValues_spec (VOk c tbl) (vok_cut c tbl) vals hv l out hl h).2 tb,
   fun es he h => (splitByStrtbl_spec tbl (VOk c tbl) (vok_cut c tbl) (fun _ h => h) es
     (fun e hm => ⟨he e hm, e, he e hm, rfl⟩) l out hl h).2 tb hres⟩

/-- The table octets the header announces resolve the encoder's table at every moment of the run:
    every NUL-free entry stands at its offset (so `STR_T offset` reads back the entry). -/
theorem header_table_resolves (c : WCfg) (st : WSt) (hinv : StrInv st) (hu : c.useStrtbl = true) :
    Resolves (strtblBytes (finalTbl c st)) st.strtbl :=
  (resolves_of_offs _ (finalTbl_offs c st hinv)).mono (finalTbl_prefix c st hu)

/-- **Character data is preserved** (every language but Wireless Village and DRMREL, whose typed
    content is C12's): the items written for a text are inline strings / table references whose
    character data, read with any string table that resolves the encoder's, concatenates to the
    text (after the documented SyncML media-type rewriting) — with or without string table. -/
theorem text_preserved (c : WCfg) (parent : Option Name) (s : Bytes) (st st' : WSt)
    (hs : nulFree s = true) (hl : langOk c.lang = true) (hnw : isWv c.lang.id = false)
    (hnd : (c.lang.id == 1801) = false) (h : encContentValueW c parent s st = .ok st') :
    ∃ items, st' = st.emit (serItems items) ∧
      ∀ ctx : Ctx, Resolves ctx.tbl st.strtbl → ∀ own pg,
        s ≠ [] → charsCat (evItems ctx own pg items).1 = syncmlTypeText c.lang.id s := by
  obtain ⟨items, h1, _, ⟨_, h4⟩ | ⟨p, _, _, ⟨hw, _⟩ | ⟨hid, _⟩⟩⟩ := encContentValueW_run c parent s st st' hs h
  · exact ⟨items, h1, fun ctx hr own pg => (h4 (fun hw => by rw [hnw] at hw; cases hw)
      (fun hid => by rw [hnd] at hid; cases hid) (langOk_noexts hl hnw) ctx hr own pg).1⟩
  · rw [hnw] at hw; cases hw
  · rw [hid] at hnd; cases hnd

/-- **Attribute values are preserved**: what is written for an attribute is `attrStart *attrValue`
    of the grammar such that the value prefix of the start token (as a reader resolves it: first row
    with that page and token) followed by the texts of the pieces (value tokens, inline strings,
    table references) is exactly the source value read as a C string — whenever no OPAQUE was
    written (typed `%Datetime` / OTA values are C12's). -/
theorem attr_value_preserved (c : WCfg) (na : Option (List Attr)) (a : Attr) (st st' : WSt)
    (ha : attrOver c.lang a = true) (attrs : List AttrRow) (hattrs : c.lang.attrs = some attrs)
    (h : encAttrW c na a st = .ok st') :
    ∃ sa : Attribute, st'.out = st.out ++ serAttr sa ∧
      ∀ ctx : Ctx, ctx.lang = c.lang → langOk c.lang = true → valSemOk c.lang = true →
        attrSemOk c.lang = true → Resolves ctx.tbl st'.strtbl → opqsAttr sa = [] →
        (astartName ctx st.attrPage sa.start).2.1 ++
          (avalsText ctx (astartName ctx st.attrPage sa.start).2.2 sa.vals).1 = cstrOf a.value := by
  obtain ⟨sa, hsa, _⟩ := encAttrW_spec c na a st st' ha attrs hattrs h
  exact ⟨sa, hsa.out, hsa.value⟩

/-- **`enc_is_ser` with `Doc.WF`, output-side variant** (`enc_is_ser_wf` below has its conditions on the
    SOURCE tree; this one has its condition on the OUTPUT and also covers trees outside those
    hypotheses whose output happens to contain no OPAQUE): for EVERY output of a language without typed content
    (`untypedLang`: all but Wireless Village, DRMREL, SyncML, SI, EMN, OTA — 20 of the 29 entries of
    the main table; binary-flagged elements, CDATA sections and embedded documents included), and
    for the outputs of the other languages that contain no OPAQUE token. `_partial`: the
    full-strength statement has no such condition. It is FALSE as it stands for typed content —
    the encoder writes opaques the strict reading rejects (empty base64 for DRMREL `ds:KeyValue` /
    OTA `ICON` text that is not base64, a truncated `%Datetime` for `timestamp="1"`, CDATA inside
    a Wireless-Village integer element: known findings `invalid-datetime-attribute-accepted`,
    `cdata-in-typed-element`, `invalid-base64-in-binary-element`) — so the extension needs the typed
    round-trip laws of C12 as side conditions on each opaque; the string / token / literal /
    string-table / code-page machinery is covered completely here.

    `pcfg` is any reader configuration under which the header selects the tree's language and a
    character set in which strings can be delivered (e.g. `{ main := Gen.main }` for a language
    whose public identifier is unique, or the language forced). -/
theorem enc_is_ser_wf_partial (cfg : X2WCfg) (t : Tree) (bs : Bytes) (lang : Lang) (hlang : t.lang = some lang)
    (hl : langOk lang = true) (hover : treeOver lang t = true) (h : treeToWbxml cfg t = .ok bs) :
    ∃ d : Doc, bs = Spec.ser d ∧
      ∀ pcfg : PCfg, headerLang pcfg d.hdr = some lang →
        (headerCharset pcfg d.hdr = 3 ∨ headerCharset pcfg d.hdr = 106) →
        pcfg.charsets.contains (headerCharset pcfg d.hdr) = true →
        cfg.version < 256 → bs.length < 4294967296 →
        (opqsDoc d = [] ∨ untypedLang lang.id = true) → d.WF pcfg := by
  obtain ⟨r, d, st, _, hres⟩ := treeToWbxml_doc cfg t bs lang hlang hl hover h
  exact ⟨d, hres.ser, fun pcfg h1 h2 h3 h4 h5 h6 => hres.wf hl pcfg h1 h2 h3 h4 h5 h6⟩

/-- "Decoding those bytes strictly by the specification": with `parse_ser` (C04) the parser model
    accepts the encoder's output and delivers exactly the events the specification assigns to the
    document the encoder wrote. -/
theorem decodes_by_spec_partial (cfg : X2WCfg) (t : Tree) (bs : Bytes) (lang : Lang) (hlang : t.lang = some lang)
    (hl : langOk lang = true) (hover : treeOver lang t = true) (h : treeToWbxml cfg t = .ok bs) :
    ∃ d : Doc, bs = Spec.ser d ∧
      ∀ pcfg : PCfg, headerLang pcfg d.hdr = some lang →
        (headerCharset pcfg d.hdr = 3 ∨ headerCharset pcfg d.hdr = 106) →
        pcfg.charsets.contains (headerCharset pcfg d.hdr) = true →
        cfg.version < 256 → bs.length < 4294967296 →
        (opqsDoc d = [] ∨ untypedLang lang.id = true) →
        (parse pcfg bs).result = .ok () ∧ (parse pcfg bs).events = Spec.events pcfg d := by
  obtain ⟨d, hs, hwf⟩ := enc_is_ser_wf_partial cfg t bs lang hlang hl hover h
  refine ⟨d, hs, fun pcfg h1 h2 h3 h4 h5 h6 => ?_⟩
  rw [hs]
  exact Props.C04.parse_ser pcfg d (hwf pcfg h1 h2 h3 h4 h5 h6)

/-! ## Typed content: every language, every output — under the recorded findings

  The nine languages with typed content (Wireless Village 1.1/1.2, DRMREL, SyncML 1.0–1.2, SI, EMN,
  OTA settings) write OPAQUE tokens the parser decodes by a typed rule. The encoder's typed writers
  and the parser's typed readers agree (C12) on every VALID typed text; where the encoder accepts
  text that is not valid, or sends an OPAQUE at a place where the parser applies another rule, the
  output is not well-formed: these are recorded findings, and they are exactly the four decidable
  hypotheses on the SOURCE tree below (all four hold trivially in a language without typed content).

  * `noCdataInTyped lang false r` — finding **`cdata-in-typed-element`** (C03): no CDATA section and
    no embedded document inside an element whose opaque content the parser decodes by a typed rule
    (WV integer / date-time elements, DRMREL `ds:KeyValue`, SyncML `NextNonce`), nor inside a literal
    (unknown) element below one (the parser keeps its `current_tag` across a literal tag).
  * `validDatetimeAttrs lang r` — finding **`invalid-datetime-attribute-accepted`** (C03): the value
    of every SI `created` / `si-expires` and EMN `timestamp` attribute satisfies `validDatetimeText`
    (its digits give four to seven BCD octets, or none).
  * `b64TextDecodes c none r` — finding **`invalid-base64-in-binary-element`**, its OTA / DRMREL part
    (D5 of DESIGN_NOTES/EncWbxml.md): text under DRMREL
    `ds:KeyValue` and the `VALUE` of an OTA `PARM NAME="ICON"` decode (base64, white space removed) to
    at least one octet — otherwise the encoder writes `C3 00`, which `decode_base64_value` rejects.
  * `keyValueTextFirst c none true r` — finding **`mixed-content-in-binary-element`**, its DRMREL part
    (see `keyvalue_text_after_child_witness`): the text of a
    DRMREL `ds:KeyValue` precedes its child elements. The encoder types the text by its PARENT, the
    parser by `current_tag`, which an element end clears: behind a child element the OPAQUE is
    delivered raw instead of as base64.

  `c = dcfgOf cfg lang` only enters through the white-space options (text that is dropped or
  trimmed to nothing needs no condition). `typedLangOk lang` is a table fact (`main_typedLangOk`). -/

/-- Table facts of the typed forms (no binary-flagged tag has a typed-content rule; the OTA icon
    attribute start has no value prefix) hold for every language of the library. -/
theorem main_typedLangOk : Gen.main.all typedLangOk = true := by decide +kernel

/-- (a) Wireless Village integer elements: an OPAQUE of at most four octets — what
    `wbxml_encode_wv_integer` writes for every decimal / `0x` numeral below 2^32; any other text is
    left to the string encoding or refused with error 80 (C12 `wvint_text_never_changes_value`) — is
    accepted by `decode_wv_integer`, as the decimal numeral of its big-endian value. -/
theorem wv_integer_opaque_accepted (s item : Bytes) (h : Typed.encodeWvInt s = .ok (some item)) :
    ∃ p, item = serOpaque p ∧ p.length ≤ 4 ∧
      decodeWvInteger p = .ok (natDigits (Lemmas.Typed.beNat p)) := by
  obtain ⟨p, hp, hlen⟩ := encodeWvInt_shape s item h
  exact ⟨p, hp, hlen, decodeWvInteger_le4 p hlen⟩

/-- … by value: the numeral denotes `v < 2^32`, the octets are the minimal big-endian form of `v`,
    and the parser delivers the NORMAL FORM of the text, `wvIntNorm s` = the decimal numeral of `v`
    without leading zeros (`0200` and `0xC8` come back as `200`); `wvIntNorm` is idempotent. -/
theorem wv_integer_by_value (s : Bytes) (v : Nat) (hn : Typed.wvIntNumeral s = some v) (hv : v < 2 ^ 32) :
    Typed.encodeWvInt s = .ok (some (serOpaque (Typed.wvIntOctets v))) ∧
    decodeWvInteger (Typed.wvIntOctets v) = .ok (wvIntNorm s) ∧ wvIntNorm s = Typed.decNat v ∧
    wvIntNorm (wvIntNorm s) = wvIntNorm s := by
  have hv' : v < 4294967296 := hv
  have hlen := (Lemmas.Typed.wvIntOctets_minimal v hv').1
  have hnorm : wvIntNorm s = Typed.decNat v := by simp only [wvIntNorm, hn, hv', ↓reduceIte]
  refine ⟨?_, ?_, hnorm, wvIntNorm_idem s⟩
  · have : ¬ v > 0xFFFFFFFF := by omega
    simp only [Typed.encodeWvInt, hn, this, ↓reduceIte]
    rw [opaqueItem_eq]; omega
  · rw [decodeWvInteger_le4 _ hlen, Lemmas.Typed.beNat_wvIntOctets v hv', natDigits_eq_decNat, hnorm]

/-- (b) Wireless Village date-time elements: the item is the inline string itself (zone `Z`, the
    extended format, years above 4095) or an OPAQUE of exactly six octets, which
    `decode_wv_datetime` accepts. -/
theorem wv_datetime_item_accepted (s : Bytes) (item : Typed.WvItem) (h : Typed.encodeWvDate s = .ok item) :
    item.bytes = serStr (.inl s) ∨ ∃ p b, item.bytes = serOpaque p ∧ p.length = 6 ∧ decodeWvDatetime p = .ok b := by
  rcases encodeWvDate_shape s item h with h | ⟨p, hp, hlen⟩
  · exact Or.inl h
  · obtain ⟨b, hb⟩ := decodeWvDatetime_len6 p hlen
    exact Or.inr ⟨p, b, hp, hlen, hb⟩

/-- … by value (C12 `wvdate_roundtrip` through `decodeWvDatetime_eq_typed`): for every valid calendar
    date-time (years 0000–9999) and every zone designator, the text `YYYYMMDDThhmmss<zone>` goes out
    as the string itself or as a six-octet OPAQUE, and what the parser delivers reads as the SAME
    date-time and zone (zero seconds may be omitted in the delivered text). -/
theorem wv_datetime_by_value (d : Spec.Calendar.DateTime) (h : d.Valid) (z : UInt8)
    (hz : Spec.Calendar.isZone z = true) :
    ∃ item text, Typed.encodeWvDate (Spec.Calendar.basic d (some z)) = .ok item ∧
      (match item with
        | .inline s => s = text
        | .opaque p => decodeWvDatetime p = .ok text) ∧
      Spec.Calendar.readBasic text = some (d, some z) := by
  obtain ⟨item, text, h1, h2, h3⟩ := Lemmas.Typed.wvDate_roundtrip d h z hz
  refine ⟨item, text, h1, ?_, h3⟩
  cases item with
  | inline s => simp only [Typed.decodeWvDateItem] at h2; injection h2
  | «opaque» p =>
    simp only [Typed.decodeWvDateItem] at h2
    show decodeWvDatetime p = .ok text
    rw [decodeWvDatetime_eq_typed]; exact h2

/-- (c) SI `created` / `si-expires`, EMN `timestamp`: for text that satisfies `validDatetimeText`
    the OPAQUE `wbxml_encode_datetime` writes is empty or is accepted by `decode_datetime`. -/
theorem datetime_opaque_accepted (s item : Bytes) (hs : s.length < 2 ^ 32) (hv : validDatetimeText s = true)
    (h : Typed.encodeDatetime s = .ok item) :
    ∃ p, item = serOpaque p ∧ (p = [] ∨ ∃ b, Model.decodeDatetime p = .ok b) := by
  obtain ⟨p, hp, hpay, _⟩ := encodeDatetime_shape s item hs h
  refine ⟨p, hp, ?_⟩
  simp only [validDatetimeText, hpay, Bool.or_eq_true, Bool.and_eq_true, decide_eq_true_eq, List.isEmpty_iff] at hv
  rcases hv with hv | hv
  · exact Or.inl hv
  · exact Or.inr (decodeDatetime_len p hv.1 hv.2)

/-- … and every canonical date-time `YYYY-MM-DDThh:mm:ssZ` of a valid calendar date (C12
    `datetime_payload_is_bcd`: four to seven octets) satisfies the hypothesis. -/
theorem validDatetimeText_canon (d : Spec.Calendar.DateTime) (h : d.Valid) :
    validDatetimeText (Spec.Calendar.canon d) = true := by
  have := Lemmas.Typed.keptOctets_range d
  simp only [validDatetimeText, Lemmas.Typed.datetimePayload_canon d h, List.length_take, Bool.or_eq_true, Bool.and_eq_true, decide_eq_true_eq]
  have hl : (Spec.Calendar.bcd7 d).length = 7 := by simp [Spec.Calendar.bcd7]
  right
  omega

/-- (d) base64-carried content (DRMREL `ds:KeyValue`, OTA `ICON`, SyncML `NextNonce`): a non-empty
    OPAQUE is accepted by `decode_base64_value` and delivered as the RFC 4648 encoding of its octets
    — the canonical re-encoding of the source text (white space and line wrapping gone). -/
theorem base64_opaque_accepted (p : Bytes) (h : p ≠ []) :
    decodeBase64Value p = .ok (Spec.Rfc4648.encode p) := decodeBase64Value_spec p h

/-- … by value: the parser delivers the normal form `b64Norm s` of the source text `s` — the RFC 4648
    encoding of the octets the text denotes once its white space is removed; `b64Norm` is idempotent. -/
theorem base64_by_value (s d : Bytes) (hd : Codec.b64DecodeE (b64TextW s) = .ok d) (hne : d ≠ []) :
    decodeBase64Value d = .ok (b64Norm s) ∧ b64Norm s = Spec.Rfc4648.encode d ∧ b64Norm (b64Norm s) = b64Norm s := by
  have hn : b64Norm s = Spec.Rfc4648.encode d := by
    simp only [b64Norm, hd, (Props.C11.b64_encode_eq_rfc4648 d).2]
  exact ⟨by rw [hn]; exact decodeBase64Value_spec d hne, hn, b64Norm_idem s⟩

/-- (c) by value: whenever the parser accepts the OPAQUE written for the text `s`, it delivers
    `datetimeNorm s`; for the canonical text of every valid calendar date-time (years 0000–9999) that
    is the text itself (C12 `datetime_roundtrip` through `decodeDatetime_eq_typed`), so the normal form
    is the identity — in particular idempotent — on valid canonical date-times. -/
theorem datetime_by_value (s p t : Bytes) (hp : Typed.datetimePayload s = .ok p) (ht : Model.decodeDatetime p = .ok t) :
    datetimeNorm s = t := by
  simp only [datetimeNorm, hp, ht]

theorem datetime_by_value_canon (d : Spec.Calendar.DateTime) (h : d.Valid) :
    ∃ p, Typed.datetimePayload (Spec.Calendar.canon d) = .ok p ∧
      Model.decodeDatetime p = .ok (Spec.Calendar.canon d) ∧
      datetimeNorm (Spec.Calendar.canon d) = Spec.Calendar.canon d := by
  refine ⟨_, Lemmas.Typed.datetimePayload_canon d h, ?_, datetimeNorm_canon d h⟩
  rw [decodeDatetime_eq_typed, Lemmas.Typed.decodeDatetime_take d h _ (Lemmas.Typed.keptOctets_range d),
    Lemmas.Typed.truncTo_kept]

/-- **`enc_is_ser` with `Doc.WF`, all 29 languages, typed content included.** For every tree whose
    root is an element over its language and which satisfies the four source hypotheses (each a
    recorded finding — see the section comment): the output is `Spec.ser d` of a document that is
    WELL-FORMED for every reader configuration `pcfg` under which the header selects the tree's
    language and a deliverable character set. No language and no typed form is excluded. -/
theorem enc_is_ser_wf (cfg : X2WCfg) (t : Tree) (bs : Bytes) (lang : Lang) (r : Node)
    (hlang : t.lang = some lang) (hroot : t.root = some r)
    (hl : langOk lang = true) (htl : typedLangOk lang = true) (hover : treeOver lang t = true)
    (h : treeToWbxml cfg t = .ok bs)
    (hcdata : noCdataInTyped lang false r = true)
    (hdt : validDatetimeAttrs lang r = true)
    (hb64 : b64TextDecodes (dcfgOf cfg lang) none r = true)
    (hkv : keyValueTextFirst (dcfgOf cfg lang) none true r = true) :
    ∃ d : Doc, bs = Spec.ser d ∧
      ∀ pcfg : PCfg, headerLang pcfg d.hdr = some lang →
        (headerCharset pcfg d.hdr = 3 ∨ headerCharset pcfg d.hdr = 106) →
        pcfg.charsets.contains (headerCharset pcfg d.hdr) = true →
        cfg.version < 256 → bs.length < 4294967296 → d.WF pcfg := by
  obtain ⟨r', d, st, hr', hres⟩ := treeToWbxml_doc cfg t bs lang hlang hl hover h
  rw [hroot] at hr'; injection hr' with hr'; subst hr'
  exact ⟨d, hres.ser, fun pcfg h1 h2 h3 h4 h5 => hres.wfTyped hl htl hcdata hdt hb64 hkv pcfg h1 h2 h3 h4 h5⟩

/-- **"Decoding those bytes strictly by the specification"**, all languages, typed content
    included: with `parse_ser` (C04) the parser model accepts the encoder's output and delivers
    exactly the events the specification assigns to the document the encoder wrote. -/
theorem decodes_by_spec (cfg : X2WCfg) (t : Tree) (bs : Bytes) (lang : Lang) (r : Node)
    (hlang : t.lang = some lang) (hroot : t.root = some r)
    (hl : langOk lang = true) (htl : typedLangOk lang = true) (hover : treeOver lang t = true)
    (h : treeToWbxml cfg t = .ok bs)
    (hcdata : noCdataInTyped lang false r = true)
    (hdt : validDatetimeAttrs lang r = true)
    (hb64 : b64TextDecodes (dcfgOf cfg lang) none r = true)
    (hkv : keyValueTextFirst (dcfgOf cfg lang) none true r = true) :
    ∃ d : Doc, bs = Spec.ser d ∧
      ∀ pcfg : PCfg, headerLang pcfg d.hdr = some lang →
        (headerCharset pcfg d.hdr = 3 ∨ headerCharset pcfg d.hdr = 106) →
        pcfg.charsets.contains (headerCharset pcfg d.hdr) = true →
        cfg.version < 256 → bs.length < 4294967296 →
        (parse pcfg bs).result = .ok () ∧ (parse pcfg bs).events = Spec.events pcfg d := by
  obtain ⟨d, hs, hwf⟩ := enc_is_ser_wf cfg t bs lang r hlang hroot hl htl hover h hcdata hdt hb64 hkv
  refine ⟨d, hs, fun pcfg h1 h2 h3 h4 h5 => ?_⟩
  rw [hs]
  exact Props.C04.parse_ser pcfg d (hwf pcfg h1 h2 h3 h4 h5)

/-- In a language without typed content (20 of the 29) the four hypotheses hold for EVERY tree: there
    `enc_is_ser_wf` is `enc_is_ser_wf_partial`'s second alternative. -/
theorem typed_hyps_untyped (cfg : X2WCfg) (lang : Lang) (r : Node) (hu : untypedLang lang.id = true) :
    noCdataInTyped lang false r = true ∧ validDatetimeAttrs lang r = true ∧
    b64TextDecodes (dcfgOf cfg lang) none r = true ∧ keyValueTextFirst (dcfgOf cfg lang) none true r = true := by
  have := untyped_node (dcfgOf cfg lang) (by rw [dcfgOf_lang]; exact hu) r none true
  rw [dcfgOf_lang] at this
  exact this

/-- The table facts of the source view hold for every language but ActiveSync (two names share a
    token there — the "earlier alias" normalisation of C03). -/
theorem main_tagSemOk : (Gen.main.filter (fun l => !(l.id == 2401) && !(l.id == 2402))).all tagSemOk = true := by
  -- names are NUL-free, and outside ActiveSync no row has the page and token `C08.tag_keys_fresh` leaves out
  have hn : (Gen.main.filter (fun l => !(l.id == 2401) && !(l.id == 2402))).all (fun l => match l.tags with
      | some t => t.all (fun r => nulFree r.name && !(r.page == 14 && r.token == 16))
      | none => true) = true := by decide +kernel
  refine List.all_eq_true.mpr fun l hl => tagSemOk_of_self fun t ht r hr => ?_
  have h := List.all_eq_true.mp hn l hl
  rw [ht, List.all_eq_true] at h
  have hr' := h r hr
  rw [Bool.and_eq_true, Bool.not_eq_true'] at hr'
  exact ⟨hr'.1, C08.tag_row_self (C08.mem_swept (List.mem_filter.mp hl).1 ht) hr
    (by rw [C08.aliasRow, Bool.and_assoc, hr'.2, Bool.and_false])⟩
theorem main_attrNameSemOk : Gen.main.all attrNameSemOk = true := by
  have hn : Gen.main.all (fun l => match l.attrs with
      | some t => t.all (fun r => nulFree r.name)
      | none => true) = true := by decide +kernel
  refine List.all_eq_true.mpr fun l hl => attrNameSemOk_of_self fun t ht r hr => ?_
  have h := List.all_eq_true.mp hn l hl
  rw [ht, List.all_eq_true] at h
  exact ⟨h r hr, C08.attr_row_self hl ht hr⟩

/-- **`denotes_source` with typed content and aliases: 26 of the 29 languages** (every language but
    Wireless Village 1.1/1.2 and OTA settings — for those three the encoder never uses a string
    table, and `C07.enc_opts_same_events` says that ALL their option tuples give the same events).
    For a plain tree (no CDATA section, no embedded document) under the four source hypotheses of
    `enc_is_ser_wf`: the output is `Spec.ser d` of a well-formed `d`, the parser accepts it, and the
    events it delivers have exactly the TYPED source view `vTree (dcfgOf cfg lang) r`, which is
    defined by recursion over the source tree and looks at no option but the white-space policy:

    * element names as the reader's table resolves the token written (`nameView`: for ActiveSync,
      where two names share a token, the first alias; the name itself everywhere else);
    * attributes in order with `vAttrValue`: the value as a C string, and for an SI `created` /
      `si-expires` or EMN `timestamp` value the text `decode_datetime` makes of the BCD payload the
      encoder makes of it (`datetime_by_value`: the same instant, `datetimeNorm`);
    * character data `vText`: `normText`; under a DRMREL `ds:KeyValue` token element the base64 text
      of the decoded octets (`base64_by_value`: `b64Norm`); the raw octets under a binary-flagged
      ActiveSync tag.
    No language is left out but those three; what stays outside is CDATA / embedded documents (their
    position-dependent view: an OPAQUE whose octets depend on the version for an embedded document). -/
theorem denotes_source_typed (cfg : X2WCfg) (t : Tree) (bs : Bytes) (lang : Lang) (r : Node)
    (hlang : t.lang = some lang) (hroot : t.root = some r)
    (hl : langOk lang = true) (htl : typedLangOk lang = true) (hover : treeOver lang t = true)
    (h : treeToWbxml cfg t = .ok bs)
    (hcdata : noCdataInTyped lang false r = true) (hdt : validDatetimeAttrs lang r = true)
    (hb64 : b64TextDecodes (dcfgOf cfg lang) none r = true)
    (hkv : keyValueTextFirst (dcfgOf cfg lang) none true r = true)
    (hpn : plainNode r = true) (hnw : isWv lang.id = false) (hno : (lang.id == 1901) = false)
    (hvs : valSemOk lang = true) (has : attrSemOk lang = true) (han : attrNameSemOk lang = true) :
    ∃ d : Doc, bs = Spec.ser d ∧
      ∀ pcfg : PCfg, headerLang pcfg d.hdr = some lang →
        (headerCharset pcfg d.hdr = 3 ∨ headerCharset pcfg d.hdr = 106) →
        pcfg.charsets.contains (headerCharset pcfg d.hdr) = true →
        cfg.version < 256 → bs.length < 4294967296 →
        d.WF pcfg ∧ (parse pcfg bs).result = .ok () ∧
        (parse pcfg bs).events = Spec.events pcfg d ∧
        (parse pcfg bs).events.flatMap toks = vTree (dcfgOf cfg lang) r := by
  obtain ⟨r', d, st, hr', hres⟩ := treeToWbxml_doc cfg t bs lang hlang hl hover h
  rw [hroot] at hr'; injection hr' with hr'; subst hr'
  refine ⟨d, hres.ser, ?_⟩
  intro pcfg h1 h2 h3 h4 h5
  have hden := hres.denotesT hl htl hpn hnw hno hvs has han pcfg h1
  have hwf := hres.wfTyped hl htl hcdata hdt hb64 hkv pcfg h1 h2 h3 h4 h5
  have hp := Props.C04.parse_ser pcfg d hwf
  rw [← hres.ser] at hp
  exact ⟨hwf, hp.1, hp.2, by rw [hp.2]; exact hden⟩

/-- **"Decoding those bytes strictly by the WBXML specification yields the source document under
    the normalisations of C03."** For a plain tree (no CDATA section, no embedded document) over
    a plain language (no typed content, no typed attribute values, alias-free tables: 21 of the 29
    entries of the main table — WML, WTA, CHANNEL, SL, CO, PROV, SyncML 1.0–1.2 with DevInf, MetInf
    and DM-DDF, ConML; see `plain_languages`): the output is `Spec.ser d` of a well-formed `d`, the parser model accepts it,
    and the events it delivers — which are the events the specification assigns to `d` — have
    exactly the XML-level view of the source tree (`srcToks`): the same element nesting and names,
    the same attributes with the same values in the same order (none for a language without
    attribute table), and the same character data octet for octet after `normText` (white-space
    handling, C-string reading, SyncML media-type rewriting) — independent of string table,
    version and anonymity. `_partial`: CDATA / embedded documents / the ActiveSync alias are outside,
    and so is typed content AT THE LEVEL OF THE WHOLE VIEW: for typed content `decodes_by_spec` gives
    "events = `Spec.events d`" for all 29 languages, and the per-form laws `wv_integer_by_value`,
    `wv_datetime_by_value`, `datetime_by_value(_canon)`, `base64_by_value` say what text comes back
    (the normal forms `wvIntNorm`, `datetimeNorm`, `b64Norm`, each idempotent), but they are not
    threaded through `srcToks` (the view of a typed text depends on `current_tag`, i.e. on the
    position — `srcToks` is position-free); the position-dependent view `vTree` of
    `denotes_source_typed` above does that for 26 languages (typed attribute values, DRMREL
    `ds:KeyValue`, binary-flagged elements, aliased names). The tree-level statement
    `treeOfWbxml … = norm t` additionally needs the builder's merging of adjacent character data (C03). -/
theorem denotes_source_partial (cfg : X2WCfg) (t : Tree) (bs : Bytes) (lang : Lang) (r : Node)
    (hlang : t.lang = some lang) (hroot : t.root = some r)
    (hl : langOk lang = true) (hover : treeOver lang t = true) (h : treeToWbxml cfg t = .ok bs)
    (hpn : plainNode r = true) (hpl : plainLang lang = true) (hnta : noTypedAttr lang.id = true)
    (hvs : valSemOk lang = true) (has : attrSemOk lang = true) (hts : tagSemOk lang = true)
    (han : attrNameSemOk lang = true) :
    ∃ d : Doc, bs = Spec.ser d ∧
      ∀ pcfg : PCfg, headerLang pcfg d.hdr = some lang →
        (headerCharset pcfg d.hdr = 3 ∨ headerCharset pcfg d.hdr = 106) →
        pcfg.charsets.contains (headerCharset pcfg d.hdr) = true →
        cfg.version < 256 → bs.length < 4294967296 →
        d.WF pcfg ∧ (parse pcfg bs).result = .ok () ∧
        (parse pcfg bs).events = Spec.events pcfg d ∧
        (parse pcfg bs).events.flatMap toks = srcToks (dcfgOf cfg lang) r := by
  -- a plain tree of a plain language meets the source hypotheses, and its typed view is `srcToks`
  have hpl' := hpl
  simp only [plainLang, Bool.and_eq_true, Bool.not_eq_true'] at hpl'
  have hno := noTypedAttr_not_ota _ hnta
  have hy := plain_node (dcfgOf cfg lang) (by rw [dcfgOf_lang]; exact hpl'.1.2) (by rw [dcfgOf_lang]; exact hnta)
    r false none true hpn
  have hv := vNode_plain (dcfgOf cfg lang) (by rw [dcfgOf_lang]; exact hpl) (by rw [dcfgOf_lang]; exact hnta)
    (by rw [dcfgOf_lang]; exact hts) r none none 0
    (by rw [dcfgOf_lang]; simp only [treeOver, hroot, Bool.and_eq_true] at hover; exact hover.2) rfl
  rw [dcfgOf_lang] at hy
  have := denotes_source_typed cfg t bs lang r hlang hroot hl (plain_typedLangOk lang hpl hnta) hover h
    hy.1 hy.2.1 hy.2.2.1 hy.2.2.2 hpn hpl'.1.1 hno hvs has han
  rw [vTree, hv] at this
  exact this

/-- The languages `denotes_source_typed` applies to: all but Wireless Village 1.1/1.2 and OTA settings. -/
theorem typed_view_languages :
    (Gen.main.filter (fun l => isWv l.id || l.id == 1901)).map (·.id) = [1901, 2301, 2302] ∧
    (Gen.main.filter (fun l => !(isWv l.id || l.id == 1901))).length = 26 := by decide +kernel

/-- The languages `denotes_source_partial` applies to: the table facts `langOk`, `valSemOk`,
    `attrSemOk`, `attrNameSemOk` hold for all 29 entries and `tagSemOk` for all but ActiveSync
    (`main_*` above); `plainLang` and `noTypedAttr` leave out Wireless Village, DRMREL, SI, EMN and
    OTA — 21 languages remain. -/
theorem plain_languages :
    (Gen.main.filter (fun l => plainLang l && noTypedAttr l.id && !(l.id == 2401) && !(l.id == 2402))).map (·.id) =
    [1101, 1102, 1103, 1104, 1201, 1202, 1203, 1204, 1401, 1501, 1601, 2201, 2202, 2203, 2204, 2101, 2102, 2103,
     2001, 2002, 2501] := by decide +kernel

/-- `<SyncML><SyncHdr><Meta><Format xmlns="syncml:metinf">b64</Format></Meta></SyncHdr></SyncML>`
    as a SyncML 1.2 tree: `Format` lives on code page 1 (MetInf). -/
def exTree : Tree where
  lang := some Gen.lang15
  origCharset := 106
  root := some (.elt (.token ⟨b!"SyncML", 0, 0x2D, 0⟩) [] [
    .elt (.token ⟨b!"SyncHdr", 0, 0x2C, 0⟩) [] [
      .elt (.token ⟨b!"Meta", 0, 0x1A, 0⟩) [] [
        .elt (.token ⟨b!"Format", 1, 0x07, 0⟩) [] [.text b!"b64"]]]])

def exCfg : X2WCfg := { version := 2 }

example : Gen.lang15 ∈ Gen.main := by simp [Gen.main]
example : langOk Gen.lang15 = true := langOk_of_main _ (by simp [Gen.main])
example : treeOver Gen.lang15 exTree = true := by decide +kernel

/-- The expected octets: version 1.2, public id 4609, UTF-8, empty string table, `SWITCH_PAGE 01`
    in front of `Format`, four ENDs. -/
example : (match treeToWbxml exCfg exTree with | .ok bs => bs | .error _ => []) =
    [0x02, 0xA4, 0x01, 0x6A, 0x00, 0x6D, 0x6C, 0x5A, 0x00, 0x01, 0x47, 0x03, 0x62, 0x36, 0x34, 0x00, 1, 1, 1, 1] := by
  decide +kernel

/-- The output is the serialisation of C04's example document, which is well-formed: the
    hypotheses of `decodes_by_spec_partial` are satisfiable. -/
example : (match treeToWbxml exCfg exTree with | .ok bs => bs | .error _ => []) = Spec.ser Props.C04.exSyncml := by
  decide +kernel

example : (Gen.main.filter (fun l => untypedLang l.id)).length = 20 := by decide +kernel

/-- The source view of the example tree, and the hypotheses of `denotes_source_partial` for it. -/
example : plainNode (.elt (.token ⟨b!"SyncML", 0, 0x2D, 0⟩) [] [.text b!" a "]) = true ∧
    srcToks (dcfgOf exCfg Gen.lang15) (.elt (.token ⟨b!"SyncML", 0, 0x2D, 0⟩) [] [.text b!" a "]) =
      [.start b!"SyncML" [], .ch 0x61, .stop b!"SyncML"] := by decide +kernel

example : opqsDoc Props.C04.exSyncml = [] ∧ headerLang Props.C04.exCfg Props.C04.exSyncml.hdr = some Gen.lang15 ∧
    headerCharset Props.C04.exCfg Props.C04.exSyncml.hdr = 106 := by decide +kernel

/-- A language without numeric identifier (OMA DM-DDF 1.2, id 1): the textual identifier goes to
    the string table (behind the literal name `x`, at offset 2) and the header says `00 02`;
    anonymous: `01` and only `x` in the table. -/
def exDdf : Tree where
  lang := some Gen.lang18
  origCharset := 106
  root := some (.elt (.literal b!"x") [] [])

example : ((match treeToWbxml {} exDdf with | .ok bs => bs | .error _ => []).take 5 =
      [0x03, 0x00, 0x02, 0x6A, 0x1D]) ∧
    ((match treeToWbxml { anonymous := true } exDdf with | .ok bs => bs | .error _ => []) =
      [0x03, 0x01, 0x6A, 0x02, 0x78, 0x00, 0x04, 0x00]) := by decide +kernel

/-! ### Non-vacuity of the typed theorems, and necessity of each hypothesis -/

/-- The reader configuration of the library (main table, nothing forced). -/
def exPc : PCfg := { main := Gen.main }

def outOf (cfg : X2WCfg) (t : Tree) : Bytes := match treeToWbxml cfg t with | .ok bs => bs | .error _ => []

/-- The `WBXMLError` a run ended with (0 = `WBXML_OK`). -/
def errOf (r : Except Err Unit) : Nat := match r with | .ok _ => 0 | .error (.code n) => n | .error _ => 1000

/-- Wireless Village 1.1: `<WV-CSP-Message><Code>…</Code></WV-CSP-Message>` (`Code` is an integer element). -/
def exWvRoot (kids : List Node) : Node :=
  .elt (.token ⟨b!"WV-CSP-Message", 0, 9, 0⟩) [] [.elt (.token ⟨b!"Code", 0, 11, 0⟩) [] kids]
def exWv (kids : List Node) : Tree := { lang := some Gen.lang24, origCharset := 106, root := some (exWvRoot kids) }

/-- `<Code>0200</Code>`: all hypotheses of `enc_is_ser_wf` hold … -/
example : langOk Gen.lang24 = true ∧ typedLangOk Gen.lang24 = true ∧ treeOver Gen.lang24 (exWv [.text b!"0200"]) = true ∧
    noCdataInTyped Gen.lang24 false (exWvRoot [.text b!"0200"]) = true ∧
    validDatetimeAttrs Gen.lang24 (exWvRoot [.text b!"0200"]) = true ∧
    b64TextDecodes (dcfgOf {} Gen.lang24) none (exWvRoot [.text b!"0200"]) = true ∧
    keyValueTextFirst (dcfgOf {} Gen.lang24) none true (exWvRoot [.text b!"0200"]) = true :=
  ⟨langOk_of_main _ (by simp [Gen.main]), by decide +kernel⟩

/-- … the integer goes out as the one-octet OPAQUE `C8` (= 200), the parser accepts the document
    and delivers the decimal numeral `200`. -/
example : outOf {} (exWv [.text b!"0200"]) = [0x03, 0x10, 0x6A, 0x00, 0x49, 0x4B, 0xC3, 0x01, 0xC8, 0x01, 0x01] ∧
    (parse exPc (outOf {} (exWv [.text b!"0200"]))).result.toBool = true ∧
    Event.chars b!"200" ∈ (parse exPc (outOf {} (exWv [.text b!"0200"]))).events := by decide +kernel


/-- The hypotheses of `enc_is_ser_wf` / `decodes_by_spec` as one decidable statement. -/
def typedHyps (cfg : X2WCfg) (lang : Lang) (r : Node) : Bool :=
  noCdataInTyped lang false r && validDatetimeAttrs lang r && b64TextDecodes (dcfgOf cfg lang) none r &&
  keyValueTextFirst (dcfgOf cfg lang) none true r

/-- Text that is no numeral is left to the string encoding (no OPAQUE, nothing to check). -/
example : outOf {} (exWv [.text b!"abc"]) = [0x03, 0x10, 0x6A, 0x00, 0x49, 0x4B, 0x03, 0x61, 0x62, 0x63, 0x00, 0x01, 0x01] := by
  decide +kernel

/-- SI 1.0: `<si><indication created="…"/></si>`. -/
def exSiRoot (v : Bytes) : Node :=
  .elt (.token ⟨b!"si", 0, 5, 0⟩) [] [.elt (.token ⟨b!"indication", 0, 6, 0⟩) [⟨.token ⟨b!"created", none, 0, 10⟩, v⟩] []]
def exSi (v : Bytes) : Tree := { lang := some Gen.lang8, origCharset := 106, root := some (exSiRoot v) }

/-- `created="1999-06-25T15:23:15Z"`: the hypotheses hold, the value goes out as the seven BCD octets
    `19 99 06 25 15 23 15`, the parser accepts the document and delivers the same text. -/
example : langOk Gen.lang8 = true ∧ typedLangOk Gen.lang8 = true ∧
    treeOver Gen.lang8 (exSi (b!"1999-06-25T15:23:15Z" ++ [0])) = true ∧
    typedHyps {} Gen.lang8 (exSiRoot (b!"1999-06-25T15:23:15Z" ++ [0])) = true ∧
    outOf {} (exSi (b!"1999-06-25T15:23:15Z" ++ [0])) =
      [0x03, 0x05, 0x6A, 0x00, 0x45, 0x86, 0x0A, 0xC3, 0x07, 0x19, 0x99, 0x06, 0x25, 0x15, 0x23, 0x15, 0x01, 0x01] ∧
    (parse exPc (outOf {} (exSi (b!"1999-06-25T15:23:15Z" ++ [0])))).result.toBool = true ∧
    Event.startElt (.token ⟨b!"indication", 0, 6, 0⟩) [⟨.token ⟨b!"created", none, 0, 10⟩, b!"1999-06-25T15:23:15Z" ++ [0]⟩] ∈
      (parse exPc (outOf {} (exSi (b!"1999-06-25T15:23:15Z" ++ [0])))).events :=
  ⟨langOk_of_main _ (by simp [Gen.main]), by decide +kernel⟩

/-- ActiveSync: `<ConversationId>` is binary-flagged (code page 15): the raw octets go out as one
    OPAQUE, which no typed rule touches. -/
def exAsRoot (s : Bytes) : Node := .elt (.token ⟨b!"ConversationId", 15, 32, 1⟩) [] [.text s]
def exAs (s : Bytes) : Tree := { lang := some Gen.lang27, origCharset := 106, root := some (exAsRoot s) }

example : langOk Gen.lang27 = true ∧ typedLangOk Gen.lang27 = true ∧ treeOver Gen.lang27 (exAs [1, 2, 3, 0, 255]) = true ∧
    typedHyps {} Gen.lang27 (exAsRoot [1, 2, 3, 0, 255]) = true ∧
    (outOf {} (exAs [1, 2, 3, 0, 255])).drop 38 = [0x00, 0x0F, 0x60, 0xC3, 0x05, 1, 2, 3, 0, 255, 0x01] ∧
    (parse exPc (outOf {} (exAs [1, 2, 3, 0, 255]))).result.toBool = true ∧
    Event.chars [1, 2, 3, 0, 255] ∈ (parse exPc (outOf {} (exAs [1, 2, 3, 0, 255]))).events :=
  ⟨langOk_of_main _ (by simp [Gen.main]), by decide +kernel⟩

/-- Wireless Village date-time (zone `A`): six-octet OPAQUE, accepted. -/
def exWvDtRoot : Node :=
  .elt (.token ⟨b!"WV-CSP-Message", 0, 9, 0⟩) [] [.elt (.token ⟨b!"DateTime", 0, 17, 0⟩) [] [.text b!"20010925T134000A"]]

example : typedHyps {} Gen.lang24 exWvDtRoot = true ∧
    outOf {} { lang := some Gen.lang24, origCharset := 106, root := some exWvDtRoot } =
      [0x03, 0x10, 0x6A, 0x00, 0x49, 0x51, 0xC3, 0x06, 0x1F, 0x46, 0x72, 0xDA, 0x00, 0x41, 0x01, 0x01] ∧
    (parse exPc (outOf {} { lang := some Gen.lang24, origCharset := 106, root := some exWvDtRoot })).result.toBool = true := by
  decide +kernel

/-- DRMREL `<ds:KeyValue>QUJD</ds:KeyValue>`: OPAQUE `ABC`, delivered as `QUJD`. -/
def exDrmRoot (kids : List Node) : Node :=
  .elt (.token ⟨b!"o-ex:rights", 0, 5, 0⟩) [] [.elt (.token ⟨b!"ds:KeyValue", 0, 12, 0⟩) [] kids]
def exDrm (kids : List Node) : Tree := { lang := some Gen.lang13, origCharset := 106, root := some (exDrmRoot kids) }

example : langOk Gen.lang13 = true ∧ typedLangOk Gen.lang13 = true ∧ typedHyps {} Gen.lang13 (exDrmRoot [.text b!"QUJD"]) = true ∧
    outOf {} (exDrm [.text b!"QUJD"]) = [0x03, 0x0E, 0x6A, 0x00, 0x45, 0x4C, 0xC3, 0x03, 0x41, 0x42, 0x43, 0x01, 0x01] ∧
    Event.chars b!"QUJD" ∈ (parse exPc (outOf {} (exDrm [.text b!"QUJD"]))).events :=
  ⟨langOk_of_main _ (by simp [Gen.main]), by decide +kernel⟩

/-! #### Each hypothesis is necessary

  In every witness the tree is over its language, the encoder SUCCEEDS, and all hypotheses but the
  one named hold — yet the parser model refuses the output (or delivers other text), so the
  conclusion of `decodes_by_spec` fails. -/

/-- `cdata-in-typed-element`: `<Code><![CDATA[12345]]></Code>` is sent as the five-octet OPAQUE
    `31 32 33 34 35`, which `decode_wv_integer` refuses (error 80: overflow); with two characters
    (`98`) it would be accepted — and read as 14648. -/
theorem cdata_in_typed_witness :
    treeOver Gen.lang24 (exWv [.cdata [.text b!"12345"]]) = true ∧
    noCdataInTyped Gen.lang24 false (exWvRoot [.cdata [.text b!"12345"]]) = false ∧
    validDatetimeAttrs Gen.lang24 (exWvRoot [.cdata [.text b!"12345"]]) = true ∧
    b64TextDecodes (dcfgOf {} Gen.lang24) none (exWvRoot [.cdata [.text b!"12345"]]) = true ∧
    keyValueTextFirst (dcfgOf {} Gen.lang24) none true (exWvRoot [.cdata [.text b!"12345"]]) = true ∧
    outOf {} (exWv [.cdata [.text b!"12345"]]) =
      [0x03, 0x10, 0x6A, 0x00, 0x49, 0x4B, 0xC3, 0x05, 0x31, 0x32, 0x33, 0x34, 0x35, 0x01, 0x01] ∧
    errOf (parse exPc (outOf {} (exWv [.cdata [.text b!"12345"]]))).result = 80 ∧
    Event.chars b!"14648" ∈ (parse exPc (outOf {} (exWv [.cdata [.text b!"98"]]))).events := by decide +kernel

/-- EMN 1.0: `<emn timestamp="…"/>`. -/
def exEmnRoot (v : Bytes) : Node := .elt (.token ⟨b!"emn", 0, 5, 0⟩) [⟨.token ⟨b!"timestamp", none, 0, 5⟩, v⟩] []
def exEmn (v : Bytes) : Tree := { lang := some Gen.lang12, origCharset := 106, root := some (exEmnRoot v) }

/-- `invalid-datetime-attribute-accepted`: `timestamp="12"` is accepted and sent as the one-octet
    OPAQUE `12`, which `decode_datetime` refuses (error 11); `timestamp="1"` (the recorded example) is
    sent as the EMPTY opaque, which the parser accepts — and delivers as the empty value. -/
theorem invalid_datetime_witness :
    treeOver Gen.lang12 (exEmn (b!"12" ++ [0])) = true ∧
    noCdataInTyped Gen.lang12 false (exEmnRoot (b!"12" ++ [0])) = true ∧
    validDatetimeAttrs Gen.lang12 (exEmnRoot (b!"12" ++ [0])) = false ∧
    b64TextDecodes (dcfgOf {} Gen.lang12) none (exEmnRoot (b!"12" ++ [0])) = true ∧
    keyValueTextFirst (dcfgOf {} Gen.lang12) none true (exEmnRoot (b!"12" ++ [0])) = true ∧
    outOf {} (exEmn (b!"12" ++ [0])) = [0x03, 0x0D, 0x6A, 0x00, 0x85, 0x05, 0xC3, 0x01, 0x12, 0x01] ∧
    errOf (parse exPc (outOf {} (exEmn (b!"12" ++ [0])))).result = 11 ∧
    outOf {} (exEmn (b!"1" ++ [0])) = [0x03, 0x0D, 0x6A, 0x00, 0x85, 0x05, 0xC3, 0x00, 0x01] ∧
    Event.startElt (.token ⟨b!"emn", 0, 5, 0⟩) [⟨.token ⟨b!"timestamp", none, 0, 5⟩, []⟩] ∈
      (parse exPc (outOf {} (exEmn (b!"1" ++ [0])))).events := by decide +kernel

/-- D5 (not base64 ⇒ empty OPAQUE): `<ds:KeyValue>!!!!</ds:KeyValue>` is accepted by the encoder and
    sent as `C3 00`, which `decode_base64_value` refuses (error 18, `WBXML_ERROR_B64_ENC`). -/
theorem b64_empty_opaque_witness :
    treeOver Gen.lang13 (exDrm [.text b!"!!!!"]) = true ∧
    noCdataInTyped Gen.lang13 false (exDrmRoot [.text b!"!!!!"]) = true ∧
    validDatetimeAttrs Gen.lang13 (exDrmRoot [.text b!"!!!!"]) = true ∧
    b64TextDecodes (dcfgOf {} Gen.lang13) none (exDrmRoot [.text b!"!!!!"]) = false ∧
    keyValueTextFirst (dcfgOf {} Gen.lang13) none true (exDrmRoot [.text b!"!!!!"]) = true ∧
    outOf {} (exDrm [.text b!"!!!!"]) = [0x03, 0x0E, 0x6A, 0x00, 0x45, 0x4C, 0xC3, 0x00, 0x01, 0x01] ∧
    errOf (parse exPc (outOf {} (exDrm [.text b!"!!!!"]))).result = 18 := by decide +kernel

/-- … the same for the `VALUE` of an OTA settings `PARM NAME="ICON"` (language forced: OTA documents
    carry the "unknown" public identifier). -/
def exOtaRoot (v : Bytes) : Node :=
  .elt (.token ⟨b!"CHARACTERISTIC-LIST", 0, 5, 0⟩) [] [.elt (.token ⟨b!"PARM", 0, 7, 0⟩)
    [⟨.token ⟨b!"NAME", none, 0, 16⟩, b!"ICON" ++ [0]⟩, ⟨.token ⟨b!"VALUE", none, 0, 17⟩, v⟩] []]
def exOta (v : Bytes) : Tree := { lang := some Gen.lang14, origCharset := 106, root := some (exOtaRoot v) }

theorem ota_icon_witness :
    typedHyps {} Gen.lang14 (exOtaRoot (b!"QUJD" ++ [0])) = true ∧
    (parse { main := Gen.main, langForced := 1901 } (outOf {} (exOta (b!"QUJD" ++ [0])))).result.toBool = true ∧
    b64TextDecodes (dcfgOf {} Gen.lang14) none (exOtaRoot (b!"!!" ++ [0])) = false ∧
    (outOf {} (exOta (b!"!!" ++ [0]))).drop 13 = [0x11, 0xC3, 0x00, 0x01, 0x01] ∧
    errOf (parse { main := Gen.main, langForced := 1901 } (outOf {} (exOta (b!"!!" ++ [0])))).result = 18 := by
  decide +kernel

/-- The document the encoder writes for `<ds:KeyValue><o-dd:uid/>QUJD</ds:KeyValue>`. -/
def exKvDoc : Doc where
  hdr := { version := 3, pubid := .num 14, charset := 106, strtbl := [] }
  pre := []
  post := []
  root := .mk none (.tok 0x05) [] (some [.elem (.mk none (.tok 0x0C) [] (some [
    .elem (.mk none (.tok 0x08) [] none), .opaque b!"ABC"]))])

/-- Finding `mixed-content-in-binary-element`, DRMREL part (`keyValueTextFirst`): text of a DRMREL `ds:KeyValue` BEHIND a child element
    is still base64-decoded by the encoder (which looks at the parent element), but the parser has
    cleared `current_tag` at the child's end tag and delivers the three octets `ABC` raw: the source
    text `QUJD` comes back as `ABC` (first child: `QUJD`, see the example above). The encoder
    succeeds, the parser succeeds, every other hypothesis holds, and the document written is not
    well-formed in the strict reading. -/
theorem keyvalue_text_after_child_witness :
    treeOver Gen.lang13 (exDrm [.elt (.token ⟨b!"o-dd:uid", 0, 8, 0⟩) [] [], .text b!"QUJD"]) = true ∧
    noCdataInTyped Gen.lang13 false (exDrmRoot [.elt (.token ⟨b!"o-dd:uid", 0, 8, 0⟩) [] [], .text b!"QUJD"]) = true ∧
    validDatetimeAttrs Gen.lang13 (exDrmRoot [.elt (.token ⟨b!"o-dd:uid", 0, 8, 0⟩) [] [], .text b!"QUJD"]) = true ∧
    b64TextDecodes (dcfgOf {} Gen.lang13) none (exDrmRoot [.elt (.token ⟨b!"o-dd:uid", 0, 8, 0⟩) [] [], .text b!"QUJD"]) = true ∧
    keyValueTextFirst (dcfgOf {} Gen.lang13) none true
      (exDrmRoot [.elt (.token ⟨b!"o-dd:uid", 0, 8, 0⟩) [] [], .text b!"QUJD"]) = false ∧
    outOf {} (exDrm [.elt (.token ⟨b!"o-dd:uid", 0, 8, 0⟩) [] [], .text b!"QUJD"]) = Spec.ser exKvDoc ∧
    ¬ exKvDoc.WF exPc ∧
    (parse exPc (Spec.ser exKvDoc)).result.toBool = true ∧
    Event.chars b!"QUJD" ∈ Spec.events exPc exKvDoc ∧
    Event.chars b!"ABC" ∈ (parse exPc (Spec.ser exKvDoc)).events ∧
    Event.chars b!"QUJD" ∉ (parse exPc (Spec.ser exKvDoc)).events := by decide +kernel

end Wbxml.Props.C06
