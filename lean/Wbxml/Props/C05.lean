/-
  C05 — generated XML is well-formed and denotes exactly the parsed document, for all byte strings.
  In order: the escaping laws; CDATA text and the CDATA invariants of the WBXML tree builder (`Model/Tree.lean`:
  a CDATA node holds character data only); attributes, text-only elements; namespace declarations; the DOCTYPE;
  then, against the specification of well-formed XML `Spec/Xml.lean`, the output read back as the tree's view in
  compact and canonical generation and up to blanks in indented generation, with the precondition spelled out
  and shown necessary conjunct by conjunct.
-/
import Wbxml.Model.EncXml
import Wbxml.Spec.XmlText
import Wbxml.Lemmas.XmlPrint
import Wbxml.Lemmas.TreeBuildCdata
import Wbxml.Lemmas.XmlNs
import Wbxml.Lemmas.Ident
import Wbxml.Lemmas.XmlSpecDoc
import Wbxml.Lemmas.XmlSpecStrip
import Wbxml.Gen.Tables
namespace Wbxml.Props.C05
open Wbxml Wbxml.Model Wbxml.Spec Wbxml.Lemmas.XmlPrint Wbxml.Lemmas.XmlNs

/-- Escaped text never contains a literal `<`, `>`, `"` or `'`: markup-significant characters are
    always escaped (character data and attribute values alike). -/
theorem escape_has_no_markup (c : Bool) (s : Bytes) : ∀ b ∈ xmlEscape c s, isMarkup b = false :=
  forall_mem_xmlEscape (fun a =>
    esc1_elim (motive := fun _ e => ∀ b ∈ e, isMarkup b = false) c
      (by decide) (by decide) (by decide) (by decide) (by decide) (by decide) (fun _ => by decide) (fun _ => by decide)
      (fun ch h60 h62 _ h34 h39 _ _ b hb => by
        rw [List.mem_singleton.mp hb]
        simp [isMarkup, h60, h62, h34, h39]) a) s

/-- A reader that undoes the escaping gets back exactly the text that was escaped — in every
    generation mode. -/
theorem unescape_escape (c : Bool) (s : Bytes) : unescape (xmlEscape c s) = s := by
  induction s with
  | nil => rfl
  | cons a s ih =>
    rw [xmlEscape_cons]
    have h : unescape (esc1 c a ++ xmlEscape c s) = a :: unescape (xmlEscape c s) :=
      esc1_elim (motive := fun a e => unescape (e ++ xmlEscape c s) = a :: unescape (xmlEscape c s)) c
        (by simp [unescape]) (by simp [unescape]) (by simp [unescape]) (by simp [unescape]) (by simp [unescape])
        (by simp [unescape]) (fun _ => by simp [unescape]) (fun _ => by simp [unescape])
        (fun ch _ _ h38 _ _ _ _ => by
          rw [List.singleton_append, unescape]
          all_goals (intros; simp_all)) a
    rw [h, ih]

/-- A literal CR is never left in escaped text, in any generation mode (it would not survive
    XML's line-end normalisation). -/
theorem escape_has_no_cr (c : Bool) (s : Bytes) : ∀ b ∈ xmlEscape c s, b ≠ 13 :=
  forall_mem_xmlEscape (fun a =>
    esc1_elim (motive := fun _ e => ∀ b ∈ e, b ≠ 13) c
      (by decide) (by decide) (by decide) (by decide) (by decide) (by decide) (fun _ => by decide) (fun _ => by decide)
      (fun ch _ _ _ _ _ h13 _ b hb => by rw [List.mem_singleton.mp hb]; exact h13) a) s

/-- In canonical generation no literal CR, LF or TAB is left in escaped text (they are written as
    character references and therefore survive XML's line-end and attribute-value normalisation). -/
theorem canonical_escapes_cr_lf_tab (s : Bytes) : ∀ b ∈ xmlEscape true s, b ≠ 13 ∧ b ≠ 10 ∧ b ≠ 9 :=
  forall_mem_xmlEscape (fun a =>
    esc1_elim (motive := fun _ e => ∀ b ∈ e, b ≠ 13 ∧ b ≠ 10 ∧ b ≠ 9) true
      (by decide) (by decide) (by decide) (by decide) (by decide) (by decide) (fun _ => by decide) (fun _ => by decide)
      (fun ch _ _ _ _ _ h13 hc b hb => by
        rw [List.mem_singleton.mp hb]
        exact ⟨h13, hc rfl⟩) a) s

/-- The document starts with the XML declaration and the language's DOCTYPE. -/
theorem header_has_doctype (lang : Lang) (gen : Nat) :
    (b!"<?xml version=\"1.0\"?>").isPrefixOf (xmlHeader lang gen) = true := by
  simp [xmlHeader, List.isPrefixOf]

example : unescape (xmlEscape false b!"a<b&\"c'>") = b!"a<b&\"c'>" := by decide

/-- **`]]>` never ends a section early.** Whatever bytes `s` a CDATA text holds, the section the
    printer writes — `<![CDATA[`, `cdataText s`, `]]>` — read back as XML reads runs of CDATA
    sections (content up to the first `]]>`; an immediately following section continues the
    character data) denotes exactly `s`. So `cdataText s` contains `]]>` only as part of the inserted
    `]]]]><![CDATA[>`, where it closes one section and the next is opened at once. -/
theorem cdata_text_no_terminator (s : Bytes) :
    readCdata (b!"<![CDATA[" ++ cdataText s ++ b!"]]>") = some s := by
  show readIn (cdataText s ++ [93, 93, 62]) = some s
  exact readIn_cdataText s

/-- Text without `]]>` is written as is. -/
example : cdataText b!"a]]b>" = b!"a]]b>" := by decide
example : cdataText b!"x]]>y" = b!"x]]]]><![CDATA[>y" := by decide
example : readCdata b!"<![CDATA[x]]]]><![CDATA[>y]]>" = some b!"x]]>y" := by decide
/-- the reader refuses an unterminated section and trailing garbage -/
example : readCdata b!"<![CDATA[abc" = none ∧ readCdata b!"<![CDATA[abc]]>x" = none := by decide

/-- **The WBXML tree builder never opens a CDATA section directly inside a CDATA section**: over any
    event sequence, from the initial context, no CDATA frame sits on a CDATA frame (the printer
    therefore never writes `<![CDATA[` twice in a row). Subsumed, since fix eb6f4c7, by
    `cdata_only_on_top` below (`cdata_only_on_top_stackOk`). -/
theorem cdata_never_nested (main : List Lang) (emb : Nat → Bytes → Option Tree) (events : List Event) :
    stackOk (events.foldl (buildStep main emb) {}) = true :=
  cdataTop_kindsOk _ (foldl_cdataOnlyOnTop main emb events {} rfl)

/-- One step: the invariant is preserved from any context that satisfies it. -/
theorem cdata_never_nested_step (main : List Lang) (emb : Nat → Bytes → Option Tree) (b : BState) (e : Event)
    (h : stackOk b = true) : stackOk (buildStep main emb b e) = true := buildStep_stackOk main emb b e h

/-! ### CDATA sections hold character data only (after fix eb6f4c7)

`wbxml_tree_clb_wbxml_start_element` now leaves a current CDATA node before it adds the element
(`BState.leaveCdata`). Before the fix an element start while a CDATA section was open was attached
*inside* the CDATA node (and a vObject `Data` element there opened a second section inside the
first); the former witness is kept below as a regression (`cdata_former_witness_fixed`). -/

/-- **A CDATA frame is only ever the top of the stack**: over any event sequence, from the initial
    context, every CDATA frame is the innermost open frame and sits on an element frame — no element
    frame and no CDATA frame is ever pushed on top of a CDATA frame. -/
theorem cdata_only_on_top (main : List Lang) (emb : Nat → Bytes → Option Tree) (events : List Event) :
    cdataOnlyOnTop (events.foldl (buildStep main emb) {}) = true :=
  foldl_cdataOnlyOnTop main emb events {} rfl

/-- One step: the invariant is preserved from any context that satisfies it. -/
theorem cdata_only_on_top_step (main : List Lang) (emb : Nat → Bytes → Option Tree) (b : BState) (e : Event)
    (h : cdataOnlyOnTop b = true) : cdataOnlyOnTop (buildStep main emb b e) = true :=
  buildStep_cdataOnlyOnTop main emb b e h

/-- `cdataOnlyOnTop` spelled out: no frame below the top is a CDATA frame, and a CDATA frame is never
    the only frame. -/
theorem cdata_only_on_top_meaning (b : BState) :
    cdataOnlyOnTop b = true ↔
      (∀ f ∈ b.stack.tail, isCdataKind f.kind = false) ∧ (∀ f, b.stack = [f] → isCdataKind f.kind = false) :=
  cdataOnlyOnTop_iff b

/-- … so the stack never holds two CDATA frames, over any event sequence. -/
theorem cdata_at_most_one_open (main : List Lang) (emb : Nat → Bytes → Option Tree) (events : List Event) :
    ((events.foldl (buildStep main emb) {}).stack.filter (fun f => isCdataKind f.kind)).length ≤ 1 :=
  cdataOnlyOnTop_count _ (cdata_only_on_top main emb events)

/-- … and it is stronger than `cdata_never_nested`'s invariant. -/
theorem cdata_only_on_top_stackOk (b : BState) (h : cdataOnlyOnTop b = true) : stackOk b = true :=
  cdataTop_kindsOk _ h

/-- **The builder's CDATA invariant** (`CdInv`: `cdataOnlyOnTop`; every open frame's children satisfy
    `Node.noMarkupInCdata` and an open CDATA frame's children are character data; so does the root)
    holds over any event sequence from the initial context — provided the embedded-document parser
    `emb` only hands back trees with that property (`EmbOk`; it is `treeOfWbxml` itself, see
    `cdata_holds_character_data_only`). -/
theorem cdata_invariant (main : List Lang) (emb : Nat → Bytes → Option Tree) (hemb : EmbOk emb)
    (events : List Event) : CdInv (events.foldl (buildStep main emb) {}) :=
  foldl_cdInv main emb hemb events {} cdInv_init

/-- One step, from any context satisfying the invariant. -/
theorem cdata_invariant_step (main : List Lang) (emb : Nat → Bytes → Option Tree) (hemb : EmbOk emb)
    (b : BState) (e : Event) (h : CdInv b) : CdInv (buildStep main emb b e) :=
  buildStep_cdInv main emb hemb b e h

/-- Every node the builder finishes is fine: closing any open frame of a reachable context gives a
    node without markup inside CDATA (for a CDATA frame: a CDATA node whose children are text nodes
    and embedded documents only). -/
theorem closed_frames_no_markup_in_cdata (main : List Lang) (emb : Nat → Bytes → Option Tree) (hemb : EmbOk emb)
    (events : List Event) :
    ∀ f ∈ (events.foldl (buildStep main emb) {}).stack, f.close.noMarkupInCdata = true := by
  intro f hf
  rw [close_ok]
  exact (cdata_invariant main emb hemb events).frames f hf

/-- **No markup inside CDATA sections**: in the tree `wbxml_tree_from_wbxml` returns — for all byte
    strings, all languages tables, any fuel, and through embedded documents — no CDATA node has an
    element or a CDATA node among its children (`Node.noMarkupInCdata` on the root). The printer
    therefore writes only character data between `<![CDATA[` and `]]>`. -/
theorem cdata_holds_character_data_only (main : List Lang) (f lang cs : Nat) (bs : Bytes) (t : Tree)
    (h : treeOfWbxml main f lang cs bs = .ok t) : t.noMarkupInCdata = true :=
  treeOfWbxml_noMarkup main f lang cs bs t h

/-- … in terms of the root node. -/
theorem cdata_holds_character_data_only_root (main : List Lang) (f lang cs : Nat) (bs : Bytes) (t : Tree) (r : Node)
    (h : treeOfWbxml main f lang cs bs = .ok t) (hr : t.root = some r) : r.noMarkupInCdata = true := by
  have := cdata_holds_character_data_only main f lang cs bs t h
  unfold Tree.noMarkupInCdata at this
  rw [hr] at this
  exact this

/-- What `Node.noMarkupInCdata` says at a CDATA node: its children are text nodes and embedded
    documents, and (recursively) its children satisfy the predicate. -/
theorem noMarkupInCdata_cdata (kids : List Node) (h : (Node.cdata kids).noMarkupInCdata = true) :
    (∀ k ∈ kids, (∃ s, k = .text s) ∨ (∃ l c r, k = .tree l c r)) ∧ ∀ k ∈ kids, k.noMarkupInCdata = true := by
  refine ⟨cdata_kids_charData kids h, ?_⟩
  simp only [Node.noMarkupInCdata, Bool.and_eq_true] at h
  have h2 := h.2
  rw [noMarkupInCdataL_eq, List.all_eq_true] at h2
  exact h2

/-- … and at an element / embedded document: it is the predicate on the children / the root. -/
theorem noMarkupInCdata_elt (n : Name) (a : List Attr) (kids : List Node) :
    (Node.elt n a kids).noMarkupInCdata = kids.all Node.noMarkupInCdata := by
  simp only [Node.noMarkupInCdata]; exact noMarkupInCdataL_eq kids

/-- The predicate is not vacuous: it holds of a CDATA node with text, fails for an element or a CDATA
    node inside a CDATA node (at any depth, also inside an embedded document). -/
example : (Node.elt (.literal b!"Data") [] [.cdata [.text b!"abc"]]).noMarkupInCdata = true := by decide
example : (Node.cdata [.text b!"abc", .elt (.literal b!"Meta") [] []]).noMarkupInCdata = false := by decide
example : (Node.elt (.literal b!"Data") [] [.cdata [.cdata []]]).noMarkupInCdata = false := by decide
example : (Node.tree none 106 (some (.cdata [.elt (.literal b!"a") [] []]))).noMarkupInCdata = false := by decide

/-- Events of `<Item><Meta><Type>text/x-vcard</Type></Meta><Data>abc<Meta><Type>text/x-vcard</Type></Meta>
    <Data>x</Data></Data></Item>` — the former witness of CDATA nested through an element. -/
def nestedWitness : List Event :=
  let nItem : Name := .literal b!"Item"
  let nMeta : Name := .literal b!"Meta"
  let nType : Name := .literal b!"Type"
  let nData : Name := .literal b!"Data"
  [ .startDoc 106 2101, .startElt nItem [],
    .startElt nMeta [], .startElt nType [], .chars b!"text/x-vcard", .endElt nType, .endElt nMeta,
    .startElt nData [], .chars b!"abc",
    .startElt nMeta [], .startElt nType [], .chars b!"text/x-vcard", .endElt nType, .endElt nMeta,
    .startElt nData [], .chars b!"x", .endElt nData,
    .endElt nData, .endElt nItem, .endDoc ]

def cdataDepth : Nat → Node → Nat
  | 0, _ => 0
  | f + 1, .cdata kids => 1 + (kids.map (cdataDepth f)).foldl max 0
  | f + 1, .elt _ _ kids => (kids.map (cdataDepth f)).foldl max 0
  | _ + 1, _ => 0

/-- **Regression for the repaired defect.** Before fix eb6f4c7 this event list built a CDATA node
    holding `abc`, the `Meta` element and the inner `Data` element with a second CDATA node (CDATA
    depth 2; `wbxml2xml` printed `<![CDATA[abc<Meta>…<Data><![CDATA[x]]></Data>]]>`, which no XML parser
    accepts). Now the element start closes the section: the outer `Data` element holds the CDATA
    node `abc`, then `Meta`, then the inner `Data` with its own CDATA node — depth 1, and the root
    satisfies `Node.noMarkupInCdata`. -/
theorem cdata_former_witness_fixed :
    ((nestedWitness.foldl (buildStep [] (fun _ _ => none)) {}).root.map (cdataDepth 10)) = some 1 ∧
    ((nestedWitness.foldl (buildStep [] (fun _ _ => none)) {}).root.map Node.noMarkupInCdata) = some true := by
  decide +kernel

/-- The tree built from the former witness, explicitly. -/
example :
    let t (s : Bytes) : Node := .elt (.literal b!"Meta") [] [.elt (.literal b!"Type") [] [.text s]]
    (nestedWitness.foldl (buildStep [] (fun _ _ => none)) {}).root =
      some (Node.elt (.literal b!"Item") [] [t b!"text/x-vcard",
        .elt (.literal b!"Data") [] [.cdata [.text b!"abc"], t b!"text/x-vcard",
          .elt (.literal b!"Data") [] [.cdata [.text b!"x"]]]]) := by
  intro t
  rfl

/-- **What `xml_encode_attr` writes**: a blank, the name, `="`, the escaped value (read as a C string),
    `"` — and the value between the quotes contains no quote and no `<`, and unescapes to exactly
    the C-string value. -/
theorem attr_value_roundtrip (c : XCfg) (a : Attr) (st : XSt) :
    (xmlAttr c a st).out = st.out ++ [32] ++ cstrOf a.name.xmlName ++ b!"=\"" ++
        xmlEscape (c.gen == 2) (cstrOf a.value) ++ [34] ∧
    unescape (xmlEscape (c.gen == 2) (cstrOf a.value)) = cstrOf a.value ∧
    (∀ b ∈ xmlEscape (c.gen == 2) (cstrOf a.value), b ≠ 34 ∧ b ≠ 60) := by
  refine ⟨rfl, unescape_escape _ _, ?_⟩
  intro b hb
  have := escape_has_no_markup _ _ b hb
  simp only [isMarkup, Bool.or_eq_false_iff, beq_eq_false_iff_ne, ne_eq] at this
  exact ⟨this.1.2, this.1.1.1⟩

/-- The whole attribute list of an element: the attributes in order, nothing between them. -/
theorem attr_list_bytes (c : XCfg) (attrs : List Attr) (st : XSt) :
    (attrs.foldl (fun st a => xmlAttr c a st) st).out =
      st.out ++ attrs.flatMap (attrBytes (c.gen == 2)) := by
  rw [xmlAttrs_out]

/-- **No indentation inside an element that has only text.** In indented generation (`gen = 1`,
    any indentation width, any nesting depth `st.indent`), an element all of whose children are
    text nodes is written as: the indentation, `<name`, the namespace declaration if any, the
    attributes, `>`, then *immediately* `texts`, then *immediately* `</name>` and a line feed —
    where `texts` is exactly what compact generation (`gen = 0`, which has no indentation anywhere)
    writes for the children. -/
theorem no_indent_in_text_only_elements (c : XCfg) (parent : Parent) (f : Nat) (name : Name)
    (attrs : List Attr) (kids : List Node) (st st' : XSt) (hk : kids ≠ []) (ht : allText kids = true)
    (h : xmlNode { c with gen := 1 } parent (f + 1) (.elt name attrs kids) st = .ok st') :
    ∃ texts r,
      xmlNodes { c with gen := 0 } (childScope parent name) f kids { st with out := [], curTag := tagOf name } = .ok r ∧
      r.out = texts ∧
      st'.out = st.out ++ spaces (st.indent.toNat * c.delta.toNat) ++ [60] ++ name.xmlName ++
        nsDecl c parent name ++ (if c.lang.attrs.isSome then attrs.flatMap (attrBytes false) else []) ++
        [62] ++ texts ++ b!"</" ++ name.xmlName ++ [62, 10] :=
  let ⟨r, hr, ho⟩ := xmlNode_texts_only c parent f name attrs kids st st' hk ht h
  ⟨_, r, hr, rfl, ho⟩

/-- One text child: the bytes between `>` and `</` are what `xml_encode_text` appends for it —
    nothing (ignorable white space) or its escaped form. -/
theorem text_piece_shape (c : XCfg) (s : Bytes) (st r : XSt) (h : xmlText c s st = .ok r) :
    ∃ x, r.out = st.out ++ x ∧ ∀ o, xmlText c s { st with out := o } = .ok { r with out := o ++ x } := by
  obtain ⟨x, hx, rfl⟩ := Lemmas.map_eq_ok (xmlText_eq c s st ▸ h)
  refine ⟨(x.map (XTok.render c)).getD [], ?_, fun o => ?_⟩
  · cases x <;> simp [XSt.addTok]
  · rw [xmlText_eq]
    show (textTokC c.tk st.inCdata st.curTag s).map _ = _
    rw [hx]
    cases x <;> simp [XSt.addTok, Except.map]

/-! ## Namespace declarations (after fix 3c27455)

`xml_encode_tag` declares `xmlns` for a token element whose code page differs from the code page of
the nearest ancestor that is a token element (walking up through literal elements and CDATA nodes),
or that has no such ancestor. Before the fix only a *direct* token parent was compared, so a token
element below a literal element got no declaration and was read in the wrong (or no) namespace;
`namespace_in_scope_matches_page` below was false then (`ns_former_witness_fixed`).

Paths (`List Nat`, child indices) lead through elements and CDATA nodes, not into embedded documents:
those are printed by `xmlNode` as documents of their own — their own language, root scope `.none` —
so every statement below applies to them separately. -/

/-- **(a) The scope is the nearest token-element ancestor.** `scopeAt` walks the tree with an explicit
    scope (`Option Nat`: the page of the nearest token-element ancestor, `none` when there is none).
    Whenever `xmlNode` prints `n` under a scope `p` (for all configurations, fuel, states) and `path`
    leads to the node `m`, then `m` is printed by a call `xmlNode c q g m a` whose scope `q` is a
    proper scope value standing for exactly the page `scopeAt` computes, and what that call has
    written when it returns is an initial part of the whole output. -/
theorem ns_scope_is_nearest_token_ancestor (c : XCfg) (p : Parent) (hp : isScope p = true) (f : Nat) (n : Node)
    (st st' : XSt) (h : xmlNode c p f n st = .ok st') (path : List Nat) (s : Option Nat) (m : Node)
    (hpath : scopeAt (scopePage p) n path = some (s, m)) :
    ∃ q, isScope q = true ∧ scopePage q = s ∧
      ∃ g a b post, xmlNode c q g m a = .ok b ∧ st'.out = b.out ++ post := by
  rw [scopeAt_pathTo] at hpath
  cases hpt : pathTo n path with
  | none => rw [hpt] at hpath; cases hpath
  | some x =>
    rw [hpt] at hpath
    simp only [Option.map_some, Option.some.injEq, Prod.mk.injEq] at hpath
    obtain ⟨hs, hm⟩ := hpath
    refine ⟨x.1.foldl childScope p, foldl_childScope_isScope _ _ hp, ?_, ?_⟩
    · rw [scopePage_foldl]; exact hs
    · rw [← hm]; exact xmlNode_sub c path p f n st st' x.1 x.2 h hpt

/-- … for an element: its start tag, written by `xmlTag` under that scope, is in the output. -/
theorem ns_scope_start_tag (c : XCfg) (p : Parent) (hp : isScope p = true) (f : Nat) (n : Node)
    (st st' : XSt) (h : xmlNode c p f n st = .ok st') (path : List Nat) (s : Option Nat)
    (name : Name) (attrs : List Attr) (kids : List Node)
    (hpath : scopeAt (scopePage p) n path = some (s, .elt name attrs kids)) :
    ∃ q a post, isScope q = true ∧ scopePage q = s ∧ st'.out = (xmlTag c q name a).out ++ post := by
  obtain ⟨q, hq, hs, g, a, b, post, hb, ho⟩ := ns_scope_is_nearest_token_ancestor c p hp f n st st' h path s _ hpath
  obtain ⟨x, hx⟩ := xmlNode_elt_tag c q g name attrs kids a b hb
  exact ⟨q, a, x ++ post, hq, hs, by rw [ho, hx, List.append_assoc]⟩

/-- The explicit scope along a chain of ancestors `names` (outermost first; CDATA nodes do not count):
    the page of the last token name among them, and the scope from above if there is none — and the
    model's `childScope` computes exactly that token element. -/
theorem ns_scope_is_last_token (names : List Name) (s : Option Nat) (p : Parent) :
    names.foldl childPage s = (match lastToken names with | some r => some r.page | none => s) ∧
    names.foldl childScope p = (match lastToken names with | some r => .elt (.token r) | none => p) :=
  ⟨foldl_childPage_last names s, foldl_childScope_last names p⟩

/-- After any chain of literal elements (and CDATA nodes) the scope is still the one from above. -/
theorem ns_scope_unchanged_by_literals (names : List Name) (p : Parent) (h : ∀ n ∈ names, ∃ s, n = .literal s) :
    names.foldl childScope p = p := by
  induction names generalizing p with
  | nil => rfl
  | cons n rest ih =>
    obtain ⟨s, rfl⟩ := h n (List.mem_cons_self ..)
    exact ih p (fun n hn => h n (List.mem_cons_of_mem _ hn))

/-- What `xmlTag` writes, in every case: indentation, `<name`, and the declaration of `declaredNs`. -/
theorem xmlns_declared_bytes (c : XCfg) (p : Parent) (name : Name) (st : XSt) :
    (xmlTag c p name st).out =
      st.out ++ (if c.gen == 1 then spaces (st.indent.toNat * c.delta.toNat) else []) ++ [60] ++ name.xmlName ++
        declBytes (declaredNs c p name) := by
  rw [xmlTag_out, nsDecl_eq]

/-- **(b) `xmlns` is declared exactly when the page differs from the scope's.** In a language with a
    namespace table, the start tag of a token element `r` printed under scope `p` is: indentation,
    `<name`, and ` xmlns="<namespace of r.page>"` exactly when `p` is `.none` or a token element of
    another page (`scopeDiffers`, spelled out in the second part) and the table has a row for the
    page — nothing else. -/
theorem xmlns_declared_iff_page_differs (c : XCfg) (ns : List NsRow) (hns : c.lang.ns = some ns) (p : Parent)
    (r : TagRow) (st : XSt) :
    (xmlTag c p (.token r) st).out =
      st.out ++ (if c.gen == 1 then spaces (st.indent.toNat * c.delta.toNat) else []) ++ [60] ++ r.name ++
        (if scopeDiffers p r.page then
           (match nsOfPageX ns r.page with
            | some n => b!" xmlns=\"" ++ n ++ [34]
            | none => [])
         else []) ∧
    (scopeDiffers p r.page = true ↔ (p = .none ∨ ∃ pr, p = .elt (.token pr) ∧ pr.page ≠ r.page)) := by
  refine ⟨?_, scopeDiffers_iff p r.page⟩
  rw [xmlns_declared_bytes]
  simp only [declaredNs, hns, Name.xmlName]
  cases scopeDiffers p r.page with
  | false => rfl
  | true => cases nsOfPageX ns r.page <;> rfl

/-- Nothing is declared for a literal name … -/
theorem xmlns_not_declared_for_literal (c : XCfg) (p : Parent) (s : Bytes) (st : XSt) :
    (xmlTag c p (.literal s) st).out =
      st.out ++ (if c.gen == 1 then spaces (st.indent.toNat * c.delta.toNat) else []) ++ [60] ++ s := by
  rw [xmlns_declared_bytes]
  cases hns : c.lang.ns <;> simp [declaredNs, hns, declBytes, Name.xmlName]

/-- … nor in a language without namespace table. -/
theorem xmlns_not_declared_without_table (c : XCfg) (hns : c.lang.ns = none) (p : Parent) (name : Name) (st : XSt) :
    (xmlTag c p name st).out =
      st.out ++ (if c.gen == 1 then spaces (st.indent.toNat * c.delta.toNat) else []) ++ [60] ++ name.xmlName := by
  rw [xmlns_declared_bytes]
  simp [declaredNs, hns, declBytes]

/-- The start tag depends on the scope only through the page it stands for. -/
theorem xmlns_depends_on_scope_page_only (c : XCfg) (p q : Parent) (hp : isScope p = true) (hq : isScope q = true)
    (h : scopePage p = scopePage q) (name : Name) (st : XSt) :
    (xmlTag c p name st).out = (xmlTag c q name st).out := by
  rw [xmlns_declared_bytes, xmlns_declared_bytes, declaredNs_congr c p q name hp hq h]

/-- **(c) The namespace in scope is the one of the element's code page.** `nsInScope c .none none names`
    is the default namespace a namespace-aware reader has in scope after the start tags of the
    elements `names` on the way down from the root: each start tag is printed under the scope
    `xmlNode` hands down (`childScope`, theorem (a)), and whenever `xmlTag` declares a namespace there
    (`declaredNs`, the bytes of theorem (b)) it replaces the current one.
    For every tree `root` whose token elements all live on pages with a row in the namespace table
    (`pagesHaveRows`, decidable) and every token element `r` in it (at any `path`, below the elements
    `names`): the namespace in scope inside `r`'s start tag is the namespace of `r`'s page. -/
theorem namespace_in_scope_matches_page (c : XCfg) (ns : List NsRow) (hns : c.lang.ns = some ns) (root : Node)
    (hrows : pagesHaveRows ns root = true) (path : List Nat) (names : List Name) (r : TagRow)
    (attrs : List Attr) (kids : List Node)
    (hpath : pathTo root path = some (names, .elt (.token r) attrs kids)) :
    nsInScope c .none none (names ++ [.token r]) = nsOfPageX ns r.page ∧
    (nsOfPageX ns r.page).isSome = true := by
  obtain ⟨h1, h2⟩ := pathTo_haveRows ns path root names _ hrows hpath
  simp only [pagesHaveRows, Bool.and_eq_true] at h2
  refine ⟨nsInScope_path c ns hns names r ?_, h2.1⟩
  simp only [namesHaveRows, List.all_append, List.all_cons, List.all_nil, Bool.and_true, Bool.and_eq_true]
  exact ⟨h1, h2.1⟩

/-- (c) tied to the bytes: when `xmlNode` prints such a tree from the root (scope `.none`; any
    configuration with that namespace table, any fuel, any state), the start tag of the token element
    `r` at `path` is in the output as `xmlTag` writes it under the scope `q` handed down along the path,
    and with what that tag declares, on top of what the tags above it declare, the namespace in scope
    is the one of `r`'s page. -/
theorem namespace_in_scope_matches_page_printed (c : XCfg) (ns : List NsRow) (hns : c.lang.ns = some ns)
    (root : Node) (hrows : pagesHaveRows ns root = true) (f : Nat) (st st' : XSt)
    (h : xmlNode c .none f root st = .ok st') (path : List Nat) (names : List Name) (r : TagRow)
    (attrs : List Attr) (kids : List Node)
    (hpath : pathTo root path = some (names, .elt (.token r) attrs kids)) :
    ∃ q a post, q = names.foldl childScope .none ∧
      st'.out = (xmlTag c q (.token r) a).out ++ post ∧
      nsAfter c q (nsInScope c .none none names) (.token r) = nsOfPageX ns r.page := by
  obtain ⟨g, a, b, post, hb, ho⟩ := xmlNode_sub c path .none f root st st' names _ h hpath
  obtain ⟨x, hx⟩ := xmlNode_elt_tag c _ g (.token r) attrs kids a b hb
  refine ⟨_, a, x ++ post, rfl, by rw [ho, hx, List.append_assoc], ?_⟩
  rw [← nsInScope_append]
  exact (namespace_in_scope_matches_page c ns hns root hrows path names r attrs kids hpath).1

/-- Path form of (c), without a tree: any chain of ancestors ending in a token element. -/
theorem namespace_in_scope_matches_page_path (c : XCfg) (ns : List NsRow) (hns : c.lang.ns = some ns)
    (names : List Name) (r : TagRow) (hrows : namesHaveRows ns (names ++ [.token r]) = true) :
    nsInScope c .none none (names ++ [.token r]) = nsOfPageX ns r.page :=
  nsInScope_path c ns hns names r hrows

/-- A small language with a namespace table (one page), and the former witness: the literal element
    `X-Custom` with the token child `DSMem`. -/
def nsLang : Lang :=
  { id := 9999, pub := { wbxmlId := 1, xmlId := none, root := some b!"X-Custom", dtd := none },
    tags := some [{ name := b!"DSMem", page := 0, token := 0x0c, opts := 0 }],
    ns := some [{ ns := b!"syncml:devinf", page := 0 }], attrs := none, values := none, exts := none }

def nsCfg : XCfg := { lang := nsLang, gen := 0, delta := 1, ignoreEmpty := true, removeBlanks := true }

def nsWitness : Node :=
  .elt (.literal b!"X-Custom") [] [.elt (.token { name := b!"DSMem", page := 0, token := 0x0c, opts := 0 }) [] [.text b!"text"]]

/-- **Regression for the repaired defect.** `X-Custom[DSMem[text]]`: the token element below the
    literal root now declares the namespace of its page (before fix 3c27455 the output was
    `<X-Custom><DSMem>text</DSMem></X-Custom>`, `DSMem` in no namespace). -/
theorem ns_former_witness_fixed :
    (match xmlNode nsCfg .none 10 nsWitness {} with
     | .ok st => some st.out
     | .error _ => none) = some b!"<X-Custom><DSMem xmlns=\"syncml:devinf\">text</DSMem></X-Custom>" := by
  decide

/-- The former behaviour, for comparison: compared with its direct (literal) parent, the tag declares
    nothing. `xmlNode` no longer produces such a scope value (`isScope`). -/
example : (xmlTag nsCfg (.elt (.literal b!"X-Custom")) (.token { name := b!"DSMem", page := 0, token := 0x0c, opts := 0 }) {}).out
    = b!"<DSMem" := by decide

/-- Non-vacuity of (c): the hypotheses hold of the witness, and the namespace in scope at `DSMem` is
    the declared one. -/
example : pagesHaveRows [{ ns := b!"syncml:devinf", page := 0 }] nsWitness = true ∧
    nsInScope nsCfg .none none [.literal b!"X-Custom", .token { name := b!"DSMem", page := 0, token := 0x0c, opts := 0 }]
      = some b!"syncml:devinf" := by decide
example : pathTo nsWitness [0] = some ([.literal b!"X-Custom"],
      .elt (.token { name := b!"DSMem", page := 0, token := 0x0c, opts := 0 }) [] [.text b!"text"]) := rfl
example : nsInScope nsCfg .none none ([.literal b!"X-Custom"] ++ [.token { name := b!"DSMem", page := 0, token := 0x0c, opts := 0 }])
      = nsOfPageX [{ ns := b!"syncml:devinf", page := 0 }] 0 :=
  (namespace_in_scope_matches_page nsCfg _ rfl nsWitness (by decide) [0] _ _ _ _ rfl).1

/-- The hypothesis of (c) is needed: an element on a page without a row declares nothing and stays in
    its ancestor's namespace. -/
example : pagesHaveRows [{ ns := b!"syncml:devinf", page := 0 }]
      (.elt (.token { name := b!"A", page := 0, token := 5, opts := 0 }) []
        [.elt (.token { name := b!"B", page := 1, token := 5, opts := 0 }) [] []]) = false ∧
    nsInScope nsCfg .none none [.token { name := b!"A", page := 0, token := 5, opts := 0 },
      .token { name := b!"B", page := 1, token := 5, opts := 0 }] = some b!"syncml:devinf" ∧
    nsOfPageX [{ ns := b!"syncml:devinf", page := 0 }] 1 = none := by decide

/-- Two pages, a literal element in between: `B` (page of the nearest token ancestor `A`) declares
    nothing, `C` (another page) declares its namespace, `D` (same page as `C`) nothing. -/
example :
    let t (n : Bytes) (pg : Nat) : Name := .token { name := n, page := pg, token := 5, opts := 0 }
    let l : Lang := { nsLang with ns := some [{ ns := b!"p0", page := 0 }, { ns := b!"p1", page := 1 }] }
    (match xmlNode { nsCfg with lang := l } .none 10
        (.elt (t b!"A" 0) [] [.elt (.literal b!"x") [] [.elt (t b!"B" 0) [] [], .elt (t b!"C" 1) [] [.elt (t b!"D" 1) [] []]]]) {} with
     | .ok st => some st.out
     | .error _ => none) = some b!"<A xmlns=\"p0\"><x><B/><C xmlns=\"p1\"><D/></C></x></A>" := by
  decide

/-- **The DOCTYPE is the language's, exactly as registered**: root element name, then
    `PUBLIC "<public id>" "<DTD>"` for a language with a (non-empty) XML public identifier. -/
theorem doctype_matches_language (lang : Lang) (gen : Nat) (p : Bytes) (hp : lang.pub.xmlId = some p)
    (hne : p ≠ []) :
    xmlHeader lang gen =
      b!"<?xml version=\"1.0\"?>" ++ (if gen == 1 then [10] else []) ++
      b!"<!DOCTYPE " ++ lang.pub.root.getD [] ++ b!" PUBLIC \"" ++ p ++ b!"\" \"" ++ lang.pub.dtd.getD [] ++
      b!"\">" ++ (if gen == 1 then [10] else []) := by
  have : p.isEmpty = false := by cases p with | nil => exact absurd rfl hne | cons _ _ => rfl
  simp [xmlHeader, hp, this, newLine]

/-- … and `SYSTEM "<DTD>"` for a language without one. -/
theorem doctype_system_only (lang : Lang) (gen : Nat) (hp : lang.pub.xmlId = none ∨ lang.pub.xmlId = some []) :
    xmlHeader lang gen =
      b!"<?xml version=\"1.0\"?>" ++ (if gen == 1 then [10] else []) ++
      b!"<!DOCTYPE " ++ lang.pub.root.getD [] ++ b!" SYSTEM \"" ++ lang.pub.dtd.getD [] ++
      b!"\">" ++ (if gen == 1 then [10] else []) := by
  rcases hp with hp | hp <;> simp [xmlHeader, hp, newLine]

/-- The identifiers of that DOCTYPE are recognised back: `wbxml_tables_search_table` on the public
    id the printer wrote selects the first registered entry with that public id (for the
    regenerated tables: the language itself, `Props.C10.gen_doctype_route`). -/
theorem doctype_recognised (main : List Lang) (lang : Lang) (p : Bytes) (hp : lang.pub.xmlId = some p)
    (hl : lang ∈ main) (sysid root : Option Bytes) :
    ∃ l', searchTable main (some p) sysid root = some l' ∧
      main.find? (Wbxml.Lemmas.Ident.pubMatch p) = some l' ∧ Wbxml.Lemmas.Ident.pubMatch p l' = true := by
  have hm : Wbxml.Lemmas.Ident.pubMatch p lang = true := by
    simp [Wbxml.Lemmas.Ident.pubMatch, hp, caseEq]
  cases hf : main.find? (Wbxml.Lemmas.Ident.pubMatch p) with
  | none => exact absurd hm (by simpa using List.find?_eq_none.mp hf lang hl)
  | some l' =>
    refine ⟨l', ?_, rfl, List.find?_some hf⟩
    rw [Wbxml.Lemmas.Ident.searchTable_eq]
    simp [Wbxml.Lemmas.Ident.byPub, hf]


/-! ## The output is a well-formed XML document that denotes the tree

`Spec/Xml.lean` is a specification of well-formed XML written from the XML 1.0 Recommendation
(productions [1] document … [2] Char for the constructs the printer can emit; a strict reader
`Spec.Xml.read : Bytes → Option XDoc`), independent of the printer; the check ties it to Expat
(`SPECX` against `EXPATN` on every output and on a malformed stream). The theorems below are about
compact and canonical generation (`gen` 0 and 2), any keep-white-space setting, any fuel, and every
tree satisfying the decidable precondition `xmlRepresentable cfg t` (Lemmas/XmlSpecDoc.lean, spelled out
in `representable_meaning` / `representable_nodes`; embedded documents included). Outside the
predicate, hence `_partial`: CDATA nodes with several children or with an embedded document inside
(the tree builder merges adjacent text, `addKid`, so it builds the former only around an embedded
document), and indented generation. -/

open Wbxml.Lemmas.XmlSpec Wbxml.Spec.Xml Wbxml.Lemmas.EncW in
/-- **(a) The output is a well-formed XML document**: whenever the printer succeeds on a
    representable tree, the specification reader accepts the octets. -/
theorem output_well_formed_partial (cfg : W2XCfg) (hgen : cfg.gen = 0 ∨ cfg.gen = 2) (fuel : Nat) (t : Tree)
    (xml : Bytes) (hrep : xmlRepresentable cfg t = true) (h : treeToXml cfg fuel t = .ok xml) :
    ∃ d, Spec.Xml.read xml = some d := by
  have hg : (cfg.gen == 1) = false := by rcases hgen with h | h <;> simp [h]
  obtain ⟨_, _, _, hr, _, heq⟩ := treeToXml_read_gen cfg fuel t xml hrep h
  exact ⟨_, heq hg ▸ hr⟩

open Wbxml.Lemmas.XmlSpec Wbxml.Spec.Xml Wbxml.Lemmas.EncW in
/-- **(b) … that denotes exactly the tree**: it has the XML declaration `version="1.0"`, the
    language's DOCTYPE — root name, public identifier (none when the language has none or an empty
    one) and system identifier exactly as registered — and its root element is `xview cfg t`: the
    tree's elements in order, each with the namespace declaration `xml_encode_tag` adds (as attribute
    `xmlns`) followed by its attributes (`attr_view`), and its character data (`text_view_*`),
    adjacent text nodes and CDATA nodes joined (`content_view`). -/
theorem output_denotes_tree_partial (cfg : W2XCfg) (hgen : cfg.gen = 0 ∨ cfg.gen = 2) (fuel : Nat) (t : Tree)
    (xml : Bytes) (hrep : xmlRepresentable cfg t = true) (h : treeToXml cfg fuel t = .ok xml)
    (lang : Lang) (hl : t.lang = some lang) :
    Spec.Xml.read xml = some
      { version := some b!"1.0",
        doctype := some { name := lang.pub.root.getD [],
                          pubid := (match lang.pub.xmlId with
                            | some p => if p.isEmpty then none else some p
                            | none => none),
                          sysid := some (lang.pub.dtd.getD []) },
        root := xview cfg t } := by
  have hg : (cfg.gen == 1) = false := by rcases hgen with h | h <;> simp [h]
  obtain ⟨lang', _, hl', hr, _, heq⟩ := treeToXml_read_gen cfg fuel t xml hrep h
  rw [hl] at hl'
  injection hl' with hl'
  subst hl'
  exact heq hg ▸ hr

open Wbxml.Lemmas.XmlSpec Wbxml.Spec.Xml Wbxml.Lemmas.EncW in
/-- (a)+(b) for the whole conversion `wbxml_conv_wbxml2xml_run`: when it succeeds and the tree it built
    is representable, its output is read back as that tree. -/
theorem conversion_output_denotes_tree_partial (cfg : W2XCfg) (hgen : cfg.gen = 0 ∨ cfg.gen = 2) (wbxml xml : Bytes)
    (h : wbxml2xml cfg wbxml = .ok xml) :
    ∃ t, treeOfWbxml cfg.main (wbxml.length + 1) cfg.lang cfg.charset wbxml = .ok t ∧
      (xmlRepresentable cfg t = true → ∃ d, Spec.Xml.read xml = some d ∧ d.root = xview cfg t ∧
        d.doctype = t.lang.map xdoctype) := by
  unfold wbxml2xml at h
  split at h
  · cases h
  · obtain ⟨t, ht, h⟩ := Lemmas.bind_eq_ok h
    refine ⟨t, ht, fun hrep => ?_⟩
    have hg : (cfg.gen == 1) = false := by rcases hgen with h | h <;> simp [h]
    obtain ⟨lang, _, hl, hr, _, heq⟩ := treeToXml_read_gen cfg _ t xml hrep h
    exact ⟨_, hr, heq hg, by simp [hl]⟩

open Wbxml.Lemmas.XmlSpec Wbxml.Spec.Xml Wbxml.Lemmas.EncW Wbxml.Lemmas.XmlPrint in
/-- The root: the element's name, its attributes, its content — printed with the options
    `wbxml_tree_to_xml` derives (`xcfgOf`), under no enclosing token element, the encoder knowing no
    current tag. -/
theorem root_view (cfg : W2XCfg) (t : Tree) (lang : Lang) (name : Name) (attrs : List Attr) (kids : List Node)
    (hl : t.lang = some lang) (hr : t.root = some (.elt name attrs kids)) :
    xview cfg t = .elem name.xmlName ((vAttrs (xcfgOf cfg lang) .none name attrs).map PAttr.view)
      (vNodes (xcfgOf cfg lang) (childScope .none name) (tagOf name) kids []) := by
  simp [xview, hl, hr, xelem]

open Wbxml.Lemmas.XmlSpec Wbxml.Spec.Xml Wbxml.Lemmas.EncW Wbxml.Lemmas.XmlPrint in
/-- Content lists, node by node (`vNodes c p cur kids R`: the children `kids` of an element whose tag
    is `cur`, followed by `R`): an element child is one item — printed under the scope its parent
    hands down, the nearest token-element ancestor —; a text node and a CDATA node with a text node add
    their character data in front of what follows, joining a text item there; the first child is
    written while the encoder's current tag is the parent's, every later one after it was reset; an
    embedded document contributes its root, printed by an encoder of its own (the embedded language,
    no enclosing element, no current tag — its root element declares its namespace again). -/
theorem content_view (c : XCfg) (p : Parent) (cur : Option TagRow) (R : List XItem) :
    vNodes c p cur [] R = R ∧
    (∀ n rest, vNodes c p cur (n :: rest) R = vNode c p cur n (vNodes c p none rest R)) ∧
    (∀ name attrs kids, vNode c p cur (.elt name attrs kids) R =
      .elem name.xmlName ((vAttrs c p name attrs).map PAttr.view) (vNodes c (childScope p name) (tagOf name) kids []) :: R) ∧
    (∀ s, vNode c p cur (.text s) R = addText (vText c cur s) R) ∧
    (∀ s, vNode c p cur (.cdata [.text s]) R = addText (eolNorm s) R) ∧
    vNode c p cur (.cdata []) R = R ∧
    (∀ l cs r, vNode c p cur (.tree (some l) cs (some r)) R = vNode { c with lang := l } .none none r R) := by
  refine ⟨by simp [vNodes], fun _ _ => by simp [vNodes], fun _ _ _ => by simp [vNode], fun _ => by simp [vNode],
    fun _ => by simp [vNode], by simp [vNode], fun _ _ _ => by simp [vNode]⟩

open Wbxml.Lemmas.XmlSpec Wbxml.Spec.Xml Wbxml.Lemmas.EncW Wbxml.Lemmas.XmlNs in
/-- Attributes: the namespace declaration of `xmlns_declared_iff_page_differs` first, as an ordinary
    attribute `xmlns` with the registered namespace name; then, in a language with an attribute table,
    the element's attributes in order, name and value read as C strings (up to the first NUL), the
    value as `attNorm` gives it. -/
theorem attr_view (c : XCfg) (p : Parent) (name : Name) (attrs : List Attr) :
    (vAttrs c p name attrs).map PAttr.view =
      (match declaredNs c p name with
       | some ns => [(b!"xmlns", ns)]
       | none => []) ++
      (if c.lang.attrs.isSome then
         attrs.map fun a => (cstrOf a.name.xmlName, attNorm (c.gen == 2) (cstrOf a.value))
       else []) := by
  unfold vAttrs
  rw [List.map_append]
  congr 1
  · cases declaredNs c p name <;> rfl
  · split <;> simp [PAttr.view, List.map_map, Function.comp_def]

open Wbxml.Lemmas.XmlSpec in
/-- **Attribute values: exactly in canonical generation; otherwise TAB and LF become spaces** (they
    are written literally and §3.3.3 applies on reading) **and everything else — CR included, which is
    always written `&#13;` — is exact.** -/
theorem attr_value_view (v : Bytes) :
    attNorm true v = v ∧ attNorm false v = v.map (fun b => if b == 10 || b == 9 then 32 else b) ∧
    ((∀ b ∈ v, b ≠ 10 ∧ b ≠ 9) → attNorm false v = v) := by
  refine ⟨rfl, rfl, fun h => ?_⟩
  show v.map attNorm1 = v
  induction v with
  | nil => rfl
  | cons a r ih =>
    have ha := h a List.mem_cons_self
    simp only [List.map_cons, List.cons.injEq]
    exact ⟨by simp [attNorm1, ha.1, ha.2], ih (fun b hb => h b (List.mem_cons_of_mem _ hb))⟩

open Wbxml.Lemmas.XmlSpec Wbxml.Lemmas.EncW in
/-- **Character data, canonical generation: exact** — the text node's octets, CR LF TAB included —
    in an element that is not binary-flagged (there: the base64 form the printer substitutes), except
    for the SyncML media-type rewriting inside `Type` (`textStr`). -/
theorem text_view_canonical (c : XCfg) (hg : c.gen = 2) (cur : Option TagRow) (s : Bytes) :
    vText c cur s = (if isBinaryTag cur then b64EncodeGo (textStr c.lang.id cur s) else textStr c.lang.id cur s) ∧
    ((∀ r, cur = some r → (r.page == 1 && r.token == 0x13) = false) → textStr c.lang.id cur s = s) := by
  refine ⟨by simp [vText, hg], fun h => ?_⟩
  unfold textStr
  cases cur with
  | none => simp
  | some r => simp [h r rfl]

open Wbxml.Lemmas.XmlSpec Wbxml.Lemmas.EncW in
/-- **Character data, compact and indented generation**: with white space kept, as in canonical generation (exact:
    a CR is written `&#13;`, everything else literally, and nothing the reader normalises is left);
    otherwise a text node of white space only contributes nothing and any other is stripped of leading
    and trailing blanks first (`xml_encode_text`) — not in a binary-flagged element. -/
theorem text_view_compact (c : XCfg) (hg : c.gen = 0 ∨ c.gen = 1) (cur : Option TagRow) (s : Bytes) (hb : isBinaryTag cur = false) :
    (c.ignoreEmpty = false → c.removeBlanks = false → vText c cur s = textStr c.lang.id cur s) ∧
    (c.ignoreEmpty = true → c.removeBlanks = true →
      vText c cur s = if s.all isSpaceC then [] else textStr c.lang.id cur (stripBlanks s)) := by
  rcases hg with hg | hg <;>
    exact ⟨fun h1 h2 => by simp [vText, hg, hb, h1, h2], fun h1 h2 => by simp [vText, hg, hb, h1, h2]⟩

open Wbxml.Lemmas.XmlSpec in
/-- **CDATA nodes contribute their text**; it is written as it is, so a reader applies XML's line-end
    handling (§2.11): exact when the text has no CR. -/
theorem cdata_view (s : Bytes) (h : ∀ b ∈ s, b ≠ 13) : eolNorm s = s := by
  induction s with
  | nil => rfl
  | cons a r ih =>
    rw [eolNorm_cons a r (h a List.mem_cons_self), ih fun b hb => h b (List.mem_cons_of_mem _ hb)]

example : Wbxml.Lemmas.XmlSpec.eolNorm b!"a\r\nb\rc\n" = b!"a\nb\nc\n" := by decide


/-! ### Indented generation (and every other mode): the same document up to the white space added

In indented generation the printer writes line feeds and runs of spaces around markup (after the
header lines, before start tags, after `>` and before `</` of an element that has element children,
after end tags). A reader sees them as character data. `sqI` / `sqL` delete the blanks (space, line
feed) from all character data of an item and drop text items that become empty
(`squash_meaning`); the two theorems below say that the output is well-formed and that its root,
squashed, is the squashed view of the tree — the same elements, attributes and non-blank character
data in the same order. For `gen = 1` the view `xview cfg t` treats text as compact generation does
(`text_view_compact`) and attribute values as `attNorm false`. -/

open Wbxml.Lemmas.XmlSpec Wbxml.Spec.Xml Wbxml.Lemmas.EncW in
/-- **(c) Indented generation, any indentation width — in fact any generation mode: the output is a
    well-formed XML document.** -/
theorem indent_output_well_formed_partial (cfg : W2XCfg) (fuel : Nat) (t : Tree) (xml : Bytes)
    (hrep : xmlRepresentable cfg t = true) (h : treeToXml cfg fuel t = .ok xml) :
    ∃ d, Spec.Xml.read xml = some d := by
  obtain ⟨_, _, _, hr, _⟩ := treeToXml_read_gen cfg fuel t xml hrep h
  exact ⟨_, hr⟩

open Wbxml.Lemmas.XmlSpec Wbxml.Spec.Xml Wbxml.Lemmas.EncW in
/-- **(c) … with the language's DOCTYPE, whose root element is the tree's view up to the blanks the
    printer adds**: equal after deleting space and line feed from character data. -/
theorem indent_output_denotes_tree_partial (cfg : W2XCfg) (fuel : Nat) (t : Tree) (xml : Bytes)
    (hrep : xmlRepresentable cfg t = true) (h : treeToXml cfg fuel t = .ok xml) (lang : Lang) (hl : t.lang = some lang) :
    ∃ r, Spec.Xml.read xml = some
        { version := some b!"1.0",
          doctype := some { name := lang.pub.root.getD [],
                            pubid := (match lang.pub.xmlId with
                              | some p => if p.isEmpty then none else some p
                              | none => none),
                            sysid := some (lang.pub.dtd.getD []) },
          root := r } ∧
      sqI r = sqI (xview cfg t) := by
  obtain ⟨lang', r, hl', hr, hs, _⟩ := treeToXml_read_gen cfg fuel t xml hrep h
  rw [hl] at hl'
  injection hl' with hl'
  subst hl'
  exact ⟨r, hr, hs⟩

open Wbxml.Lemmas.XmlSpec Wbxml.Spec.Xml Wbxml.Lemmas.EncW in
/-- What squashing does: blanks (space, line feed) are deleted from character data, a text item
    that becomes empty is dropped, elements keep name and attributes and have their content squashed. -/
theorem squash_meaning (s : Bytes) (n : Bytes) (a : List (Bytes × Bytes)) (k r : List XItem) :
    nb s = s.filter (fun b => !(b == 32 || b == 10)) ∧
    sqI (.text s) = .text (nb s) ∧ sqI (.elem n a k) = .elem n a (sqL k) ∧
    sqL [] = [] ∧ sqL (.text s :: r) = (if (nb s).isEmpty then sqL r else .text (nb s) :: sqL r) ∧
    sqL (.elem n a k :: r) = .elem n a (sqL k) :: sqL r := by
  refine ⟨rfl, by simp [sqI], by simp [sqI], by simp [sqL], by simp [sqL], by simp [sqL]⟩

open Wbxml.Lemmas.XmlSpec Wbxml.Spec.Xml Wbxml.Lemmas.EncW Wbxml.Lemmas.XmlPrint Wbxml.Lemmas.XmlNs in
/-- `xmlRepresentable` spelled out: language entry, root element, and node by node. -/
theorem representable_meaning (cfg : W2XCfg) (t : Tree) :
    xmlRepresentable cfg t = true ↔
      ∃ lang name attrs kids, t.lang = some lang ∧ t.root = some (.elt name attrs kids) ∧
        langOk lang = true ∧ okNode (xcfgOf cfg lang) .none none (.elt name attrs kids) = true :=
  xmlRepresentable_iff cfg t

open Wbxml.Lemmas.XmlSpec Wbxml.Spec.Xml Wbxml.Lemmas.EncW Wbxml.Lemmas.XmlPrint Wbxml.Lemmas.XmlNs in
/-- … node by node: names are Names, attribute values and character data are UTF-8 for XML
    characters, no attribute name twice in a start tag, namespace names are plain, a CDATA node holds
    at most one text node, an embedded document has a language and a root that satisfies the same
    conditions under its own language. (`okNode` is `XmlSpec.okNode`, not the printer's fuel test
    `ParserSafe.okNode` of C01.) -/
theorem representable_nodes (c : XCfg) (p : Parent) (cur : Option TagRow) :
    (∀ name attrs kids, okNode c p cur (.elt name attrs kids) =
      (isName name.xmlName && attrsOk c p name attrs && okNodes c (childScope p name) (tagOf name) kids)) ∧
    (∀ s, okNode c p cur (.text s) = xmlChars (vText c cur s)) ∧
    okNode c p cur (.cdata []) = true ∧ (∀ s, okNode c p cur (.cdata [.text s]) = xmlChars s) ∧
    (∀ l cs r, okNode c p cur (.tree (some l) cs (some r)) = okNode { c with lang := l } .none none r) ∧
    (∀ cs r, okNode c p cur (.tree none cs r) = false) ∧ (∀ l cs, okNode c p cur (.tree l cs none) = false) ∧
    okNodes c p cur [] = true ∧ (∀ n rest, okNodes c p cur (n :: rest) = (okNode c p cur n && okNodes c p none rest)) ∧
    (∀ name attrs, attrsOk c p name attrs =
      ((match declaredNs c p name with
        | some ns => ns.all isPlainAtt && xmlChars ns
        | none => true) &&
       (if c.lang.attrs.isSome then
          attrs.all fun a => isName (cstrOf a.name.xmlName) && xmlChars (cstrOf a.value)
        else true) &&
       nodup ((vAttrs c p name attrs).map (·.name)))) := by
  refine ⟨fun _ _ _ => by simp [okNode], fun _ => by simp [okNode], by simp [okNode], fun _ => by simp [okNode],
    fun _ _ _ => by simp [okNode], fun _ _ => by simp [okNode], fun l _ => by cases l <;> simp [okNode],
    by simp [okNodes], fun _ _ => by simp [okNodes], fun _ _ => rfl⟩

open Wbxml.Lemmas.XmlSpec Wbxml.Spec.Xml in
/-- The condition on a text node can be checked on the node's own octets: if they are UTF-8 for XML
    characters, so is what `xml_encode_text` writes for the node (after stripping blanks, rewriting a
    SyncML media type, or taking the base64 form), wherever the node stands. -/
theorem text_precondition_on_octets (c : XCfg) (p : Parent) (cur : Option TagRow) (s : Bytes)
    (h : xmlChars s = true) : okNode c p cur (.text s) = true ∧ xmlChars (vText c cur s) = true :=
  ⟨okNode_text_of_chars c p cur s h, xmlChars_vText c cur s h⟩

open Wbxml.Lemmas.XmlSpec in
/-- **Every registered language satisfies the language part of the precondition** (complete table):
    its root name is a Name, its public identifier consists of PubidChars, its DTD location has no
    double quote — and every registered namespace name can be written between double quotes as it is. -/
theorem registered_languages_ok :
    Gen.main.all langOk = true ∧
    Gen.main.all (fun l => (l.ns.getD []).all fun r => r.ns.all isPlainAtt && Spec.Xml.xmlChars r.ns) = true := by
  decide +kernel

/-! ### The precondition is needed, conjunct by conjunct

For each conjunct a tree that violates only it, on which the printer succeeds and whose output the
specification reader refuses (`rejected`); `wfLang` has an attribute table and two code pages. -/

def wfLang : Lang :=
  { id := 9998, pub := { wbxmlId := 1, xmlId := some b!"-//X//DTD T 1.0//EN", root := some b!"doc", dtd := some b!"http://x/t.dtd" },
    tags := some [{ name := b!"item", page := 0, token := 5, opts := 0 }, { name := b!"other", page := 1, token := 5, opts := 0 }],
    ns := some [{ ns := b!"urn:p0", page := 0 }, { ns := b!"urn:p1", page := 1 }], attrs := some [], values := none, exts := none }

def wfCfg (gen : Nat) : W2XCfg := { main := [wfLang], gen := gen, keepWs := true }
def wfTree (l : Lang) (r : Node) : Tree := { lang := some l, origCharset := 106, root := some r }

/-- The printer produced an output and `Spec.Xml.read` refuses it. -/
def rejected (cfg : W2XCfg) (t : Tree) : Bool :=
  match treeToXml cfg 10 t with
  | .ok xml => (Spec.Xml.read xml).isNone
  | .error _ => false

def wfItem : Name := .token { name := b!"item", page := 0, token := 5, opts := 0 }
def lit (s : Bytes) (attrs : List Attr) (kids : List Node) : Node := .elt (.literal s) attrs kids

/-- Non-vacuity: a tree with a token element (namespace declared), an attribute with `<` and a
    trailing NUL, text with `&`, an empty literal element, a CDATA node with `]]>` and CR LF, and
    a two-octet character is representable, in both modes; its output is accepted and denotes it. -/
def wfGood : Tree := wfTree wfLang (.elt wfItem [{ name := .literal b!"id", value := [97, 60, 98, 9, 0] }]
  [.text b!"x&y", lit b!"lit" [] [], .cdata [.text b!"c]]>d\r\ne"], .text [0xC3, 0xA9]])

open Wbxml.Lemmas.XmlSpec in
example : xmlRepresentable (wfCfg 0) wfGood = true ∧ xmlRepresentable (wfCfg 2) wfGood = true ∧
    rejected (wfCfg 0) wfGood = false ∧ rejected (wfCfg 2) wfGood = false := by decide +kernel

open Wbxml.Lemmas.XmlSpec Wbxml.Spec.Xml in
example : (xview (wfCfg 0) wfGood).same
    (.elem b!"item" [(b!"xmlns", b!"urn:p0"), (b!"id", b!"a<b ")]
      [.text b!"x&y", .elem b!"lit" [] [], .text ([99, 93, 93, 62, 100, 10, 101, 0xC3, 0xA9])]) = true := by decide +kernel
open Wbxml.Lemmas.XmlSpec Wbxml.Spec.Xml in
example : (xview (wfCfg 2) wfGood).same
    (.elem b!"item" [(b!"xmlns", b!"urn:p0"), (b!"id", [97, 60, 98, 9])]
      [.text b!"x&y", .elem b!"lit" [] [], .text ([99, 93, 93, 62, 100, 10, 101, 0xC3, 0xA9])]) = true := by decide +kernel
example : (match treeToXml (wfCfg 0) 10 wfGood with
    | .ok xml => xml == b!"<?xml version=\"1.0\"?><!DOCTYPE doc PUBLIC \"-//X//DTD T 1.0//EN\" \"http://x/t.dtd\"><item xmlns=\"urn:p0\" id=\"a&lt;b\t\">x&amp;y<lit/><![CDATA[c]]]]><![CDATA[>d\r\ne]]>" ++ [0xC3, 0xA9] ++ b!"</item>"
    | .error _ => false) = true := by
  decide +kernel

open Wbxml.Lemmas.XmlSpec in
/-- **Necessity witnesses.** An element name that is not a Name (`1a`; a name with a blank; a name
    with a NUL); an attribute name that is not a Name; a C0 control character in character data; an
    octet sequence that is not UTF-8; a control character in an attribute value; the same attribute
    name twice; an attribute called `xmlns` next to the namespace declaration; a CDATA node whose two
    text nodes put `]]>` together; a root that is not an element; a language without root name; a
    namespace name with a double quote; a public identifier with a character that is not a PubidChar. -/
theorem precondition_needed :
    let bad (cfg : W2XCfg) (t : Tree) : Bool := !xmlRepresentable cfg t && rejected cfg t
    bad (wfCfg 0) (wfTree wfLang (lit b!"1a" [] [])) = true ∧
    bad (wfCfg 0) (wfTree wfLang (lit b!"a b" [] [])) = true ∧
    bad (wfCfg 0) (wfTree wfLang (lit [97, 0, 98] [] [])) = true ∧
    bad (wfCfg 0) (wfTree wfLang (lit b!"a" [{ name := .literal b!"-x", value := b!"v" }] [])) = true ∧
    bad (wfCfg 2) (wfTree wfLang (lit b!"a" [] [.text [1]])) = true ∧
    bad (wfCfg 2) (wfTree wfLang (lit b!"a" [] [.text [0xC0, 0x80]])) = true ∧
    bad (wfCfg 2) (wfTree wfLang (lit b!"a" [] [.text [0xED, 0xA0, 0x80]])) = true ∧
    bad (wfCfg 2) (wfTree wfLang (lit b!"a" [] [.cdata [.text [0xFF]]])) = true ∧
    bad (wfCfg 0) (wfTree wfLang (lit b!"a" [{ name := .literal b!"x", value := [0x1F] }] [])) = true ∧
    bad (wfCfg 0) (wfTree wfLang (lit b!"a" [{ name := .literal b!"x", value := b!"1" }, { name := .literal b!"x", value := b!"2" }] [])) = true ∧
    bad (wfCfg 0) (wfTree wfLang (.elt wfItem [{ name := .literal b!"xmlns", value := b!"u" }] [])) = true ∧
    bad (wfCfg 0) (wfTree wfLang (lit b!"a" [] [.cdata [.text b!"]]", .text b!">"]])) = true ∧
    bad (wfCfg 0) (wfTree wfLang (.text b!"a")) = true ∧
    bad (wfCfg 0) (wfTree { wfLang with pub := { wfLang.pub with root := none } } (lit b!"a" [] [])) = true ∧
    bad (wfCfg 0) (wfTree { wfLang with ns := some [{ ns := b!"a\"b", page := 0 }] } (.elt wfItem [] [])) = true ∧
    bad (wfCfg 0) (wfTree { wfLang with pub := { wfLang.pub with xmlId := some b!"a{b" } } (lit b!"a" [] [])) = true := by
  decide +kernel


/-- Indented generation of the non-vacuity tree (width 2): accepted, and the text item between `lit` and
    the end tag is the CDATA text, the two-octet character and the line feed added before `</item>`. -/
example : (match treeToXml { wfCfg 1 with indent := 2 } 10 wfGood with
    | .ok xml => xml == b!"<?xml version=\"1.0\"?>\n<!DOCTYPE doc PUBLIC \"-//X//DTD T 1.0//EN\" \"http://x/t.dtd\">\n<item xmlns=\"urn:p0\" id=\"a&lt;b\t\">\nx&amp;y  <lit/>\n<![CDATA[c]]]]><![CDATA[>d\r\ne]]>" ++ [0xC3, 0xA9] ++ b!"\n</item>\n"
    | .error _ => false) = true ∧ rejected { wfCfg 1 with indent := 2 } wfGood = false := by
  decide +kernel


end Wbxml.Props.C05
