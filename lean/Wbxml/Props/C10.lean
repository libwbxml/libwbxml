/-
  C10 — every language is recognised from its own identifiers; forcing always wins.

  * `check_public_id` / the WBXML header (`Model.checkPublicId`, `Model.parseHeader`), for ALL
    documents and ALL main tables;
  * `wbxml_tables_search_table` (`Model.searchTable`) and the root-element callback of the XML tree
    builder, for ALL main tables;
  * the regenerated table `Gen.main`, entry by entry and route by route (kernel evaluation), and
    the encoder's header read back (composed from C06 and C04).
-/
import Wbxml.Lemmas.Ident
import Wbxml.Model.EncWbxml
import Wbxml.Gen.Tables
import Wbxml.Lemmas.EncWDoc
import Wbxml.Props.C04
namespace Wbxml.Props.C10
open Wbxml Wbxml.Model Wbxml.Lemmas.Ident Wbxml.Lemmas.ParserSafe

/-- Textual public identifier, compared with `strcasecmp`. -/
def textMatch (str : Bytes) (l : Lang) : Bool :=
  match l.pub.xmlId with
  | some x => caseEq x str
  | none => false

/-- What a successful header tells: the selected entry is what `check_public_id` answered on the state
    after the string table, for the identifier fields the header carried. -/
theorem header_selects (cfg : PCfg) (bs : Bytes) (s : PState) (lang : Lang)
    (hok : parseHeader cfg bs = .ok (s, lang)) :
    ∃ pubId pubIdx s0 s1, headerPre cfg bs = .ok (pubId, pubIdx, s0) ∧ parseStrtbl s0 = .ok s1 ∧
      checkPublicId cfg s1 pubId pubIdx = some lang ∧ s = { s1 with lang := some lang } := by
  rw [parseHeader_eq] at hok
  split at hok
  · cases hok
  · obtain ⟨⟨pubId, pubIdx, s0⟩, h1, hok⟩ := Lemmas.bind_eq_ok hok
    obtain ⟨s1, h2, hok⟩ := Lemmas.bind_eq_ok hok
    cases h3 : checkPublicId cfg s1 pubId pubIdx with
    | none => rw [h3] at hok; cases hok
    | some l =>
      rw [h3] at hok
      cases hok
      exact ⟨pubId, pubIdx, s0, s1, h1, h2, h3, rfl⟩

/-- A failed identification is error 64 (`WBXML_ERROR_UNKNOWN_PUBLIC_ID`) once the fields before it
    were read. -/
theorem unknown_id_rejected (cfg : PCfg) (bs : Bytes) (pubId : Nat) (pubIdx : Option Nat) (s0 s1 : PState)
    (h1 : headerPre cfg bs = .ok (pubId, pubIdx, s0)) (h2 : parseStrtbl s0 = .ok s1)
    (h3 : checkPublicId cfg s1 pubId pubIdx = none) :
    parseHeader cfg bs = .error (.code 64) := by
  rw [parseHeader_eq]
  have : bs.isEmpty = false := by
    cases bs with
    | nil => simp [headerPre, parseU8, bind, Except.bind] at h1
    | cons _ _ => rfl
  simp only [this, Bool.false_eq_true, ↓reduceIte, h1, bind, Except.bind, h2, h3]
  rfl

theorem header_rejects (cfg : PCfg) (bs : Bytes) (pubId : Nat) (pubIdx : Option Nat) (s0 s1 : PState)
    (h1 : headerPre cfg bs = .ok (pubId, pubIdx, s0)) (h2 : parseStrtbl s0 = .ok s1)
    (h3 : checkPublicId cfg s1 pubId pubIdx = none) (_hne : bs ≠ []) :
    parseHeader cfg bs = .error (.code 64) :=
  unknown_id_rejected cfg bs pubId pubIdx s0 s1 h1 h2 h3

/-- **Forcing wins** (`check_public_id`): with a forced language the document's identifier fields
    and its string table are not consulted at all. -/
theorem forced_selects (cfg : PCfg) (hf : cfg.langForced ≠ 0) (s : PState) (pubId : Nat) (pubIdx : Option Nat) :
    checkPublicId cfg s pubId pubIdx = cfg.main.find? (fun l => l.id == cfg.langForced) := by
  have h1 : (cfg.langForced == 0) = false := by simpa using hf
  have h2 : (cfg.langForced != 0) = true := by simpa using hf
  simp only [checkPublicId, h1, h2, Bool.false_and, Bool.false_eq_true, if_false, if_true]

/-- **Forcing wins**: when the caller forces language `l` (`l` being the first entry of the main
    table with that id), every header that is accepted selects exactly `l` — whatever public
    identifier, string-table index or string table the document carries. -/
theorem forced_wins (cfg : PCfg) (l : Lang) (bs : Bytes) (s : PState) (lang : Lang)
    (hf : cfg.langForced = l.id) (h0 : l.id ≠ 0)
    (hfirst : cfg.main.find? (fun x => x.id == l.id) = some l)
    (hok : parseHeader cfg bs = .ok (s, lang)) : lang = l ∧ s.lang = some l := by
  obtain ⟨pubId, pubIdx, s0, s1, _, _, h3, hs⟩ := header_selects cfg bs s lang hok
  rw [forced_selects cfg (by rw [hf]; exact h0), hf, hfirst] at h3
  cases h3
  exact ⟨rfl, by rw [hs]⟩

/-- … and the start-document event of the whole parse reports the forced language: a run delivers no
    event at all (header refused), or its first event is `startDoc _ l.id`. -/
theorem forced_wins_parse (cfg : PCfg) (l : Lang) (bs : Bytes)
    (hf : cfg.langForced = l.id) (h0 : l.id ≠ 0)
    (hfirst : cfg.main.find? (fun x => x.id == l.id) = some l) :
    (parse cfg bs).events = [] ∨ ∃ cs rest, (parse cfg bs).events = .startDoc cs l.id :: rest := by
  rcases parse_anatomy cfg bs with ⟨c, _, _, h', _⟩ | ⟨s, l', c, hh, _, _, h', _⟩ | ⟨s, l', ev, s', hh, hb, _, hev, _⟩
  · exact Or.inl h'
  · obtain rfl := (forced_wins cfg l bs s l' hf h0 hfirst hh).1
    exact Or.inr ⟨s.charset, [], h'⟩
  · obtain rfl := (forced_wins cfg l bs s l' hf h0 hfirst hh).1
    obtain ⟨pis1, n, attrs, body, pis2, e, _⟩ := parseBody_events hb
    exact Or.inr ⟨_, _, by rw [hev, e]; rfl⟩

/-- **No identifier, no forced language ⇒ no language** (`check_public_id`): public id 0x01
    ("unknown") and no string-table index. -/
theorem no_id_no_force_none (cfg : PCfg) (hf : cfg.langForced = 0) (s : PState) :
    checkPublicId cfg s 1 none = none := by
  simp [checkPublicId, hf]

/-- … as a verdict of the header: error 64, never a guessed language. `headerPre` yields
    `(1, none, _)` exactly for a document whose public-id field is the single byte `01`, or
    `00` followed by the index `0xFFFFFFFF` (the library's "no index"). -/
theorem no_id_no_force_rejected (cfg : PCfg) (hf : cfg.langForced = 0) (bs : Bytes) (s0 : PState)
    (h1 : headerPre cfg bs = .ok (1, none, s0)) :
    (∀ r, parseHeader cfg bs ≠ .ok r) ∧
    (∀ s1, parseStrtbl s0 = .ok s1 → parseHeader cfg bs = .error (.code 64)) := by
  constructor
  · intro r hr
    obtain ⟨s, lang⟩ := r
    obtain ⟨pubId, pubIdx, s0', s1, h1', _, h3, _⟩ := header_selects cfg bs s lang hr
    rw [h1] at h1'
    simp only [Except.ok.injEq, Prod.mk.injEq] at h1'
    obtain ⟨rfl, rfl, rfl⟩ := h1'
    rw [no_id_no_force_none cfg hf] at h3
    cases h3
  · intro s1 h2
    exact unknown_id_rejected cfg bs 1 none s0 s1 h1 h2 (no_id_no_force_none cfg hf s1)

/-- **Numeric identifier**: the first entry of the main table with that WBXML public id. -/
theorem numeric_id_selects_first (cfg : PCfg) (hf : cfg.langForced = 0) (s : PState) (pubId : Nat)
    (hp : pubId ≠ 1) (pubIdx : Option Nat) :
    checkPublicId cfg s pubId pubIdx = cfg.main.find? (fun l => l.pub.wbxmlId == pubId) := by
  simp [checkPublicId, hf, hp]

/-- … through the header: an accepted document carrying the numeric id `pubId ≠ 1` is decoded
    with the first entry registered for `pubId`. -/
theorem numeric_id_header (cfg : PCfg) (hf : cfg.langForced = 0) (bs : Bytes) (s : PState) (lang : Lang)
    (hok : parseHeader cfg bs = .ok (s, lang)) (pubId : Nat) (pubIdx : Option Nat) (s0 : PState)
    (h1 : headerPre cfg bs = .ok (pubId, pubIdx, s0)) (hp : pubId ≠ 1) :
    cfg.main.find? (fun l => l.pub.wbxmlId == pubId) = some lang := by
  obtain ⟨pubId', pubIdx', s0', s1, h1', _, h3, _⟩ := header_selects cfg bs s lang hok
  rw [h1] at h1'
  simp only [Except.ok.injEq, Prod.mk.injEq] at h1'
  obtain ⟨rfl, rfl, rfl⟩ := h1'
  rw [numeric_id_selects_first cfg hf s1 pubId hp] at h3
  exact h3

/-- **Textual identifier**: the string found at the index is compared case-insensitively with each
    entry's XML public id, first match wins. -/
theorem textual_id_selects_first (cfg : PCfg) (hf : cfg.langForced = 0) (s : PState) (i : Nat) (str : Bytes)
    (hs : strtblRef s i = .ok str) :
    checkPublicId cfg s 1 (some i) = cfg.main.find? (textMatch str) := by
  simp only [checkPublicId, hf, hs]
  rfl

/-- **Textual identifier at any offset, any letter case**: a string table that holds, at offset
    `pre.length`, a NUL-terminated spelling `x'` of an identifier selects the first entry whose XML
    public id equals `x'` up to ASCII case (US-ASCII / UTF-8 documents). -/
theorem textual_id_selects_first_caseless (cfg : PCfg) (hf : cfg.langForced = 0) (s : PState)
    (pre x' post : Bytes) (hx : ∀ b ∈ x', b ≠ 0) (hcs : s.charset = 3 ∨ s.charset = 106)
    (htbl : s.strtbl = some (pre ++ x' ++ 0 :: post)) :
    checkPublicId cfg s 1 (some pre.length) = cfg.main.find? (textMatch x') := by
  apply textual_id_selects_first cfg hf
  have hlen : ¬ (pre.length ≥ (pre ++ x' ++ 0 :: post).length) := by
    simp only [List.length_append, List.length_cons]; omega
  have hdrop : (pre ++ x' ++ 0 :: post).drop pre.length = x' ++ 0 :: post := by
    rw [List.append_assoc, List.drop_left]
  have hm : (0 : UInt8) ∈ x' ++ 0 :: post := by simp
  have htw := Lemmas.takeWhile_nulFree x' (by simpa [Spec.nulFree] using hx) post
  simp only [strtblRef, htbl, hlen, ↓reduceIte, hdrop,
    Wbxml.Lemmas.ParseSer.convTerm_of_mem s.charset hcs _ hm, htw, bind, Except.bind]
  rfl

/-- **Unknown identifiers are rejected**: a numeric id no entry carries, a textual id no entry
    matches, or a string-table index that does not yield a string. -/
theorem unknown_id_none (cfg : PCfg) (hf : cfg.langForced = 0) (s : PState) :
    (∀ pubId pubIdx, pubId ≠ 1 → (∀ l ∈ cfg.main, l.pub.wbxmlId ≠ pubId) →
        checkPublicId cfg s pubId pubIdx = none) ∧
    (∀ i str, strtblRef s i = .ok str → (∀ l ∈ cfg.main, textMatch str l = false) →
        checkPublicId cfg s 1 (some i) = none) ∧
    (∀ i e, strtblRef s i = .error e → checkPublicId cfg s 1 (some i) = none) := by
  refine ⟨?_, ?_, ?_⟩
  · intro pubId pubIdx hp hall
    rw [numeric_id_selects_first cfg hf s pubId hp]
    exact List.find?_eq_none.mpr (fun l hl => by simpa using hall l hl)
  · intro i str hs hall
    rw [textual_id_selects_first cfg hf s i str hs]
    exact List.find?_eq_none.mpr (fun l hl => by simp [hall l hl])
  · intro i e he
    simp [checkPublicId, hf, he]

/-- **Search order** of `wbxml_tables_search_table`: the DOCTYPE public id (case-insensitive), else the
    system id (exact), else the root element — by namespace (the FIRST namespace row of each
    language, as a case-insensitive prefix of the root name) when the root name contains the
    separator `|`, by root name (exact) otherwise. In each stage the first entry of `main` wins. -/
theorem search_order (main : List Lang) (pubid sysid root : Option Bytes) :
    searchTable main pubid sysid root =
      ((byPub main pubid).or (bySys main sysid)).or (byRoot main root) := searchTable_eq main pubid sysid root

theorem search_pub (main : List Lang) (p : Bytes) (sysid root : Option Bytes) (l : Lang)
    (h : main.find? (pubMatch p) = some l) : searchTable main (some p) sysid root = some l := by
  simp [search_order, byPub, h]

theorem search_sys (main : List Lang) (pubid : Option Bytes) (s : Bytes) (root : Option Bytes) (l : Lang)
    (hp : byPub main pubid = none) (h : main.find? (fun l => l.pub.dtd == some s) = some l) :
    searchTable main pubid (some s) root = some l := by
  simp [search_order, hp, bySys, h]

theorem search_root_ns (main : List Lang) (pubid sysid : Option Bytes) (r : Bytes)
    (hp : byPub main pubid = none) (hs : bySys main sysid = none) (hr : r.contains 124 = true) :
    searchTable main pubid sysid (some r) = main.find? (nsMatch r) := by
  have : (124 : UInt8) ∈ r := by simpa using hr
  simp [search_order, hp, hs, byRoot, this]

theorem search_root_name (main : List Lang) (pubid sysid : Option Bytes) (r : Bytes)
    (hp : byPub main pubid = none) (hs : bySys main sysid = none) (hr : r.contains 124 = false) :
    searchTable main pubid sysid (some r) = main.find? (fun l => l.pub.root == some r) := by
  have : ¬ (124 : UInt8) ∈ r := by simpa using hr
  simp [search_order, hp, hs, byRoot, this]

theorem search_mem (main : List Lang) (pubid sysid root : Option Bytes) (l : Lang)
    (h : searchTable main pubid sysid root = some l) : l ∈ main :=
  searchTable_mem main pubid sysid root l h

/-- **No match ⇒ no language.** -/
theorem search_none (main : List Lang) (pubid sysid root : Option Bytes)
    (hp : byPub main pubid = none) (hs : bySys main sysid = none) (hr : byRoot main root = none) :
    searchTable main pubid sysid root = none := by
  simp [search_order, hp, hs, hr]

/-- … and the tree builder then fails at the root element with error 101
    (`WBXML_ERROR_UNKNOWN_XML_LANGUAGE`): no DOCTYPE match earlier (`lang = none`), root name
    unknown. -/
theorem root_unknown_sets_101 (main : List Lang) (input : Bytes) (sub : Bytes → Option (Except Nat Tree))
    (b : XBState) (name : Bytes) (attrs : List (Bytes × Bytes)) (idx : Nat)
    (hneed : b.need = none) (herr : b.error = none) (hskip : b.skipLvl = 0)
    (hstack : b.stack = []) (hroot : b.root = none) (hlang : b.lang = none)
    (hsearch : searchTable main none none (some name) = none) :
    (xbuildStep main input sub b (.startElt name attrs idx)).error = some 101 := by
  simp [xbuildStep, hneed, herr, hskip, hstack, hroot, hlang, hsearch]

/-- A DOCTYPE the table does not know leaves the language open (the root element decides). -/
theorem doctype_unknown_keeps_state (main : List Lang) (input : Bytes) (sub : Bytes → Option (Except Nat Tree))
    (b : XBState) (sysid pubid : Option Bytes)
    (hsearch : searchTable main pubid sysid none = none) :
    xbuildStep main input sub b (.doctype sysid pubid) = b := by
  rw [xbuildStep_doctype, hsearch]
  exact ite_self b

/-! ## The regenerated table `Gen.main`, entry by entry, route by route

Each statement is a closed Boolean evaluated by the kernel over the table the translator produced
from `src/wbxml_tables.c` of the tree under test. Entries are compared by their language id, which
identifies the entry (`gen_ids_distinct`). For every route two facts are checked: the route selects
the FIRST registered entry carrying the identifier (computed end to end through the model of the C
function, not through the general theorem), and the set of entries that are *not* reachable by the
route — because an earlier entry carries the same identifier — is exactly the listed one. A new or
moved row that captures another language's identifier changes that list. -/

open Wbxml.Model.Codec (mbEncode)

def cfgGen : PCfg := { main := Gen.main }

/-- Language id the header model selects for a document prefix. -/
def hdrId (bs : Bytes) : Option Nat :=
  match parseHeader cfgGen bs with
  | .ok (_, l) => some l.id
  | .error _ => none

def firstId (p : Lang → Bool) : Option Nat := (Gen.main.find? p).map (·.id)

def distinct : List Nat → Bool
  | [] => true
  | a :: r => !r.contains a && distinct r

def upperByte (b : UInt8) : UInt8 := if 97 ≤ b.toNat ∧ b.toNat ≤ 122 then b - 32 else b

/-- WBXML 1.3 header with a numeric public id, UTF-8, empty string table. -/
def numericDoc (id : Nat) : Bytes := [3] ++ mbEncode id ++ [0x6A, 0x00]

/-- WBXML 1.3 header with public id "index `pre.length` of the string table", the table being
    `pre ++ x ++ NUL`. -/
def textualDoc (pre x : Bytes) : Bytes :=
  [3, 0] ++ mbEncode pre.length ++ [0x6A] ++ mbEncode (pre.length + x.length + 1) ++ pre ++ x ++ [0]

theorem gen_ids_distinct : distinct (Gen.main.map (·.id)) = true ∧ Gen.main.all (fun l => l.id != 0) = true := by
  decide +kernel

/-- Numeric route: every entry that has a numeric public id (≠ 0x01) is selected — itself — by a
    document carrying that id; no two entries share a numeric id. -/
theorem gen_numeric_route :
    Gen.main.all (fun l => l.pub.wbxmlId == 1 ||
      (hdrId (numericDoc l.pub.wbxmlId) == some l.id &&
       firstId (fun x => x.pub.wbxmlId == l.pub.wbxmlId) == some l.id)) = true := by decide +kernel

/-- Textual route: every entry that has an XML public id is selected — itself — by a document
    whose string table holds that id at offset 0 or behind another string, as registered, in
    upper case or in lower case. The one entry without XML public id is OTA settings (1901). -/
theorem gen_textual_route :
    Gen.main.all (fun l => match l.pub.xmlId with
      | none => l.id == 1901
      | some x =>
        hdrId (textualDoc [] x) == some l.id &&
        hdrId (textualDoc [97, 98, 0] x) == some l.id &&
        hdrId (textualDoc [] (x.map upperByte)) == some l.id &&
        hdrId (textualDoc [120, 0] (x.map lowerByte)) == some l.id &&
        firstId (textMatch x) == some l.id) = true := by decide +kernel

/-- DOCTYPE route: the public id of every entry (as registered / upper case) selects that entry,
    even when system id and root element are those of other languages. -/
theorem gen_doctype_route :
    Gen.main.all (fun l => match l.pub.xmlId with
      | none => l.id == 1901
      | some x =>
        (searchTable Gen.main (some x) none none).map (·.id) == some l.id &&
        (searchTable Gen.main (some (x.map upperByte)) (some b!"wtai.dtd") (some b!"SyncML")).map (·.id) == some l.id) = true := by
  decide +kernel

/-- System-id route (no or unknown public id): the first entry registered with that DTD. -/
theorem gen_system_route :
    Gen.main.all (fun l => match l.pub.dtd with
      | none => false
      | some d =>
        (searchTable Gen.main none (some d) none).map (·.id) == firstId (fun x => x.pub.dtd == some d) &&
        (searchTable Gen.main (some b!"-//NOBODY//DTD X//EN") (some d) (some b!"wml")).map (·.id) ==
          firstId (fun x => x.pub.dtd == some d)) = true := by decide +kernel

/-- Entries not reachable by their system id: ActiveSync shares AirSync's. -/
theorem gen_system_shadowed :
    Gen.main.filterMap (fun l => match l.pub.dtd with
      | some d => if firstId (fun x => x.pub.dtd == some d) == some l.id then none else some l.id
      | none => some l.id) = [2402] := by decide +kernel

/-- Root-element route (no DOCTYPE): no registered root name contains the namespace separator, and
    the root name selects the first entry registered with it. -/
theorem gen_root_route :
    Gen.main.all (fun l => match l.pub.root with
      | none => false
      | some r =>
        !r.contains 124 &&
        (searchTable Gen.main none none (some r)).map (·.id) == firstId (fun x => x.pub.root == some r)) = true := by
  decide +kernel

/-- Entries not reachable by their root element alone (versions of one vocabulary share it: the
    oldest WML / CHANNEL, the newest SyncML family, WV-CSP 1.1 are found). -/
theorem gen_root_shadowed :
    Gen.main.filterMap (fun l => match l.pub.root with
      | some r => if firstId (fun x => x.pub.root == some r) == some l.id then none else some l.id
      | none => some l.id) = [1102, 1103, 1104, 1204, 2101, 2102, 2103, 2001, 2002, 2302] := by decide +kernel

/-- Namespaced-root route: `<first namespace of the entry>|<root>` selects the first entry whose
    first namespace row is a (case-insensitive) prefix of it. -/
theorem gen_ns_route :
    Gen.main.all (fun l => match l.ns, l.pub.root with
      | some (n :: _), some r =>
        (searchTable Gen.main none none (some (n.ns ++ [124] ++ r))).map (·.id) ==
          firstId (nsMatch (n.ns ++ [124] ++ r))
      | some [], _ => false
      | _, _ => true) = true := by decide +kernel

/-- Entries with a namespace table that are not reachable by their namespaced root: DevInf 1.1 and
    1.0 share `syncml:devinf` with DevInf 1.2, which is registered first. -/
theorem gen_ns_shadowed :
    Gen.main.filterMap (fun l => match l.ns, l.pub.root with
      | some (n :: _), some r =>
        if firstId (nsMatch (n.ns ++ [124] ++ r)) == some l.id then none else some l.id
      | _, _ => none) = [2102, 2002] := by decide +kernel

/-- The XML tree builder's root callback on a fresh context takes the same decision. -/
theorem gen_root_callback :
    Gen.main.all (fun l => match l.pub.root with
      | none => false
      | some r =>
        ((xbuildStep Gen.main [] (fun _ => none) {} (.startElt r [] 0)).lang.map (·.id)) ==
          firstId (fun x => x.pub.root == some r)) = true := by decide +kernel

/-! ### The encoder's header read back

  `wbxml_fill_header` writes `serHeader (hdrOf c st)` (C06, `fillHeaderW_ser`) and `parseHeader`
  reads a serialised header as the specification says (C04, `parse_ser_header`), so what the table
  has to show is only that each identifier is first found at its own entry (`gen_numeric_route`,
  `gen_textual_route`). -/

open Wbxml.Lemmas.EncW Wbxml.Spec in
theorem headerLang_hdrOf_num (pcfg : PCfg) (hf : pcfg.langForced = 0) (c : WCfg) (st : WSt)
    (hp : hdrPid c = none) (ha : c.anonymous = false) (h1 : c.lang.pub.wbxmlId ≠ 1) :
    headerLang pcfg (hdrOf c st) = pcfg.main.find? (fun l => l.pub.wbxmlId == c.lang.pub.wbxmlId) := by
  simp [headerLang, hdrOf, hdrPubid, hf, hp, ha, h1]

open Wbxml.Lemmas.EncW Wbxml.Spec in
/-- The textual identifier stands in the announced table at the announced index. -/
theorem headerLang_hdrOf_str (pcfg : PCfg) (hf : pcfg.langForced = 0) (c : WCfg) (st : WSt) (hinv : StrInv st)
    (p : Bytes) (hp : hdrPid c = some p) (hn : nulFree p = true) :
    headerLang pcfg (hdrOf c st) = pcfg.main.find? (textMatch p) := by
  obtain ⟨e, he, hidx, hes⟩ : ∃ e ∈ finalTbl c st, hdrPubid c st = .str e.offset ∧ e.str = p := by
    unfold finalTbl hdrPubid
    rw [hp]
    cases c.useStrtbl with
    | true =>
      obtain ⟨e, he, ho, hs⟩ := strtblAdd_idx st p none
      exact ⟨e, he, by rw [ho]; rfl, hs⟩
    | false => exact ⟨⟨p, 0, none⟩, List.mem_singleton.mpr rfl, rfl, rfl⟩
  have hr := resolves_of_offs _ (finalTbl_offs c st hinv) e he (hes ▸ hn)
  have hpub : (hdrOf c st).pubid = .str e.offset := hidx
  have htb : tblBytes (hdrOf c st).strtbl = strtblBytes (finalTbl c st) := tblBytes_map _
  simp only [headerLang, hf, ne_eq, not_true_eq_false, if_false, hpub, htb, hr, hes]
  rfl

open Wbxml.Lemmas.EncW Wbxml.Spec in
theorem finalTbl_len_le (c : WCfg) (st : WSt) (hinv : StrInv st) :
    tblLen (finalTbl c st) ≤ st.strtblLen + ((hdrPid c).map (·.length + 1)).getD 0 := by
  unfold finalTbl
  cases hdrPid c with
  | none => cases c.useStrtbl <;> simp [hinv.len, tblLen]
  | some p =>
    cases c.useStrtbl with
    | false => simp [tblLen]
    | true =>
      simp only [if_true, Option.map_some, Option.getD_some, ← (strtblAdd_inv st p hinv).len]
      unfold strtblAdd
      split <;> simp only <;> omega

open Wbxml.Lemmas.EncW Wbxml.Spec in
/-- The header written over a table of moderate size is read as the entry `headerLang` names. -/
theorem hdrId_fillHeaderW (c : WCfg) (st : WSt) (hinv : StrInv st) (hno : c.useStrtbl = false → st.strtbl = [])
    (hpub : 0 < c.lang.pub.wbxmlId ∧ c.lang.pub.wbxmlId < 4294967296) (hver : c.version < 256)
    (hsize : tblLen (finalTbl c st) < 4294967295)
    (l : Lang) (hlang : headerLang cfgGen (hdrOf c st) = some l) :
    hdrId (fillHeaderW c st).1 = some l.id := by
  have hcs : headerCharset cfgGen (hdrOf c st) = 106 := by simp [headerCharset, hdrOf, cfgGen]
  have hwf := hdrOf_wf c st hinv hpub cfgGen (.inr hcs) (by rw [hcs]; decide) hver
    (by rw [strtblBytes_length]; exact hsize)
  have h := C04.parse_ser_header cfgGen _ hwf l hlang []
  rw [List.append_nil, ← fillHeaderW_ser c st hinv hno] at h
  rw [hdrId, h]

open Wbxml.Lemmas.EncW Wbxml.Spec in
/-- Every non-anonymous header the encoder writes for an entry of `Gen.main` that has an identifier,
    over a string table of at most five octets, selects that entry. -/
theorem gen_header_recognised (c : WCfg) (hl : c.lang ∈ Gen.main)
    (hid : (c.lang.pub.wbxmlId == 1 && c.lang.pub.xmlId.isNone) = false) (ha : c.anonymous = false)
    (hver : c.version < 256) (st : WSt) (hinv : StrInv st) (hno : c.useStrtbl = false → st.strtbl = [])
    (hlen : st.strtblLen ≤ 5) : hdrId (fillHeaderW c st).1 = some c.lang.id := by
  have hx : Gen.main.all (fun l => match l.pub.xmlId with
      | some x => nulFree x && decide (x.length < 1000)
      | none => true) = true := by decide +kernel
  have hpub : ∀ l ∈ Gen.main, 0 < l.pub.wbxmlId ∧ l.pub.wbxmlId < 4294967296 := by decide +kernel
  have hsize := finalTbl_len_le c st hinv
  -- the entry the specification assigns to the header is found by the identifier written, and the
  -- identifier is first found at its own entry
  obtain ⟨l', hsel, hl', hsz⟩ : ∃ l', headerLang cfgGen (hdrOf c st) = some l' ∧ l'.id = c.lang.id ∧
      tblLen (finalTbl c st) < 4294967295 := by
    cases hp : hdrPid c with
    | none =>
      have h1 : c.lang.pub.wbxmlId ≠ 1 := fun e => by
        have : c.lang.pub.xmlId = none := by simpa [hdrPid, e, ha] using hp
        simp [e, this] at hid
      have hn := List.all_eq_true.1 gen_numeric_route _ hl
      simp only [Bool.or_eq_true, Bool.and_eq_true, beq_iff_eq, h1, false_or] at hn
      obtain ⟨l', hf, hl'⟩ := Option.map_eq_some_iff.1 hn.2
      rw [hp] at hsize
      exact ⟨l', (headerLang_hdrOf_num cfgGen rfl c st hp ha h1).trans hf, hl', by
        simp only [Option.map_none, Option.getD_none] at hsize; omega⟩
    | some p =>
      have hxp : c.lang.pub.xmlId = some p := (Option.ite_none_right_eq_some.1 hp).2
      have hlx := List.all_eq_true.1 hx _ hl
      have ht := List.all_eq_true.1 gen_textual_route _ hl
      rw [hxp] at hlx ht
      simp only [Bool.and_eq_true, beq_iff_eq, decide_eq_true_eq] at hlx ht
      obtain ⟨l', hf, hl'⟩ := Option.map_eq_some_iff.1 ht.2
      rw [hp] at hsize
      exact ⟨l', (headerLang_hdrOf_str cfgGen rfl c st hinv p hp hlx.1).trans hf, hl', by
        simp only [Option.map_some, Option.getD_some] at hsize; omega⟩
  exact hl' ▸ hdrId_fillHeaderW c st hinv hno (hpub _ hl) hver hsz l' hsel

/-- **The encoder's header is recognised back.** For every entry that has an identifier (all but
    OTA settings), every WBXML version, with and without string table, numeric or textual public
    id, on an empty and (when the table is enabled) on a pre-filled string table: the header
    `fillHeaderW` writes (non-anonymous) makes `check_public_id` select that very entry. -/
theorem encoder_header_recognised :
    Gen.main.all (fun l => (l.pub.wbxmlId == 1 && l.pub.xmlId.isNone) ||
      [0, 1, 2, 3].all (fun ver => [true, false].all (fun tbl => [true, false].all (fun txt =>
        (if tbl then [({} : WSt), { strtbl := [{ str := b!"abcd", offset := 0 }], strtblLen := 5 }] else [{}]).all (fun st =>
          hdrId (fillHeaderW { lang := l, version := ver, useStrtbl := tbl, textualPublicId := txt } st).1
            == some l.id))))) = true := by
  refine List.all_eq_true.2 fun l hl => ?_
  cases hota : l.pub.wbxmlId == 1 && l.pub.xmlId.isNone with
  | true => rfl
  | false =>
    simp only [Bool.false_or, List.all_eq_true, beq_iff_eq]
    intro ver hver tbl _ txt _ st hst
    have hver' : ver < 256 := by
      simp only [List.mem_cons, List.not_mem_nil, or_false] at hver
      omega
    -- the two initial tables of the statement
    have h0 := gen_header_recognised { lang := l, version := ver, useStrtbl := tbl, textualPublicId := txt } hl hota rfl
      hver' {} Lemmas.EncW.strInv_init (fun _ => rfl) (Nat.zero_le _)
    cases tbl with
    | false => rw [List.mem_singleton.1 hst]; exact h0
    | true =>
      rcases List.mem_cons.1 hst with rfl | hst
      · exact h0
      · rw [List.mem_singleton.1 hst]
        exact gen_header_recognised { lang := l, version := ver, useStrtbl := true, textualPublicId := txt } hl hota rfl
          hver' _ ⟨⟨rfl, trivial⟩, rfl, fun e he => by rw [List.mem_singleton.1 he]⟩ nofun (Nat.le_refl _)

/-- The entry without any identifier: OTA settings; its header says "unknown" and is rejected
    unless the language is forced. -/
theorem ota_header_needs_forcing :
    (Gen.main.filter (fun l => l.pub.wbxmlId == 1 && l.pub.xmlId.isNone)).map (·.id) = [1901] ∧
    Gen.main.all (fun l => !(l.id == 1901) ||
      ((match parseHeader cfgGen (fillHeaderW { lang := l } {}).1 with
        | .error (.code c) => c == 64
        | _ => false) &&
       (match parseHeader { cfgGen with langForced := 1901 } (fillHeaderW { lang := l } {}).1 with
        | .ok (_, l') => l'.id == 1901
        | .error _ => false))) = true := by decide +kernel

example : Gen.main.length = 29 := by decide
example : hdrId (numericDoc 4609) = some 2201 := by decide +kernel
example : hdrId (textualDoc [] b!"-//airsync//dtd airsync//en") = some 2401 := by decide +kernel
example : hdrId (numericDoc 1) = none := by decide +kernel
example : hdrId (numericDoc 77) = none := by decide +kernel
/-- forcing: a SyncML 1.2 header decoded as WML 1.3 when the caller says so. -/
example : (match parseHeader { cfgGen with langForced := 1104 } (numericDoc 4609) with
    | .ok (_, l) => some l.id | .error _ => none) = some 1104 := by decide +kernel
example : (searchTable Gen.main none none (some b!"syncml:devinf|DevInf")).map (·.id) = some 2202 := by decide +kernel
example : searchTable Gen.main (some b!"x") (some b!"y") (some b!"z") = none := by decide +kernel

end Wbxml.Props.C10
