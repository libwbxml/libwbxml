/-
  C13 — truncated documents and dangling references are rejected, never guessed.

  Theorems about `Model.parse` (the model of `wbxml_parser_parse`, tied to `src/wbxml_parser.c`
  by the byte-exact PARSE correspondence). All statements are for ALL byte strings and ALL parser
  configurations (`PCfg`: main table, forced language, meta charset, charset list).

  Part A: totality of the parser model (no `Err.ub`, no `Err.fuel`; consumed bytes).
  Part B: the individual length / index / terminator checks and the documented tolerances.
  Part C: truncation (see `Lemmas/ParserSafeExt.lean` for the extension-stability lemmas and
  `Lemmas/ParserTrunc.lean` for what follows from them).
-/
import Wbxml.Lemmas.Bytes
import Wbxml.Lemmas.ParserTrunc
import Wbxml.Lemmas.CodecMb
import Wbxml.Lemmas.ParserSafeTree
namespace Wbxml.Props.C13
open Wbxml Wbxml.Model Wbxml.Lemmas.ParserSafe Wbxml.Lemmas.ParserBridge

/-! ## Part A — the parser model is total and stays inside the input -/

/-- No run of the parser reaches a flagged operation: every blind `pos++` follows a successful
    token test, and the two places that dereference the language table without a check are only
    reached after the header stage selected a language. -/
theorem parse_no_ub (cfg : PCfg) (bs : Bytes) (w : String) : (parse cfg bs).result ≠ .error (.ub w) :=
  (parse_result_ok cfg bs).not_ub w

/-- The fuel the model supplies (`rest.length + 1` for the flat loops, `2 * rest.length + 2` for
    `parseElement`/`contentLoop`) is never exhausted: every loop round and every recursive
    descent consumes at least one byte. -/
theorem parse_fuel_sufficient (cfg : PCfg) (bs : Bytes) : (parse cfg bs).result ≠ .error .fuel :=
  (parse_result_ok cfg bs).not_fuel

/-- Totality: the verdict is success or a `WBXMLError` code other than 0 (`WBXML_OK`). -/
theorem parse_total (cfg : PCfg) (bs : Bytes) :
    (parse cfg bs).result = .ok () ∨ ∃ c, c ≠ 0 ∧ (parse cfg bs).result = .error (.code c) :=
  parse_result_cases cfg bs

/-- A successful run consumed at least four bytes (version, public id, string-table length, one
    tag) and at most the whole input. -/
theorem parse_consumed_le (cfg : PCfg) (bs : Bytes) (h : (parse cfg bs).result = .ok ()) :
    4 ≤ (parse cfg bs).consumed ∧ (parse cfg bs).consumed ≤ bs.length := by
  rcases parse_anatomy cfg bs with ⟨c, _, h', _⟩ | ⟨s, l, c, _, _, h', _⟩ | ⟨s, l, ev, s', _, _, _, _, hc, _, hlen⟩
  · rw [h'] at h; cases h
  · rw [h'] at h; cases h
  · rw [hc]; omega

/-- … and `consumed` is an honest offset: the cursor the body stage ends with is exactly the input
    with the first `consumed` bytes dropped (so the run never moved the cursor past the end). -/
theorem parse_consumed_cursor (cfg : PCfg) (bs : Bytes) (h : (parse cfg bs).result = .ok ()) :
    ∃ s l ev s', parseHeader cfg bs = .ok (s, l) ∧
      parseBody [Event.startDoc s.charset l.id] s = .ok (ev, s') ∧
      s'.rest = bs.drop (parse cfg bs).consumed := by
  rcases parse_anatomy cfg bs with ⟨c, _, h', _⟩ | ⟨s, l, c, _, _, h', _⟩ | ⟨s, l, ev, s', hh, hb, _, _, hc, hsuf, hlen⟩
  · rw [h'] at h; cases h
  · rw [h'] at h; cases h
  · refine ⟨s, l, ev, s', hh, hb, ?_⟩
    obtain ⟨pre, hpre⟩ := hsuf
    rw [hc, ← hpre]
    simp

/-- An unsuccessful run reports no `endDoc`, a run failing in the header reports nothing. -/
theorem parse_error_events (cfg : PCfg) (bs : Bytes) (e : Err) (h : (parse cfg bs).result = .error e) :
    (parse cfg bs).events = [] ∨ ∃ cs l, (parse cfg bs).events = [Event.startDoc cs l] := by
  rcases parse_anatomy cfg bs with ⟨c, _, _, h', _⟩ | ⟨s, l, c, _, _, _, h', _⟩ | ⟨s, l, ev, s', _, _, h', _⟩
  · exact Or.inl h'
  · exact Or.inr ⟨_, _, h'⟩
  · rw [h'] at h; cases h

/-! ## Part B — the individual checks -/

/-- The empty input is refused (error 44) and nothing is reported. -/
theorem empty_rejected (cfg : PCfg) :
    (parse cfg []).result = .error (.code 44) ∧ (parse cfg []).events = [] := by
  simp [parse, parseHeader, E.emptyWbxml]

/-- `parse_strtbl`: a declared string-table length that exceeds the bytes that follow is error 54. -/
theorem strtbl_length_checked_local (s : PState) (len : Nat) (r : Bytes)
    (hmb : mbLoop 5 0 s.rest = .ok (len, r)) (hlen : len > r.length) :
    parseStrtbl s = .error (.code 54) := by
  rw [parseStrtbl_of_len s len r hmb, if_neg (by omega), if_pos hlen]
  rfl

/-- The same seen from `parse`: if, after version / public id / charset (`headerPre`), the
    string-table length field declares more bytes than are present, the run fails with error 54
    and reports no event at all. -/
theorem strtbl_length_checked (cfg : PCfg) (bs : Bytes) (pid : Nat) (idx : Option Nat) (s : PState)
    (len : Nat) (r : Bytes) (hpre : headerPre cfg bs = .ok (pid, idx, s))
    (hmb : mbLoop 5 0 s.rest = .ok (len, r)) (hlen : len > r.length) :
    (parse cfg bs).result = .error (.code 54) ∧ (parse cfg bs).events = [] := by
  have hne : bs.isEmpty = false := by
    cases bs with
    | nil =>
      have : headerPre cfg [] = .error (.code 45) := rfl
      rw [this] at hpre; cases hpre
    | cons _ _ => rfl
  have hh : parseHeader cfg bs = .error (.code 54) := by
    rw [parseHeader_eq, hne, hpre]
    simp only [Bool.false_eq_true, if_false, bind, Except.bind]
    rw [strtbl_length_checked_local s len r hmb hlen]
  simp [parse, hh]

/-- `parse_opaque`: a declared opaque length that exceeds the bytes that follow is error 43. -/
theorem opaque_length_checked (s : PState) (r : Bytes) (len : Nat) (r' : Bytes)
    (hs : s.rest = 0xC3 :: r) (hmb : mbLoop 5 0 r = .ok (len, r')) (hlen : len > r'.length) :
    parseOpaque s = .error (.code 43) := by
  simp only [parseOpaque, skip1, hs, parseMb, hmb, bind, Except.bind, pure, Except.pure, hlen,
    if_true, E.badOpaqueLength]

/-- `get_strtbl_reference` with an index at or beyond the (padded) table: error 48. -/
theorem strtbl_index_checked (s : PState) (tbl : Bytes) (i : Nat) (ht : s.strtbl = some tbl)
    (hi : i ≥ tbl.length) : strtblRef s i = .error (.code 48) := by
  simp only [strtblRef, ht, hi, if_true, E.invalidStrtblIndex]

/-- … without a string table every index but 0 is error 52 … -/
theorem strtbl_index_no_table (s : PState) (i : Nat) (ht : s.strtbl = none) (hi : i ≠ 0) :
    strtblRef s i = .error (.code 52) := by
  have : (i == 0) = false := by
    cases i with
    | zero => exact absurd rfl hi
    | succ n => rfl
  simp only [strtblRef, ht, this, Bool.false_eq_true, if_false, E.nullStringTable]

/-- … and index 0 without a table reads as "xmlns" (the documented Nokia tolerance). -/
theorem nokia_xmlns (s : PState) (ht : s.strtbl = none) : strtblRef s 0 = .ok b!"xmlns" := by
  simp [strtblRef, ht]

/-- An inline string (or string-table entry) without terminator inside the available bytes is
    error 31, in every charset. -/
theorem inline_string_needs_terminator (cs : Nat) (avail : Bytes) (h : ∀ b ∈ avail, b ≠ 0) :
    convTerm cs avail = .error (.code 31) := by
  unfold convTerm
  split
  · rw [Lemmas.searchNull2_of_no_nul avail h]; rfl
  · simp only [Lemmas.cstrLen_of_no_nul avail h, Nat.lt_add_one, gt_iff_lt, if_true, E.charsetStrLen]

/-- Hence `parse_termstr` on a NUL-free remainder fails (the cursor is not moved). -/
theorem termstr_needs_terminator (s : PState) (h : ∀ b ∈ s.rest, b ≠ 0) :
    parseTermstr s = .error (.code 31) := by
  simp only [parseTermstr, inline_string_needs_terminator s.charset s.rest h, bind, Except.bind]

theorem high_of_flag {b : UInt8} (h : b.toNat &&& 0x80 ≠ 0) : 128 ≤ b.toNat := by
  simp only [bit_arith] at h
  omega

/-- A multi-byte integer whose first five octets all carry the continuation flag is error 70; the
    sixth octet is never looked at. -/
theorem mb_uint_sixth_octet_rejected (b1 b2 b3 b4 b5 : UInt8) (r : Bytes) (acc : Nat)
    (h1 : b1.toNat &&& 0x80 ≠ 0) (h2 : b2.toNat &&& 0x80 ≠ 0) (h3 : b3.toNat &&& 0x80 ≠ 0)
    (h4 : b4.toNat &&& 0x80 ≠ 0) (h5 : b5.toNat &&& 0x80 ≠ 0) :
    mbLoop 5 acc (b1 :: b2 :: b3 :: b4 :: b5 :: r) = .error (.code 70) := by
  rw [mbLoop_eq]
  exact Lemmas.Codec.dec_all_high [b1, b2, b3, b4, b5] (fun b hb => by
    simp only [List.mem_cons, List.not_mem_nil, or_false] at hb
    rcases hb with rfl | rfl | rfl | rfl | rfl <;> exact high_of_flag ‹_›) acc r

/-- … and a multi-byte integer cut short by the end of the input is error 45. -/
theorem mb_uint_truncated : ∀ (n acc : Nat) (bs : Bytes), 0 < n → (∀ b ∈ bs, b.toNat &&& 0x80 ≠ 0) →
    bs.length < n → mbLoop n acc bs = .error (.code 45) := fun n acc bs _ h hl => by
  rw [mbLoop_eq]
  exact Lemmas.Codec.dec_truncated bs (fun b hb => high_of_flag (h b hb)) n acc hl

/-- Documented tolerance: a string table whose last byte is not NUL is padded with four NULs in the
    parser's private copy (so every in-range reference finds a terminator) … -/
theorem unterminated_strtbl_padded (s : PState) (len : Nat) (r : Bytes)
    (hmb : mbLoop 5 0 s.rest = .ok (len, r)) (h0 : len ≠ 0) (hlen : len ≤ r.length)
    (hlast : (r.take len).getLast? ≠ some 0) :
    parseStrtbl s = .ok { s with rest := r.drop len, strtbl := some (r.take len ++ [0, 0, 0, 0]) } := by
  rw [parseStrtbl_of_len s len r hmb, if_neg h0, if_neg (by omega), if_neg hlast]

/-- … while a terminated table is taken as it is. -/
theorem terminated_strtbl_kept (s : PState) (len : Nat) (r : Bytes)
    (hmb : mbLoop 5 0 s.rest = .ok (len, r)) (h0 : len ≠ 0) (hlen : len ≤ r.length)
    (hlast : (r.take len).getLast? = some 0) :
    parseStrtbl s = .ok { s with rest := r.drop len, strtbl := some (r.take len) } := by
  rw [parseStrtbl_of_len s len r hmb, if_neg h0, if_neg (by omega), if_pos hlast]

/-- Documented tolerance: when the caller forces a language the document's public identifier (and
    public-identifier string index) are not consulted. -/
theorem forced_skips_pid_check (cfg : PCfg) (hf : cfg.langForced ≠ 0) (s s' : PState) (pid pid' : Nat)
    (idx idx' : Option Nat) :
    checkPublicId cfg s pid idx = checkPublicId cfg s' pid' idx' ∧
    checkPublicId cfg s pid idx = cfg.main.find? (fun l => l.id == cfg.langForced) := by
  have h1 : (cfg.langForced == 0) = false := by simpa using hf
  have h2 : (cfg.langForced != 0) = true := by simpa using hf
  simp only [checkPublicId, h1, h2, Bool.false_and, Bool.false_eq_true, if_false, if_true, and_self]

/-! ### The same checks, stated for field *values* (through the C11 codec: `Codec.mbEncode` is the
library's own writer `wbxml_buffer_append_mb_uint_32`, and `ParserBridge.parseMb_mbEncode` in
`Lemmas/CodecMb.lean` shows the parser reads it back) -/

/-- A string-table length field holding any 32-bit value larger than the number of bytes that
    follow it is refused with error 54. -/
theorem strtbl_length_value_checked (s : PState) (len : Nat) (r : Bytes) (hv : len < 2 ^ 32)
    (hs : s.rest = Codec.mbEncode len ++ r) (hlen : len > r.length) :
    parseStrtbl s = .error (.code 54) := by
  refine strtbl_length_checked_local s len r ?_ hlen
  rw [hs, mbLoop_eq_mbDecode, Wbxml.Lemmas.Codec.mbDecode_mbEncode len r hv]

/-- An opaque length field holding any 32-bit value larger than the number of bytes that follow it
    is refused with error 43. -/
theorem opaque_length_value_checked (s : PState) (len : Nat) (r : Bytes) (hv : len < 2 ^ 32)
    (hs : s.rest = 0xC3 :: (Codec.mbEncode len ++ r)) (hlen : len > r.length) :
    parseOpaque s = .error (.code 43) := by
  refine opaque_length_checked s _ len r hs ?_ hlen
  rw [mbLoop_eq_mbDecode, Wbxml.Lemmas.Codec.mbDecode_mbEncode len r hv]

/-- A string-table reference (`STR_T index`) holding any 32-bit index at or beyond the table is
    refused with error 48, and with error 52 (index ≠ 0) when the document has no table. -/
theorem strT_index_value_checked (s : PState) (idx : Nat) (r : Bytes) (hv : idx < 2 ^ 32)
    (hs : s.rest = 0x83 :: (Codec.mbEncode idx ++ r)) :
    (∀ tbl, s.strtbl = some tbl → idx ≥ tbl.length → parseString s = .error (.code 48)) ∧
    (s.strtbl = none → idx ≠ 0 → parseString s = .error (.code 52)) := by
  have h3 : isToken s 0x03 = false := by simp [isToken, hs]
  have h83 : isToken s 0x83 = true := by simp [isToken, hs]
  have hmb : parseMb { s with rest := Codec.mbEncode idx ++ r } = .ok (idx, { s with rest := r }) :=
    parseMb_mbEncode _ idx r hv rfl
  have key : parseString s = (strtblRef { s with rest := r } idx >>= fun v => pure (v, { s with rest := r })) := by
    simp only [parseString, h3, h83, Bool.false_eq_true, if_false, if_true, skip1, hs, bind, Except.bind, hmb]
  constructor
  · intro tbl ht hi
    rw [key, strtbl_index_checked { s with rest := r } tbl idx ht hi]; rfl
  · intro ht hi
    rw [key, strtbl_index_no_table { s with rest := r } idx ht hi]; rfl

/-! ## Part C — truncation

`rootEnd cfg bs = some e` (defined in `Lemmas/ParserTrunc.lean`): the header, the leading
processing instructions and the root element of `bs` parse, and the root element ends at offset `e`.
The general statement is about `e`, not about `consumed`: trailing processing instructions after the
root element are optional, so a cut *after* the root element may again be a document (witness below). -/

/-- A successful run has a root end, at least four bytes in and no later than `consumed`. -/
theorem root_closed (cfg : PCfg) (bs : Bytes) (h : (parse cfg bs).result = .ok ()) :
    ∃ e, rootEnd cfg bs = some e ∧ 4 ≤ e ∧ e ≤ (parse cfg bs).consumed ∧ e ≤ bs.length := by
  obtain ⟨e, he, hle⟩ := rootEnd_of_parse_ok h
  obtain ⟨_, _, _, _, _, s2, _, _, _, hE, hlen, _⟩ := rootEnd_eq_some he
  exact ⟨e, he, by omega, hle, by omega⟩

/-- The root element's extent is decided by the bytes before its end: appending anything to the
    input leaves it where it is. -/
theorem extend_stable (cfg : PCfg) (bs x : Bytes) (e : Nat) (h : rootEnd cfg bs = some e) :
    rootEnd cfg (bs ++ x) = some e :=
  (rootEnd_ext x h).1

/-- **Every document cut before the end of its root element is rejected** with an error code —
    whether the cut falls in the header, the string table, a tag, an attribute, a string, an opaque,
    a multi-byte integer or just before the final `END` — and the failed run reports no `endDoc`
    (nothing at all when the cut is in the header). -/
theorem prefix_rejected (cfg : PCfg) (bs : Bytes) (e k : Nat) (h : rootEnd cfg bs = some e) (hk : k < e) :
    (∃ c, (parse cfg (bs.take k)).result = .error (.code c)) ∧
    ((parse cfg (bs.take k)).events = [] ∨ ∃ cs l, (parse cfg (bs.take k)).events = [Event.startDoc cs l]) := by
  rcases parse_total cfg (bs.take k) with hok | ⟨c, _, hc⟩
  · exact absurd hok (take_not_ok h hk)
  · exact ⟨⟨c, hc⟩, parse_error_events cfg _ _ hc⟩

/-- The same, starting from an accepted document. -/
theorem prefix_rejected_of_ok (cfg : PCfg) (bs : Bytes) (h : (parse cfg bs).result = .ok ()) :
    ∃ e, rootEnd cfg bs = some e ∧ 4 ≤ e ∧ e ≤ (parse cfg bs).consumed ∧
      ∀ k, k < e → ∃ c, (parse cfg (bs.take k)).result = .error (.code c) := by
  obtain ⟨e, he, h4, hle, _⟩ := root_closed cfg bs h
  exact ⟨e, he, h4, hle, fun k hk => (prefix_rejected cfg bs e k he hk).1⟩

/-- Header stage on its own: every proper prefix of the header bytes of a run whose header was
    accepted fails in the header (so nothing is reported), whatever the body looks like. -/
theorem header_truncation_rejected (cfg : PCfg) (bs : Bytes) (s : PState) (l : Lang) (k : Nat)
    (h : parseHeader cfg bs = .ok (s, l)) (hk : k < bs.length - s.rest.length) :
    (∃ c, (parse cfg (bs.take k)).result = .error (.code c)) ∧ (parse cfg (bs.take k)).events = [] := by
  rcases parse_anatomy cfg (bs.take k) with ⟨c, _, h1, h2, _⟩ | ⟨s', l', c, hh, _⟩ | ⟨s', l', _, _, hh, _⟩
  · exact ⟨⟨c, h1⟩, h2⟩
  · exact absurd hh (header_take_not_ok h hk _)
  · exact absurd hh (header_take_not_ok h hk _)

/-- The same at the level of the conversion (`wbxml_conv_wbxml2xml_run`): a document cut before the
    end of its root element yields a non-zero error code and no XML, under every option tuple. -/
theorem conversion_prefix_rejected (cfg : W2XCfg) (bs : Bytes) (e k : Nat)
    (h : rootEnd { main := cfg.main, langForced := cfg.lang, metaCharset := cfg.charset } bs = some e)
    (hk : k < e) : ∃ c, c ≠ 0 ∧ wbxml2xml cfg (bs.take k) = .error (.code c) := by
  rcases wbxml2xml_anatomy cfg (bs.take k) with ⟨_, h'⟩ | ⟨c, hc0, _, h'⟩ | ⟨t, ht, _⟩
  · exact ⟨12, by decide, h'⟩
  · exact ⟨c, hc0, h'⟩
  · obtain ⟨⟨c, hc⟩, _⟩ := prefix_rejected _ bs e k h hk
    rw [treeOfWbxml_of_parse_error cfg.main _ cfg.lang cfg.charset _ _ hc] at ht
    cases ht

/-- Documented tolerance: bytes after the document are ignored. Appending `y` to an accepted input
    changes neither verdict, events nor `consumed` — unless the run had consumed the whole input and
    `y` starts with the `PI` token 0x43, in which case `y` is read as one more trailing processing
    instruction. -/
theorem trailing_ignored (cfg : PCfg) (bs y : Bytes) (h : (parse cfg bs).result = .ok ())
    (hy : (parse cfg bs).consumed = bs.length → y.head? ≠ some 0x43) :
    (parse cfg (bs ++ y)).result = .ok () ∧ (parse cfg (bs ++ y)).events = (parse cfg bs).events ∧
    (parse cfg (bs ++ y)).consumed = (parse cfg bs).consumed :=
  parse_append y h hy

/-! ## Non-vacuity and witnesses -/

/-- A one-language main table for the examples (tag/attribute/value tables present). -/
def demoLang : Lang :=
  { id := 1101, pub := ⟨2, some b!"-//DEMO//EN", some b!"doc", some b!"demo.dtd"⟩,
    tags := some [⟨b!"doc", 0, 5, 0⟩, ⟨b!"p", 0, 6, 0⟩],
    ns := none,
    attrs := some [⟨b!"id", none, 0, 5⟩, ⟨b!"href", some b!"http://", 0, 6⟩],
    values := some [⟨b!".com", 0, 0x85⟩],
    exts := none }

def demoCfg : PCfg := { main := [demoLang] }

/-- `<doc>a</doc>`: version 3, public id 2, UTF-8, empty string table, `doc` with content. -/
def demoDoc : Bytes := [3, 2, 0x6A, 0, 0x45, 3, 0x61, 0, 1]

/-- `<doc id="x.com"><p/>&#x41;</doc>` with a two-byte string table ("x\0"). -/
def demoDoc2 : Bytes := [3, 2, 0x6A, 2, 0x78, 0, 0xC5, 5, 0x83, 0, 0x85, 1, 6, 2, 0x41, 1]

example : (parse demoCfg demoDoc).result.toBool = true := by decide +kernel
example : (parse demoCfg demoDoc).consumed = 9 ∧ rootEnd demoCfg demoDoc = some 9 := by decide +kernel
example : (parse demoCfg demoDoc2).result.toBool = true ∧ rootEnd demoCfg demoDoc2 = some 16 := by
  decide +kernel
/-- … so `prefix_rejected` applies to all 16 cuts of `demoDoc2` (hypotheses satisfiable). -/
example : ∀ k, k < 16 → ∃ c, (parse demoCfg (demoDoc2.take k)).result = .error (.code c) :=
  fun k hk => (prefix_rejected demoCfg demoDoc2 16 k (by decide +kernel) hk).1

/-- Why the truncation theorem speaks of the root end and not of `consumed`: a trailing processing
    instruction is consumed (8 bytes), yet cutting it off (5 bytes) leaves a document. The statement
    "every `k < consumed` is rejected" is therefore false, and rightly so (the property's wording is
    "ends inside its header, string table, or root element"). -/
theorem prefix_before_consumed_may_be_accepted :
    ¬ ∀ (cfg : PCfg) (bs : Bytes) (k : Nat), (parse cfg bs).result = .ok () → k < (parse cfg bs).consumed →
        (parse cfg (bs.take k)).result ≠ .ok () := by
  intro h
  have h1 : (parse demoCfg [3, 2, 0x6A, 0, 5, 0x43, 6, 1]).result = .ok () := by
    have : (parse demoCfg [3, 2, 0x6A, 0, 5, 0x43, 6, 1]).result.toBool = true := by decide +kernel
    rcases parse_total demoCfg [3, 2, 0x6A, 0, 5, 0x43, 6, 1] with h | ⟨c, _, h⟩
    · exact h
    · rw [h] at this; cases this
  have h2 : (parse demoCfg [3, 2, 0x6A, 0, 5, 0x43, 6, 1]).consumed = 8 := by decide +kernel
  have h3 : (parse demoCfg ([3, 2, 0x6A, 0, 5, 0x43, 6, 1].take 5)).result.toBool = true := by decide +kernel
  have := h demoCfg [3, 2, 0x6A, 0, 5, 0x43, 6, 1] 5 h1 (by rw [h2]; decide)
  rcases parse_total demoCfg ([3, 2, 0x6A, 0, 5, 0x43, 6, 1].take 5) with h4 | ⟨c, _, h4⟩
  · exact this h4
  · rw [h4] at h3; cases h3

/-- The hypotheses of the local checks are satisfiable. -/
example : parseStrtbl { rest := [5, 0x61, 0] } = .error (.code 54) :=
  strtbl_length_checked_local { rest := [5, 0x61, 0] } 5 [0x61, 0] rfl (by decide)
example : (parse demoCfg [3, 2, 0x6A, 5, 0x61, 0]).result = .error (.code 54) ∧
    (parse demoCfg [3, 2, 0x6A, 5, 0x61, 0]).events = [] :=
  strtbl_length_checked demoCfg _ 2 none { rest := [5, 0x61, 0], charset := 106, version := 3 } 5 [0x61, 0]
    rfl rfl (by decide)
example : parseOpaque { rest := [0xC3, 4, 1, 2] } = .error (.code 43) :=
  opaque_length_checked _ [4, 1, 2] 4 [1, 2] rfl rfl (by decide)
example : strtblRef { rest := [], strtbl := some [0x78, 0] } 2 = .error (.code 48) :=
  strtbl_index_checked _ [0x78, 0] 2 rfl (by decide)
example : parseTermstr { rest := [0x61, 0x62], charset := 106 } = .error (.code 31) :=
  termstr_needs_terminator _ (by decide)
example : mbLoop 5 0 [0x81, 0x82, 0x83, 0x84, 0x85, 0x06] = .error (.code 70) :=
  mb_uint_sixth_octet_rejected _ _ _ _ _ _ _ (by decide) (by decide) (by decide) (by decide) (by decide)
example : (parseStrtbl { rest := [1, 0x61, 5] }).toBool = true ∧
    ((parseStrtbl { rest := [1, 0x61, 5] }).toOption.bind (·.strtbl)) = some [0x61, 0, 0, 0, 0] := by
  decide +kernel
/-- Forcing a language: the same bytes with an unknown public id (0x7F) are accepted. -/
example : (parse { demoCfg with langForced := 1101 } [3, 0x7F, 0x6A, 0, 5]).result.toBool = true ∧
    (parse demoCfg [3, 0x7F, 0x6A, 0, 5]).result.toBool = false := by decide +kernel
/-- Trailing bytes: garbage after the root element is ignored (`trailing_ignored` applies: the run
    consumed everything, and the appended bytes do not start with the PI token). -/
example : (parse demoCfg (demoDoc ++ [0xFF, 0xFF])).consumed = 9 := by decide +kernel
example : (parse demoCfg (demoDoc ++ [0xFF, 0xFF])).events = (parse demoCfg demoDoc).events := by
  have h : (parse demoCfg demoDoc).result = .ok () := by
    rcases parse_total demoCfg demoDoc with h | ⟨c, _, h⟩
    · exact h
    · have : (parse demoCfg demoDoc).result.toBool = true := by decide +kernel
      rw [h] at this; cases this
  exact (trailing_ignored demoCfg demoDoc [0xFF, 0xFF] h (fun _ => by decide)).2.1
/-- Header truncation: the header of `demoDoc2` is its first 6 bytes. -/
example : ∀ k, k < 6 → (parse demoCfg (demoDoc2.take k)).events = [] := by
  intro k hk
  have hh : (match parseHeader demoCfg demoDoc2 with
      | .ok (s, _) => s.rest.length == 10 | .error _ => false) = true := by decide +kernel
  cases hp : parseHeader demoCfg demoDoc2 with
  | error e => rw [hp] at hh; cases hh
  | ok p =>
    obtain ⟨s, l⟩ := p
    rw [hp] at hh
    have hl : s.rest.length = 10 := by simpa using hh
    exact (header_truncation_rejected demoCfg demoDoc2 s l k hp (by rw [hl]; simpa [demoDoc2] using hk)).2

end Wbxml.Props.C13
