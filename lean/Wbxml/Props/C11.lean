/-
  C11 — multi-byte integers, base64, hex and character entities are exact inverses.

  Every theorem is universally quantified over the model functions of `Model/Codec/*` (tied to the C
  code by the CODEC correspondence run of `tools/props/c11.py`) and proved by induction on the byte
  string or on the loop counter, case analysis on the value ranges, `omega` and bit/arithmetic
  lemmas; the only kernel evaluations are over the complete 64-entry base64 and 2×16-entry hex digit
  tables and the six indices of the entity loop.
-/
import Wbxml.Model.Codec.MbUint
import Wbxml.Model.Codec.Base64
import Wbxml.Model.Codec.Hex
import Wbxml.Model.Codec.Entity
import Wbxml.Spec.Rfc4648
import Wbxml.Spec.Utf8
import Wbxml.Lemmas.CodecMb
import Wbxml.Lemmas.CodecBase64
import Wbxml.Lemmas.CodecHex
import Wbxml.Lemmas.CodecEntity
namespace Wbxml.Props.C11
open Wbxml Wbxml.Model.Codec Wbxml.Spec Wbxml.Lemmas.Codec

/-- Every 32-bit value written by `wbxml_buffer_append_mb_uint_32` is read back unchanged by
    `parse_mb_uint32`, which consumes exactly the octets written (whatever follows them). -/
theorem mb_roundtrip (v : Nat) (suf : Bytes) (hv : v < 2 ^ 32) :
    mbDecode (mbEncode v ++ suf) = .ok (v, suf) :=
  mbDecode_mbEncode v suf hv

/-- The written form has `k` octets, `1 ≤ k ≤ 5`, where `k` is the least positive number of 7-bit
    groups that can hold the value. -/
theorem mb_minimal (v : Nat) (hv : v < 2 ^ 32) :
    1 ≤ (mbEncode v).length ∧ (mbEncode v).length ≤ 5 ∧ v < 2 ^ (7 * (mbEncode v).length) ∧
    ∀ j, 1 ≤ j → v < 2 ^ (7 * j) → (mbEncode v).length ≤ j := by
  obtain ⟨hmin, hlt, _, _, _⟩ := Lemmas.Digits.digitsBE_spec 128 (by decide) 4 (v / 128) (by omega)
  have hk := hmin 4 (by omega)
  rw [mbEncode_digits v hv, List.length_append, List.length_map, List.length_singleton]
  refine ⟨by omega, by omega, ?_, ?_⟩
  · rw [two_pow_seven_mul, Nat.pow_succ, ← Nat.div_lt_iff_lt_mul (by decide)]; exact hlt
  · intro j hj hjv
    cases j with
    | zero => omega
    | succ j =>
      rw [two_pow_seven_mul, Nat.pow_succ, ← Nat.div_lt_iff_lt_mul (by decide)] at hjv
      have := hmin j hjv
      omega

/-- No written form starts with the octet `0x80` (an empty leading 7-bit group). -/
theorem mb_no_leading_zero_group (v : Nat) (hv : v < 2 ^ 32) : (mbEncode v).head? ≠ some 0x80 := by
  obtain ⟨_, hlt, hhd, hd, _⟩ := Lemmas.Digits.digitsBE_spec 128 (by decide) 4 (v / 128) (by omega)
  have h2 : (0x80 : UInt8).toNat = 128 := by decide
  rw [mbEncode_digits v hv]
  intro e
  cases hp : Lemmas.Digits.digitsBE 128 4 (v / 128) with
  | nil =>
    rw [hp] at hlt e
    have := congrArg UInt8.toNat (Option.some.inj e)
    rw [toNat_lo] at this
    simp at hlt; omega
  | cons x t =>
    rw [hp] at hhd hd e
    have := congrArg UInt8.toNat (Option.some.inj e)
    rw [toNat_hi x (hd x (by simp))] at this
    simp at hhd; omega

/-- An integer that runs to a sixth octet — five octets that all carry the continuation flag — is
    rejected with `WBXML_ERROR_UNVALID_MBUINT32` (70), whatever follows. -/
theorem mb_sixth_rejected (pre rest : Bytes) (h5 : pre.length = 5) (hc : ∀ b ∈ pre, 128 ≤ b.toNat) :
    mbDecode (pre ++ rest) = .error (.code 70) := by
  rw [mbDecode, ← h5]; exact dec_all_high pre hc 0 rest

/-- An integer cut off by the end of the buffer is rejected with `WBXML_ERROR_END_OF_BUFFER` (45). -/
theorem mb_truncated (pre : Bytes) (h5 : pre.length < 5) (hc : ∀ b ∈ pre, 128 ≤ b.toNat) :
    mbDecode pre = .error (.code 45) := dec_truncated pre hc 5 0 h5

example : mbDecode [0x81, 0x80, 0x80, 0x80, 0x80, 0x00] = .error (.code 70) := rfl
example : mbEncode 0xFFFFFFFF = [0x8F, 0xFF, 0xFF, 0xFF, 0x7F] := by decide
example : mbEncode 0 = [0x00] := by decide

/-- `wbxml_base64_encode` never indexes outside `basis_64`, and what it writes is RFC 4648 base64
    (the specification is a bit stream cut into 6-bit groups, `Spec/Rfc4648.lean`). -/
theorem b64_encode_eq_rfc4648 (bs : Bytes) :
    b64EncodeE bs = .ok (Rfc4648.encode bs) ∧ b64Encode bs = Rfc4648.encode bs := by
  rw [b64Encode_eq_spec, b64EncodeE_ok, enc_eq_spec]; exact ⟨rfl, rfl⟩

/-- `wbxml_base64_decode` inverts `wbxml_base64_encode` for every non-empty byte string … -/
theorem b64_decode_encode (bs : Bytes) (h : bs ≠ []) : b64Decode (b64Encode bs) = some bs :=
  b64Decode_b64Encode bs h

/-- … and for the empty byte string the C API has no encoding at all: the encoder returns NULL
    (`len <= 0`) and the decoder reports 0 bytes for the empty text, which its callers treat as
    failure. So the inverse law is stated for `bs ≠ []` and is total on the API's domain. -/
theorem b64_empty : b64EncodeApi [] = none ∧ b64Decode [] = none ∧
    ∀ bs, bs ≠ [] → (b64EncodeApi bs).bind b64Decode = some bs := by
  refine ⟨rfl, by decide, ?_⟩
  intro bs h
  simp only [b64EncodeApi, h, ↓reduceIte, Option.bind_some]
  exact b64_decode_encode bs h

/-- On *every* input (malformed included) the decoder's return value equals the number of octets it
    stored: no uninitialised byte of the result block is ever reported. -/
theorem b64_decode_no_ub (s : Bytes) : b64DecodeE s = .ok (b64DecodeLoop (b64Scan s)) := b64DecodeE_eq s

example : b64Encode b!"foobar" = b!"Zm9vYmFy" := by decide
example : b64Encode b!"fo" = b!"Zm8=" := by decide
example : Rfc4648.encode b!"f" = b!"Zg==" := by decide

/-- `wbxml_buffer_binary_to_hex` never indexes outside `hexits`; `wbxml_buffer_hex_to_binary` after
    it restores the contents, for both alphabets and every byte string. -/
theorem hex_roundtrip (upper : Bool) (bs : Bytes) :
    (∃ r, hexEncodeE upper bs = .ok r) ∧ hexDecode (hexEncode upper bs) = .ok bs := by
  refine ⟨⟨_, hexEncodeE_ok upper bs⟩, ?_⟩
  rw [hexEncode_eq, hexDecode, hexPairs_hexEnc]

/-- The other direction holds exactly on digit strings of even length in the matching case:
    lower-case digits are restored by `uppercase = FALSE` … -/
theorem hex_roundtrip_lower (s : Bytes) (he : s.length % 2 = 0) (hd : ∀ c ∈ s, isLowerHex c) :
    (hexDecode s).map (hexEncode false) = .ok s := by
  simp only [hexDecode, Except.map, hexEncode_eq]
  rw [hexEnc_hexPairs false isLowerHex (sym_nibble false) s he hd]

/-- … and upper-case digits by `uppercase = TRUE`. -/
theorem hex_roundtrip_upper (s : Bytes) (he : s.length % 2 = 0) (hd : ∀ c ∈ s, isUpperHex c) :
    (hexDecode s).map (hexEncode true) = .ok s := by
  simp only [hexDecode, Except.map, hexEncode_eq]
  rw [hexEnc_hexPairs true isUpperHex (sym_nibble true) s he hd]

/-- Outside that domain the direction fails (these are the function's documented limits, not
    defects): an odd trailing character is dropped, a non-digit is read as 0, case is not kept. -/
theorem hex_reverse_limits :
    (hexDecode b!"abc").map (hexEncode false) = .ok b!"ab" ∧
    (hexDecode b!"zz").map (hexEncode false) = .ok b!"00" ∧
    (hexDecode b!"AB").map (hexEncode false) = .ok b!"ab" := ⟨rfl, rfl, rfl⟩

example : hexEncode true [0xDE, 0xAD] = b!"DEAD" := by decide
example : isLowerHex 0x61 := by decide
example : isUpperHex 0x41 := by decide

/-- The specification is self-consistent: the UTF-8 sequence of a scalar value reads back as it. -/
theorem utf8_decode (c : Nat) (h : isScalar c) : utf8Decode (utf8 c) = some c := by
  have hc : c < 0x110000 := by rcases h with h | h <;> omega
  unfold utf8
  split
  · rename_i h1
    simp only [utf8Decode, toNat_ofNat_lt c (by omega), h1, ↓reduceIte]
  split
  · simp only [utf8Decode, cont_div, cont_mod, and_true, toNat_ofNat_lt _ (show 0xC0 + c / 64 < 256 by omega)]
    rw [if_pos (by omega)]; congr 1; omega
  split
  · simp only [utf8Decode, cont_div, cont_mod, and_true, toNat_ofNat_lt _ (show 0xE0 + c / 4096 < 256 by omega)]
    rw [if_pos (by omega)]; congr 1; omega
  · simp only [utf8Decode, cont_div, cont_mod, and_true, toNat_ofNat_lt _ (show 0xF0 + c / 262144 < 256 by omega)]
    rw [if_pos (by omega)]; congr 1; omega

/-- A character entity for any Unicode scalar value other than U+0000 is delivered as exactly that
    character's UTF-8 encoding.
    Full-strength statement: `∀ c, isScalar c → entityBytes c = .ok (utf8 c)`; it fails for `c = 0`
    only (`entity_zero_witness`, known finding `entity-code-0`). -/
theorem entity_utf8_partial (c : Nat) (h : isScalar c) (h0 : c ≠ 0) : entityBytes c = .ok (utf8 c) :=
  entityBytes_eq_utf8 c h h0

/-- Witness against the full-strength statement: ENTITY 0 yields an empty buffer (the C string
    `""`), so no character is delivered, whereas UTF-8 of U+0000 is the single octet 00. -/
theorem entity_zero_witness :
    isScalar 0 ∧ entityBytes 0 = .ok [] ∧ utf8 0 = [0] ∧
    ¬ (∀ c, isScalar c → entityBytes c = .ok (utf8 c)) := by
  refine ⟨by decide, rfl, rfl, ?_⟩
  intro h
  have := h 0 (by decide)
  cases this

/-- Entity codes of 0x80000000 and above are rejected with `WBXML_ERROR_INVALID_UNICODE` (122). -/
theorem entity_reject (c : Nat) (h : c ≥ 2 ^ 31) : entityBytes c = .error (.code 122) := by
  have : c ≥ 0x80000000 := h
  simp [entityBytes, this]

/-- For every accepted code (including the 5- and 6-octet forms beyond Unicode) the conversion loop
    stays inside `entity[0..5]` and `masks[0..4]` and delivers 1–6 non-zero octets. -/
theorem entity_no_ub (c : Nat) (h0 : c ≠ 0) (h : c < 2 ^ 31) :
    ∃ bs, entityBytes c = .ok bs ∧ 1 ≤ bs.length ∧ bs.length ≤ 6 := by
  have h' : c < 0x80000000 := h
  by_cases c1 : c < 0x80
  · exact ⟨[UInt8.ofNat c], entityBytes_ascii c h0 c1, by simp, by simp⟩
  · obtain ⟨bs, hl, h2, h6, hz⟩ := entityLoop_ok c (by omega) h'
    exact ⟨bs, entityBytes_of_loop c (by omega) h' bs hl hz, by omega, h6⟩

example : isScalar 0x800 ∧ (0x800 : Nat) ≠ 0 := by decide
example : entityBytes 0x800 = .ok [0xE0, 0xA0, 0x80] := rfl
example : entityBytes 0x10000 = .ok [0xF0, 0x90, 0x80, 0x80] := rfl
example : entityBytes 0x20AC = .ok (utf8 0x20AC) := rfl

end Wbxml.Props.C11
